-- Root of the `LimnoriaModel` library (GENERATED by tools/genroot.py).
import LimnoriaModel.C01.Drive
import LimnoriaModel.C01.Lemmas
import LimnoriaModel.C01.Model
import LimnoriaModel.C01.Props
import LimnoriaModel.C01.Required
import LimnoriaModel.C01.Total
import LimnoriaModel.C02.Chan
import LimnoriaModel.C02.Drive
import LimnoriaModel.C02.Lemmas
import LimnoriaModel.C02.Model
import LimnoriaModel.C02.Props
import LimnoriaModel.C03.Drive
import LimnoriaModel.C03.Lemmas
import LimnoriaModel.C03.Model
import LimnoriaModel.C03.Props
import LimnoriaModel.C03.Spec
import LimnoriaModel.C04.AgreeC01
import LimnoriaModel.C04.Drive
import LimnoriaModel.C04.Footprint
import LimnoriaModel.C04.Glob
import LimnoriaModel.C04.Lemmas
import LimnoriaModel.C04.Model
import LimnoriaModel.C04.Names
import LimnoriaModel.C04.Overlap
import LimnoriaModel.C04.Plugin
import LimnoriaModel.C04.PluginLemmas
import LimnoriaModel.C04.Props
import LimnoriaModel.C05.Drive
import LimnoriaModel.C05.DriveE2E
import LimnoriaModel.C05.EndToEnd
import LimnoriaModel.C05.EndToEndProps
import LimnoriaModel.C05.Full
import LimnoriaModel.C05.Hostmask
import LimnoriaModel.C05.Lemmas
import LimnoriaModel.C05.Model
import LimnoriaModel.C05.Props
import LimnoriaModel.C05.RoundTrip
import LimnoriaModel.C06.Drive
import LimnoriaModel.C06.Lemmas
import LimnoriaModel.C06.Model
import LimnoriaModel.C06.Props
import LimnoriaModel.C07.Drive
import LimnoriaModel.C07.Lemmas
import LimnoriaModel.C07.Model
import LimnoriaModel.C07.Props
import LimnoriaModel.C08.Abs
import LimnoriaModel.C08.Drive
import LimnoriaModel.C08.Lemmas
import LimnoriaModel.C08.Model
import LimnoriaModel.C08.Progress
import LimnoriaModel.C08.ProgressBase
import LimnoriaModel.C08.ProgressCap
import LimnoriaModel.C08.Props
import LimnoriaModel.C08.Refine
import LimnoriaModel.C08.Trace
import LimnoriaModel.C09.Drive
import LimnoriaModel.C09.Lemmas
import LimnoriaModel.C09.Model
import LimnoriaModel.C09.Props
import LimnoriaModel.C10.Batch
import LimnoriaModel.C10.BatchSim
import LimnoriaModel.C10.Bot
import LimnoriaModel.C10.Coll
import LimnoriaModel.C10.CollLemmas
import LimnoriaModel.C10.Complete
import LimnoriaModel.C10.Drive
import LimnoriaModel.C10.FeedLemmas
import LimnoriaModel.C10.Follow
import LimnoriaModel.C10.FollowSim
import LimnoriaModel.C10.Inv
import LimnoriaModel.C10.Lemmas
import LimnoriaModel.C10.Mode
import LimnoriaModel.C10.Model
import LimnoriaModel.C10.Names
import LimnoriaModel.C10.OwnJoin
import LimnoriaModel.C10.Props
import LimnoriaModel.C10.Replies
import LimnoriaModel.C10.SimBasic
import LimnoriaModel.C10.SimJoinQuit
import LimnoriaModel.C10.SimLeave
import LimnoriaModel.C10.SimMode
import LimnoriaModel.C10.SimNick
import LimnoriaModel.C10.SimNumeric
import LimnoriaModel.C10.Srv
import LimnoriaModel.C10.Step
import LimnoriaModel.C10.StrLemmas
import LimnoriaModel.C10.WF
import LimnoriaModel.C11.Drive
import LimnoriaModel.C11.Lemmas
import LimnoriaModel.C11.Model
import LimnoriaModel.C11.Multi
import LimnoriaModel.C11.Props
import LimnoriaModel.C11.Utf8
import LimnoriaModel.C12.Drive
import LimnoriaModel.C12.Lemmas
import LimnoriaModel.C12.LemmasColour
import LimnoriaModel.C12.LemmasFlags
import LimnoriaModel.C12.LemmasFmt
import LimnoriaModel.C12.LemmasMores
import LimnoriaModel.C12.LemmasReply
import LimnoriaModel.C12.LemmasStrip
import LimnoriaModel.C12.LinkC06
import LimnoriaModel.C12.Model
import LimnoriaModel.C12.Props
import LimnoriaModel.C13.Drive
import LimnoriaModel.C13.Lemmas
import LimnoriaModel.C13.Model
import LimnoriaModel.C13.Props
import LimnoriaModel.C14.Drive
import LimnoriaModel.C14.Lemmas
import LimnoriaModel.C14.Machine
import LimnoriaModel.C14.MachineLemmas
import LimnoriaModel.C14.Model
import LimnoriaModel.C14.Props
import LimnoriaModel.C15.BootLemmas
import LimnoriaModel.C15.Codec
import LimnoriaModel.C15.Drive
import LimnoriaModel.C15.File
import LimnoriaModel.C15.Lazy
import LimnoriaModel.C15.Lemmas
import LimnoriaModel.C15.ListLemmas
import LimnoriaModel.C15.Model
import LimnoriaModel.C15.NormLemmas
import LimnoriaModel.C15.PerlRe
import LimnoriaModel.C15.Props
import LimnoriaModel.C15.SaveLoadLemmas
import LimnoriaModel.C15.Tree
import LimnoriaModel.C15.ValidatorLemmas
import LimnoriaModel.C15.Validators
import LimnoriaModel.C15.Values
import LimnoriaModel.C15.Wrap
import LimnoriaModel.C15.WrapEquivLemmas
import LimnoriaModel.C15.WrapLemmas
import LimnoriaModel.C16.Drive
import LimnoriaModel.C16.Lemmas
import LimnoriaModel.C16.Model
import LimnoriaModel.C16.Order
import LimnoriaModel.C16.Props
import LimnoriaModel.C16.PyExtra
import LimnoriaModel.C16.Reload
import LimnoriaModel.C16.Storable
import LimnoriaModel.C17.Drive
import LimnoriaModel.C17.Flatfile
import LimnoriaModel.C17.Lemmas
import LimnoriaModel.C17.Model
import LimnoriaModel.C17.Props
import LimnoriaModel.C18.ArgsInv
import LimnoriaModel.C18.Cons
import LimnoriaModel.C18.Distinct
import LimnoriaModel.C18.Drive
import LimnoriaModel.C18.Fresh
import LimnoriaModel.C18.Heap
import LimnoriaModel.C18.HeapHole
import LimnoriaModel.C18.HeapLemmas
import LimnoriaModel.C18.HeapShapes
import LimnoriaModel.C18.Lemmas
import LimnoriaModel.C18.Loop
import LimnoriaModel.C18.Model
import LimnoriaModel.C18.Plugin
import LimnoriaModel.C18.PluginCons
import LimnoriaModel.C18.PluginLemmas
import LimnoriaModel.C18.Props
import LimnoriaModel.C18.Refine
import LimnoriaModel.C18.Run
import LimnoriaModel.C18.Threads
import LimnoriaModel.C19.Drive
import LimnoriaModel.C19.Echo
import LimnoriaModel.C19.Lemmas
import LimnoriaModel.C19.Live
import LimnoriaModel.C19.Model
import LimnoriaModel.C19.Order
import LimnoriaModel.C19.Ping
import LimnoriaModel.C19.Props
import LimnoriaModel.C19.Rate
import LimnoriaModel.C19.Reentrant
import LimnoriaModel.C19.Threads
import LimnoriaModel.C20.Dispatch
import LimnoriaModel.C20.Drive
import LimnoriaModel.C20.Lemmas
import LimnoriaModel.C20.Model
import LimnoriaModel.C20.Props
import LimnoriaModel.Driver.Core
import LimnoriaModel.Gen.AtomicFile
import LimnoriaModel.Gen.CanonicalName
import LimnoriaModel.Gen.CapSites
import LimnoriaModel.Gen.ChanState
import LimnoriaModel.Gen.Commands
import LimnoriaModel.Gen.Conn
import LimnoriaModel.Gen.Firewall
import LimnoriaModel.Gen.IrcDbCaps
import LimnoriaModel.Gen.IrcDbUsers
import LimnoriaModel.Gen.IrcMsgs
import LimnoriaModel.Gen.IrcQueue
import LimnoriaModel.Gen.Out
import LimnoriaModel.Gen.Preserve
import LimnoriaModel.Gen.Registry
import LimnoriaModel.Gen.Reply
import LimnoriaModel.Gen.SchedLock
import LimnoriaModel.Gen.Tokenizer
import LimnoriaModel.Gen.WrapSpecs
import LimnoriaModel.Gen.Writers
import LimnoriaModel.Py.Basic
import LimnoriaModel.Py.Wire
