/-
C17 — helper lemmas: what a call sequence does to one path at every prefix and at the end (`Spec`),
calls that do not touch a path (`Safe`), the buffered writes, `shutil.copyfile`, and the name
constructions.
-/
import LimnoriaModel.C17.Model
import LimnoriaModel.Gen.Writers
import LimnoriaModel.C17.Flatfile
namespace C17
open Py

theorem run_append (fs : FS) (a b : List Op) : run fs (a ++ b) = run (run fs a) b := by
  induction a generalizing fs with
  | nil => rfl
  | cons x xs ih => exact ih _

@[simp] theorem run_nil (fs : FS) : run fs [] = fs := rfl
@[simp] theorem run_cons (fs : FS) (o : Op) (os : List Op) : run fs (o :: os) = run (step fs o) os := rfl

@[simp] theorem crash_disk (fs : FS) : (crash fs).disk = fs.disk := rfl

/-- `P` holds after every prefix of the call sequence -/
def AllPre (P : FS → Prop) (fs : FS) (ops : List Op) : Prop := ∀ k, P (run fs (ops.take k))

section
variable {P : FS → Prop} {p : Path} {Q : Option Bytes → Prop} {fs : FS} {o : Op} {os ops a b : List Op}
  {v : Option Bytes}

theorem allPre_append (ha : AllPre P fs a) (hb : AllPre P (run fs a) b) : AllPre P fs (a ++ b) := by
  intro k
  rw [List.take_append]
  rcases Nat.le_total k a.length with hk | hk
  · rw [Nat.sub_eq_zero_of_le hk, List.take_zero, List.append_nil]; exact ha k
  · rw [List.take_of_length_le hk, run_append]; exact hb _

theorem allPre_final (h : AllPre P fs ops) : P (run fs ops) := by
  have := h ops.length
  rwa [List.take_length] at this

/-- the call does not change what is on disk under `p` -/
def Safe (p : Path) : Op → Prop
  | .openW q => q ≠ p
  | .write q _ _ => q ≠ p
  | .close q => q ≠ p
  | .stat _ => True
  | .openA q => q ≠ p
  | .copyData _ d _ => d ≠ p
  | .chmod _ => True
  | .rename a b => a ≠ p ∧ b ≠ p
  | .unlink q => q ≠ p

theorem upd_ne {f : Tbl} {p q : Path} {v : Option Bytes} (h : q ≠ p) : upd f q v p = f p :=
  if_neg (Ne.symm h)

@[simp] theorem upd_same {f : Tbl} {p : Path} {v : Option Bytes} : upd f p v p = v := if_pos rfl

theorem step_safe (h : Safe p o) : (step fs o).disk p = fs.disk p := by
  cases o with
  | stat q | chmod q => rfl
  | openW q | openA q | unlink q => exact upd_ne h
  | write q d n | close q | copyData s d n =>
    simp only [step]; split
    · exact upd_ne h
    · rfl
  | rename a b =>
    simp only [step]; split
    · exact (upd_ne h.2).trans (upd_ne h.1)
    · rfl

theorem run_safe (h : ∀ o ∈ ops, Safe p o) (fs : FS) :
    (run fs ops).disk p = fs.disk p := by
  induction ops generalizing fs with
  | nil => rfl
  | cons o os ih =>
    rw [run_cons, ih (fun o' ho' => h o' (List.mem_cons_of_mem _ ho')), step_safe (h o List.mem_cons_self)]

theorem allPre_safe (h : ∀ o ∈ ops, Safe p o) (fs : FS)
    (Q : Option Bytes → Prop) (hq : Q (fs.disk p)) : AllPre (fun s => Q (s.disk p)) fs ops := by
  intro k
  show Q ((run fs (ops.take k)).disk p)
  rw [run_safe (fun o ho => h o (List.mem_of_mem_take ho))]
  exact hq

/-- what a call sequence does to the content under `p`: it satisfies `Q` after every prefix, and is `v`
at the end -/
structure Spec (p : Path) (Q : Option Bytes → Prop) (fs : FS) (ops : List Op) (v : Option Bytes) : Prop where
  stays : AllPre (fun s => Q (s.disk p)) fs ops
  final : (run fs ops).disk p = v

theorem Spec.nil (e : fs.disk p = v) (h : Q v) : Spec p Q fs [] v :=
  ⟨fun k => by rw [List.take_nil]; exact (e ▸ h : Q (fs.disk p)), e⟩

theorem Spec.cons (h0 : Q (fs.disk p)) (h : Spec p Q (step fs o) os v) : Spec p Q fs (o :: os) v :=
  ⟨fun | 0 => h0 | k + 1 => h.stays k, h.final⟩

theorem Spec.after_safe (Q : Option Bytes → Prop) (ha : ∀ o ∈ a, Safe p o) (hq : Q (fs.disk p))
    (hb : (run fs a).disk p = fs.disk p → Spec p Q (run fs a) b v) : Spec p Q fs (a ++ b) v :=
  have hb := hb (run_safe ha fs)
  ⟨allPre_append (allPre_safe ha fs _ hq) hb.stays, by rw [run_append]; exact hb.final⟩

end

section
variable (fs : FS) (p : Path)

theorem step_stat : step fs (.stat p) = fs := rfl
theorem step_chmod : step fs (.chmod p) = fs := rfl
theorem step_openA_disk : (step fs (.openA p)).disk p = some ((fs.disk p).getD []) := upd_same
theorem step_openA_bufs : (step fs (.openA p)).bufs p = some [] := upd_same
theorem step_close_disk (x b : Bytes) (hd : fs.disk p = some x) (hb : fs.bufs p = some b) :
    (step fs (.close p)).disk p = some (x ++ b) := by
  simp only [step, hd, hb, upd_same]
theorem step_rename_disk (a b : Path) (x : Bytes) (hd : fs.disk a = some x) :
    (step fs (.rename a b)).disk b = some x := by
  simp only [step, hd]; exact upd_same
theorem step_write (d : Bytes) (n : Nat) (x b : Bytes) (hd : fs.disk p = some x)
    (hb : fs.bufs p = some b) : step fs (.write p d n) =
      { disk := upd fs.disk p (some (x ++ (b ++ d).take n)), bufs := upd fs.bufs p (some ((b ++ d).drop n)) } := by
  simp only [step, hd, hb]
theorem step_copyData (src dst : Path) (n : Nat) (s x : Bytes) (hs : fs.disk src = some s)
    (hd : fs.disk dst = some x) : step fs (.copyData src dst n) =
      { fs with disk := upd fs.disk dst (some (x ++ (s.drop x.length).take n)) } := by
  simp only [step, hs, hd]

end

/-! ### buffered writes: disk ++ buffer = everything written so far -/

section
variable (c : Cfg) (ws : List (Bytes × Nat)) (fs : FS) {p : Path}

theorem writes_inv (t : Path) (a bf : Bytes)
    (hd : fs.disk t = some a) (hb : fs.bufs t = some bf) :
    ∃ a' bf', (run fs (ws.map fun w => Op.write t w.1 w.2)).disk t = some a' ∧
      (run fs (ws.map fun w => Op.write t w.1 w.2)).bufs t = some bf' ∧
      a' ++ bf' = a ++ bf ++ newContent ws := by
  induction ws generalizing fs a bf with
  | nil => exact ⟨a, bf, hd, hb, (List.append_nil _).symm⟩
  | cons w ws ih =>
    rw [List.map_cons, run_cons]
    have hs := step_write fs t w.1 w.2 a bf hd hb
    obtain ⟨a', bf', h1, h2, h3⟩ := ih (step fs (.write t w.1 w.2)) (a ++ (bf ++ w.1).take w.2)
      ((bf ++ w.1).drop w.2) (by rw [hs]; exact upd_same) (by rw [hs]; exact upd_same)
    refine ⟨a', bf', h1, h2, h3.trans ?_⟩
    -- what was spilled and what stayed in the buffer are together `bf ++ w.1`
    rw [List.append_assoc a, List.take_append_drop, show newContent (w :: ws) = w.1 ++ newContent ws from rfl]
    simp only [List.append_assoc]

theorem pre_state :
    ∃ a b, (run fs (initOps c ++ writeOps c ws)).disk (tempName c) = some a ∧
      (run fs (initOps c ++ writeOps c ws)).bufs (tempName c) = some b ∧ a ++ b = newContent ws := by
  rw [run_append]
  exact writes_inv ws (run fs (initOps c)) (tempName c) [] [] upd_same upd_same

theorem pre_safe (h : tempName c ≠ p) :
    ∀ o ∈ initOps c ++ writeOps c ws, Safe p o :=
  List.forall_mem_append.mpr ⟨List.forall_mem_singleton.mpr h, List.forall_mem_map.mpr fun _ _ => h⟩

end

theorem take_step (x : Bytes) (m b : Nat) :
    x.take m ++ (x.drop (x.take m).length).take b = x.take (m + b) := by
  by_cases h : m ≤ x.length
  · rw [List.length_take, Nat.min_eq_left h, List.take_add]
  · have h' : x.length ≤ m := by omega
    rw [List.take_of_length_le h', List.drop_length, List.take_nil, List.append_nil,
      List.take_of_length_le (by omega)]

section
variable (src dst : Path) (x : Bytes) (blk : Nat) {p : Path}

theorem copy_loop (hne : dst ≠ src) (n m : Nat) (fs : FS)
    (hs : fs.disk src = some x) (hd : fs.disk dst = some (x.take m)) :
    (run fs (List.replicate n (Op.copyData src dst blk))).disk dst = some (x.take (m + n * blk)) ∧
    (run fs (List.replicate n (Op.copyData src dst blk))).bufs = fs.bufs := by
  induction n generalizing fs m with
  | zero => exact ⟨by rw [Nat.zero_mul]; exact hd, rfl⟩
  | succ n ih =>
    have hst := step_copyData fs src dst blk x (x.take m) hs hd
    obtain ⟨h1, h3⟩ := ih (m + blk) (step fs (.copyData src dst blk))
      (by rw [hst]; exact (upd_ne hne).trans hs)
      (by rw [hst]; exact upd_same.trans (congrArg some (take_step x m blk)))
    refine ⟨h1.trans ?_, h3.trans (by rw [hst])⟩
    rw [Nat.succ_mul, Nat.add_assoc, Nat.add_comm blk]

theorem blocks_cover (len blk : Nat) (h : 0 < blk) : len ≤ (nBlocks len blk + 1) * blk := by
  unfold nBlocks
  rw [if_neg (by omega)]
  have := Nat.lt_mul_div_succ (len + blk - 1) h
  rw [Nat.mul_comm]
  omega

theorem copyOps_safe (len : Nat) (h : dst ≠ p) :
    ∀ o ∈ copyOps src dst len blk, Safe p o := by
  intro o ho
  simp only [copyOps, copyFileOps, List.mem_append, List.mem_cons, List.mem_replicate,
    List.not_mem_nil, or_false] at ho
  rcases ho with (((rfl | rfl) | ⟨_, rfl⟩) | (rfl | rfl)) | rfl <;> first | exact h | trivial

theorem copy_complete (hne : dst ≠ src) (hb : 0 < blk) (fs : FS) (hs : fs.disk src = some x) :
    (run fs (copyOps src dst x.length blk)).disk dst = some x := by
  obtain ⟨l1, l3⟩ := copy_loop src dst x blk hne (nBlocks x.length blk + 1) 0 (step fs (.openW dst))
    ((upd_ne hne).trans hs) upd_same
  rw [List.take_of_length_le (by have := blocks_cover x.length blk hb; omega)] at l1
  simp only [copyOps, copyFileOps, run_append, run_cons, run_nil, step_stat, step_chmod]
  -- the loop has left an empty buffer for `close`
  exact (step_close_disk _ dst x [] l1 (by rw [l3]; exact upd_same)).trans
    (congrArg some (List.append_nil x))

end

theorem basename_append (p x : Path) (hx : '/' ∉ x) : basename (p ++ x) = basename p ++ x := by
  unfold basename
  rw [List.reverse_append, List.takeWhile_append_of_pos, List.reverse_append, List.reverse_reverse]
  intro a ha
  exact decide_eq_true fun h => hx (h ▸ List.mem_reverse.mp ha)

theorem basename_noslash (p : Path) : '/' ∉ basename p := by
  intro h
  have := List.all_eq_true.mp (List.all_takeWhile (p := (· ≠ '/')) (l := p.reverse)) '/'
    (List.mem_reverse.mp h)
  revert this; decide

theorem basename_nil : basename [] = [] := rfl

theorem basename_endsSlash (d : Path) (h : endsWithChar '/' d = true) : basename d = [] := by
  unfold endsWithChar at h
  split at h
  · rename_i x hx
    obtain ⟨ys, rfl⟩ := List.getLast?_eq_some_iff.mp hx
    cases of_decide_eq_true h
    simp [basename]
  · cases h

theorem basename_pjoin (d x : Path) (hx : '/' ∉ x) : basename (pjoin d x) = x := by
  unfold pjoin
  split
  · exact basename_append [] x hx
  · split
    · rename_i h
      rw [basename_append _ _ hx]
      rcases h with rfl | h
      · rfl
      · rw [basename_endsSlash _ h]; rfl
    · rw [List.append_cons, basename_append _ _ hx, basename_endsSlash _ (by simp [endsWithChar])]; rfl

theorem noslash_dot_token {t : Str} (h : TokenOk t) : '/' ∉ '.' :: t := by
  intro hm
  rcases List.mem_cons.mp hm with hm | hm
  · revert hm; decide
  · have := h '/' hm
    revert this; decide

section
variable (c : Cfg)

theorem basename_temp (ht : TokenOk c.token) :
    basename (tempName c) = basename c.filename ++ '.' :: c.token := by
  have hx := noslash_dot_token ht
  unfold tempName
  cases c.tmpDir with
  | none => exact basename_append _ _ hx
  | some d =>
    refine basename_pjoin _ _ fun h => ?_
    rcases List.mem_append.mp h with h | h
    · exact basename_noslash _ h
    · exact hx h

theorem basename_sibling (ht : TokenOk c.token2) :
    basename (siblingName c) = basename c.filename ++ '.' :: c.token2 :=
  basename_append _ _ (noslash_dot_token ht)

theorem basename_backup (hn : '/' ∉ c.now) :
    basename (backupName c) = basename c.filename ++ (backupInfix ++ c.now) := by
  have hx : '/' ∉ backupInfix ++ c.now := fun h => (List.mem_append.mp h).elim (by decide) hn
  unfold backupName
  simp only [List.append_assoc]
  cases c.backupDir with
  | none => exact basename_append _ _ hx
  | some d =>
    simp only
    rw [basename_pjoin _ _ (basename_noslash _)]
    exact basename_append _ _ hx

theorem ne_of_basename {x f s : Path} (h : basename x = basename f ++ s) (hs : s ≠ []) : x ≠ f :=
  fun e => hs (List.append_right_eq_self.mp (e ▸ h).symm)

/-- the backup suffix contains a `k`, a hex token does not -/
theorem token_ne_backup {t : Str} (now : Str) (ht : TokenOk t) : '.' :: t ≠ backupInfix ++ now := by
  intro h
  have hk : 'k' ∈ t := by
    rw [List.tail_eq_of_cons_eq h]; exact List.mem_append_left _ (by decide)
  have := ht 'k' hk
  revert this; decide

end

/-- the names of the files an atomic write touches are pairwise different from the target and
from the temp file -/
structure Distinct (c : Cfg) : Prop where
  tT : tempName c ≠ c.filename
  bT : backupName c ≠ c.filename
  sT : siblingName c ≠ c.filename
  bt : backupName c ≠ tempName c
  st : siblingName c ≠ tempName c
  sb : siblingName c ≠ backupName c

theorem names_distinct (c : Cfg) (h1 : TokenOk c.token) (h2 : TokenOk c.token2)
    (h3 : c.token ≠ c.token2) (h4 : '/' ∉ c.now) : Distinct c := by
  have bt := basename_temp c h1
  have bs := basename_sibling c h2
  have bb := basename_backup c h4
  refine ⟨ne_of_basename bt (List.cons_ne_nil _ _), ne_of_basename bb (List.cons_ne_nil _ _),
    ne_of_basename bs (List.cons_ne_nil _ _), ?_, ?_, ?_⟩
  · intro e; rw [e, bt] at bb
    exact token_ne_backup c.now h1 (List.append_cancel_left bb)
  · intro e; rw [e, bt] at bs
    exact h3 (List.tail_eq_of_cons_eq (List.append_cancel_left bs))
  · intro e; rw [e, bb] at bs
    exact token_ne_backup c.now h2 (List.append_cancel_left bs).symm

/-- the target is the old version, the new version, or — when there was no old file — the empty
file that `open(filename, 'a')` creates (loaders treat it like a missing file) -/
def Good (old : Option Bytes) (new : Bytes) (d : Option Bytes) : Prop :=
  d = old ∨ d = some new ∨ (old = none ∧ d = some [])

theorem good_old {old new} : Good old new old := Or.inl rfl
theorem good_new {old new} : Good old new (some new) := Or.inr (Or.inl rfl)

theorem good_getD {old : Option Bytes} {new : Bytes} : Good old new (some (old.getD [])) := by
  cases old with
  | none => exact Or.inr (Or.inr ⟨rfl, rfl⟩)
  | some o => exact Or.inl rfl

section
variable (c : Cfg) (ws : List (Bytes × Nat)) (fs : FS) {p : Path}

theorem moveOps_spec (D : Distinct c) (hblk : 0 < c.copyBlock) (new : Bytes)
    (Q : Option Bytes → Prop) (hq : Q (fs.disk c.filename)) (hn : Q (some new))
    (ht : fs.disk (tempName c) = some new) :
    Spec c.filename Q fs (moveOps c new.length) (some new) := by
  unfold moveOps
  split
  · -- same file system: one rename
    exact Spec.cons hq (Spec.nil (step_rename_disk fs (tempName c) c.filename new ht) hn)
  · -- other file system: copy next to the target, rename the copy, remove the temp
    refine Spec.after_safe Q (List.forall_mem_cons.mpr ⟨trivial, copyOps_safe _ _ _ _ D.sT⟩) hq fun hT => ?_
    rw [run_cons] at hT ⊢
    have hr := step_rename_disk _ _ c.filename new
      (copy_complete _ (siblingName c) new c.copyBlock D.st hblk (step fs (.stat (tempName c))) ht)
    exact Spec.cons (hT ▸ hq) (Spec.cons (hr ▸ hn) (Spec.nil
      ((step_safe (o := .unlink (tempName c)) D.tT).trans hr) hn))

/-- the stats and the optional backup copy with which `close()` begins -/
def backupOps (newSize : Nat) : List Op :=
  [Op.stat (tempName c), Op.stat c.filename] ++
    match fs.disk c.filename with
    | none => []
    | some o =>
      Op.stat c.filename ::
        (if wantsBackup c newSize o.length then copyOps c.filename (backupName c) o.length c.copyBlock else [])

theorem closeTail_eq : closeTail c fs =
    if ((fs.disk (tempName c)).getD []).length ≠ 0 ∨ c.allowEmptyOverwrite = true ∨
        (fs.disk c.filename).isNone then
      backupOps c fs ((fs.disk (tempName c)).getD []).length ++ [.openA c.filename, .close c.filename] ++
        moveOps c ((fs.disk (tempName c)).getD []).length
    else [.stat (tempName c), .stat c.filename] := rfl

theorem backupOps_safe (n : Nat) (h : backupName c ≠ p) :
    ∀ o ∈ backupOps c fs n, Safe p o := by
  unfold backupOps
  refine List.forall_mem_append.mpr
    ⟨List.forall_mem_cons.mpr ⟨trivial, List.forall_mem_singleton.mpr trivial⟩, ?_⟩
  split
  · exact List.forall_mem_nil _
  · refine List.forall_mem_cons.mpr ⟨trivial, ?_⟩
    split
    · exact copyOps_safe _ _ _ _ h
    · exact List.forall_mem_nil _

/-- what `close()` does after `self._fd.close()`: every intermediate target state is fine, and the
final one is the new content unless the write was skipped (`new` empty, `allowEmptyOverwrite`
false, old file present) -/
theorem closeTail_spec (D : Distinct c) (hblk : 0 < c.copyBlock) (new : Bytes)
    (ht : fs.disk (tempName c) = some new) :
    Spec c.filename (Good (fs.disk c.filename) new) fs (closeTail c fs)
      (if new.length ≠ 0 ∨ c.allowEmptyOverwrite = true ∨ (fs.disk c.filename).isNone
        then some new else fs.disk c.filename) := by
  rw [closeTail_eq, ht, Option.getD_some]
  split
  · -- the write goes ahead
    -- phase A, stats and the optional backup copy: neither the target nor the temp changes
    have ht1 := (run_safe (backupOps_safe c fs new.length D.bt) fs).trans ht
    rw [List.append_assoc, List.cons_append, List.cons_append, List.nil_append]
    refine Spec.after_safe _ (backupOps_safe c fs _ D.bT) good_old ?_
    generalize run fs (backupOps c fs new.length) = fs1 at ht1 ⊢
    intro hT1
    -- phase B, the probe `open(filename,'a')`, `close`: creates the target empty if it was missing
    have hB0 : (step fs1 (.openA c.filename)).disk c.filename = some ((fs.disk c.filename).getD []) := by
      rw [step_openA_disk, hT1]
    have hB1 : (step (step fs1 (.openA c.filename)) (.close c.filename)).disk c.filename =
        some ((fs.disk c.filename).getD []) := by
      rw [step_close_disk _ _ _ [] hB0 (step_openA_bufs _ _), List.append_nil]
    have hB1t : (step (step fs1 (.openA c.filename)) (.close c.filename)).disk (tempName c) = some new :=
      (step_safe (o := .close c.filename) D.tT.symm).trans
        ((step_safe (o := .openA c.filename) D.tT.symm).trans ht1)
    have hC := moveOps_spec c _ D hblk new (Good (fs.disk c.filename) new)
      (hB1 ▸ good_getD) good_new hB1t
    exact Spec.cons (hT1 ▸ good_old) (Spec.cons (hB0 ▸ good_getD) hC)
  · -- nothing is written over the target
    exact Spec.cons good_old (Spec.cons good_old (Spec.nil rfl good_old))

theorem flush_spec (D : Distinct c) (hblk : 0 < c.copyBlock) :
    Spec c.filename (Good (fs.disk c.filename) (newContent ws)) fs (flushOps c ws fs)
      (if (newContent ws).length ≠ 0 ∨ c.allowEmptyOverwrite = true ∨ (fs.disk c.filename).isNone
        then some (newContent ws) else fs.disk c.filename) := by
  unfold flushOps closeOps
  refine Spec.after_safe _ (pre_safe c ws D.tT) good_old fun hT => ?_
  obtain ⟨a, b, h1, h2, h3⟩ := pre_state c ws fs
  have hC := closeTail_spec c _ D hblk (newContent ws)
    ((step_close_disk _ _ a b h1 h2).trans (congrArg some h3))
  rw [step_safe (o := .close (tempName c)) D.tT, hT] at hC
  exact Spec.cons (hT ▸ good_old) hC

theorem rollbackOps_safe (h : tempName c ≠ p) :
    ∀ o ∈ rollbackOps c fs, Safe p o := by
  unfold rollbackOps
  split
  · exact List.forall_mem_nil _
  · refine List.forall_mem_append.mpr
      ⟨List.forall_mem_cons.mpr ⟨h, List.forall_mem_singleton.mpr trivial⟩, ?_⟩
    split
    · exact List.forall_mem_singleton.mpr h
    · exact List.forall_mem_nil _

theorem abortOps_safe (h : tempName c ≠ p) :
    ∀ o ∈ abortOps c ws fs, Safe p o :=
  List.forall_mem_append.mpr ⟨pre_safe c ws h, rollbackOps_safe c _ h⟩

theorem abort_removes_temp :
    (run fs (abortOps c ws fs)).disk (tempName c) = none := by
  obtain ⟨a, b, h1, h2, -⟩ := pre_state c ws fs
  unfold abortOps
  simp only
  rw [run_append]
  generalize run fs (initOps c ++ writeOps c ws) = fs1 at h1 h2
  unfold rollbackOps
  simp only [h2, h1, Option.isSome_some, if_true]
  exact upd_same

end

/-! ### the pre-fix move (shutil.move falling back to a copy over the target), kept as the witness -/

/-- `shutil.move(temp, filename)` as `close()` used it before the fix, when `os.rename` raises
`EXDEV`: `copy2` over the target in place, then `unlink` of the temp -/
def moveOpsOld (c : Cfg) (newSize : Nat) : List Op :=
  if c.sameDevice then [.rename (tempName c) c.filename]
  else .stat (tempName c) :: copyOps (tempName c) c.filename newSize c.copyBlock ++ [.unlink (tempName c)]

def witnessCfg : Cfg :=
  { filename := ['u'], tmpDir := some ['t'], backupDir := none, makeBackupIfSmaller := true,
    allowEmptyOverwrite := true, token := ['a'], token2 := ['b'], now := ['1'], sameDevice := false,
    copyBlock := 8 }

/-! ### what the model needs from the source (checked on the extracted tables) -/

/-- callees of `close()` / `__init__` that do not change any file -/
def pureCalls : List String :=
  ["os.path.getsize", "os.path.exists", "int", "time.time", "os.path.basename", "os.path.join", "mktemp",
   "ValueError", "force", "format"]

def effectful (cs : List (String × String)) : List (String × String) :=
  cs.filter fun p => !(pureCalls.contains p.1)

/-- the shape of `AtomicFile` the model mirrors -/
structure SourceOk : Prop where
  init : effectful Gen.AtomicFile.initCalls = [("codecs.open", "self.tempFilename, mode, encoding=encoding")]
  close : effectful Gen.AtomicFile.closeCalls =
    [("self._fd.close", ""), ("shutil.copy", "self.filename, backupFilename"), ("open", "self.filename, 'a'"),
     ("fd.close", ""), ("os.replace", "self.tempFilename, self.filename"),
     ("shutil.copy2", "self.tempFilename, sibling"), ("os.replace", "sibling, self.filename"),
     ("os.remove", "self.tempFilename")]
  tests : Gen.AtomicFile.closeTests =
    ["not self.rolledback", "newSize or self.allowEmptyOverwrite or (not originalExists)", "originalExists",
     "self.makeBackupIfSmaller and newSize < oldSize and (self.backupDir != '/dev/null')",
     "self.backupDir is not None"]
  handler : Gen.AtomicFile.closeExcept =
    [("OSError", "mktemp()"), ("OSError", "shutil.copy2(self.tempFilename, sibling)"),
     ("OSError", "os.replace(sibling, self.filename)"), ("OSError", "os.remove(self.tempFilename)")]
  rollback : Gen.AtomicFile.rollbackCalls =
    [("self._fd.close", ""), ("os.path.exists", "self.tempFilename"), ("os.remove", "self.tempFilename")]
  rollbackTests : Gen.AtomicFile.rollbackTests = ["not self.closed", "os.path.exists(self.tempFilename)"]
  writes : Gen.AtomicFile.writeCalls = [("self._fd.write", "data"), ("self._fd.writelines", "lines")]
  del : Gen.AtomicFile.delCalls = [("self.rollback", "")]
  exit : Gen.AtomicFile.exitCalls = [("self.rollback", ""), ("self.close", "")]
  formats : Gen.AtomicFile.nameFormats = ["%s.%s", "%s.%s", "/dev/null", "%s.backup.%s", "%s.%s"]

/-- one call site: the file name is the only positional argument (mode stays `'w'`), the only
keyword ever passed is `makeBackupIfSmaller=False`, and the object is only written to and closed -/
def callerOk (r : String × String × String × String × List String × Nat) : Bool :=
  let (_, _, pos, kw, meths, _) := r
  (pos == "self.filename" || pos == "filename") &&
  (kw == "" || kw == "makeBackupIfSmaller=False") &&
  meths.all (fun m => ["close", "write", "writelines"].contains m) && meths.contains "close"

open List

/-- the atomic write configured by `c` never touches the path `T` -/
structure Indep (c : Cfg) (T : Path) : Prop where
  f : c.filename ≠ T
  t : tempName c ≠ T
  b : backupName c ≠ T
  s : siblingName c ≠ T

section
variable (c : Cfg) (ws : List (Bytes × Nat)) (fs : FS) {T : Path}

theorem moveOps_safe_other (n : Nat) (h : Indep c T) : ∀ o ∈ moveOps c n, Safe T o := by
  unfold moveOps
  split
  · exact forall_mem_singleton.mpr ⟨h.t, h.f⟩
  · exact forall_mem_append.mpr ⟨forall_mem_cons.mpr ⟨trivial, copyOps_safe _ _ _ _ h.s⟩,
      forall_mem_cons.mpr ⟨⟨h.s, h.f⟩, forall_mem_singleton.mpr h.t⟩⟩

theorem closeTail_safe_other (h : Indep c T) : ∀ o ∈ closeTail c fs, Safe T o := by
  rw [closeTail_eq]
  split
  · exact forall_mem_append.mpr ⟨forall_mem_append.mpr ⟨backupOps_safe c fs _ h.b,
      forall_mem_cons.mpr ⟨h.f, forall_mem_singleton.mpr h.f⟩⟩, moveOps_safe_other c _ h⟩
  · exact forall_mem_cons.mpr ⟨trivial, forall_mem_singleton.mpr trivial⟩

theorem flushOps_safe_other (h : Indep c T) : ∀ o ∈ flushOps c ws fs, Safe T o :=
  forall_mem_append.mpr ⟨pre_safe c ws h.t, forall_mem_cons.mpr ⟨h.t, closeTail_safe_other c _ h⟩⟩

end

/-- the jobs of one `world.flush()` write pairwise independent files -/
def Separate : List (Cfg × List (Bytes × Nat)) → Prop
  | [] => True
  | (c, _) :: js => (∀ j ∈ js, Indep c j.1.filename ∧ Indep j.1 c.filename) ∧ Separate js

section
variable (js : List (Cfg × List (Bytes × Nat))) (fs : FS)

theorem multi_safe_other {T : Path} (h : ∀ j ∈ js, Indep j.1 T) : ∀ o ∈ multiOps fs js, Safe T o := by
  induction js generalizing fs with
  | nil => exact List.forall_mem_nil _
  | cons j js ih =>
    obtain ⟨c, ws⟩ := j
    exact forall_mem_append.mpr ⟨flushOps_safe_other c ws fs (h _ mem_cons_self),
      ih _ fun j hj => h j (mem_cons_of_mem _ hj)⟩

theorem multi_spec (hok : ∀ j ∈ js, Distinct j.1 ∧ 0 < j.1.copyBlock) (hsep : Separate js) :
    ∀ j ∈ js, AllPre (fun s => Good (fs.disk j.1.filename) (newContent j.2) (s.disk j.1.filename)) fs
      (multiOps fs js) := by
  induction js generalizing fs with
  | nil => intro j hj; cases hj
  | cons j0 js ih =>
    obtain ⟨c, ws⟩ := j0
    intro j hj
    unfold multiOps
    rcases mem_cons.mp hj with rfl | hj'
    · -- the file written first: its own flush, then untouched
      have hc := hok (c, ws) mem_cons_self
      have hsp := flush_spec c ws fs hc.1 hc.2
      refine allPre_append hsp.stays ?_
      have hsafe := multi_safe_other js (run fs (flushOps c ws fs)) (T := c.filename)
        (fun j hj => (hsep.1 j hj).2)
      exact allPre_safe hsafe _ _ (allPre_final hsp.stays)
    · -- a file written later: untouched by the first flush
      have hsafe := flushOps_safe_other c ws fs (hsep.1 j hj').1
      refine allPre_append (allPre_safe hsafe fs _ good_old) ?_
      have := ih (run fs (flushOps c ws fs)) (fun j hj => hok j (mem_cons_of_mem _ hj)) hsep.2 j hj'
      rw [run_safe hsafe fs] at this
      exact this

end

/-- independence from the names: another file whose name is not `<this file>.<something>` -/
theorem indep_of_names (c : Cfg) (h1 : TokenOk c.token) (h2 : TokenOk c.token2) (h4 : '/' ∉ c.now) {T : Path}
    (hf : c.filename ≠ T) (hp : ∀ x, basename T ≠ basename c.filename ++ '.' :: x) : Indep c T :=
  ⟨hf, fun e => hp _ (e ▸ basename_temp c h1), fun e => hp _ (e ▸ basename_backup c h4),
    fun e => hp _ (e ▸ basename_sibling c h2)⟩

/-! ### who writes files at all (checked on the generated inventory) -/

/-- the places in src/ and plugins/__init__.py that open a file for writing without `AtomicFile`:
(file, function, mode).  None of them is a flush of users / channels / networks / ignores / the
registry: those in dbi.py are the record-level writers of `DirMapping` / `FlatfileMapping` (in place,
by design), cdb / transaction keep journals, utils/file.py is AtomicFile itself. -/
def knownDirectWriters : List (String × String × String) :=
  [("src/cdb.py", "ReaderWriter._openFiles", "w"),
   ("src/dbi.py", "DirMapping._setMax", "w"), ("src/dbi.py", "DirMapping.set", "w"),
   ("src/dbi.py", "DirMapping.add", "w"), ("src/dbi.py", "FlatfileMapping._incrementCurrentId", "a"),
   ("src/dbi.py", "FlatfileMapping.add", "r+"),
   ("src/dbi.py", "FlatfileMapping.remove", "r+"),
   ("src/httpserver.py", "set_default_templates", "a"),
   ("src/utils/file.py", "open_mkdir", "?"), ("src/utils/file.py", "touch", "w"),
   ("src/utils/file.py", "AtomicFile.__init__", "?"), ("src/utils/file.py", "AtomicFile.close", "a"),
   ("src/utils/transaction.py", "Transaction.__init__", "a"), ("src/utils/transaction.py", "Transaction.__init__", "w"),
   ("src/utils/transaction.py", "Transaction.append", "a"), ("src/utils/transaction.py", "Rollback.rollbackAppend", "a"),
   ("plugins/__init__.py", "PeriodicFileDownloader._downloadFile", "wb")]

def anchoredFiles : List String := ["src/ircdb.py", "src/registry.py", "src/dbi.py"]

end C17
