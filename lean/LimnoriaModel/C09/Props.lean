/-
C09 — property theorems: required SASL cannot be bypassed; STS policies are stored only on verified
TLS, upgrade an insecure connection, and are applied while unexpired.

`Reach cfg base s` (C08/Trace.lean) quantifies over every history of server messages and resets.
The STS theorems are about the decision points of the code as modelled in C08/Model.lean:
`onCapSts` (Irc._onCapSts), `realReconnect`/`drvConnect`/`getNextServer`/`applyStsPolicy`/`tlsChoice`
(SocketDriver.reconnect, ServersMixin._getNextServer/_applyStsPolicy, starttls), `flush` (_sendIfMsgs).
-/
import LimnoriaModel.C09.Lemmas
import LimnoriaModel.C08.Props
namespace C09
open Py C08
open Gen.Conn (Fsm)

/-! ### sasl.required -/

/-- With `sasl.required`, in every reachable state: the FSM being past the negotiation
(INIT_WAITING_MOTD, INIT_MOTD, CONNECTED, CONNECTED_SASL), `afterConnect` being set, or a `CAP END` having
been sent in this epoch, each implies that in this epoch the server confirmed SASL success (903) — and that
this 903 was honoured inside a SASL exchange: `sasl` had been acknowledged (ghost `saslAcked`). -/
theorem sasl_required_safe (cfg : Cfg) (base s : St) (hr : cfg.required = true) (r : Reach cfg base s) :
    (pastNegotiation s.fsm = true ∨ s.afterConnect = true ∨ 0 < s.endCount) →
      s.saslAuth = true ∧ s.saslAcked = true := fun h =>
  have ha := (absInv_req cfg).reach r hr h
  ⟨ha, ((absInv_sasl cfg).reach r).2.2.2 ha⟩

/-- The same along every history of the real SocketDriver: `SocketDriver(irc)`, then any number of `run()`s
with arbitrary clock values, due / not-due scheduled reconnects and recv() chunks of any server lines. -/
theorem sasl_required_safe_real (cfg : Cfg) (base s : St) (hr : cfg.required = true) (hd : cfg.realDriver = true)
    (r : DReach cfg base s) :
    (pastNegotiation s.fsm = true ∨ s.afterConnect = true ∨ 0 < s.endCount) →
      s.saslAuth = true ∧ s.saslAcked = true := fun h =>
  have ha := (absInv_req cfg).dreach hd r hr h
  ⟨ha, ((absInv_sasl cfg).dreach hd r).2.2.2 ha⟩

/-- `sasl_authenticated` is raised only by the handler of 903, only when the FSM was in INIT_SASL /
CONNECTED_SASL when the 903 arrived, and only after a complete response of the bot had gone out for the
mechanism requested last (`sasl_response_sent`): a 903 outside a SASL exchange (unsolicited, before CAP LS,
after the exchange ended …) or right after `AUTHENTICATE <mechanism>`, before any credentials were sent, is
not honoured — for every state, configuration and message. -/
theorem auth_only_in_exchange (cfg : Cfg) (s : St) (m : Msg) (h0 : s.saslAuth = false)
    (h1 : (step cfg s m).st.saslAuth = true) : dispatch m = .n903 ∧ isSaslState s.fsm = true ∧ s.saslSent = true := by
  have hm := ref_feedMsg (cfg := cfg) m s
  have hb : (α (feedMsg cfg m s).st).saslAuth = true := h1
  have ha : (α s).saslAuth = false := h0
  by_cases hp : handlerKinds (dispatch m) .authPerm = true
  · have hd : dispatch m = .n903 := by revert hp; cases dispatch m <;> simp [handlerKinds]
    refine ⟨hd, ?_, ?_⟩
    · have hk : handlerKinds (dispatch m) .startSasl = false := by rw [hd]; rfl
      rcases auth_moves hk hm hb with h | ⟨h, _⟩
      · rw [ha] at h; cases h
      · exact h
    · have hk : handlerKinds (dispatch m) .payload = false := by rw [hd]; rfl
      rcases authSent_moves hk hm hb with h | h
      · rw [ha] at h; cases h
      · exact h
  · have := noAuth_moves (by simpa using hp) hm hb
    rw [ha] at this; cases this

/-- … and `sasl_response_sent` itself is raised only while handling a server AUTHENTICATE inside a SASL
state (by `sendSaslString`, after the last line of the answer was queued: `C08.sasl_answer_complete`); a new
mechanism request and a reset clear it. -/
theorem response_only_by_authenticate (cfg : Cfg) (s : St) (m : Msg) (h0 : s.saslSent = false)
    (h1 : (step cfg s m).st.saslSent = true) : dispatch m = .authenticate ∧ isSaslState s.fsm = true := by
  have hm := ref_feedMsg (cfg := cfg) m s
  have hb : (α (feedMsg cfg m s).st).sent = true := h1
  have ha : (α s).sent = false := h0
  by_cases hp : handlerKinds (dispatch m) .payload = true
  · have hd : dispatch m = .authenticate := by revert hp; cases dispatch m <;> simp [handlerKinds]
    refine ⟨hd, ?_⟩
    have hk : handlerKinds (dispatch m) .startSasl = false := by rw [hd]; rfl
    rcases sentOrigin_moves hk hm hb with h | ⟨h, _⟩
    · rw [ha] at h; cases h
    · exact h
  · have := sent_moves (by simpa using hp) hm hb
    rw [ha] at this; cases this

/-- the configuration of the C08 examples with `sasl.required` -/
def exReq : Cfg := { exCfg with required := true }
def exR0 : St := (start exReq {}).st
def exR1 : St := (step exReq exR0 exLs).st
def exR2 : St := (step exReq exR1 exAck).st
def exR3 : St := (step exReq exR2 exAuth).st
def exR4 : St := (step exReq exR3 ex903).st
theorem exR4_reach : Reach exReq {} exR4 :=
  .op (.msg ex903) (.op (.msg exAuth) (.op (.msg exAck) (.op (.msg exLs) .start)))
example : exReq.required = true ∧ pastNegotiation exR4.fsm = true ∧ exR4.saslAuth = true := by decide +kernel
example : exR3.saslAuth = false ∧ (step exReq exR3 ex903).st.saslAuth = true := by decide +kernel
/-- a 903 right after `AUTHENTICATE PLAIN`, before the credentials went out, changes nothing -/
example : exR2.fsm = .INIT_SASL ∧ exR2.saslSent = false ∧ (step exReq exR2 ex903).st.saslAuth = false ∧
    (step exReq exR2 ex903).fast = [] ∧ exR3.saslSent = true := by decide +kernel
/-- an unsolicited 903 right after connecting changes nothing -/
example : (step exReq exR0 ex903).st.saslAuth = false ∧ (step exReq exR0 ex903).exc = some "ValueError" := by decide +kernel


/-- With `sasl.required`, a `CAP END` is put on the queue only by a step after which SASL is confirmed. -/
theorem cap_end_needs_auth (cfg : Cfg) (base s : St) (hr : cfg.required = true) (r : Reach cfg base s) (m : Msg)
    (h : Out.capEnd ∈ (step cfg s m).fast) : (step cfg s m).st.saslAuth = true := by
  have hq := (reach_drained r).1
  have hcnt : 0 < ends (step cfg s m).fast := by
    unfold ends; rw [List.count_pos_iff]; simp only [List.mem_map]; exact ⟨_, h, rfl⟩
  have hpos : 0 < (step cfg s m).st.endCount := by
    rcases cap_end_counted cfg s m hq with ⟨_, h2⟩ | ⟨_, _, h2⟩ <;> omega
  exact (sasl_required_safe cfg base _ hr (.op (.msg m) r) (.inr (.inr hpos))).1

example : Out.capEnd ∈ (step exReq exR3 ex903).fast := by decide +kernel

/-- the witness scripts of the repaired defect now abort instead of finishing the registration:
the server omits `sasl` from CAP LS -/
def exLsNoSasl : Msg := ⟨sCAP, [exStar, ['L','S'], ['b','a','t','c','h']], []⟩
def exAckBatch : Msg := ⟨sCAP, [exStar, ['A','C','K'], ['b','a','t','c','h']], []⟩
example :
    (step exReq (step exReq exR0 exLsNoSasl).st exAckBatch).fast = [] ∧
    (step exReq (step exReq exR0 exLsNoSasl).st exAckBatch).events = [.reconnect true none] := by decide +kernel

/-! ### STS: parsing -/

/-- `parseStsPolicy` returns None exactly when `port` — or `duration`, when it is needed — is missing,
valueless or not an integer; for every policy string. -/
theorem sts_parse (policy : Str) (d : Bool) :
    parseStsPolicy policy d = none ↔
      (stsInt (stsDict policy) sPort = none ∨ (d = true ∧ stsInt (stsDict policy) sDuration = none)) := by
  unfold parseStsPolicy
  simp only
  cases hp : stsInt (stsDict policy) sPort with
  | none => simp
  | some p =>
    cases d with
    | false => simp
    | true =>
      cases hd : stsInt (stsDict policy) sDuration with
      | none => simp
      | some x => simp

theorem stsInt_none (dict : List (Str × Option Str)) (k : Str) :
    stsInt dict k = none ↔
      (dictGet dict k = none ∨ dictGet dict k = some none ∨ ∃ v, dictGet dict k = some (some v) ∧ pyInt v = none) := by
  unfold stsInt
  cases h : dictGet dict k with
  | none => simp
  | some o =>
    cases o with
    | none => simp
    | some v => simp

example : parseStsPolicy ("port=6697,duration=100".toList) true = some ⟨6697, some 100⟩ := by decide +kernel
example : parseStsPolicy ("duration=100".toList) true = none := by decide +kernel
example : parseStsPolicy ("port=x".toList) false = none := by decide +kernel

/-! ### STS: a policy is stored only on verified TLS -/

/-- One `feedMsg` on a connection the bot does not consider verified TLS (not forced by a stored policy,
and not "ssl with some certificate validation"), during which no new socket is opened, neither adds
nor changes a stored STS policy — for every state, configuration and server message. -/
theorem sts_store_only_secure (cfg : Cfg) (s : St) (m : Msg) (hs : secureConn cfg s = false)
    (hk : (feedMsg cfg m s).st.drv.sock = s.drv.sock) :
    ∀ k p, dictGet (feedMsg cfg m s).st.db.policies k = some p → dictGet s.db.policies k = some p :=
  (noNewPolicy_moves (ref_feedMsg (cfg := cfg) m s) (by simpa [aSecure, secureConn, α] using hs) hk).1

/-- The same without the side condition: the handlers that can store a policy (CAP LS, CAP NEW) never open
a socket, and the one that opens a socket (ERROR) never stores a policy. -/
theorem sts_store_only_secure_msg (cfg : Cfg) (s : St) (m : Msg) (hs : secureConn cfg s = false) :
    ∀ k p, dictGet (feedMsg cfg m s).st.db.policies k = some p → dictGet s.db.policies k = some p := by
  have hm := ref_feedMsg (cfg := cfg) m s
  rcases handler_perms (dispatch m) with h | h
  · exact noStore_moves h hm
  · exact (noNewPolicy_moves hm (by simpa [aSecure, secureConn, α] using hs) (sock_moves h hm)).1

/-- History level, one whole `SocketDriver.run()`: while the lines of a recv() are fed on a connection the bot
does not consider verified TLS, no STS policy is added or changed — whatever the lines are, including a line
that makes the driver reconnect (the rest of the chunk is then dropped). -/
theorem sts_store_only_secure_lines (cfg : Cfg) (lines : List Msg) (s : St) (hs : secureConn cfg s = false) :
    ∀ k p, dictGet (feedLines cfg lines s).db.policies k = some p → dictGet s.db.policies k = some p := by
  induction lines generalizing s with
  | nil => exact fun _ _ h => h
  | cons m ms ih =>
    unfold feedLines
    simp only
    have h1 := sts_store_only_secure_msg cfg s m hs
    split
    · exact h1
    · rename_i hcont
      have hsock : (feedMsg cfg m s).st.drv.sock = s.drv.sock := by
        by_cases hq : (feedMsg cfg m s).st.drv.sock = s.drv.sock
        · exact hq
        · exact absurd (.inl hq) hcont
      have hf := (noNewPolicy_moves (ref_feedMsg (cfg := cfg) m s) (by simpa [aSecure, secureConn, α] using hs) hsock).2
      have hs' : secureConn cfg (feedMsg cfg m s).st = false := by
        have hf' : (feedMsg cfg m s).st.drv.current.forced = s.drv.current.forced := hf
        simpa [secureConn, hf'] using hs
      exact fun k p hg => h1 k p (ih _ hs' k p hg)

/-- … and `_sendIfMsgs` does not touch the store: a whole `run()` that does not start with a due reconnect
adds or changes no policy on an unverified connection. -/
theorem sts_store_only_secure_run (cfg : Cfg) (now : Nat) (lines : List Msg) (s : St)
    (hs : secureConn cfg s = false) :
    ∀ k p, dictGet (drvRun cfg now false lines s).db.policies k = some p → dictGet s.db.policies k = some p := by
  have hflush : ∀ t : St, (flush t).db = t.db ∧ (flush t).drv = t.drv := by
    intro t; unfold flush; split <;> exact ⟨rfl, rfl⟩
  unfold drvRun drvDue
  simp only [Bool.and_false, Bool.false_eq_true, if_false]
  split
  · rw [(hflush _).1]
    intro k p hg
    have hs1 : secureConn cfg (flush { s with now := now, ev := [], wire := [] }) = false := by
      simpa [secureConn, (hflush _).2] using hs
    have := sts_store_only_secure_lines cfg lines _ hs1 k p hg
    rw [(hflush _).1] at this; exact this
  · exact fun _ _ h => h

/-- With the recording stub driver no socket is ever opened by a handler: the statement holds outright. -/
theorem sts_store_only_secure_stub (cfg : Cfg) (s : St) (m : Msg) (hd : cfg.realDriver = false)
    (hs : secureConn cfg s = false) :
    ∀ k p, dictGet (feedMsg cfg m s).st.db.policies k = some p → dictGet s.db.policies k = some p :=
  sts_store_only_secure cfg s m hs (sock_const_stub hd (ref_feedMsg (cfg := cfg) m s))

/-- `CAP * LS :sts=port=6697,duration=100` -/
def exLsSts : Msg := ⟨sCAP, [exStar, ['L','S'], "sts=port=6697,duration=100".toList], []⟩
example : secureConn exCfg exS0 = false ∧ (step exCfg exS0 exLsSts).st.db.policies = [] := by decide +kernel
/-- on a verified connection the same line stores the raw policy -/
def exTls : Cfg := { exCfg with ssl := true, certValidation := true }
example : secureConn exTls (start exTls {}).st = true ∧
    (step exTls (start exTls {}).st exLsSts).st.db.policies = [([], "port=6697,duration=100".toList)] := by decide +kernel

/-! ### STS: upgrade of an insecure connection -/

/-- On an insecure connection a policy with a valid port makes `_onCapSts` move the FSM to SHUTTING_DOWN
and call `driver.reconnect(server=Server(host, port, attempt, True), wait=True)`; nothing else. -/
theorem sts_insecure_upgrade (cfg : Cfg) (policy : Str) (s : St) (p : StsPolicy) (hs : secureConn cfg s = false)
    (hp : parseStsPolicy policy false = some p) :
    onCapSts cfg policy s = drvReconnect cfg true (some (upgradeServer s p)) (onShutdown s).st := by
  unfold onCapSts
  simp only [hs, hp, Bool.false_eq_true, if_false]
  rfl

/-- The real `SocketDriver.reconnect(server=srv, wait=True)`: the connection is closed (and the
disconnection time recorded) if it was open, the Irc object is reset, `srv` becomes the next server to be
used, a reconnect is scheduled — and the stored policies are untouched. -/
theorem upgrade_reconnect (cfg : Cfg) (srv : Server) (s : St) :
    let s' := realReconnect cfg true (some srv) s
    s'.drv.connected = false ∧ s'.drv.scheduled = true ∧ s'.drv.servers.head? = some srv ∧
    s'.db.policies = s.db.policies ∧ (s.drv.connected = true → Out.closed ∈ s'.ev) ∧ s'.drv.sock = s.drv.sock := by
  simp only [realReconnect, if_true]
  by_cases hc : s.drv.connected = true
  · simp [drvSchedule, drvDisconnect, hc, ircReset_frame, event]
  · simp [drvSchedule, drvDisconnect, hc, ircReset_frame]

/-- `_sendIfMsgs` writes nothing while the driver is not connected: after the upgrade decision no byte
goes to the insecure socket any more. -/
theorem flush_not_connected (s : St) (h : s.drv.connected = false) : flush s = s := by
  simp [flush, h]

/-- The server the driver picks next when a server with `force_tls_verification` heads its list is
again for the same host and forced (a stored policy can only replace the port by its own). -/
theorem upgrade_next_server (cfg : Cfg) (s s' : St) (srv x : Server) (rest : List Server)
    (hl : s.drv.servers = srv :: rest) (hf : srv.forced = true) (h : getNextServer cfg s = some (x, s')) :
    x.host = srv.host ∧ x.forced = true := by
  unfold getNextServer at h
  simp only [hl, List.isEmpty_cons, Bool.false_eq_true, if_false] at h
  rcases applyStsPolicy_some h with ⟨_, rfl, _⟩ | ⟨rfl, _⟩ | ⟨_, rfl, _⟩
  · exact ⟨rfl, hf⟩
  · exact ⟨rfl, hf⟩
  · exact ⟨rfl, rfl⟩

/-- A forced server is always connected to with TLS, and with certificate verification switched on unless
the operator configured a validation of their own (fingerprints / CA / verifyCertificates). -/
theorem forced_tls_verified (cfg : Cfg) (x : Server) (hf : x.forced = true) :
    (tlsChoice cfg x).1 = true ∧ ((tlsChoice cfg x).2 = true ∨ cfg.certValidation = true) := by
  unfold tlsChoice
  simp only [hf, Bool.or_true, Bool.true_and, true_and]
  cases cfg.certValidation <;> simp

example : (tlsChoice exCfg ⟨[], 6697, none, true⟩) = (true, true) := by decide +kernel

/-! ### STS: a stored policy is applied while it has not expired -/

/-- While a stored policy for the host parses and has not expired — in particular when no disconnection
time is recorded — `_applyStsPolicy` answers the policy's port with forced verification and keeps it. -/
theorem sts_applied (s : St) (server : Server) (policy : Str) (port dur : Int)
    (hpol : dictGet s.db.policies server.host = some policy)
    (hparse : parseStsPolicy policy true = some ⟨port, some dur⟩)
    (hexp : stsExpired (dictGet s.db.lastDisc server.host) dur s.now = false) :
    applyStsPolicy s server = some (⟨server.host, port, server.attempt, true⟩, s) := by
  unfold applyStsPolicy
  simp only [hpol, hparse, hexp, Bool.false_eq_true, if_false]

/-- no recorded disconnection: the policy has not started to expire -/
theorem sts_not_expired_without_disconnect (dur : Int) (now : Nat) : stsExpired none dur now = false := rfl

/-- an expired policy is dropped and the configured server used as it is -/
theorem sts_expired_dropped (s : St) (server : Server) (policy : Str) (port dur : Int)
    (hpol : dictGet s.db.policies server.host = some policy)
    (hparse : parseStsPolicy policy true = some ⟨port, some dur⟩)
    (hexp : stsExpired (dictGet s.db.lastDisc server.host) dur s.now = true) :
    applyStsPolicy s server = some (server, { s with db := { s.db with policies := dictDel s.db.policies server.host } }) := by
  unfold applyStsPolicy
  simp only [hpol, hparse, hexp, if_true]

theorem dictGet_dictSet_same {β : Type} (d : List (Str × β)) (k : Str) (v : β) : dictGet (dictSet d k v) k = some v := by
  induction d with
  | nil => simp [dictSet, dictGet]
  | cons p ps ih =>
    obtain ⟨k', v'⟩ := p
    unfold dictSet
    by_cases h : k' = k
    · simp [h, dictGet]
    · simp [h, dictGet, ih]

/-- Key discipline of the STS store: the driver's current server carries the host name exactly as it is
configured (any spelling), `_onCapSts` stores the policy under that very string and `_applyStsPolicy`
looks it up under the configured string again — so the policy stored on a verified connection is applied
(its port, forced verification) to every later connection to that host until it expires. -/
theorem sts_stored_policy_applied (cfg : Cfg) (policy : Str) (s : St) (port dur : Int)
    (hsec : secureConn cfg s = true) (hparse : parseStsPolicy policy true = some ⟨port, some dur⟩)
    (server : Server) (hh : server.host = s.drv.current.host)
    (hexp : stsExpired (dictGet s.db.lastDisc server.host) dur s.now = false) :
    applyStsPolicy (onCapSts cfg policy s) server =
      some (⟨server.host, port, server.attempt, true⟩, onCapSts cfg policy s) := by
  have hst : onCapSts cfg policy s =
      { s with db := { s.db with policies := dictSet s.db.policies s.drv.current.host policy } } := by
    unfold onCapSts; simp only [hsec, hparse, if_true]
  rw [hst]
  exact sts_applied _ server policy port dur (by simp only; rw [hh]; exact dictGet_dictSet_same _ _ _) hparse hexp

/-- the connected server keeps the configured spelling of the host name -/
theorem connectTo_host (cfg : Cfg) (srv : Server) (s : St) : (connectTo cfg srv s).drv.current.host = srv.host := by
  unfold connectTo; simp only; split <;> rfl

/-- a real-driver history ending in CONNECTED with required SASL: non-vacuity of `sasl_required_safe_real` -/
def exRealReq : Cfg := { exReq with realDriver := true, servers := [⟨"h".toList, 6667, none, false⟩] }
def exRd : St := drvRun exRealReq 1 false [exLs, exAck, exAuth, ex903] (drvStart exRealReq (initSt exRealReq {}))
theorem exRd_reach : DReach exRealReq {} exRd := .run 1 false _ .start
example : pastNegotiation exRd.fsm = true ∧ exRd.saslAuth = true ∧ exRealReq.required = true := by decide +kernel

def exStored : St := { db := { policies := [("h".toList, "port=6697,duration=1000".toList)] }, now := 5000 }
example : (applyStsPolicy exStored ⟨"h".toList, 6667, none, false⟩).map (·.1) = some ⟨"h".toList, 6697, none, true⟩ := by decide +kernel

/-! ### a restart: the networks data base persists, everything else is new -/

/-- `SocketDriver(irc)` of a newly started process (`restart` in the harness: new Irc object, new driver, server
list not loaded yet) whose first configured server has a stored, parsable, unexpired policy: the first
connection of the new process goes to the policy's port with forced verification, over TLS — whatever else the
data base holds (provided the connection can be established at all). -/
theorem restart_pins_policy (cfg : Cfg) (base : St) (srv : Server) (rest : List Server) (policy : Str) (port dur : Int)
    (hs : cfg.servers = srv :: rest) (hb : base.drv.servers = [])
    (hpol : dictGet base.db.policies srv.host = some policy)
    (hparse : parseStsPolicy policy true = some ⟨port, some dur⟩)
    (hexp : stsExpired (dictGet base.db.lastDisc srv.host) dur base.now = false)
    (hf0 : base.drv.failNext = 0) (htf : cfg.tlsFails = false) :
    let s := drvStart cfg (initSt cfg base)
    s.drv.connected = true ∧ s.drv.current.host = srv.host ∧ s.drv.current.port = port ∧ s.drv.current.forced = true ∧
    (tlsChoice cfg s.drv.current).1 = true := by
  obtain ⟨h2, h1, h3, _⟩ := initSt_frame cfg base
  have hflush : ∀ t : St, (flush t).drv = t.drv := by intro t; unfold flush; split <;> rfl
  simp only [drvStart, hflush, drvConnect, getNextServer, h2, hb, List.isEmpty_nil, if_true, hs]
  have happ := sts_applied ({ initSt cfg base with drv := { { base.drv with attempt := base.drv.attempt + 1, scheduled := false } with servers := rest }, ev := [], wire := [] } : St)
    srv policy port dur (by simpa [h1] using hpol) hparse (by simpa [h1, h3] using hexp)
  simp only at happ ⊢
  rw [happ]
  simp [connectTo, connectFails, event, tlsChoice, hf0, htf]

/-- A connection attempt that fails (refused, or TLS cannot be set up — e.g. `ssl.authorityCertificate` names a
directory) leaves the driver unconnected with a reconnect scheduled; the server it tried keeps its
`force_tls_verification`, nothing is retried at once with another `Server` value.  The real-driver histories
`DReach` (`C08.sts_no_downgrade_real`, `sasl_required_safe_real`, …) include such failures at any point. -/
theorem connect_failure_schedules (cfg : Cfg) (srv : Server) (s : St)
    (h : connectFails cfg { srv with attempt := some (srv.attempt.getD s.drv.attempt) } s = true) :
    (connectTo cfg srv s).drv.connected = false ∧ (connectTo cfg srv s).drv.scheduled = true ∧
    (connectTo cfg srv s).drv.current.forced = srv.forced ∧ (connectTo cfg srv s).drv.current.host = srv.host ∧
    (connectTo cfg srv s).db = s.db ∧ (connectTo cfg srv s).fastq = s.fastq := by
  unfold connectTo
  simp only [h, if_true]
  exact ⟨rfl, rfl, rfl, rfl, rfl, rfl⟩

end C09
