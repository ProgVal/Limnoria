/-
C09 — lemmas: the stored STS policies along a sequence of abstract moves; facts about the driver's
connection decisions.
-/
import LimnoriaModel.C09.Model
import LimnoriaModel.C08.Trace
namespace C09
open Py C08
open Gen.Conn (Fsm)

variable {cfg : Cfg} {K : Kind → Bool} {a b : Abs}

theorem dictGet_dictDel {β : Type} {d : List (Str × β)} {h k : Str} {v : β}
    (hg : dictGet (dictDel d h) k = some v) : dictGet d k = some v := by
  rw [dictGet_dictDel_eq] at hg
  by_cases hk : k = h
  · simp [hk] at hg
  · simpa [hk] using hg

/-- no stored policy is added or changed -/
def NoNewPolicy (a b : Abs) : Prop := ∀ k p, dictGet b.policies k = some p → dictGet a.policies k = some p

theorem sock_mono_move (m : Move cfg K a b) : a.sock ≤ b.sock := by
  cases m <;> simp

theorem sock_mono (m : Moves cfg K a b) : a.sock ≤ b.sock := by
  induction m with
  | refl => exact Nat.le_refl _
  | step _ m ih => exact Nat.le_trans ih (sock_mono_move m)

/-- On a connection the bot does not consider verified TLS, and as long as no new socket is opened, no
sequence of moves adds or changes a stored STS policy (expiry can only remove one). -/
theorem noNewPolicy_moves (m : Moves cfg K a b)
    (hs : aSecure cfg a = false) (hk : b.sock = a.sock) : NoNewPolicy a b ∧ b.forced = a.forced := by
  induction m with
  | refl => exact ⟨fun _ _ h => h, rfl⟩
  | step m0 m ih =>
    rename_i b c
    have h1 := sock_mono m0
    have h2 := sock_mono_move m
    have hb : b.sock = a.sock := by omega
    obtain ⟨hn, hf⟩ := ih hb
    have hsb : aSecure cfg b = false := by simpa [aSecure, hf] using hs
    cases m
    case store h ps _ => rw [hsb] at h; cases h
    case expire host => exact ⟨fun k p hg => hn k p (dictGet_dictDel hg), hf⟩
    case conn _ _ _ _ _ _ | connFail _ _ _ _ => simp at hk; omega
    all_goals exact ⟨hn, hf⟩

/-- with the stub driver no socket is ever opened by a handler -/
theorem sock_const_stub (hr : cfg.realDriver = false)
    (m : Moves cfg K a b) : b.sock = a.sock := by
  induction m with
  | refl => rfl
  | step _ m ih =>
    cases m
    case conn _ _ hrr _ _ _ | connFail _ _ hrr _ => rw [hr] at hrr; cases hrr
    all_goals exact ih

/-- a handler that may not store a policy never adds or changes one -/
theorem noStore_moves (hK : K .storePerm = false) (m : Moves cfg K a b) :
    NoNewPolicy a b := by
  induction m with
  | refl => exact fun _ _ h => h
  | step m0 m ih =>
    cases m
    case store h ps hp => rw [hK] at hp; cases hp
    case expire host => exact fun k p hg => ih k p (dictGet_dictDel hg)
    all_goals exact ih

/-- no handler both stores policies and opens sockets -/
theorem handler_perms (h : Handler) : handlerKinds h .storePerm = false ∨ handlerKinds h .connPerm = false := by
  cases h <;> simp [handlerKinds]

/-- `sasl_response_sent` is raised only inside a SASL state, by a handler that may send credentials -/
theorem sentOrigin_move (m : Move cfg K a b) (hb : b.sent = true) :
    a.sent = true ∨ (isSaslState a.fsm = true ∧ K .payload = true) := by
  cases m
  case respond h hp => exact .inr ⟨h, hp⟩
  case unsent => simp at hb
  case reset _ => simp at hb
  all_goals exact .inl hb

theorem sentOrigin_moves (hK : K .startSasl = false) (m : Moves cfg K a b)
    (hb : b.sent = true) : a.sent = true ∨ (isSaslState a.fsm = true ∧ K .payload = true) := by
  induction m with
  | refl => exact .inl hb
  | step m0 m ih =>
    rcases sentOrigin_move m hb with h | ⟨h1, h2⟩
    · exact ih h
    · exact .inr ⟨(noSaslEntry_moves hK m0 h1).1, h2⟩

end C09
