/-
C03 — helper lemmas: the rfc1459 table, `toLower` commuting with the string algebra, the shape of
valid capability strings, capability sets, the decision on every database (`checkCapability_render`),
and the notions only proofs speak of (`BaseOK`, `LCap`, `lookW`, `holdsW`, `StrongSet`, `chanKeyP`).
-/
import LimnoriaModel.C03.Spec
namespace C03
open Py

/-- characters whose identity the capability layer inspects -/
def specialChars : List Char := [',', '-', '\x07', '!', '@', '*', '?', '\n'] ++ Gen.chanTypes

/-- what the proofs need from `ircutils._rfc1459trans`: it never touches a blank or one of the
structural characters, its images are fixed points, and it absorbs ASCII lowering -/
def tableOkB (t : List (Char × Char)) : Bool :=
  t.all fun p =>
    !isSpace p.1 && !isSpace p.2 &&
    specialChars.all (fun k => p.1 != k && p.2 != k) &&
    (t.lookup p.2).isNone &&
    ((match t.lookup (asciiLowerChar p.2) with | some l => l | none => asciiLowerChar p.2) ==
     (match t.lookup (asciiLowerChar p.1) with | some l => l | none => asciiLowerChar p.1))

theorem lookup_mem {α β} [BEq α] [LawfulBEq α] {l : List (α × β)} {a : α} {b : β}
    (h : l.lookup a = some b) : (a, b) ∈ l := by
  obtain ⟨l₁, l₂, e, _⟩ := List.lookup_eq_some_iff.1 h
  rw [e]
  exact List.mem_append_right _ List.mem_cons_self

/-- a way to evaluate an outcome in the kernel without deciding equality of outcomes -/
theorem ok_of_toOption {α} {r : R α} {v : α} (h : r.toOption = some v) : r = .ok v := by
  cases r with
  | ok a => exact congrArg Except.ok (Option.some.inj h)
  | error e => cases h

theorem toLowerChar_cases (c : Char) :
    toLowerChar c = c ∨ (c, toLowerChar c) ∈ Gen.rfc1459Table := by
  unfold toLowerChar
  split
  · rename_i l h; right; exact lookup_mem h
  · left; rfl

/-- the obligation on the extracted table (re-checked against the source on every run) -/
theorem rfc1459_table_ok : tableOkB Gen.rfc1459Table = true := by decide +kernel

theorem table_entry {p : Char × Char} (hp : p ∈ Gen.rfc1459Table) :
    isSpace p.1 = false ∧ isSpace p.2 = false ∧
    (∀ k ∈ specialChars, p.1 ≠ k ∧ p.2 ≠ k) ∧
    Gen.rfc1459Table.lookup p.2 = none ∧
    toLowerChar (asciiLowerChar p.2) = toLowerChar (asciiLowerChar p.1) := by
  have h := rfc1459_table_ok
  unfold tableOkB at h
  rw [List.all_eq_true] at h
  have := h p hp
  simp only [Bool.and_eq_true, Bool.not_eq_true', List.all_eq_true, bne_iff_ne, ne_eq,
    Option.isNone_iff_eq_none, beq_iff_eq] at this
  obtain ⟨⟨⟨⟨h1, h2⟩, h3⟩, h4⟩, h5⟩ := this
  exact ⟨h1, h2, h3, h4, h5⟩

theorem isSpace_toLowerChar (c : Char) : isSpace (toLowerChar c) = isSpace c := by
  rcases toLowerChar_cases c with h | h
  · rw [h]
  · have := table_entry h
    simp only at this
    rw [this.1, this.2.1]

theorem toLowerChar_special {k : Char} (hk : k ∈ specialChars) : toLowerChar k = k := by
  unfold toLowerChar
  have : Gen.rfc1459Table.lookup k = none :=
    List.lookup_eq_none_iff.2 fun p hp => bne_iff_ne.2 (Ne.symm ((table_entry hp).2.2.1 k hk).1)
  rw [this]

theorem toLowerChar_eq_special {c k : Char} (hk : k ∈ specialChars) :
    toLowerChar c = k ↔ c = k := by
  constructor
  · intro h
    rcases toLowerChar_cases c with h' | h'
    · rw [← h', h]
    · exact absurd h ((table_entry h').2.2.1 k hk).2
  · intro h; subst h; exact toLowerChar_special hk

theorem toLowerChar_beq {c k : Char} (hk : k ∈ specialChars) : (toLowerChar c == k) = (c == k) := by
  rw [Bool.eq_iff_iff, beq_iff_eq, beq_iff_eq]; exact toLowerChar_eq_special hk

theorem toLowerChar_idem (c : Char) : toLowerChar (toLowerChar c) = toLowerChar c := by
  rcases toLowerChar_cases c with h | h
  · rw [h, h]
  · have := (table_entry h).2.2.2.1
    simp only at this
    generalize toLowerChar c = d at this ⊢
    unfold toLowerChar
    rw [this]

theorem toLowerChar_ascii (c : Char) :
    toLowerChar (asciiLowerChar (toLowerChar c)) = toLowerChar (asciiLowerChar c) := by
  rcases toLowerChar_cases c with h | h
  · rw [h]
  · exact (table_entry h).2.2.2.2

theorem mem_special_comma : ',' ∈ specialChars := by decide
theorem mem_special_dash : '-' ∈ specialChars := by decide
theorem mem_special_chanType {k : Char} (h : k ∈ Gen.chanTypes) : k ∈ specialChars :=
  List.mem_append_right _ h

theorem toLower_nil : toLower [] = [] := rfl
theorem toLower_cons (c : Char) (s : Str) : toLower (c :: s) = toLowerChar c :: toLower s := rfl
theorem toLower_append (a b : Str) : toLower (a ++ b) = toLower a ++ toLower b := by
  simp [toLower]
theorem toLower_length (s : Str) : (toLower s).length = s.length := by simp [toLower]
theorem toLower_eq_nil {s : Str} : toLower s = [] ↔ s = [] := by simp [toLower]

theorem toLower_idem (s : Str) : toLower (toLower s) = toLower s := by
  induction s with
  | nil => rfl
  | cons c cs ih => simp only [toLower_cons, toLowerChar_idem, ih]

theorem all_noSpace_toLower (s : Str) :
    (toLower s).all (fun c => !isSpace c) = s.all (fun c => !isSpace c) := by
  induction s with
  | nil => rfl
  | cons c cs ih => simp only [toLower_cons, List.all_cons, isSpace_toLowerChar, ih]

theorem isCapability_toLower (s : Str) : isCapability (toLower s) = isCapability s := by
  unfold isCapability
  rw [all_noSpace_toLower]
  cases s <;> rfl

theorem split1_toLower {k : Char} (hk : k ∈ specialChars) (s : Str) :
    split1 k (toLower s) = (split1 k s).map (fun p => (toLower p.1, toLower p.2)) := by
  induction s with
  | nil => rfl
  | cons c cs ih =>
    simp only [toLower_cons, split1, toLowerChar_eq_special hk, ih]
    split
    · rfl
    · cases split1 k cs <;> rfl

theorem contains_toLower {k : Char} (hk : k ∈ specialChars) (s : Str) :
    (toLower s).contains k = s.contains k := by
  induction s with
  | nil => rfl
  | cons c cs ih =>
    simp only [toLower_cons, List.contains_cons, ih, BEq.comm (a := k), toLowerChar_beq hk]

theorem dropWhile_toLower {p : Char → Bool} (hp : ∀ c, p (toLowerChar c) = p c) (s : Str) :
    (toLower s).dropWhile p = toLower (s.dropWhile p) := by
  induction s with
  | nil => rfl
  | cons c cs ih =>
    simp only [toLower_cons, List.dropWhile_cons, hp]
    split
    · exact ih
    · rfl

theorem toLower_isEmpty (s : Str) : (toLower s).isEmpty = s.isEmpty := by cases s <;> rfl

theorem splitNone1_length_toLower (s : Str) :
    (splitNone1 (toLower s)).length = (splitNone1 s).length := by
  unfold splitNone1 lstripP
  simp only [dropWhile_toLower isSpace_toLowerChar,
    dropWhile_toLower (p := fun c => !isSpace c) (fun c => by rw [isSpace_toLowerChar]), toLower_isEmpty]
  split
  · rfl
  · split <;> rfl

theorem chanTypes_contains_toLowerChar (c : Char) :
    Gen.chanTypes.contains (toLowerChar c) = Gen.chanTypes.contains c := by
  by_cases h : c ∈ Gen.chanTypes
  · rw [toLowerChar_special (mem_special_chanType h)]
  · have h' : toLowerChar c ∉ Gen.chanTypes := by
      intro hm
      have := (toLowerChar_eq_special (mem_special_chanType hm)).1 rfl
      exact h (this ▸ hm)
    simp [h, h']

theorem isChannel_toLower (s : Str) : isChannel (toLower s) = isChannel s := by
  cases s with
  | nil => rfl
  | cons c cs =>
    have hl := all_noSpace_toLower (c :: cs)
    have h1 := contains_toLower mem_special_comma (c :: cs)
    have h2 := contains_toLower (k := '\x07') (by decide) (c :: cs)
    have h3 := toLower_length (c :: cs)
    simp only [toLower_cons] at hl h1 h2 h3 ⊢
    unfold isChannel
    simp only [hl, h1, h2, h3, chanTypes_contains_toLowerChar]

theorem chanSplit_toLower (s : Str) :
    chanSplit (toLower s) = (chanSplit s).map (fun p => (toLower p.1, toLower p.2)) := by
  unfold chanSplit
  rw [split1_toLower mem_special_comma]
  cases split1 ',' s with
  | none => rfl
  | some p =>
    obtain ⟨ch, c⟩ := p
    simp only [Option.map_some, isChannel_toLower, isCapability_toLower]
    split <;> rfl

theorem isChannelCapability_toLower (s : Str) :
    isChannelCapability (toLower s) = isChannelCapability s := by
  unfold isChannelCapability
  rw [chanSplit_toLower]
  cases chanSplit s <;> rfl

theorem capPart_toLower (s : Str) : capPart (toLower s) = toLower (capPart s) := by
  unfold capPart
  rw [chanSplit_toLower]
  cases chanSplit s with
  | none => rfl
  | some p => rfl

theorem head_dash_toLower (s : Str) :
    ((toLower s).head? == some '-') = (s.head? == some '-') := by
  cases s with
  | nil => rfl
  | cons c cs =>
    simp only [toLower_cons, List.head?_cons, Option.some_beq_some, toLowerChar_beq mem_special_dash]

theorem isAntiCapability_toLower (s : Str) :
    isAntiCapability (toLower s) = isAntiCapability s := by
  unfold isAntiCapability
  rw [capPart_toLower, isCapability_toLower, head_dash_toLower]

theorem applyAnti_toLower (s : Str) (b : Bool) : applyAnti (toLower s) b = applyAnti s b := by
  unfold applyAnti; rw [isAntiCapability_toLower]

theorem makeChannelCapability_toLower (ch c : Str) :
    makeChannelCapability (toLower ch) (toLower c) = (makeChannelCapability ch c).map toLower := by
  unfold makeChannelCapability
  rw [isCapability_toLower, isChannel_toLower]
  split
  · rfl
  · split
    · rfl
    · simp only [Except.map, toLower_append, toLower_cons, toLowerChar_special mem_special_comma]

theorem makeAntiCapability_toLower (s : Str) :
    makeAntiCapability (toLower s) = (makeAntiCapability s).map toLower := by
  unfold makeAntiCapability
  rw [isCapability_toLower, isAntiCapability_toLower, chanSplit_toLower]
  split
  · rfl
  · split
    · rfl
    · cases chanSplit s with
      | none => simp only [Option.map_none, Except.map, toLower_cons, toLowerChar_special mem_special_dash]
      | some p =>
        obtain ⟨ch, c⟩ := p
        simp only [Option.map_some]
        have := makeChannelCapability_toLower ch ('-' :: c)
        simp only [toLower_cons, toLowerChar_special mem_special_dash] at this
        exact this

theorem toLower_drop (n : Nat) (s : Str) : toLower (s.drop n) = (toLower s).drop n := by
  simp [toLower, List.map_drop]

theorem unAntiCapability_toLower (s : Str) :
    unAntiCapability (toLower s) = (unAntiCapability s).map toLower := by
  unfold unAntiCapability
  rw [isCapability_toLower, isAntiCapability_toLower, chanSplit_toLower]
  split
  · rfl
  · split
    · rfl
    · cases chanSplit s with
      | none => simp only [Option.map_none, Except.map, toLower_drop]
      | some p =>
        obtain ⟨ch, c⟩ := p
        simp only [Option.map_some, Except.map, toLower_append, toLower_cons, toLower_drop,
          toLowerChar_special mem_special_comma]

/-- lowering commutes with inversion, for every string (errors included) -/
theorem invertCapability_toLower (s : Str) :
    invertCapability (toLower s) = (invertCapability s).map toLower := by
  unfold invertCapability
  rw [isCapability_toLower, isAntiCapability_toLower]
  split
  · rfl
  · split
    · exact unAntiCapability_toLower s
    · exact makeAntiCapability_toLower s

theorem chanKey_toLower (ch : Str) : chanKey (toLower ch) = chanKey ch := by
  unfold chanKey asciiLower
  induction ch with
  | nil => rfl
  | cons c cs ih =>
    simp only [toLower_cons, List.map_cons, toLowerChar_ascii]
    rw [ih]

theorem getChannel_toLower (db : Db) (ch : Str) : db.getChannel (toLower ch) = db.getChannel ch := by
  unfold Db.getChannel; rw [chanKey_toLower]

theorem contains_lower (s : CapSet) (cap : Str) :
    CapSet.contains s (toLower cap) = CapSet.contains s cap := by
  unfold CapSet.contains; rw [toLower_idem]

theorem check_lower (s : CapSet) (cap : Str) :
    CapSet.check s (toLower cap) = CapSet.check s cap := by
  unfold CapSet.check; rw [toLower_idem]

theorem ucontains_lower (s : CapSet) (cap : Str) (io : Bool) :
    ucontains s (toLower cap) io = ucontains s cap io := by
  unfold ucontains; rw [toLower_idem]

theorem ucheck_lower (s : CapSet) (cap : Str) (io : Bool) :
    ucheck s (toLower cap) io = ucheck s cap io := by
  unfold ucheck; rw [toLower_idem]

theorem toLower_opS : toLower opS = opS := by decide +kernel

theorem chanOpStage_lower (u : User) (ch : Str) (fl : Flags) :
    chanOpStage u (toLower ch) fl = chanOpStage u ch fl := by
  unfold chanOpStage
  have := makeChannelCapability_toLower ch opS
  rw [toLower_opS] at this
  rw [this]
  cases makeChannelCapability ch opS with
  | error e => rfl
  | ok v => simp only [Except.map, User.checkCapability, isAntiCapability_toLower, ucheck_lower]

theorem checkCapability_lower (db : Db) (now : Int) (h cap : Str) (fl : Flags) :
    db.checkCapability now h (toLower cap) fl = db.checkCapability now h cap fl := by
  unfold Db.checkCapability Db.checkUnknown Db.checkKnown
  rw [chanSplit_toLower]
  cases chanSplit cap with
  | none =>
    simp only [Option.map_none, userStage, User.checkCapability, Db.globalsUnknown, Db.globalsKnown,
      ucontains_lower, ucheck_lower, contains_lower, check_lower, isAntiCapability_toLower, applyAnti_toLower]
  | some p =>
    simp only [Option.map_some, userStage, User.checkCapability, Db.globalsUnknown, Db.channelStage,
      Channel.decide, Channel.checkCapability, chanOpStage_lower, getChannel_toLower, ucontains_lower,
      ucheck_lower, contains_lower, check_lower, isAntiCapability_toLower, isCapability_toLower,
      applyAnti_toLower]

/-- obligation on the extracted `chantypes`: `-` is not a channel prefix -/
theorem chanTypes_no_dash : Gen.chanTypes.contains '-' = false := by decide

theorem split1_append {k : Char} {a : Str} (b : Str) (h : a.contains k = false) :
    split1 k (a ++ k :: b) = some (a, b) := by
  induction a with
  | nil => simp [split1]
  | cons x xs ih =>
    simp only [List.contains_cons, Bool.or_eq_false_iff] at h
    have hx : x ≠ k := by
      intro e; subst e; simp at h
    simp only [List.cons_append, split1, hx, if_false, ih h.2]

theorem isChannel_facts {c : Str} (h : isChannel c = true) :
    c.contains ',' = false ∧ ∃ x xs, c = x :: xs ∧ Gen.chanTypes.contains x = true := by
  cases c with
  | nil => simp [isChannel] at h
  | cons x xs =>
    unfold isChannel at h
    simp only [Bool.and_eq_true, Bool.not_eq_true'] at h
    exact ⟨h.1.1.1.1, x, xs, rfl, h.1.1.2⟩

theorem isChannel_dash (a : Str) : isChannel ('-' :: a) = false := by
  unfold isChannel
  simp only [chanTypes_no_dash, Bool.and_false, Bool.false_and]

theorem chanSplit_dash (b : Str) : chanSplit ('-' :: b) = none := by
  unfold chanSplit
  have : split1 ',' ('-' :: b) = (split1 ',' b).map (fun p => ('-' :: p.1, p.2)) := by
    simp only [split1]
    have : ('-' : Char) ≠ ',' := by decide
    simp only [this, if_false]
    cases split1 ',' b with
    | none => rfl
    | some p => rfl
  rw [this]
  cases split1 ',' b with
  | none => rfl
  | some p => simp [isChannel_dash]

theorem chanSplit_chan {c x : Str} (hc : isChannel c = true) (hx : isCapability x = true) :
    chanSplit (c ++ ',' :: x) = some (c, x) := by
  unfold chanSplit
  rw [split1_append x (isChannel_facts hc).1]
  simp [hc, hx]

/-- `validBase` taken apart; with `ChanOK` the hypotheses of every `*_render` lemma -/
structure BaseOK (b : Str) : Prop where
  cap : isCapability b = true
  nodash : (b.head? == some '-') = false
  plain : chanSplit b = none

theorem baseOK_of_valid {b : Str} (h : validBase b = true) : BaseOK b := by
  unfold validBase at h
  simp only [Bool.and_eq_true, Bool.not_eq_true', bne_iff_ne, ne_eq] at h
  refine ⟨h.1.1, ?_, ?_⟩
  · cases hb : (b.head? == some '-') with
    | false => rfl
    | true => exact absurd (by simpa using hb) h.1.2
  · have := h.2
    unfold isChannelCapability at this
    cases hs : chanSplit b with
    | none => rfl
    | some p => rw [hs] at this; simp at this

theorem validBase_of_ok {b : Str} (h : BaseOK b) : validBase b = true := by
  unfold validBase isChannelCapability
  rw [h.cap, h.plain]
  have := h.nodash
  simp only [beq_eq_false_iff_ne, ne_eq] at this
  simp [this]

/-- the channel part, when there is one, is a blank-free channel name -/
def ChanOK (ch : Option Str) : Prop :=
  ∀ c, ch = some c → isChannel c = true ∧ c.all (fun x => !isSpace x) = true

theorem isCapability_dash {b : Str} (h : isCapability b = true) : isCapability ('-' :: b) = true := by
  unfold isCapability at h ⊢
  simp only [Bool.and_eq_true, Bool.not_eq_true', List.all_eq_true] at h ⊢
  refine ⟨rfl, ?_⟩
  intro x hx
  rcases List.mem_cons.1 hx with e | e
  · subst e; decide
  · exact h.2 x e

theorem isCapability_chan {c x : Str} (hc : c.all (fun x => !isSpace x) = true)
    (hx : isCapability x = true) : isCapability (c ++ ',' :: x) = true := by
  unfold isCapability at hx ⊢
  simp only [Bool.and_eq_true, Bool.not_eq_true', List.all_eq_true] at hx hc ⊢
  refine ⟨by cases c <;> rfl, ?_⟩
  intro y hy
  rcases List.mem_append.1 hy with e | e
  · exact hc y e
  · rcases List.mem_cons.1 e with e | e
    · subst e; decide
    · exact hx.2 y e

theorem render_keyPos (a : Bool) (ch : Option Str) (b : Str) :
    render a ch b = keyPos ch (render a none b) := by
  cases a <;> cases ch <;> rfl

theorem plain_render {b : Str} (hb : BaseOK b) (a : Bool) :
    isCapability (render a none b) = true ∧ chanSplit (render a none b) = none := by
  cases a
  · exact ⟨hb.cap, hb.plain⟩
  · exact ⟨isCapability_dash hb.cap, chanSplit_dash b⟩

theorem makeChannel_render {a : Bool} {c b : Str} (hch : ChanOK (some c)) (hb : BaseOK b) :
    makeChannelCapability c (render a none b) = .ok (render a (some c) b) := by
  unfold makeChannelCapability
  rw [(plain_render hb a).1, (hch c rfl).1, render_keyPos a (some c)]
  rfl

theorem chanSplit_render {a : Bool} {ch : Option Str} {b : Str} (hch : ChanOK ch) (hb : BaseOK b) :
    chanSplit (render a ch b) = ch.map (fun c => (c, render a none b)) := by
  rw [render_keyPos]
  cases ch with
  | none => exact (plain_render hb a).2
  | some c => exact chanSplit_chan (hch c rfl).1 (plain_render hb a).1

theorem isCapability_render {a : Bool} {ch : Option Str} {b : Str} (hch : ChanOK ch) (hb : BaseOK b) :
    isCapability (render a ch b) = true := by
  rw [render_keyPos]
  cases ch with
  | none => exact (plain_render hb a).1
  | some c => exact isCapability_chan (hch c rfl).2 (plain_render hb a).1

theorem capPart_render {a : Bool} {ch : Option Str} {b : Str} (hch : ChanOK ch) (hb : BaseOK b) :
    capPart (render a ch b) = render a none b := by
  unfold capPart; rw [chanSplit_render hch hb]
  cases ch <;> rfl

theorem isAnti_render {a : Bool} {ch : Option Str} {b : Str} (hch : ChanOK ch) (hb : BaseOK b) :
    isAntiCapability (render a ch b) = a := by
  unfold isAntiCapability
  rw [capPart_render hch hb, (plain_render hb a).1]
  cases a
  · exact hb.nodash
  · rfl

theorem makeAnti_render {ch : Option Str} {b : Str} (hch : ChanOK ch) (hb : BaseOK b) :
    makeAntiCapability (render false ch b) = .ok (render true ch b) := by
  unfold makeAntiCapability
  rw [isCapability_render (a := false) hch hb, isAnti_render (a := false) hch hb,
    chanSplit_render (a := false) hch hb]
  cases ch with
  | none => rfl
  | some c =>
    simp only [Option.map_some, Bool.not_true, Bool.false_eq_true, if_false]
    exact makeChannel_render (a := true) hch hb

theorem unAnti_render {ch : Option Str} {b : Str} (hch : ChanOK ch) (hb : BaseOK b) :
    unAntiCapability (render true ch b) = .ok (render false ch b) := by
  unfold unAntiCapability
  rw [isCapability_render (a := true) hch hb, isAnti_render (a := true) hch hb,
    chanSplit_render (a := true) hch hb]
  cases ch <;> rfl

theorem invert_render {a : Bool} {ch : Option Str} {b : Str} (hch : ChanOK ch) (hb : BaseOK b) :
    invertCapability (render a ch b) = .ok (render (!a) ch b) := by
  unfold invertCapability
  rw [isCapability_render hch hb, isAnti_render hch hb]
  cases a
  · exact makeAnti_render hch hb
  · exact unAnti_render hch hb

theorem keyPos_ne_keyNeg (ch : Option Str) (b : Str) : keyPos ch b ≠ keyNeg ch b := by
  intro h
  have := congrArg List.length h
  cases ch <;> simp [keyPos, keyNeg] at this

theorem split1_some {k : Char} {s a b : Str} (h : split1 k s = some (a, b)) : s = a ++ k :: b := by
  induction s generalizing a with
  | nil => simp [split1] at h
  | cons x xs ih =>
    simp only [split1] at h
    split at h
    · rename_i hx
      injection h with h; injection h with h1 h2
      subst hx h1 h2; rfl
    · split at h
      · cases h
      · rename_i a' b' hs
        injection h with h; injection h with h1 h2
        subst h1 h2
        rw [ih hs]; rfl

theorem chanSplit_some {cap ch c : Str} (h : chanSplit cap = some (ch, c)) :
    cap = ch ++ ',' :: c ∧ isChannel ch = true ∧ isCapability c = true := by
  unfold chanSplit at h
  split at h
  · rename_i ch' c' hs
    split at h
    · rename_i hcond
      injection h with h; injection h with h1 h2
      subst h1 h2
      simp only [Bool.and_eq_true] at hcond
      exact ⟨split1_some hs, hcond.1, hcond.2⟩
    · cases h
  · cases h

theorem toLower_render (a : Bool) (ch : Option Str) (b : Str) :
    toLower (render a ch b) = render a (ch.map toLower) (toLower b) := by
  cases a <;> cases ch <;>
    simp only [render, keyPos, keyNeg, Option.map_none, Option.map_some, toLower_append, toLower_cons,
      toLowerChar_special mem_special_comma, toLowerChar_special mem_special_dash, Bool.false_eq_true,
      if_false, if_true]

theorem baseOK_toLower {b : Str} (h : BaseOK b) : BaseOK (toLower b) := by
  refine ⟨by rw [isCapability_toLower]; exact h.cap, by rw [head_dash_toLower]; exact h.nodash, ?_⟩
  rw [chanSplit_toLower, h.plain]; rfl

theorem chanOK_toLower {ch : Option Str} (h : ChanOK ch) : ChanOK (ch.map toLower) := by
  intro c hc
  cases ch with
  | none => cases hc
  | some c' =>
    simp only [Option.map_some, Option.some.injEq] at hc
    subst hc
    exact ⟨by rw [isChannel_toLower]; exact (h c' rfl).1, by rw [all_noSpace_toLower]; exact (h c' rfl).2⟩

theorem parsePlain_base {b : Str} (hb : BaseOK b) : parsePlain b = (false, b) := by
  cases b with
  | nil => rfl
  | cons x xs =>
    have := hb.nodash
    simp only [List.head?_cons, beq_eq_false_iff_ne, ne_eq, Option.some.injEq] at this
    simp [parsePlain, this]

theorem parseCap_render {a : Bool} {ch : Option Str} {b : Str} (hch : ChanOK ch) (hb : BaseOK b) :
    parseCap (render a ch b) = ⟨a, ch, b⟩ := by
  have hp : parsePlain (render a none b) = (a, b) := by
    cases a
    · exact parsePlain_base hb
    · simp [render, keyNeg, parsePlain]
  unfold parseCap
  rw [chanSplit_render hch hb]
  cases ch <;> simp only [Option.map_none, Option.map_some, hp]

theorem validPlain_shape {c : Str} (h : validPlain c = true) :
    ∃ (a : Bool) (b : Str), BaseOK b ∧ c = (if a = true then '-' :: b else b) := by
  cases c with
  | nil => simp [validPlain] at h
  | cons x rest =>
    simp only [validPlain] at h
    split at h
    · rename_i hx; subst hx
      exact ⟨true, rest, baseOK_of_valid h, rfl⟩
    · exact ⟨false, x :: rest, baseOK_of_valid h, rfl⟩

theorem validCap_shape {cap : Str} (h : validCap cap = true) :
    ∃ (a : Bool) (ch : Option Str) (b : Str), ChanOK ch ∧ BaseOK b ∧ cap = render a ch b := by
  unfold validCap at h
  split at h
  · rename_i ch c hs
    simp only [Bool.and_eq_true] at h
    obtain ⟨a, b, hb, hc⟩ := validPlain_shape h.2
    obtain ⟨e, hch, _⟩ := chanSplit_some hs
    refine ⟨a, some ch, b, ?_, hb, ?_⟩
    · intro c' hc'; injection hc' with hc'; subst hc'; exact ⟨hch, h.1⟩
    · rw [e, hc]; cases a <;> rfl
  · obtain ⟨a, b, hb, hc⟩ := validPlain_shape h
    have hnone : ChanOK none := by intro c' hc'; cases hc'
    refine ⟨a, none, b, hnone, hb, ?_⟩
    rw [hc]; cases a <;> rfl

theorem validCap_render {a : Bool} {ch : Option Str} {b : Str} (hch : ChanOK ch) (hb : BaseOK b) :
    validCap (render a ch b) = true := by
  have hvb := validBase_of_ok hb
  have hp : validPlain (render a none b) = true := by
    cases a
    · cases b with
      | nil => exact absurd hb.cap (by simp [isCapability])
      | cons x xs =>
        have := hb.nodash
        simp only [List.head?_cons, beq_eq_false_iff_ne, ne_eq, Option.some.injEq] at this
        simp only [render, keyPos, validPlain, this, if_false, Bool.false_eq_true]; exact hvb
    · simp only [render, keyNeg, validPlain, if_true]; exact hvb
  unfold validCap
  rw [chanSplit_render hch hb]
  cases ch with
  | none => exact hp
  | some c => simp only [Option.map_some, (hch c rfl).2, hp, Bool.and_self]

theorem consistent_spec {s : CapSet} (h : consistentB s = true) {c c' : Str} (hc : c ∈ s)
    (hi : invertCapability c = .ok c') : c' ∉ s := by
  unfold consistentB at h
  rw [List.all_eq_true] at h
  have := h c hc
  rw [hi] at this
  simpa using this

/-- a lowered valid capability -/
structure LCap (ch : Option Str) (b : Str) : Prop where
  chOK : ChanOK ch
  bOK : BaseOK b
  lowCh : ch.map toLower = ch
  lowB : toLower b = b

theorem LCap.lower_render {ch : Option Str} {b : Str} (h : LCap ch b) (a : Bool) :
    toLower (render a ch b) = render a ch b := by
  rw [toLower_render, h.lowCh, h.lowB]

theorem valid_lower {cap : Str} (hv : validCap cap = true) :
    ∃ (a : Bool) (ch : Option Str) (b : Str), LCap ch b ∧ toLower cap = render a ch b ∧
      isAntiCapability cap = a := by
  obtain ⟨a, ch, b, hch, hb, e⟩ := validCap_shape hv
  refine ⟨a, ch.map toLower, toLower b, ⟨chanOK_toLower hch, baseOK_toLower hb, ?_, toLower_idem b⟩, ?_, ?_⟩
  · cases ch with
    | none => rfl
    | some c => simp only [Option.map_some, toLower_idem]
  · rw [e, toLower_render]
  · rw [e, isAnti_render hch hb]

theorem pos_neg_excl {ch : Option Str} {b : Str} (hch : ChanOK ch) (hb : BaseOK b) {s : CapSet}
    (hs : consistentB s = true) : ¬ (keyPos ch b ∈ s ∧ keyNeg ch b ∈ s) := by
  intro ⟨h1, h2⟩
  exact consistent_spec hs h1 (invert_render (a := false) hch hb) h2

/-- `Spec.look` as the code performs the lookup (the `W` names: what the walk through the code finds):
asked with polarity `a`, that form is tested first, which matters when a set holds both forms -/
def lookW (a : Bool) (s : CapSet) (pos neg : Str) : Option Bool :=
  if a then (Spec.look s neg pos).map (!·) else Spec.look s pos neg

theorem lookW_eq {a : Bool} {s : CapSet} {pos neg : Str} (h : ¬ (pos ∈ s ∧ neg ∈ s)) :
    lookW a s pos neg = Spec.look s pos neg := by
  unfold lookW Spec.look
  cases a
  · rfl
  · by_cases h1 : pos ∈ s <;> by_cases h2 : neg ∈ s
    · exact absurd ⟨h1, h2⟩ h
    all_goals simp [h1, h2]

theorem contains_render {ch : Option Str} {b : Str} (h : LCap ch b) (a : Bool) (s : CapSet) :
    CapSet.contains s (render a ch b) = .ok (lookW a s (keyPos ch b) (keyNeg ch b)).isSome := by
  unfold CapSet.contains lookW Spec.look
  simp only [h.lower_render, invert_render h.chOK h.bOK]
  cases a <;> by_cases h1 : keyPos ch b ∈ s <;> by_cases h2 : keyNeg ch b ∈ s <;> simp [render, h1, h2]

theorem check_render {ch : Option Str} {b : Str} (h : LCap ch b) (a : Bool) (s : CapSet) :
    CapSet.check s (render a ch b) =
      (match lookW a s (keyPos ch b) (keyNeg ch b) with
       | some v => .ok (xor v a)
       | none => .error .key) := by
  unfold CapSet.check lookW Spec.look
  simp only [h.lower_render, invert_render h.chOK h.bOK]
  cases a <;> by_cases h1 : keyPos ch b ∈ s <;> by_cases h2 : keyNeg ch b ∈ s <;> simp [render, h1, h2]

/-- obligation on the extracted `chantypes`: `o` is not a channel prefix -/
theorem chanTypes_no_o : Gen.chanTypes.contains 'o' = false := by decide

theorem baseOK_owner : BaseOK ownerS := ⟨by decide +kernel, by decide +kernel, by decide +kernel⟩
theorem baseOK_op : BaseOK opS := ⟨by decide +kernel, by decide +kernel, by decide +kernel⟩
theorem chanOK_none : ChanOK none := by intro c hc; cases hc
theorem lcap_owner : LCap none ownerS := ⟨chanOK_none, baseOK_owner, rfl, by decide +kernel⟩

/-- `'owner' in caps` as `CapabilitySet.__contains__` answers it: true also when `-owner` is stored -/
def own (s : CapSet) : Bool := (Spec.look s ownerS antiOwnerS).isSome

theorem contains_owner (s : CapSet) : CapSet.contains s ownerS = .ok (own s) :=
  contains_render lcap_owner false s

theorem own_eq {s : CapSet} (h : antiOwnerS ∉ s) : own s = decide (ownerS ∈ s) := by
  unfold own Spec.look
  by_cases h1 : ownerS ∈ s <;> simp [h1, h]

/-- does the question concern `owner` / `-owner` itself? -/
def asksOwner (ch : Option Str) (b : Str) : Bool := ch.isNone && b == ownerS

theorem render_chan_head {a : Bool} {c b : Str} (hc : isChannel c = true) :
    ∃ x xs, render a (some c) b = x :: xs ∧ Gen.chanTypes.contains x = true := by
  obtain ⟨_, x, xs, e, hx⟩ := isChannel_facts hc
  subst e
  cases a
  · exact ⟨x, _, rfl, hx⟩
  · exact ⟨x, _, rfl, hx⟩

theorem render_beq_owner {a : Bool} {ch : Option Str} {b : Str} (hch : ChanOK ch) (hb : BaseOK b) :
    (render a ch b == ownerS) = (!a && asksOwner ch b) ∧
      (render a ch b == antiOwnerS) = (a && asksOwner ch b) := by
  cases ch with
  | some c =>
    obtain ⟨x, xs, e, hx⟩ := render_chan_head (a := a) (b := b) (hch c rfl).1
    rw [e]
    have h1 : x ≠ 'o' := by intro h; subst h; rw [chanTypes_no_o] at hx; cases hx
    have h2 : x ≠ '-' := by intro h; subst h; rw [chanTypes_no_dash] at hx; cases hx
    simp [asksOwner, ownerS, antiOwnerS, h1, h2]
  | none =>
    cases a
    · cases b with
      | nil => exact ⟨rfl, rfl⟩
      | cons x xs =>
        have := hb.nodash
        simp only [List.head?_cons, beq_eq_false_iff_ne, ne_eq, Option.some.injEq] at this
        simp [render, keyPos, asksOwner, antiOwnerS, this]
    · simp [render, keyNeg, asksOwner, ownerS, antiOwnerS]

theorem applyAnti_render {a : Bool} {ch : Option Str} {b : Str} (hch : ChanOK ch) (hb : BaseOK b)
    (r : Bool) : applyAnti (render a ch b) r = xor r a := by
  unfold applyAnti
  rw [isAnti_render hch hb]
  cases a <;> cases r <;> rfl

/-! `Spec.holds` with the lookups as the code performs them (`lookW`, `own`): what `checkCapability`
answers on every database, whatever the sets hold (`checkCapability_render`); on a well-formed one the
two lists agree (`holdsW_eq`). -/

namespace Spec

def userLevelW (a : Bool) (u : User) (ch : Option Str) (b : Str) (fl : Flags) : Option Bool :=
  let owner := own u.caps
  let asksOwner := asksOwner ch b
  let ex := lookW a u.caps (keyPos ch b) (keyNeg ch b)
  if asksOwner || owner || ex.isSome then
    if u.ignore then some false
    else if asksOwner then some owner
    else if owner && !fl.ignoreOwner then some true
    else ex
  else none

def channelLevelW (a : Bool) (db : Db) (u : Option User) (c b : Str) (fl : Flags) : Bool :=
  let chanop :=
    match u with
    | some u => !fl.ignoreChannelOp && !u.ignore &&
        (own u.caps || look u.caps (c ++ ',' :: opS) (c ++ ',' :: '-' :: opS) == some true)
    | none => false
  if chanop then true
  else
    let chan := db.getChannel c
    (lookW a chan.caps b ('-' :: b)).getD (!fl.ignoreDefaultAllow && chan.defaultAllow)

def globalLevelW (a : Bool) (db : Db) (known : Bool) (b : Str) (fl : Flags) : Bool :=
  (lookW a db.defaults b ('-' :: b)).getD <|
    (if known then lookW a db.registered b ('-' :: b) else none).getD <|
      !fl.ignoreDefaultAllow && db.defaultFlag

def holdsW (a : Bool) (db : Db) (u : Option User) (ch : Option Str) (b : Str) (fl : Flags) : Bool :=
  (u.bind (fun u => userLevelW a u ch b fl)).getD <|
    match ch with
    | some c => channelLevelW a db u c b fl
    | none => globalLevelW a db u.isSome b fl

end Spec

theorem ucontains_render {ch : Option Str} {b : Str} (h : LCap ch b) (a : Bool) (s : CapSet) :
    ucontains s (render a ch b) false =
      .ok (asksOwner ch b || own s || (lookW a s (keyPos ch b) (keyNeg ch b)).isSome) := by
  unfold ucontains
  simp only [h.lower_render, (render_beq_owner h.chOK h.bOK).1, (render_beq_owner h.chOK h.bOK).2,
    contains_owner, contains_render h]
  cases hq : asksOwner ch b
  · cases ho : own s <;> simp
  · cases a <;> simp

theorem ucheck_render {ch : Option Str} {b : Str} (h : LCap ch b) (a : Bool) (s : CapSet) (io : Bool) :
    ucheck s (render a ch b) io =
      (if asksOwner ch b then .ok (xor (own s) a)
       else if !io && own s then .ok (xor true a)
       else match lookW a s (keyPos ch b) (keyNeg ch b) with
         | some v => .ok (xor v a)
         | none => .error .key) := by
  unfold ucheck
  simp only [h.lower_render, (render_beq_owner h.chOK h.bOK).1, (render_beq_owner h.chOK h.bOK).2,
    contains_owner, check_render h a, isAnti_render h.chOK h.bOK]
  cases hq : asksOwner ch b
  · cases io
    · cases ho : own s <;> simp
    · simp
  · cases ho : own s <;> cases a <;> simp

theorem userStage_render {ch : Option Str} {b : Str} (h : LCap ch b) (a : Bool) (u : User) (fl : Flags) :
    userStage u (render a ch b) fl = .ok ((Spec.userLevelW a u ch b fl).map (fun v => xor v a)) := by
  unfold userStage User.checkCapability Spec.userLevelW
  simp only [ucontains_render h a, ucheck_render h a, isAnti_render h.chOK h.bOK]
  cases asksOwner ch b <;> cases own u.caps <;> cases u.ignore <;> cases fl.ignoreOwner <;>
    cases lookW a u.caps (keyPos ch b) (keyNeg ch b) <;> simp

theorem lcap_plain {ch : Option Str} {b : Str} (h : LCap ch b) : LCap none b :=
  ⟨chanOK_none, h.bOK, rfl, h.lowB⟩

theorem lcap_chanop {c : Str} {b : Str} (h : LCap (some c) b) : LCap (some c) opS :=
  ⟨h.chOK, baseOK_op, h.lowCh, toLower_opS⟩

theorem chanOpStage_spec {c : Str} (hop : LCap (some c) opS) (u : User) (fl : Flags) :
    chanOpStage u c fl = .ok (!fl.ignoreChannelOp && !u.ignore &&
      (own u.caps || Spec.look u.caps (c ++ ',' :: opS) (c ++ ',' :: '-' :: opS) == some true)) := by
  have hm : makeChannelCapability c opS = .ok (render false (some c) opS) :=
    makeChannel_render (a := false) hop.chOK baseOK_op
  unfold chanOpStage User.checkCapability
  simp only [hm, ucheck_render hop false, isAnti_render hop.chOK hop.bOK]
  have hq : asksOwner (some c) opS = false := rfl
  simp only [hq, lookW, Bool.false_eq_true, if_false, keyPos, keyNeg]
  cases fl.ignoreChannelOp <;> cases u.ignore <;> cases own u.caps <;>
    cases Spec.look u.caps (c ++ ',' :: opS) (c ++ ',' :: '-' :: opS) <;> simp

theorem chanDecide_spec {b : Str} (h : LCap none b) (a : Bool) (chan : Channel) (d : Bool) :
    chan.decide (render a none b) d = .ok (xor ((lookW a chan.caps b ('-' :: b)).getD d) a) := by
  unfold Channel.decide Channel.checkCapability
  simp only [contains_render h, check_render h a, isCapability_render h.chOK h.bOK,
    applyAnti_render h.chOK h.bOK, keyPos, keyNeg]
  cases lookW a chan.caps b ('-' :: b) with
  | none => simp
  | some v => simp

theorem channelStage_spec {c b : Str} (h : LCap (some c) b) (a : Bool) (db : Db) (u : User) (fl : Flags) :
    db.channelStage u c (render a none b) fl = .ok (xor (Spec.channelLevelW a db (some u) c b fl) a) := by
  have hp := lcap_plain h
  unfold Db.channelStage Spec.channelLevelW
  simp only [chanOpStage_spec (lcap_chanop h)]
  cases hop : (!fl.ignoreChannelOp && !u.ignore &&
      (own u.caps || Spec.look u.caps (c ++ ',' :: opS) (c ++ ',' :: '-' :: opS) == some true))
  · simp only [Bool.false_eq_true, if_false]
    rw [chanDecide_spec hp a (db.getChannel c)]
    cases fl.ignoreDefaultAllow <;> simp
  · simp only [if_true, applyAnti_render hp.chOK hp.bOK]

theorem globalsKnown_spec {b : Str} (h : LCap none b) (a : Bool) (db : Db) (fl : Flags) :
    db.globalsKnown (render a none b) fl.ignoreDefaultAllow =
      .ok (xor (Spec.globalLevelW a db true b fl) a) := by
  unfold Db.globalsKnown Spec.globalLevelW
  simp only [contains_render h, check_render h a, applyAnti_render h.chOK h.bOK, keyPos, keyNeg, if_true]
  cases lookW a db.defaults b ('-' :: b) with
  | some v => simp
  | none =>
    simp only [Option.isSome_none]
    cases lookW a db.registered b ('-' :: b) with
    | some v => simp
    | none => cases fl.ignoreDefaultAllow <;> simp

theorem globalsUnknown_spec {b : Str} (h : LCap none b) (a : Bool) (db : Db) (fl : Flags) :
    db.globalsUnknown (render a none b) fl.ignoreDefaultAllow =
      .ok (xor (Spec.globalLevelW a db false b fl) a) := by
  unfold Db.globalsUnknown Spec.globalLevelW
  simp only [contains_render h, check_render h a, applyAnti_render h.chOK h.bOK, keyPos, keyNeg,
    Bool.false_eq_true, if_false]
  cases lookW a db.defaults b ('-' :: b) with
  | some v => simp
  | none => cases fl.ignoreDefaultAllow <;> simp

theorem checkUnknown_spec {ch : Option Str} {b : Str} (h : LCap ch b) (a : Bool) (db : Db) (fl : Flags) :
    db.checkUnknown (render a ch b) fl.ignoreDefaultAllow = .ok (xor (Spec.holdsW a db none ch b fl) a) := by
  unfold Db.checkUnknown Spec.holdsW
  rw [chanSplit_render h.chOK h.bOK]
  cases ch with
  | none => simp only [Option.map_none, Option.isSome_none]; exact globalsUnknown_spec h a db fl
  | some c =>
    simp only [Option.map_some]
    rw [chanDecide_spec (lcap_plain h) a (db.getChannel c)]
    simp [Spec.channelLevelW]

theorem checkKnown_spec {ch : Option Str} {b : Str} (h : LCap ch b) (a : Bool) (db : Db) (u : User)
    (fl : Flags) :
    db.checkKnown u (render a ch b) fl = .ok (xor (Spec.holdsW a db (some u) ch b fl) a) := by
  unfold Db.checkKnown Spec.holdsW
  rw [userStage_render h a, chanSplit_render h.chOK h.bOK]
  simp only [Option.bind_some]
  cases hl : Spec.userLevelW a u ch b fl with
  | some v => simp
  | none =>
    simp only [Option.map_none, Option.getD_none]
    cases ch with
    | none => simp only [Option.map_none, Option.isSome_some]; exact globalsKnown_spec h a db fl
    | some c => simp only [Option.map_some]; exact channelStage_spec h a db u fl

theorem checkCapability_render {ch : Option Str} {b : Str} (h : LCap ch b) (a : Bool) (db : Db)
    (now : Int) (hm : Str) (fl : Flags) :
    db.checkCapability now hm (render a ch b) fl =
      .ok (xor (Spec.holdsW a db (db.recognise now hm) ch b fl) a) := by
  unfold Db.checkCapability
  cases db.recognise now hm with
  | none => exact checkUnknown_spec h a db fl
  | some u => exact checkKnown_spec h a db u fl

theorem wfUser_spec {u : User} (h : wfUserB u = true) :
    consistentB u.caps = true ∧ antiOwnerS ∉ u.caps := by
  unfold wfUserB at h
  simp only [Bool.and_eq_true, Bool.not_eq_true', decide_eq_false_iff_not] at h
  exact h

/-- what holds of every stored record and of a fresh one holds of `getChannel`'s answer -/
theorem getChannel_ind {P : Channel → Prop} {db : Db} (hdef : P Channel.default)
    (h : ∀ p ∈ db.channels, P p.2) (c : Str) : P (db.getChannel c) := by
  unfold Db.getChannel
  split
  · rename_i ch hl; exact h _ (lookup_mem hl)
  · exact hdef

/-- consistency alone is not kept by `add`; with valid elements `invert` is an involution and it is -/
def StrongSet (s : CapSet) : Prop := (∀ c ∈ s, validCap c = true) ∧ consistentB s = true

def strongB (s : CapSet) : Bool := s.all validCap && consistentB s

theorem strongB_spec {s : CapSet} (h : strongB s = true) : StrongSet s := by
  unfold strongB at h
  simp only [Bool.and_eq_true, List.all_eq_true] at h
  exact h

/-- obligation on the extracted `defaultOff` -/
theorem channel_default_strong : strongB Channel.default.caps = true := by decide +kernel

/-- obligation on the extracted `defaultOff`: plain names whose anti-capability a fresh channel carries -/
theorem channel_defaultOff_ok :
    Gen.channelDefaultOff.all (fun b => validBase b && List.elem ('-' :: b) Channel.default.caps) = true := by
  decide +kernel

theorem channel_default_ok : consistentB Channel.default.caps = true :=
  (strongB_spec channel_default_strong).2

theorem wfB_spec {db : Db} (h : db.wfB = true) :
    (∀ u ∈ db.users, wfUserB u = true) ∧ (∀ p ∈ db.channels, consistentB p.2.caps = true) ∧
      consistentB db.defaults = true ∧ consistentB db.registered = true := by
  unfold Db.wfB at h
  simp only [Bool.and_eq_true, List.all_eq_true] at h
  exact ⟨h.1.1.1, h.1.1.2, h.1.2, h.2⟩

theorem userLevelW_eq {ch : Option Str} {b : Str} (h : LCap ch b) (a : Bool) {u : User}
    (hu : wfUserB u = true) (fl : Flags) : Spec.userLevelW a u ch b fl = Spec.userLevel u ch b fl := by
  obtain ⟨hc, hs⟩ := wfUser_spec hu
  simp only [Spec.userLevelW, Spec.userLevel, asksOwner, own_eq hs, lookW_eq (pos_neg_excl h.chOK h.bOK hc)]

theorem holdsW_eq {ch : Option Str} {b : Str} (h : LCap ch b) (a : Bool) {db : Db} (hdb : db.wfB = true)
    {u : Option User} (hu : ∀ v, u = some v → wfUserB v = true) (fl : Flags) :
    Spec.holdsW a db u ch b fl = Spec.holds db u ch b fl := by
  obtain ⟨_, hcs, hd, hr⟩ := wfB_spec hdb
  have hp := lcap_plain h
  have hex : ∀ {s : CapSet}, consistentB s = true → ¬ (b ∈ s ∧ ('-' :: b) ∈ s) :=
    pos_neg_excl hp.chOK hp.bOK
  have hchan := fun c => hex (getChannel_ind (P := fun r => consistentB r.caps = true) channel_default_ok hcs c)
  unfold Spec.holdsW Spec.holds
  cases u with
  | none =>
    simp only [Option.bind_none, Spec.channelLevelW, Spec.channelLevel, Spec.globalLevelW, Spec.globalLevel,
      lookW_eq (hchan _), lookW_eq (hex hd), lookW_eq (hex hr)]
    rfl
  | some v =>
    simp only [Option.bind_some, userLevelW_eq h a (hu v rfl), Spec.channelLevelW, Spec.channelLevel,
      Spec.globalLevelW, Spec.globalLevel, own_eq (wfUser_spec (hu v rfl)).2, lookW_eq (hchan _),
      lookW_eq (hex hd), lookW_eq (hex hr)]
    rfl

theorem consistentB_iff {s : CapSet} :
    consistentB s = true ↔ ∀ c ∈ s, ∀ c', invertCapability c = .ok c' → c' ∉ s := by
  constructor
  · intro h c hc c' hi; exact consistent_spec h hc hi
  · intro h
    unfold consistentB
    rw [List.all_eq_true]
    intro c hc
    cases hi : invertCapability c with
    | error e => rfl
    | ok c' => simpa using h c hc c' hi

theorem strongSet_nil : StrongSet [] := by
  refine ⟨?_, rfl⟩
  intro c h; cases h

theorem mem_insert {s : CapSet} {c x : Str} : x ∈ CapSet.insert s c ↔ x = c ∨ x ∈ s := by
  unfold CapSet.insert
  split
  · exact ⟨Or.inr, fun h => h.elim (fun e => e ▸ ‹c ∈ s›) id⟩
  · simp only [List.mem_append, List.mem_singleton, or_comm]

theorem mem_erase {s : CapSet} {c x : Str} : x ∈ CapSet.erase s c ↔ x ∈ s ∧ x ≠ c := by
  unfold CapSet.erase
  simp [List.mem_filter]

theorem validCap_toLower {cap : Str} (hv : validCap cap = true) : validCap (toLower cap) = true := by
  obtain ⟨a, ch, b, hch, hb, e⟩ := validCap_shape hv
  rw [e, toLower_render]
  exact validCap_render (chanOK_toLower hch) (baseOK_toLower hb)

theorem invert_valid {x : Str} (hv : validCap x = true) :
    ∃ y, invertCapability x = .ok y ∧ validCap y = true ∧ invertCapability y = .ok x ∧ y ≠ x := by
  obtain ⟨a, ch, b, hch, hb, e⟩ := validCap_shape hv
  refine ⟨render (!a) ch b, by rw [e]; exact invert_render hch hb, validCap_render hch hb, ?_, ?_⟩
  · rw [invert_render hch hb, e, Bool.not_not]
  · rw [e]; cases a
    · exact (keyPos_ne_keyNeg ch b).symm
    · exact keyPos_ne_keyNeg ch b

theorem add_mem_iff {s s' : CapSet} {cap inv : Str} (hinv : invertCapability (toLower cap) = .ok inv)
    (h : CapSet.add s cap = .ok s') (x : Str) :
    x ∈ s' ↔ x = toLower cap ∨ (x ∈ s ∧ x ≠ inv) := by
  unfold CapSet.add at h
  simp only [hinv] at h
  injection h with h; subst h
  rw [mem_insert, mem_erase]

theorem add_strong {s s' : CapSet} {cap : Str} (hs : StrongSet s) (hv : validCap cap = true)
    (h : CapSet.add s cap = .ok s') : StrongSet s' := by
  have hvc := validCap_toLower hv
  obtain ⟨inv, hinv, _, _, hne⟩ := invert_valid hvc
  have hm := add_mem_iff hinv h
  refine ⟨fun x hx => ?_, consistentB_iff.2 fun x hx x' hi hx' => ?_⟩
  · rcases (hm x).1 hx with rfl | e
    · exact hvc
    · exact hs.1 x e.1
  · rcases (hm x).1 hx with rfl | ⟨hxs, hxne⟩
    · cases hinv.symm.trans hi
      rcases (hm _).1 hx' with e' | e'
      · exact hne e'
      · exact e'.2 rfl
    · rcases (hm x').1 hx' with rfl | e'
      · -- invert x = toLower cap, so x = invert (toLower cap) = inv
        obtain ⟨y, hy, _, hback, _⟩ := invert_valid (hs.1 x hxs)
        cases hi.symm.trans hy
        rw [hinv] at hback; injection hback with hback
        exact hxne hback.symm
      · exact consistent_spec hs.2 hxs hi e'.1

theorem remove_sub {s s' : CapSet} {cap : Str} (h : CapSet.remove s cap = .ok s') : ∀ x ∈ s', x ∈ s := by
  unfold CapSet.remove at h
  simp only at h
  split at h
  · cases h; exact fun x hx => (mem_erase.1 hx).1
  · cases h

theorem remove_strong {s s' : CapSet} {cap : Str} (hs : StrongSet s)
    (h : CapSet.remove s cap = .ok s') : StrongSet s' :=
  ⟨fun x hx => hs.1 x (remove_sub h x hx), consistentB_iff.2 fun x hx _ hi hx' =>
    consistent_spec hs.2 (remove_sub h x hx) hi (remove_sub h _ hx')⟩

/-- what every `add` of an element of `v` preserves holds of `CapabilitySet(v)` -/
theorem ofList_inv {P : CapSet → Prop} {v : List Str} {s' : CapSet} (h0 : P [])
    (hstep : ∀ c ∈ v, ∀ s s1, P s → CapSet.add s c = .ok s1 → P s1)
    (h : CapSet.ofList v = .ok s') : P s' := by
  unfold CapSet.ofList at h
  generalize ([] : CapSet) = s at h h0
  induction v generalizing s with
  | nil => simp only [List.foldlM_nil, pure, Except.pure] at h; injection h with h; subst h; exact h0
  | cons c cs ih =>
    simp only [List.foldlM_cons, bind, Except.bind] at h
    split at h
    · cases h
    · rename_i s1 h1
      exact ih (fun c hc => hstep c (List.mem_cons_of_mem _ hc)) s1 h
        (hstep c List.mem_cons_self s s1 h0 h1)

theorem ofList_strong {v : List Str} (hv : ∀ c ∈ v, validCap c = true) {s' : CapSet}
    (h : CapSet.ofList v = .ok s') : StrongSet s' :=
  ofList_inv strongSet_nil (fun c hc _ _ hs h1 => add_strong hs (hv c hc) h1) h

/-- what the induction of `history_wf` runs on: `StrongSet` everywhere, no `-owner` in a user's set -/
structure Db.Strong (db : Db) : Prop where
  users : ∀ u ∈ db.users, StrongSet u.caps ∧ antiOwnerS ∉ u.caps
  channels : ∀ p ∈ db.channels, StrongSet p.2.caps
  defaults : StrongSet db.defaults
  registered : StrongSet db.registered

theorem Db.Strong.wf {db : Db} (h : db.Strong) : db.wfB = true := by
  unfold Db.wfB
  simp only [Bool.and_eq_true, List.all_eq_true]
  refine ⟨⟨⟨?_, ?_⟩, h.defaults.2⟩, h.registered.2⟩
  · intro u hu
    unfold wfUserB
    simp only [Bool.and_eq_true, Bool.not_eq_true', decide_eq_false_iff_not]
    exact ⟨(h.users u hu).1.2, (h.users u hu).2⟩
  · intro p hp; exact (h.channels p hp).2

theorem mem_putUser {us : List User} {u v : User} (h : v ∈ putUser us u) : v = u ∨ v ∈ us := by
  induction us with
  | nil => exact Or.inl (List.mem_singleton.1 h)
  | cons w ws ih =>
    simp only [putUser] at h
    split at h
    · exact (List.mem_cons.1 h).imp_right (List.mem_cons_of_mem _)
    · rcases List.mem_cons.1 h with e | e
      · exact Or.inr (e ▸ List.mem_cons_self)
      · exact (ih e).imp_right (List.mem_cons_of_mem _)

theorem mem_putChannel {cs : List (Str × Channel)} {k : Str} {c : Channel} {p : Str × Channel}
    (h : p ∈ putChannel cs k c) : p = (k, c) ∨ p ∈ cs := by
  induction cs with
  | nil => exact Or.inl (List.mem_singleton.1 h)
  | cons w ws ih =>
    simp only [putChannel] at h
    split at h
    · exact (List.mem_cons.1 h).imp_right (List.mem_cons_of_mem _)
    · rcases List.mem_cons.1 h with e | e
      · exact Or.inr (e ▸ List.mem_cons_self)
      · exact (ih e).imp_right (List.mem_cons_of_mem _)

theorem uadd_strong {s s' : CapSet} {cap : Str} (hs : StrongSet s) (ho : antiOwnerS ∉ s)
    (hv : validCap cap = true) (h : uadd s cap = .ok s') : StrongSet s' ∧ antiOwnerS ∉ s' := by
  unfold uadd at h
  simp only at h
  split at h
  · cases h
  · rename_i hne
    have hvl := validCap_toLower hv
    refine ⟨add_strong hs hvl h, ?_⟩
    obtain ⟨inv, hinv, _⟩ := invert_valid (validCap_toLower hvl)
    intro hm
    rcases (add_mem_iff hinv h antiOwnerS).1 hm with e | e
    · rw [toLower_idem] at e
      exact hne (by simp [e])
    · exact ho e.1

theorem modifyUser_strong {db db' : Db} {id : Nat} {f : User → R User} (h : db.Strong)
    (hf : ∀ u u', u ∈ db.users → f u = .ok u' → StrongSet u'.caps ∧ antiOwnerS ∉ u'.caps)
    (he : db.modifyUser id f = .ok db') : db'.Strong := by
  unfold Db.modifyUser at he
  split at he
  · cases he
  · rename_i u hu
    split at he
    · cases he
    · rename_i u' hfu
      injection he with he; subst he
      refine ⟨?_, h.channels, h.defaults, h.registered⟩
      intro v hv
      rcases mem_putUser hv with e | e
      · subst e; exact hf u u' (List.mem_of_find?_eq_some hu) hfu
      · exact h.users v e

theorem modifyChannel_strong {db db' : Db} {ch : Str} {f : Channel → R Channel} (h : db.Strong)
    (hf : ∀ c c', StrongSet c.caps → f c = .ok c' → StrongSet c'.caps)
    (he : db.modifyChannel ch f = .ok db') : db'.Strong := by
  unfold Db.modifyChannel at he
  split at he
  · cases he
  · rename_i c' hfc
    injection he with he; subst he
    refine ⟨h.users, ?_, h.defaults, h.registered⟩
    intro p hp
    rcases mem_putChannel hp with e | e
    · subst e
      exact hf _ c' (getChannel_ind (P := fun r => StrongSet r.caps) (strongB_spec channel_default_strong)
        h.channels ch) hfc
    · exact h.channels p e

theorem owner_pair_excl_add {s s' : CapSet} {cap : Str} (h : CapSet.add s cap = .ok s')
    (hs : ¬ (ownerS ∈ s ∧ antiOwnerS ∈ s)) : ¬ (ownerS ∈ s' ∧ antiOwnerS ∈ s') := by
  unfold CapSet.add at h
  simp only at h
  split at h
  · cases h
  · rename_i inv hinv
    injection h with h; subst h
    intro ⟨h1, h2⟩
    rcases mem_insert.1 h1 with e1 | e1
    · -- toLower cap = owner, so inv = -owner was erased
      rw [← e1, show invertCapability ownerS = .ok antiOwnerS from invert_render (a := false) chanOK_none baseOK_owner] at hinv
      injection hinv with hinv; subst hinv
      rcases mem_insert.1 h2 with e2 | e2
      · rw [← e1] at e2; exact absurd e2 (by decide)
      · exact (mem_erase.1 e2).2 rfl
    · rcases mem_insert.1 h2 with e2 | e2
      · rw [← e2, show invertCapability antiOwnerS = .ok ownerS from invert_render (a := true) chanOK_none baseOK_owner] at hinv
        injection hinv with hinv; subst hinv
        exact (mem_erase.1 e1).2 rfl
      · exact hs ⟨(mem_erase.1 e1).1, (mem_erase.1 e2).1⟩

/-- adding `-owner` leaves `-owner` in and `owner` out -/
theorem add_antiOwner {s s' : CapSet} (h : CapSet.add s antiOwnerS = .ok s') :
    antiOwnerS ∈ s' ∧ ownerS ∉ s' := by
  have hinv : invertCapability (toLower antiOwnerS) = .ok ownerS :=
    invert_render (a := true) chanOK_none baseOK_owner
  refine ⟨(add_mem_iff hinv h antiOwnerS).2 (Or.inl (by decide)), fun ho => ?_⟩
  rcases (add_mem_iff hinv h ownerS).1 ho with e | e
  · exact absurd e (by decide)
  · exact e.2 rfl

/-- a set built by `CapabilitySet(v)` never holds `owner` next to `-owner` -/
theorem ofList_owner_excl {v : List Str} {s : CapSet} (h : CapSet.ofList v = .ok s)
    (hm : antiOwnerS ∈ s) : ownerS ∉ s :=
  fun ho => ofList_inv (P := fun s => ¬ (ownerS ∈ s ∧ antiOwnerS ∈ s)) (by simp)
    (fun _ _ _ _ hs h1 => owner_pair_excl_add h1 hs) h ⟨ho, hm⟩

theorem splitWs_go_nospace (s acc : Str) (hs : s.all (fun c => !isSpace c) = true) :
    splitWs.go s acc = if acc.isEmpty && s.isEmpty then [] else [acc.reverse ++ s] := by
  induction s generalizing acc with
  | nil =>
    simp only [splitWs.go, List.append_nil, List.isEmpty_nil, Bool.and_true]
  | cons c cs ih =>
    simp only [List.all_cons, Bool.and_eq_true, Bool.not_eq_true'] at hs
    simp only [splitWs.go, hs.1, Bool.false_eq_true, if_false]
    rw [ih _ hs.2]
    simp

theorem splitWs_go_words (s acc : Str) (hacc : acc.all (fun c => !isSpace c) = true) :
    ∀ w ∈ splitWs.go s acc, w.all (fun c => !isSpace c) = true := by
  induction s generalizing acc with
  | nil =>
    intro w hw
    simp only [splitWs.go] at hw
    split at hw
    · cases hw
    · rw [List.mem_singleton] at hw; subst hw; simpa using hacc
  | cons c cs ih =>
    intro w hw
    simp only [splitWs.go] at hw
    split at hw
    · split at hw
      · exact ih [] rfl w hw
      · rcases List.mem_cons.1 hw with e | e
        · subst e; simpa using hacc
        · exact ih [] rfl w e
    · rename_i hc
      apply ih (c :: acc) _ w hw
      simp only [List.all_cons, hacc, Bool.and_true]
      simpa using hc

/-- the model's `isCapability` is Python's `capability.split() == [capability]` -/
theorem isCapability_eq_splitWs (s : Str) : isCapability s = (splitWs s == [s]) := by
  unfold isCapability splitWs
  cases hs : s.all (fun c => !isSpace c) with
  | true =>
    rw [splitWs_go_nospace s [] hs]
    cases s with
    | nil => rfl
    | cons c cs => simp
  | false =>
    simp only [Bool.and_false]
    symm
    rw [beq_eq_false_iff_ne]
    intro e
    have := splitWs_go_words s [] rfl s (by rw [e]; simp)
    rw [hs] at this; cases this


/-! ### `str.lower()` as a parameter
`ChannelsDictionary.getChannel` keys a channel by `toLower(channel.lower())`.  The model uses ASCII
lowering for `str.lower()`; the case-insensitivity of channel names needs only the following
contract of `lower`, which the harness tests against CPython's `str.lower` (`harness/c03.py`, stream
`lower-contract`; every BMP code point in the thorough tier).  `chanKey_eq_chanKeyP` ties the model's key to it. -/

def chanKeyP (lower : Str → Str) (ch : Str) : Str := toLower (lower ch)

/-- contract: IRC-lowering the input first does not change the IRC-lowered result of `lower` -/
def LowerOK (lower : Str → Str) : Prop := ∀ s, toLower (lower (toLower s)) = toLower (lower s)

theorem chanKey_eq_chanKeyP : chanKey = chanKeyP asciiLower := rfl

theorem asciiLower_ok : LowerOK asciiLower := chanKey_toLower

/-- two channel names that are equal under IRC case folding get the same record, for any `lower`
that meets the contract -/
theorem chanKeyP_case_insens {lower : Str → Str} (h : LowerOK lower) (a b : Str)
    (hab : toLower a = toLower b) : chanKeyP lower a = chanKeyP lower b := by
  have e : ∀ c, chanKeyP lower (toLower c) = chanKeyP lower c := h
  rw [← e a, ← e b, hab]

end C03
