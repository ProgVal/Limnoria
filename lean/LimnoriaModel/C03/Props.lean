/-
C03 — property theorems: capability decisions follow the documented precedence.
(Helper lemmas live in `Lemmas.lean`; the decision list `Spec.decide`, the domain `validCap`
and the database invariant `Db.wfB` are defined in `Spec.lean`.)
-/
import LimnoriaModel.C03.Lemmas
namespace C03
open Py

theorem lookup_found_mem {db : Db} {now : Int} {h : Str} {u : User}
    (hl : db.lookup now h = .found u) : u ∈ db.users := by
  unfold Db.lookup at hl
  split at hl
  · split at hl
    · cases hl
    · rename_i v hf
      cases hl
      exact (List.mem_filter.1 (hf ▸ List.mem_singleton.2 rfl)).1
    · cases hl
  · split at hl
    · rename_i v hf; cases hl; exact List.mem_of_find?_eq_some hf
    · cases hl

theorem recognise_mem {db : Db} {now : Int} {h : Str} {u : User}
    (hr : db.recognise now h = some u) : u ∈ db.users := by
  unfold Db.recognise at hr
  split at hr
  · cases hr
  · split at hr
    · rename_i v hl
      split at hr
      · cases hr
      · cases hr; exact lookup_found_mem hl
    · cases hr
    · cases hr

/-- a sender whose prefix is not `nick!user@host` (a server, a service, a bare nick) is nobody,
whatever accounts exist -/
theorem recognise_needs_hostmask (db : Db) (now : Int) (h : Str) (hh : isUserHostmask h = false) :
    db.recognise now h = none := by
  unfold Db.recognise; simp [hh]

/-- **Refinement.**  For every well-formed database, time, sender, valid capability string and
flag combination, `checkCapability` returns — without raising — the answer of the documented
decision list: the sender holds the positive form (owner / explicit user setting / channel op /
channel setting / channel default / global default set / registered-users set / default flag,
in this order; unrecognised senders only the channel and global defaults), exclusive-or the
polarity of the question. -/
theorem check_eq_spec (db : Db) (hdb : db.wfB = true) (now : Int) (h cap : Str) (fl : Flags)
    (hv : validCap cap = true) :
    db.checkCapability now h cap fl = .ok (Spec.decide db now h cap fl) := by
  obtain ⟨a, ch, b, hl, e, _⟩ := valid_lower hv
  rw [← checkCapability_lower, e, checkCapability_render hl,
    holdsW_eq hl a hdb (fun v hr => (wfB_spec hdb).1 v (recognise_mem hr))]
  unfold Spec.decide
  simp only [e, parseCap_render hl.chOK hl.bOK]

example : validCap ['#', 'c', ',', '-', 'o', 'p'] = true := by decide +kernel

/-- **A capability and its anti-capability get opposite answers** — for every state, sender,
valid capability and all eight flag combinations (after the repair of the
`ignoreDefaultAllow` branch). -/
theorem anti_symm (db : Db) (hdb : db.wfB = true) (now : Int) (h cap : Str) (fl : Flags)
    (hv : validCap cap = true) :
    ∃ inv r, invertCapability cap = .ok inv ∧ validCap inv = true ∧
      db.checkCapability now h cap fl = .ok r ∧ db.checkCapability now h inv fl = .ok (!r) := by
  obtain ⟨a, ch, b, hch, hb, e⟩ := validCap_shape hv
  have hvi : validCap (render (!a) ch b) = true := validCap_render hch hb
  refine ⟨render (!a) ch b, Spec.decide db now h cap fl, ?_, hvi, check_eq_spec db hdb now h cap fl hv, ?_⟩
  · rw [e]; exact invert_render hch hb
  · rw [check_eq_spec db hdb now h _ fl hvi]
    unfold Spec.decide
    simp only [e, toLower_render, parseCap_render (chanOK_toLower hch) (baseOK_toLower hb)]
    cases a <;> cases Spec.holds db (db.recognise now h) (ch.map toLower) (toLower b) fl <;> rfl

/-- **An owner holds every capability and no anti-capability**: a recognised, non-ignored
owner is granted every valid capability and refused every anti-capability (default
`ignoreOwner`; any `ignoreChannelOp`/`ignoreDefaultAllow`). -/
theorem owner_all (db : Db) (hdb : db.wfB = true) (now : Int) (h cap : Str) (fl : Flags)
    (hv : validCap cap = true) (u : User) (hr : db.recognise now h = some u)
    (hi : u.ignore = false) (ho : ownerS ∈ u.caps) (hio : fl.ignoreOwner = false) :
    db.checkCapability now h cap fl = .ok (!isAntiCapability cap) := by
  obtain ⟨a, ch, b, hl, e, ha⟩ := valid_lower hv
  rw [check_eq_spec db hdb now h cap fl hv, ha]
  unfold Spec.decide
  simp only [e, parseCap_render hl.chOK hl.bOK, hr]
  have : Spec.holds db (some u) ch b fl = true := by
    unfold Spec.holds Spec.userLevel
    simp only [Option.bind_some, ho, decide_true, Bool.or_true, Bool.true_or, if_true, hi,
      Bool.false_eq_true, if_false, hio, Bool.not_false, Bool.and_self]
    split <;> rfl
  rw [this]; cases a <;> rfl

/-- **The answer does not depend on the case of names**: two capability strings that are equal
under IRC case folding (ASCII letters and the pairs `[]\~` / `{}|^`, in the capability name and
in the channel name) get the same outcome — for *every* string, errors included. -/
theorem case_insens (db : Db) (now : Int) (h cap cap' : Str) (fl : Flags)
    (hc : toLower cap = toLower cap') :
    db.checkCapability now h cap fl = db.checkCapability now h cap' fl := by
  rw [← checkCapability_lower db now h cap, ← checkCapability_lower db now h cap', hc]

example : toLower ['#', 'C', '[', ',', 'F', 'o', '~'] = toLower ['#', 'c', '{', ',', 'f', 'O', '^'] := by decide +kernel

/-- stored capabilities are case-folded on the way in -/
theorem add_case_insens (s : CapSet) (cap cap' : Str) (hc : toLower cap = toLower cap') :
    CapSet.add s cap = CapSet.add s cap' := by
  unfold CapSet.add; rw [hc]

/-- **Unrecognised senders get only the defaults**: when the sender is not recognised, the
outcome is a function of the channel table, the global default set and the default flag — user
records, the registered-users set, the clock and the hostmask itself are irrelevant. -/
theorem unknown_only_defaults (db db' : Db) (now now' : Int) (h h' cap : Str) (fl : Flags)
    (hu : db.recognise now h = none) (hu' : db'.recognise now' h' = none)
    (hc : db.channels = db'.channels) (hd : db.defaults = db'.defaults)
    (hf : db.defaultFlag = db'.defaultFlag) :
    db.checkCapability now h cap fl = db'.checkCapability now' h' cap fl := by
  unfold Db.checkCapability
  rw [hu, hu']
  unfold Db.checkUnknown Db.globalsUnknown Db.getChannel
  simp only [hc, hd, hf]

/-! ## algebra of capability strings -/

/-- inverting twice gives the capability back -/
theorem invert_invert (cap : Str) (hv : validCap cap = true) :
    ∃ inv, invertCapability cap = .ok inv ∧ invertCapability inv = .ok cap := by
  obtain ⟨y, h1, _, h2, _⟩ := invert_valid hv
  exact ⟨y, h1, h2⟩

/-- inversion flips the polarity -/
theorem isAnti_invert (cap inv : Str) (hv : validCap cap = true) (hi : invertCapability cap = .ok inv) :
    isAntiCapability inv = !isAntiCapability cap := by
  obtain ⟨a, ch, b, hch, hb, e⟩ := validCap_shape hv
  rw [e, invert_render hch hb] at hi
  injection hi with hi
  rw [← hi, e, isAnti_render hch hb, isAnti_render hch hb]

/-- `fromChannelCapability (makeChannelCapability ch c) = (ch, c)` -/
theorem fromChannel_makeChannel (ch c : Str) (hch : isChannel ch = true) (hc : isCapability c = true) :
    ∃ x, makeChannelCapability ch c = .ok x ∧ fromChannelCapability x = .ok (ch, c) := by
  refine ⟨ch ++ ',' :: c, ?_, ?_⟩
  · unfold makeChannelCapability; simp [hch, hc]
  · unfold fromChannelCapability; rw [chanSplit_chan hch hc]

example : isChannel ['#', 'c'] = true ∧ isCapability ['o', 'p'] = true := by decide +kernel

/-! ## histories of edits -/

/-- obligation on the extracted default capability lists: every shipped default is a valid
capability string -/
theorem default_caps_valid :
    (Gen.defaultCapabilities ++ Gen.defaultCapabilitiesRegistered).all validCap = true := by decide +kernel

theorem validCap_antiOwner : validCap antiOwnerS = true := by decide +kernel

theorem setDefaults_strong {db db' : Db} {v : List Str} (h : db.Strong)
    (hv : ∀ c ∈ v, validCap c = true) (he : db.setDefaults v = .ok db') : db'.Strong := by
  unfold Db.setDefaults at he
  split at he
  · cases he
  · rename_i s hs
    have hss := ofList_strong hv hs
    split at he
    · injection he with he; subst he
      exact ⟨h.users, h.channels, hss, h.registered⟩
    · split at he
      · cases he
      · rename_i s' hs'
        injection he with he; subst he
        exact ⟨h.users, h.channels, add_strong hss validCap_antiOwner hs', h.registered⟩

/-- **Every edit keeps the database well-formed**: starting from a database whose capability
sets hold valid strings and never a capability next to its inverse (and no user set holds
`-owner`), any edit carrying valid capability strings — add/remove a user or channel capability,
flags, hostmasks, logins, default sets, default flag, new/deleted user — leads to such a
database again.  (`Db.Strong.wf` turns this into the hypothesis of `check_eq_spec`.) -/
theorem edits_preserve_wf (db : Db) (h : db.Strong) (e : Edit)
    (hv : ∀ c ∈ e.caps, validCap c = true) (db' : Db) (he : db.applyEdit e = .ok db') :
    db'.Strong := by
  unfold Db.applyEdit at he
  cases e with
  | newUser id name =>
    simp only at he; injection he with he; subst he
    refine ⟨?_, h.channels, h.defaults, h.registered⟩
    intro v hvm
    rcases mem_putUser hvm with e | e
    · subst e; exact ⟨strongSet_nil, by simp⟩
    · exact h.users v e
  | delUser id =>
    simp only at he; injection he with he; subst he
    exact ⟨fun u hu => h.users u (List.mem_filter.1 hu).1, h.channels, h.defaults, h.registered⟩
  | userAdd id cap =>
    refine modifyUser_strong h ?_ he
    intro u u' hu hf
    unfold User.addCapability at hf
    split at hf
    · cases hf
    · rename_i s hs
      injection hf with hf; subst hf
      exact uadd_strong (h.users u hu).1 (h.users u hu).2 (hv cap (by simp [Edit.caps])) hs
  | userRemove id cap =>
    refine modifyUser_strong h ?_ he
    intro u u' hu hf
    unfold User.removeCapability at hf
    split at hf
    · cases hf
    · rename_i s hs
      injection hf with hf; subst hf
      exact ⟨remove_strong (h.users u hu).1 hs, fun hm => (h.users u hu).2 (remove_sub hs _ hm)⟩
  | userFlags id ig se =>
    refine modifyUser_strong h ?_ he
    intro u u' hu hf; injection hf with hf; subst hf; exact h.users u hu
  | userHostmasks id ms =>
    refine modifyUser_strong h ?_ he
    intro u u' hu hf; injection hf with hf; subst hf; exact h.users u hu
  | userAuth id a =>
    refine modifyUser_strong h ?_ he
    intro u u' hu hf; injection hf with hf; subst hf; exact h.users u hu
  | chanAdd ch cap =>
    refine modifyChannel_strong h ?_ he
    intro c c' hc hf
    unfold Channel.addCapability at hf
    split at hf
    · cases hf
    · split at hf
      · cases hf
      · rename_i s hs
        injection hf with hf; subst hf
        exact add_strong hc (hv cap (by simp [Edit.caps])) hs
  | chanRemove ch cap =>
    refine modifyChannel_strong h ?_ he
    intro c c' hc hf
    unfold Channel.removeCapability at hf
    split at hf
    · cases hf
    · split at hf
      · cases hf
      · rename_i s hs
        injection hf with hf; subst hf
        exact remove_strong hc hs
  | chanDefault ch b =>
    refine modifyChannel_strong h ?_ he
    intro c c' hc hf; injection hf with hf; subst hf; exact hc
  | setDefaults v => exact setDefaults_strong h hv he
  | setRegistered v =>
    have he : db.setRegistered v = .ok db' := he
    unfold Db.setRegistered at he
    split at he
    · cases he
    · rename_i s hs
      injection he with he; subst he
      exact ⟨h.users, h.channels, h.defaults, ofList_strong hv hs⟩
  | setFlag b =>
    simp only at he; injection he with he; subst he
    exact ⟨h.users, h.channels, h.defaults, h.registered⟩
  | setTimeout t =>
    simp only at he; injection he with he; subst he
    exact ⟨h.users, h.channels, h.defaults, h.registered⟩

theorem ofList_getD_strong {v : List Str} (hv : ∀ c ∈ v, validCap c = true) :
    StrongSet (match CapSet.ofList v with | .ok s => s | .error _ => []) := by
  cases hs : CapSet.ofList v with
  | ok s => exact ofList_strong hv hs
  | error e => exact strongSet_nil

/-- the freshly configured bot's database is well-formed -/
theorem initial_strong : Db.initial.Strong := by
  have hv := default_caps_valid
  rw [List.all_append, Bool.and_eq_true, List.all_eq_true, List.all_eq_true] at hv
  exact ⟨(fun _ h => nomatch h), (fun _ h => nomatch h), ofList_getD_strong hv.1, ofList_getD_strong hv.2⟩

/-- **After any history of edits** (with valid capability strings; an edit that raises changes
nothing) the database reached from the shipped configuration satisfies the hypothesis of
`check_eq_spec`, `anti_symm`, `owner_all`. -/
theorem history_wf (es : List Edit) (hv : ∀ e ∈ es, ∀ c ∈ e.caps, validCap c = true) :
    (Db.initial.applyEdits es).wfB = true := by
  suffices ∀ db : Db, db.Strong → (db.applyEdits es).Strong from (this _ initial_strong).wf
  induction es with
  | nil => intro db h; exact h
  | cons e es ih =>
    intro db h
    unfold Db.applyEdits
    simp only [List.foldl_cons]
    have ih' := ih (fun e' he' => hv e' (List.mem_cons_of_mem _ he'))
    cases he : db.applyEdit e with
    | ok db' => exact ih' db' (edits_preserve_wf db h e (hv e List.mem_cons_self) db' he)
    | error err => exact ih' db h

example : ∀ c ∈ (Edit.userAdd 1 ['#', 'c', ',', 'o', 'p']).caps, validCap c = true := by decide +kernel

/-! ## the default-owner guard -/

/-- **`supybot.capabilities` always denies `owner`**: whatever list the default capabilities
are set to (valid strings or not), afterwards the set contains `-owner` and not `owner`
(the `--allow-default-owner` guard, after its repair). -/
theorem setDefaults_keeps_antiowner (db db' : Db) (v : List Str) (he : db.setDefaults v = .ok db') :
    antiOwnerS ∈ db'.defaults ∧ ownerS ∉ db'.defaults := by
  unfold Db.setDefaults at he
  split at he
  · cases he
  · rename_i s hs
    split at he
    · rename_i hm
      injection he with he; subst he
      exact ⟨hm, ofList_owner_excl hs hm⟩
    · split at he
      · cases he
      · rename_i s' hs'
        injection he with he; subst he
        exact add_antiOwner hs'

/-- **Unrecognised senders are never owners**: in any database whose default set went through
`setDefaults`, an unrecognised sender is refused `owner`, under every flag combination. -/
theorem unknown_never_owner (db : Db) (hd : antiOwnerS ∈ db.defaults ∧ ownerS ∉ db.defaults)
    (now : Int) (h : Str) (fl : Flags) (hu : db.recognise now h = none) :
    db.checkCapability now h ownerS fl = .ok false := by
  have e : db.checkCapability now h ownerS fl = _ := checkCapability_render lcap_owner false db now h fl
  have h1 : ('-' :: ownerS) ∈ db.defaults := hd.1
  rw [e, hu]
  simp [Spec.holdsW, Spec.globalLevelW, lookW, Spec.look, h1, hd.2]

example : ∃ db' : Db, Db.initial.setDefaults [ownerS] = .ok db' := ⟨_, rfl⟩

/-! ## side effects and lists -/

/-- `channels.getChannel` stores a fresh record for an unknown channel: no decision can tell -/
theorem touch_invisible (db : Db) (ch ch' : Str) :
    (db.touchChannel ch).getChannel ch' = db.getChannel ch' := by
  unfold Db.touchChannel
  cases h : db.channels.lookup (chanKey ch) with
  | some c => rfl
  | none =>
    simp only
    unfold Db.getChannel
    simp only [List.lookup_append]
    cases h2 : db.channels.lookup (chanKey ch') with
    | some c => rfl
    | none =>
      by_cases hk : chanKey ch' = chanKey ch
      · simp [List.lookup, hk]
      · have : (chanKey ch' == chanKey ch) = false := by simpa using hk
        simp [List.lookup, this]

/-- two databases that agree on users, default sets, flags and on what `getChannel` answers take
the same capability decisions -/
theorem checkCapability_congr (db db' : Db) (now : Int) (h cap : Str) (fl : Flags)
    (hu : db'.users = db.users) (hd : db'.defaults = db.defaults) (hr : db'.registered = db.registered)
    (hf : db'.defaultFlag = db.defaultFlag) (ht : db'.timeout = db.timeout)
    (hc : ∀ c, db'.getChannel c = db.getChannel c) :
    db'.checkCapability now h cap fl = db.checkCapability now h cap fl := by
  simp only [Db.checkCapability, Db.recognise, Db.lookup, Db.checkUnknown, Db.globalsUnknown, Db.checkKnown,
    Db.channelStage, Db.globalsKnown, hu, hd, hr, hf, ht, hc]

theorem touch_invisible_check (db : Db) (ch : Str) (now : Int) (h cap : Str) (fl : Flags) :
    (db.touchChannel ch).checkCapability now h cap fl = db.checkCapability now h cap fl := by
  have hrest : (db.touchChannel ch).users = db.users ∧ (db.touchChannel ch).defaults = db.defaults ∧
      (db.touchChannel ch).registered = db.registered ∧ (db.touchChannel ch).defaultFlag = db.defaultFlag ∧
      (db.touchChannel ch).timeout = db.timeout := by
    unfold Db.touchChannel; split <;> simp
  obtain ⟨h1, h2, h3, h4, h5⟩ := hrest
  exact checkCapability_congr db _ now h cap fl h1 h2 h3 h4 h5 (touch_invisible db ch)

/-- **`checkCapabilities`** is the conjunction / disjunction of the single decisions -/
theorem checkCapabilities_spec (db : Db) (hdb : db.wfB = true) (now : Int) (h : Str)
    (caps : List Str) (requireAll : Bool) (hv : ∀ c ∈ caps, validCap c = true) :
    db.checkCapabilities now h caps requireAll =
      .ok (if requireAll then caps.all (fun c => Spec.decide db now h c {})
           else caps.any (fun c => Spec.decide db now h c {})) := by
  induction caps with
  | nil => cases requireAll <;> rfl
  | cons c cs ih =>
    have ih' := ih (fun c' hc' => hv c' (List.mem_cons_of_mem _ hc'))
    unfold Db.checkCapabilities
    rw [check_eq_spec db hdb now h c {} (hv c List.mem_cons_self)]
    simp only [ih']
    cases requireAll
    · simp only [Bool.false_eq_true, if_false, List.any_cons]
      cases hd : Spec.decide db now h c {} <;> simp
    · simp only [if_true, List.all_cons]
      cases hd : Spec.decide db now h c {} <;> simp

/-! ## outside the domain: capability names that start with `-`
For a name such as `-foo` the strings `--foo` / `-foo` / `foo` collapse: `invert "--foo" = "-foo"`
and `invert "-foo" = "foo"`, so inversion is not an involution there and the two polarities are
not answered oppositely.  (Such names are outside the property's quantifier.) -/
def witnessDb : Db := { Db.initial with
  users := [{ id := 1, name := ['a'], caps := [['f', 'o', 'o']], hostmasks := [['a', '!', '*', '@', '*']] }] }

theorem anti_symm_needs_valid :
    witnessDb.checkCapability 0 ['a', '!', 'b', '@', 'c'] ['-', '-', 'f', 'o', 'o'] = .ok false ∧
    invertCapability ['-', '-', 'f', 'o', 'o'] = .ok ['-', 'f', 'o', 'o'] ∧
    witnessDb.checkCapability 0 ['a', '!', 'b', '@', 'c'] ['-', 'f', 'o', 'o'] = .ok false := by
  exact ⟨ok_of_toOption (by decide +kernel), ok_of_toOption (by decide +kernel),
    ok_of_toOption (by decide +kernel)⟩

/-- non-vacuity of the hypotheses of `check_eq_spec` / `anti_symm` / `owner_all`: a concrete
well-formed database with a recognised user, on which the decision is not the default -/
example : witnessDb.wfB = true ∧ validCap ['-', 'f', 'o', 'o'] = true ∧
    (∃ u, witnessDb.recognise 0 ['a', '!', 'b', '@', 'c'] = some u) ∧
    Spec.decide witnessDb 0 ['a', '!', 'b', '@', 'c'] ['-', 'f', 'o', 'o'] {} = false := by
  exact ⟨by decide +kernel, by decide +kernel, Option.isSome_iff_exists.1 (by decide +kernel),
    by decide +kernel⟩

/-! ## channels.conf written and read back (`Db.reloadChannels`) -/

/-- one `add` of a valid capability keeps a pair `b` / `nb` of mutual inverses decided: whichever
of the two was in the set stays, unless it is the inverse of what is added — and then what is
added is the other one -/
theorem add_keeps_decided {s s' : CapSet} {x b nb : Str} (hx : validCap x = true)
    (hb : invertCapability b = .ok nb) (hnb : invertCapability nb = .ok b)
    (h : CapSet.add s x = .ok s') (hd : b ∈ s ∨ nb ∈ s) : b ∈ s' ∨ nb ∈ s' := by
  have hvc := validCap_toLower hx
  obtain ⟨inv, hinv, _, hii, _⟩ := invert_valid hvc
  have hm := add_mem_iff hinv h
  rcases hd with hd | hd
  · by_cases e : b = inv
    · right
      rw [hm]; left
      rw [← e, hb] at hii
      injection hii
    · left; rw [hm]; exact Or.inr ⟨hd, e⟩
  · by_cases e : nb = inv
    · left
      rw [hm]; left
      rw [← e, hnb] at hii
      injection hii
    · right; rw [hm]; exact Or.inr ⟨hd, e⟩

theorem reload_fold_decided (l : List Str) (hl : ∀ x ∈ l, validCap x = true) {b nb : Str}
    (hb : invertCapability b = .ok nb) (hnb : invertCapability nb = .ok b) (s : CapSet) (hd : b ∈ s ∨ nb ∈ s) :
    b ∈ l.foldl (fun s x => match CapSet.add s x with | .ok s' => s' | .error _ => s) s ∨
    nb ∈ l.foldl (fun s x => match CapSet.add s x with | .ok s' => s' | .error _ => s) s := by
  induction l generalizing s with
  | nil => exact hd
  | cons x rest ih =>
    simp only [List.foldl_cons]
    apply ih (fun y hy => hl y (List.mem_cons_of_mem _ hy))
    cases ha : CapSet.add s x with
    | error e => exact hd
    | ok s' => exact add_keeps_decided (hl x List.mem_cons_self) hb hnb ha hd

/-- **After channels.conf is written and read back, no channel leaves `op`, `halfop`, `voice` or
`protected` to its default**: every channel record holds each of them or its anti-capability
(the constructor of `IrcChannel` puts the anti-capabilities in, the `capability` lines of the file
can only turn one into the other).  So `#chan,op` is never answered by `defaultAllow` after a
restart. -/
theorem reload_decides_defaultOff (db : Db) (hdb : ∀ p ∈ db.channels, ∀ x ∈ p.2.caps, validCap x = true)
    (p : Str × Channel) (hp : p ∈ db.reloadChannels.channels) (b : Str) (hb : b ∈ Gen.channelDefaultOff) :
    b ∈ p.2.caps ∨ ('-' :: b) ∈ p.2.caps := by
  unfold Db.reloadChannels at hp
  simp only [List.mem_map] at hp
  obtain ⟨q, hq, e⟩ := hp
  subst e
  simp only [Channel.reloaded]
  have hob := List.all_eq_true.1 channel_defaultOff_ok b hb
  simp only [Bool.and_eq_true] at hob
  have hbo := baseOK_of_valid hob.1
  exact reload_fold_decided q.2.caps (hdb q hq) (invert_render (a := false) chanOK_none hbo)
    (invert_render (a := true) chanOK_none hbo) _ (Or.inr (List.mem_of_elem_eq_true hob.2))

/-- a fresh channel survives the round trip unchanged -/
theorem reload_default : Channel.default.reloaded = Channel.default := by decide +kernel

end C03
