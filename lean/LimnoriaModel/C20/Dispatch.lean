/-
C20 — the link to C14's command dispatch: the dispatcher list of this model, seen through
`C14.findCallbacks` / `C14.dispatch` (the model of `findCallbacksForArgs` / `finalEval`), routes a
one-word command exactly when a registered plugin has it.
-/
import LimnoriaModel.C20.Lemmas
import LimnoriaModel.C14.Model
namespace C20
open Py List

/-- a dispatcher entry as C14 sees it: class name, command methods, no nested groups -/
def toC14 (p : Plugin) : C14.Plugin := .mk p.name p.commands [] false

/-- C14's dispatch configuration for the current list: nothing disabled, no default plugins -/
def dispCfg (cbs : Cbs) (important : List Name) : C14.DispCfg :=
  { callbacks := cbs.map toC14, disabled := [], defaults := [], important := important }

theorem getCommand_one (p : Plugin) (c : Name) (hc : C14.canonicalName c = c) :
    C14.getCommand [] (toC14 p) [c] = .ok (if p.commands.contains c then [c] else []) := by
  unfold toC14
  rw [C14.getCommand]
  simp only [C14.getCommandSubs, ne_eq, not_true_eq_false, and_false, if_false]
  unfold C14.isCmd C14.isDisabled
  rw [hc, decide_eq_true rfl]
  rfl

section scan
variable {c : Name} (hc : C14.canonicalName c = c) {rest : List C14.Plugin} {i : Nat} {maxL : List Str}
  {acc : List (Nat × List Str)}
include hc

theorem scan_miss {p : Plugin} (hp : c ∉ p.commands) :
    C14.scan [] [c] (toC14 p :: rest) i maxL acc = C14.scan [] [c] rest (i + 1) maxL acc := by
  have : p.commands.contains c = false := by simpa using hp
  rw [C14.scan, getCommand_one p c hc, this]
  rfl

theorem scan_hit {p : Plugin} (hp : c ∈ p.commands) (hm : maxL.length ≤ 1) :
    C14.scan [] [c] (toC14 p :: rest) i maxL acc = C14.scan [] [c] rest (i + 1) [c] (acc ++ [(i, [c])]) := by
  have : p.commands.contains c = true := by simpa using hp
  rw [C14.scan, getCommand_one p c hc, this]
  exact if_pos ⟨cons_ne_nil _ _, hm⟩

theorem scan_nohit {l : Cbs} (hl : ∀ p ∈ l, c ∉ p.commands) :
    C14.scan [] [c] (l.map toC14 ++ rest) i maxL acc = C14.scan [] [c] rest (i + l.length) maxL acc := by
  induction l generalizing i with
  | nil => rfl
  | cons p l ih =>
    rw [map_cons, cons_append, scan_miss hc (hl p mem_cons_self), ih fun q hq => hl q (mem_cons_of_mem _ hq),
      length_cons, Nat.add_assoc, Nat.add_comm 1]

theorem scan_end {l : Cbs} (hl : ∀ p ∈ l, c ∉ p.commands) :
    C14.scan [] [c] (l.map toC14) i maxL acc = .ok (maxL, acc) := by
  have := scan_nohit hc hl (rest := []) (i := i) (maxL := maxL) (acc := acc)
  rwa [append_nil] at this

end scan

/-- no registered plugin has the command: C14's dispatcher finds nothing (`invalidCommand`) -/
theorem dispatch_none (cbs : Cbs) (imp : List Name) (c : Name) (hc : C14.canonicalName c = c)
    (h : ∀ p ∈ cbs, c ∉ p.commands) : C14.dispatch (dispCfg cbs imp) [c] = .none := by
  unfold C14.dispatch C14.findCallbacks dispCfg
  simp only [map_cons, map_nil, hc, scan_end hc h]
  rfl

theorem findCallbacks_one (cfg : C14.DispCfg) (hd : cfg.defaults = []) (c : Str) (i : Nat)
    (h : C14.scan cfg.disabled [C14.canonicalName c] cfg.callbacks 0 [] [] = .ok ([c], [(i, [c])])) :
    C14.findCallbacks cfg [c] = .ok ([c], [i]) := by
  unfold C14.findCallbacks
  simp only [map_cons, map_nil, h, hd, filter_cons, decide_true, if_true, filter_nil, find?_cons, find?_nil,
    List.lookup]
  cases decide (C14.canonicalName (C14.nameOf cfg.callbacks i) = c) <;>
  cases (cfg.important.map C14.canonicalName).contains (C14.canonicalName (C14.nameOf cfg.callbacks i)) <;> rfl

/-- exactly one registered plugin has the command: C14's dispatcher runs it in that plugin -/
theorem dispatch_unique (cbs : Cbs) (imp : List Name) (c : Name) (hc : C14.canonicalName c = c)
    (l1 l2 : Cbs) (p : Plugin) (hs : cbs = l1 ++ p :: l2) (hp : c ∈ p.commands)
    (h1 : ∀ q ∈ l1, c ∉ q.commands) (h2 : ∀ q ∈ l2, c ∉ q.commands) :
    C14.dispatch (dispCfg cbs imp) [c] = .run l1.length p.name [c] [] := by
  subst hs
  have hscan : C14.scan [] [C14.canonicalName c] ((l1 ++ p :: l2).map toC14) 0 [] [] =
      .ok ([c], [(l1.length, [c])]) := by
    rw [hc, map_append, map_cons, scan_nohit hc h1, scan_hit hc hp (Nat.zero_le _),
      scan_end hc h2, Nat.zero_add, nil_append]
  have hname : C14.nameOf ((l1 ++ p :: l2).map toC14) l1.length = p.name := by
    simp [C14.nameOf, toC14, C14.Plugin.name]
  unfold C14.dispatch
  rw [findCallbacks_one (dispCfg _ imp) rfl c l1.length hscan]
  exact congrArg (C14.Dispatch.run l1.length · [c] []) hname

end C20
