/-
C20 — helper lemmas: the loop invariant of the extraction rounds of `addCallback`, soundness and
completeness of the computed order, the edge set, and Owner's commands outcome by outcome.
-/
import LimnoriaModel.C20.Model
import Batteries.Data.List.Perm
namespace C20
open Py List

/-- `a` is placed strictly before `b` in the list of callbacks `l` -/
def Before (l : Cbs) (a b : Name) : Prop :=
  ∃ l1 l2, l = l1 ++ l2 ∧ a ∈ l1.map (·.name) ∧ b ∈ l2.map (·.name)

theorem Before.append_right {l : Cbs} {a b : Name} (h : Before l a b) (x : Cbs) : Before (l ++ x) a b := by
  obtain ⟨l1, l2, rfl, ha, hb⟩ := h
  exact ⟨l1, l2 ++ x, by simp, ha, by simp only [map_append, mem_append]; exact Or.inl hb⟩

theorem Before.of_split {l x : Cbs} {a b : Name} (ha : a ∈ l.map (·.name)) (hb : b ∈ x.map (·.name)) :
    Before (l ++ x) a b := ⟨l, x, rfl, ha, hb⟩

theorem before_nil {a b : Name} : ¬ Before [] a b := by
  rintro ⟨l1, l2, e, ha, _⟩
  rw [(append_eq_nil_iff.mp e.symm).1] at ha
  cases ha

theorem before_cons {x : Plugin} {t : Cbs} {a b : Name} :
    Before (x :: t) a b ↔ (x.name = a ∧ b ∈ t.map (·.name)) ∨ Before t a b := by
  constructor
  · rintro ⟨l1, l2, e, ha, hb⟩
    cases l1 with
    | nil => cases ha
    | cons y ys =>
      rw [cons_append, cons.injEq] at e
      obtain ⟨rfl, rfl⟩ := e
      rcases mem_cons.mp ha with h | h
      · exact .inl ⟨h.symm, by rw [map_append]; exact mem_append_right _ hb⟩
      · exact .inr ⟨ys, l2, rfl, h, hb⟩
  · rintro (⟨rfl, hb⟩ | ⟨l1, l2, rfl, ha, hb⟩)
    · exact ⟨[x], t, rfl, mem_cons_self, hb⟩
    · exact ⟨x :: l1, l2, rfl, mem_cons_of_mem _ ha, hb⟩

instance Before.decidable : (l : Cbs) → (a b : Name) → Decidable (Before l a b)
  | [], _, _ => isFalse before_nil
  | _ :: t, a, b => have := Before.decidable t a b; decidable_of_iff _ before_cons.symm

theorem Before.mem_right {l : Cbs} {a b : Name} (h : Before l a b) : b ∈ l.map (·.name) := by
  obtain ⟨l1, l2, rfl, _, hb⟩ := h
  rw [map_append]
  exact mem_append_right _ hb

theorem Before.mem_left_of_split {as bs : Cbs} {m : Plugin} (hn : ((as ++ m :: bs).map (·.name)).Nodup)
    {a : Name} (h : Before (as ++ m :: bs) a m.name) : a ∈ as.map (·.name) := by
  induction as with
  | nil =>
    rw [nil_append, map_cons, nodup_cons] at hn
    rcases before_cons.mp h with ⟨_, hb⟩ | hb
    · exact absurd hb hn.1
    · exact absurd hb.mem_right hn.1
  | cons x as ih =>
    rw [cons_append, map_cons, nodup_cons] at hn
    rcases before_cons.mp h with ⟨rfl, _⟩ | hb
    · exact mem_cons_self
    · exact mem_cons_of_mem _ (ih hn.2 hb)

/-- `split` is slow to check on the guard chains below -/
theorem ite_cases {α} {P : α → Prop} {c : Prop} [Decidable c] {a b : α} (ha : c → P a) (hb : ¬ c → P b) :
    P (if c then a else b) := by
  by_cases h : c
  · rw [if_pos h]; exact ha h
  · rw [if_neg h]; exact hb h

theorem nodup_of_map {α β} (f : α → β) {l : List α} (h : (l.map f).Nodup) : l.Nodup :=
  Pairwise.of_map f (fun _ _ hne e => hne (e ▸ rfl)) h

theorem inj_of_nodup_map {α β} {f : α → β} {l : List α} (h : (l.map f).Nodup) {x y : α}
    (hx : x ∈ l) (hy : y ∈ l) (e : f x = f y) : x = y := by
  induction l with
  | nil => cases hx
  | cons a l ih =>
    simp only [map_cons, nodup_cons, mem_map, not_exists, not_and] at h
    rcases mem_cons.mp hx with rfl | hx' <;> rcases mem_cons.mp hy with rfl | hy'
    · rfl
    · exact absurd e.symm (h.1 y hy')
    · exact absurd e (h.1 x hx')
    · exact ih h.2 hx' hy'

/-- the `ord` parameter really is an enumeration of the set it is given -/
def OrdOk (ord : Ord) : Prop := ∀ l, (ord l).Perm l

/-! ### the loop invariant -/

structure Inv (nodes : Cbs) (E0 : List Edge) (done : Cbs) (edges : List Edge) : Prop where
  nodup : done.Nodup
  sub : ∀ p ∈ done, p ∈ nodes
  edges_eq : edges = E0.filter fun e => !(done.any fun p => p.name == e.1)
  placed : ∀ e ∈ E0, e.2 ∈ done.map (·.name) → Before done e.1 e.2

theorem inv_init (nodes : Cbs) (E0 : List Edge) : Inv nodes E0 [] E0 :=
  ⟨nodup_nil, by simp, (filter_eq_self.mpr (by simp)).symm, by simp⟩

theorem mem_firsts {nodes done : Cbs} {edges : List Edge} {p : Plugin} :
    p ∈ firsts nodes done edges ↔ p ∈ nodes ∧ p ∉ done ∧ ∀ e ∈ edges, e.2 ≠ p.name := by
  unfold firsts
  simp only [mem_filter, Bool.and_eq_true, Bool.not_eq_eq_eq_not, Bool.not_true, contains_eq_mem,
    decide_eq_false_iff_not, any_eq_false, beq_iff_eq]

theorem any_name_iff {l : Cbs} {n : Name} : (l.any fun p => p.name == n) = true ↔ n ∈ l.map (·.name) := by
  simp only [any_eq_true, beq_iff_eq, mem_map]

theorem inv_step {ord : Ord} (ho : OrdOk ord) {nodes : Cbs} (hn : nodes.Nodup) {E0 : List Edge}
    {done : Cbs} {edges : List Edge} (J : Inv nodes E0 done edges) :
    Inv nodes E0 (done ++ ord (firsts nodes done edges))
      (edges.filter fun e => !((firsts nodes done edges).any fun p => p.name == e.1)) := by
  have hp := ho (firsts nodes done edges)
  have hN : ∀ p ∈ ord (firsts nodes done edges), p ∈ nodes ∧ p ∉ done ∧ ∀ e ∈ edges, e.2 ≠ p.name :=
    fun p h => mem_firsts.mp (hp.mem_iff.mp h)
  refine ⟨?_, ?_, ?_, ?_⟩
  · exact nodup_append.mpr ⟨J.nodup, hp.nodup_iff.mpr (hn.filter _),
      fun a ha b hb hab => (hN b hb).2.1 (hab ▸ ha)⟩
  · exact fun p hpm => (mem_append.mp hpm).elim (J.sub p) fun h => (hN p h).1
  · generalize firsts nodes done edges = F at hp
    rw [J.edges_eq, filter_filter]
    refine filter_congr fun e _ => ?_
    have : ((ord F).any fun p => p.name == e.1) = (F.any fun p => p.name == e.1) := by
      rw [Bool.eq_iff_iff, any_name_iff, any_name_iff]
      exact (hp.map _).mem_iff
    rw [any_append, this, Bool.not_or, Bool.and_comm]
  · intro e he ht
    rw [map_append, mem_append] at ht
    rcases ht with ht | ht
    · exact (J.placed e he ht).append_right _
    · -- the target is placed in this round: no remaining edge points to it, so the source is done
      obtain ⟨p, hpm, hpn⟩ := mem_map.mp ht
      refine Before.of_split (Decidable.by_contra fun hc => (hN p hpm).2.2 e ?_ hpn.symm) ht
      rw [J.edges_eq, mem_filter, Bool.not_eq_true', ← Bool.not_eq_true, any_name_iff]
      exact ⟨he, hc⟩

/-! ### completeness -/

/-- as long as a callback is unplaced and some order `L` satisfies all constraints, the next round
is not empty: the earliest unplaced callback of `L` has all its predecessors placed -/
theorem progress {nodes : Cbs} {E0 : List Edge} {done : Cbs} {edges : List Edge}
    (J : Inv nodes E0 done edges) {L : Cbs} (hL : L.Perm nodes) (hLn : L.Nodup)
    (hLnames : (L.map (·.name)).Nodup) (hresp : ∀ e ∈ E0, Before L e.1 e.2)
    {p : Plugin} (hp : p ∈ nodes) (hpd : p ∉ done) : firsts nodes done edges ≠ [] := by
  have hex : (L.find? fun q => !done.contains q).isSome :=
    find?_isSome.mpr ⟨p, hL.mem_iff.mpr hp, by simpa using hpd⟩
  obtain ⟨m, hm⟩ := Option.isSome_iff_exists.mp hex
  obtain ⟨hmd, as, bs, rfl, has⟩ := find?_eq_some_iff_append.mp hm
  refine ne_nil_of_mem (a := m) (mem_firsts.mpr ⟨hL.mem_iff.mp (by simp), by simpa using hmd, ?_⟩)
  intro e he heq
  rw [J.edges_eq, mem_filter] at he
  -- the source of `e` precedes `m` in `L`, so it is placed
  have hb : Before (as ++ m :: bs) e.1 m.name := heq ▸ hresp e he.1
  obtain ⟨x, hx, hxn⟩ := mem_map.mp (hb.mem_left_of_split hLnames)
  have hxd : x ∈ done := by simpa using has x hx
  rw [any_name_iff.mpr (mem_map.mpr ⟨x, hxd, hxn⟩)] at he
  cases he.2

/-! ### the rounds -/

section rounds
variable {ord : Ord} (ho : OrdOk ord) {nodes : Cbs} (hn : nodes.Nodup) {E0 : List Edge} {done : Cbs}
  {edges : List Edge} (J : Inv nodes E0 done edges)

theorem rounds_succ (n : Nat) :
    rounds ord nodes (n + 1) done edges =
      if (firsts nodes done edges).isEmpty then done
      else rounds ord nodes n (done ++ ord (firsts nodes done edges))
        (edges.filter fun e => !((firsts nodes done edges).any fun p => p.name == e.1)) := rfl

theorem firsts_nil_of_full (h : ∀ p ∈ nodes, p ∈ done) : firsts nodes done edges = [] :=
  eq_nil_iff_forall_not_mem.mpr fun p hp => (mem_firsts.mp hp).2.1 (h p (mem_firsts.mp hp).1)

include J in
theorem Inv.subperm : done.Subperm nodes :=
  subperm_of_subset J.nodup J.sub

include ho in
theorem fuel_step {n : Nat} (hne : ¬ (firsts nodes done edges).isEmpty = true)
    (hf : nodes.length ≤ n + 1 + done.length) :
    nodes.length ≤ n + (done ++ ord (firsts nodes done edges)).length := by
  have : 0 < (firsts nodes done edges).length := length_pos_iff.mpr fun h => hne (h ▸ rfl)
  rw [length_append, (ho _).length_eq]
  refine Nat.le_trans hf ?_
  rw [Nat.add_assoc, Nat.add_comm 1]
  exact Nat.add_le_add_left (Nat.add_le_add_left this _) _

include ho hn J

theorem rounds_inv (fuel : Nat) : ∃ edges', Inv nodes E0 (rounds ord nodes fuel done edges) edges' := by
  induction fuel generalizing done edges with
  | zero => exact ⟨edges, J⟩
  | succ n ih =>
    rw [rounds_succ]
    exact ite_cases (P := fun d => ∃ edges', Inv nodes E0 d edges') (fun _ => ⟨edges, J⟩) fun _ =>
      ih (inv_step ho hn J)

theorem rounds_complete {L : Cbs} (hL : L.Perm nodes) (hLnames : (L.map (·.name)).Nodup)
    (hresp : ∀ e ∈ E0, Before L e.1 e.2) (fuel : Nat) (hf : nodes.length ≤ fuel + done.length) :
    (rounds ord nodes fuel done edges).length = nodes.length := by
  induction fuel generalizing done edges with
  | zero => exact Nat.le_antisymm J.subperm.length_le (Nat.zero_add done.length ▸ hf)
  | succ n ih =>
    rw [rounds_succ]
    refine ite_cases (P := fun d : Cbs => d.length = nodes.length) (fun hemp => ?_) fun hne =>
      ih (inv_step ho hn J) (fuel_step ho hne hf)
    -- the round is empty, so by `progress` nothing is unplaced
    have hall : ∀ p ∈ nodes, p ∈ done := fun p hp => Decidable.by_contra fun hpd =>
      progress J hL (nodup_of_map _ hLnames) hLnames hresp hp hpd (isEmpty_iff.mp hemp)
    exact Nat.le_antisymm J.subperm.length_le (subperm_of_subset hn hall).length_le

theorem rounds_extra_fuel (fuel k : Nat) (hf : nodes.length ≤ fuel + done.length) :
    rounds ord nodes (fuel + k) done edges = rounds ord nodes fuel done edges := by
  induction fuel generalizing done edges with
  | zero =>
    have hnil := firsts_nil_of_full (edges := edges)
      fun _ hp => (J.subperm.perm_of_length_le (Nat.zero_add done.length ▸ hf)).mem_iff.mpr hp
    cases k with
    | zero => rfl
    | succ k => rw [Nat.zero_add, rounds_succ, hnil]; rfl
  | succ n ih =>
    rw [Nat.add_right_comm, rounds_succ, rounds_succ]
    exact ite_congr rfl (fun _ => rfl) fun hne => ih (inv_step ho hn J) (fuel_step ho hne hf)

end rounds

theorem tsort_sound {ord : Ord} (ho : OrdOk ord) {nodes : Cbs} (hn : nodes.Nodup) (E0 : List Edge)
    (hlen : (tsort ord nodes E0).length = nodes.length) :
    (tsort ord nodes E0).Perm nodes ∧
    ∀ e ∈ E0, e.2 ∈ nodes.map (·.name) → Before (tsort ord nodes E0) e.1 e.2 := by
  obtain ⟨edges', J⟩ := rounds_inv ho hn (inv_init nodes E0) nodes.length
  have hperm : (tsort ord nodes E0).Perm nodes := J.subperm.perm_of_length_le (Nat.le_of_eq hlen.symm)
  exact ⟨hperm, fun e he ht => J.placed e he ((hperm.map _).mem_iff.mpr ht)⟩

/-! ### names -/

/-- registered names are unique up to case (what `getCallback` / `removeCallback` identify) -/
def WF (cbs : Cbs) : Prop := (cbs.map fun p => lower p.name).Nodup

theorem WF.names_nodup {cbs : Cbs} (h : WF cbs) : (cbs.map (·.name)).Nodup := by
  have : (cbs.map fun p => lower p.name) = (cbs.map (·.name)).map lower := by simp
  unfold WF at h
  rw [this] at h
  exact nodup_of_map _ h

theorem WF.nodup {cbs : Cbs} (h : WF cbs) : cbs.Nodup := nodup_of_map _ h

theorem WF.perm {a b : Cbs} (h : WF a) (p : b.Perm a) : WF b := ((p.map _).nodup_iff).mpr h

theorem WF.eq_of_name {cbs : Cbs} (h : WF cbs) {x y : Plugin} (hx : x ∈ cbs) (hy : y ∈ cbs)
    (e : x.name = y.name) : x = y :=
  inj_of_nodup_map h.names_nodup hx hy e

theorem getCallback_none_iff {cbs : Cbs} {n : Name} :
    getCallback cbs n = none ↔ ∀ p ∈ cbs, lower p.name ≠ lower n := by
  simp only [getCallback, find?_eq_none, beq_iff_eq, ne_eq]

theorem WF.snoc {cbs : Cbs} (h : WF cbs) {p : Plugin} (hp : getCallback cbs p.name = none) :
    WF (cbs ++ [p]) := by
  unfold WF at *
  simp only [map_append, map_cons, map_nil]
  refine nodup_append.mpr ⟨h, by simp, ?_⟩
  intro a ha b hb hab
  obtain ⟨q, hq, rfl⟩ := mem_map.mp ha
  simp only [mem_singleton] at hb
  subst hab
  exact getCallback_none_iff.mp hp q hq hb

/-! ### Owner first, Misc last -/

theorem before_irrefl {l : Cbs} (hn : (l.map (·.name)).Nodup) {a : Name} (h : Before l a a) : False := by
  obtain ⟨l1, l2, rfl, h1, h2⟩ := h
  rw [map_append] at hn
  exact (nodup_append.mp hn).2.2 a h1 a h2 rfl

theorem first_of_edges {l : Cbs} (hw : WF l) {o : Plugin} (ho : o ∈ l)
    (he : ∀ q ∈ l, q.name ≠ o.name → Before l o.name q.name) : l.head? = some o := by
  cases l with
  | nil => cases ho
  | cons h t =>
    rw [head?_cons, Option.some.injEq]
    refine Decidable.by_contra fun hne => ?_
    have hb := he h mem_cons_self fun e => hne (hw.eq_of_name mem_cons_self ho e)
    cases Before.mem_left_of_split (as := []) hw.names_nodup hb

theorem last_of_edges {l : Cbs} (hw : WF l) {m : Plugin} (hm : m ∈ l)
    (he : ∀ q ∈ l, q.name ≠ m.name → Before l q.name m.name) : l.getLast? = some m := by
  obtain ⟨as, bs, rfl⟩ := append_of_mem hm
  cases bs with
  | nil => exact getLast?_concat ..
  | cons y ys =>
    -- `y` stands after `m`, yet the list places it before `m`
    have hn := hw.names_nodup
    rw [map_append, map_cons, map_cons] at hn
    obtain ⟨_, h2, h3⟩ := nodup_append.mp hn
    have hne : y.name ≠ m.name := fun e => (nodup_cons.mp h2).1 (e ▸ mem_cons_self)
    have hy := Before.mem_left_of_split hw.names_nodup (he y (by simp) hne)
    exact absurd rfl (h3 _ hy _ (mem_cons_of_mem _ mem_cons_self))

/-! ### the edge set -/

theorem getCallback_mem {cbs : Cbs} {n : Name} {q : Plugin} (h : getCallback cbs n = some q) :
    q ∈ cbs ∧ lower q.name = lower n := by
  unfold getCallback at h
  exact ⟨mem_of_find?_eq_some h, by simpa using find?_some h⟩

/-- `p.callPrecedence`, as a relation between callbacks -/
def WantsBefore (p q : Plugin) : Prop :=
  match p.kind with
  | .owner => q.name ≠ p.name
  | .misc => False
  | .plain => ∃ n ∈ p.callBefore, lower q.name = lower n

def WantsAfter (p q : Plugin) : Prop :=
  match p.kind with
  | .owner => False
  | .misc => q.name ≠ p.name
  | .plain => ∃ n ∈ p.callAfter, lower q.name = lower n

theorem mem_others {cbs : Cbs} {p : Plugin} {x : Name} :
    x ∈ (cbs.filter fun q => q.name != p.name).map (·.name) ↔ ∃ q ∈ cbs, q.name ≠ p.name ∧ q.name = x := by
  simp only [mem_map, mem_filter, bne_iff_ne, and_assoc]

section
variable {cbs : Cbs} (h : WF cbs)
include h

theorem lower_inj_on {x y : Plugin} (hx : x ∈ cbs) (hy : y ∈ cbs) (e : lower x.name = lower y.name) : x = y :=
  inj_of_nodup_map (f := fun (p : Plugin) => lower p.name) (show (cbs.map fun p => lower p.name).Nodup from h) hx hy e

theorem getCallback_unique {q : Plugin} {n : Name} (hq : q ∈ cbs) (hn : lower q.name = lower n) :
    getCallback cbs n = some q := by
  cases hg : getCallback cbs n with
  | none => exact absurd hn (getCallback_none_iff.mp hg q hq)
  | some q' =>
    obtain ⟨hm, hl⟩ := getCallback_mem hg
    rw [lower_inj_on h hm hq (hl.trans hn.symm)]

theorem getCallback_eq_some {n : Name} {q : Plugin} :
    getCallback cbs n = some q ↔ q ∈ cbs ∧ lower q.name = lower n :=
  ⟨getCallback_mem, fun hq => getCallback_unique h hq.1 hq.2⟩

theorem mem_resolved {ns : List Name} {x : Name} :
    x ∈ (ns.filterMap (getCallback cbs)).map (·.name) ↔
      ∃ q ∈ cbs, (∃ n ∈ ns, lower q.name = lower n) ∧ q.name = x := by
  simp only [mem_map, mem_filterMap, getCallback_eq_some h]
  constructor
  · rintro ⟨q, ⟨n, hn, hq, hl⟩, rfl⟩
    exact ⟨q, hq, ⟨n, hn, hl⟩, rfl⟩
  · rintro ⟨q, hq, ⟨n, hn, hl⟩, rfl⟩
    exact ⟨q, ⟨n, hn, hq, hl⟩, rfl⟩

theorem mem_precedence (p : Plugin) (x : Name) :
    (x ∈ (precedence cbs p).1 ↔ ∃ q ∈ cbs, WantsAfter p q ∧ q.name = x) ∧
    (x ∈ (precedence cbs p).2 ↔ ∃ q ∈ cbs, WantsBefore p q ∧ q.name = x) := by
  have none : x ∈ ([] : List Name) ↔ ∃ q ∈ cbs, False ∧ q.name = x :=
    ⟨nofun, fun ⟨_, _, h, _⟩ => h.elim⟩
  unfold precedence WantsAfter WantsBefore
  cases p.kind with
  | owner => exact ⟨none, mem_others⟩
  | misc => exact ⟨mem_others, none⟩
  | plain => exact ⟨mem_resolved h, mem_resolved h⟩

theorem mem_edgesOf {e : Edge} :
    e ∈ edgesOf cbs ↔ ∃ p ∈ cbs, ∃ q ∈ cbs, (WantsBefore p q ∨ WantsAfter q p) ∧ e = (p.name, q.name) := by
  unfold edgesOf
  simp only [mem_flatMap, mem_append, mem_map, (mem_precedence h _ _).1, (mem_precedence h _ _).2]
  constructor
  · rintro ⟨r, hr, ⟨_, ⟨q, hq, hw, rfl⟩, rfl⟩ | ⟨_, ⟨q, hq, hw, rfl⟩, rfl⟩⟩
    · exact ⟨q, hq, r, hr, .inr hw, rfl⟩
    · exact ⟨r, hr, q, hq, .inl hw, rfl⟩
  · rintro ⟨p, hp, q, hq, hw | hw, rfl⟩
    · exact ⟨p, hp, .inr ⟨_, ⟨q, hq, hw, rfl⟩, rfl⟩⟩
    · exact ⟨q, hq, .inl ⟨_, ⟨p, hp, hw, rfl⟩, rfl⟩⟩

theorem edge_endpoints {e : Edge} (he : e ∈ edgesOf cbs) :
    e.1 ∈ cbs.map (·.name) ∧ e.2 ∈ cbs.map (·.name) := by
  obtain ⟨p, hp, q, hq, _, rfl⟩ := (mem_edgesOf h).mp he
  exact ⟨mem_map_of_mem hp, mem_map_of_mem hq⟩

end

theorem edgesOf_mono {a b : Cbs} (ha : WF a) (hb : WF b) (sub : ∀ p ∈ b, p ∈ a) {e : Edge}
    (h : e ∈ edgesOf b) : e ∈ edgesOf a := by
  obtain ⟨p, hp, q, hq, hw⟩ := (mem_edgesOf hb).mp h
  exact (mem_edgesOf ha).mpr ⟨p, sub p hp, q, sub q hq, hw⟩

/-- `l` places `e.1` before `e.2` for every edge `e` of `edges` -/
def Respects (l : Cbs) (edges : List Edge) : Prop := ∀ e ∈ edges, Before l e.1 e.2

/-! ### addCallback -/

theorem addCallback_elim {ord : Ord} {cbs : Cbs} {p : Plugin} {P : Except (Err × Cbs) Cbs → Prop}
    (herr : (getCallback cbs p.name ≠ none ∨
        (tsort ord (cbs ++ [p]) (edgesOf (cbs ++ [p]))).length ≠ (cbs ++ [p]).length) →
      P (.error (.assertion, cbs)))
    (hok : getCallback cbs p.name = none →
      (tsort ord (cbs ++ [p]) (edgesOf (cbs ++ [p]))).length = (cbs ++ [p]).length →
      P (.ok (tsort ord (cbs ++ [p]) (edgesOf (cbs ++ [p]))))) : P (addCallback ord cbs p) := by
  unfold addCallback
  refine ite_cases (fun h => herr (.inl (Option.isSome_iff_ne_none.mp h))) fun hnew =>
    ite_cases (fun h => herr (.inr h)) fun hlen => hok ?_ (Decidable.not_not.mp hlen)
  exact Option.not_isSome_iff_eq_none.mp hnew

theorem addCallback_error {ord : Ord} {cbs : Cbs} {p : Plugin} {e : Err} {c' : Cbs} :
    addCallback ord cbs p = .error (e, c') → c' = cbs :=
  addCallback_elim (P := fun x => x = .error (e, c') → c' = cbs)
    (fun _ h => (Prod.mk.inj (Except.error.inj h)).2.symm) fun _ _ h => nomatch h

theorem addCallback_ok {ord : Ord} (ho : OrdOk ord) {cbs : Cbs} (hw : WF cbs) {p : Plugin} {r : Cbs} :
    addCallback ord cbs p = .ok r →
    getCallback cbs p.name = none ∧ r.Perm (cbs ++ [p]) ∧ Respects r (edgesOf (cbs ++ [p])) :=
  addCallback_elim (P := fun x => x = .ok r → getCallback cbs p.name = none ∧ r.Perm (cbs ++ [p]) ∧
      Respects r (edgesOf (cbs ++ [p])))
    (fun _ h => nomatch h) fun hg hlen h => by
      cases h
      have hs := tsort_sound ho (hw.snoc hg).nodup (edgesOf (cbs ++ [p])) hlen
      exact ⟨hg, hs.1, fun e he => hs.2 e he (edge_endpoints (hw.snoc hg) he).2⟩

/-! ### permutation and removal -/

theorem getCallback_perm {a b : Cbs} (h : WF a) (p : b.Perm a) (n : Name) :
    getCallback b n = getCallback a n := by
  cases hg : getCallback a n with
  | none =>
    exact getCallback_none_iff.mpr fun q hq => getCallback_none_iff.mp hg q (p.mem_iff.mp hq)
  | some q =>
    obtain ⟨hm, hl⟩ := getCallback_mem hg
    exact getCallback_unique (h.perm p) (p.mem_iff.mpr hm) hl

theorem WF.filter {cbs : Cbs} (h : WF cbs) (k : Plugin → Bool) : WF (cbs.filter k) := by
  unfold WF at *
  exact (h.sublist ((filter_sublist).map _))

theorem filterMap_getCallback_perm {a b : Cbs} (h : WF a) (p : b.Perm a) (ns : List Name) :
    ns.filterMap (getCallback b) = ns.filterMap (getCallback a) := by
  have : getCallback b = getCallback a := funext (getCallback_perm h p)
  rw [this]

theorem edgesOf_perm {a b : Cbs} (h : WF a) (hp : b.Perm a) (e : Edge) : e ∈ edgesOf b ↔ e ∈ edgesOf a :=
  ⟨edgesOf_mono h (h.perm hp) fun _ => hp.mem_iff.mp, edgesOf_mono (h.perm hp) h fun _ => hp.mem_iff.mpr⟩

theorem resolved_self_keep {cbs : Cbs} (h : WF cbs) (k : Plugin → Bool) {ns : List Name} {p : Plugin}
    (hp : p ∈ cbs) (hk : k p = true) (hx : p.name ∈ (ns.filterMap (getCallback cbs)).map (·.name)) :
    p.name ∈ (ns.filterMap (getCallback (cbs.filter k))).map (·.name) := by
  obtain ⟨q, hq, hn, hqp⟩ := (mem_resolved h).mp hx
  exact (mem_resolved (h.filter k)).mpr ⟨p, mem_filter.mpr ⟨hp, hk⟩, h.eq_of_name hq hp hqp ▸ hn, rfl⟩

theorem Before.filter {l : Cbs} (hn : (l.map (·.name)).Nodup) (k : Plugin → Bool) {a b : Name}
    (h : Before l a b) (ha : a ∈ (l.filter k).map (·.name)) (hb : b ∈ (l.filter k).map (·.name)) :
    Before (l.filter k) a b := by
  obtain ⟨l1, l2, rfl, h1, h2⟩ := h
  have keep : ∀ (s : Cbs) (c : Name), (∀ x ∈ s, x ∈ l1 ++ l2) → c ∈ s.map (·.name) →
      c ∈ ((l1 ++ l2).filter k).map (·.name) → c ∈ (s.filter k).map (·.name) := by
    intro s c hs hc hck
    obtain ⟨x, hx, rfl⟩ := mem_map.mp hc
    obtain ⟨y, hy, hxy⟩ := mem_map.mp hck
    obtain ⟨hy1, hy2⟩ := mem_filter.mp hy
    cases inj_of_nodup_map hn hy1 (hs x hx) hxy
    exact mem_map_of_mem (mem_filter.mpr ⟨hx, hy2⟩)
  exact ⟨l1.filter k, l2.filter k, filter_append .., keep l1 a (fun _ => mem_append_left _) h1 ha,
    keep l2 b (fun _ => mem_append_right _) h2 hb⟩

/-! ### the invariant -/

/-- names unique up to case, and every constraint the registered callbacks resolve is satisfied -/
structure Good (cbs : Cbs) : Prop where
  wf : WF cbs
  resp : Respects cbs (edgesOf cbs)

theorem Good.filter {cbs : Cbs} (g : Good cbs) (k : Plugin → Bool) : Good (cbs.filter k) := by
  refine ⟨g.wf.filter k, fun e he => ?_⟩
  have hends := edge_endpoints (g.wf.filter k) he
  exact (g.resp e (edgesOf_mono g.wf (g.wf.filter k) (fun _ h => (mem_filter.mp h).1) he)).filter
    g.wf.names_nodup k hends.1 hends.2

theorem Good.of_perm {r l : Cbs} (hp : r.Perm l) (hw : WF r) (hr : Respects r (edgesOf l)) : Good r :=
  ⟨hw, fun e he => hr e ((edgesOf_perm (hw.perm hp.symm) hp e).mp he)⟩

theorem Good.add {ord : Ord} (ho : OrdOk ord) {cbs : Cbs} (g : Good cbs) {p : Plugin} {r : Cbs}
    (h : addCallback ord cbs p = .ok r) : Good r := by
  obtain ⟨hg, hp, hr⟩ := addCallback_ok ho g.wf h
  exact .of_perm hp ((g.wf.snoc hg).perm hp) hr

theorem Good.owner_first {cbs : Cbs} (g : Good cbs) {o : Plugin} (ho : o ∈ cbs) (hk : o.kind = .owner) :
    cbs.head? = some o :=
  first_of_edges g.wf ho fun q hq hne => g.resp _ <| (mem_edgesOf g.wf).mpr
    ⟨o, ho, q, hq, .inl (by unfold WantsBefore; rw [hk]; exact hne), rfl⟩

theorem Good.misc_last {cbs : Cbs} (g : Good cbs) {m : Plugin} (hm : m ∈ cbs) (hk : m.kind = .misc) :
    cbs.getLast? = some m :=
  last_of_edges g.wf hm fun q hq hne => g.resp _ <| (mem_edgesOf g.wf).mpr
    ⟨q, hq, m, hm, .inr (by unfold WantsAfter; rw [hk]; exact hne), rfl⟩

/-! ### Owner's commands -/

/-- the list an `addCallback` / re-add attempt leaves behind, successful or not -/
def resultCbs : Except (Err × Cbs) Cbs → Cbs
  | .ok c => c
  | .error e => e.2

theorem readd_one (ord : Ord) (cbs : Cbs) (p : Plugin) :
    resultCbs (readd ord cbs [p]) = resultCbs (addCallback ord cbs p) := by
  unfold readd
  cases addCallback ord cbs p <;> rfl

theorem readd_result {ord : Ord} (ho : OrdOk ord) (ps : List Plugin) {cbs : Cbs} (g : Good cbs) :
    Good (resultCbs (readd ord cbs ps)) ∧ ∀ q ∈ cbs, q ∈ resultCbs (readd ord cbs ps) := by
  induction ps generalizing cbs with
  | nil => exact ⟨g, fun _ h => h⟩
  | cons p ps ih =>
    unfold readd
    cases h : addCallback ord cbs p with
    | error e =>
      obtain ⟨er, c'⟩ := e
      cases addCallback_error h
      exact ⟨g, fun _ hq => hq⟩
    | ok r =>
      obtain ⟨i1, i2⟩ := ih (g.add ho h)
      exact ⟨i1, fun q hq => i2 q ((addCallback_ok ho g.wf h).2.1.mem_iff.mpr (mem_append_left _ hq))⟩

section
variable {ord : Ord} {cbs : Cbs} {name : Name} {avail : Option Plugin} {f : Faults} {P : Reply × Cbs → Prop}

theorem result_match (x : Except (Err × Cbs) Cbs) {r r' : Reply} :
    P (r, resultCbs x) → P (r', resultCbs x) →
    P (match x with | .ok c => (r, c) | .error (_, c) => (r', c)) := by
  cases x with
  | ok c => exact fun h _ => h
  | error e => exact fun _ h => h

theorem load_elim (hfail : ∀ r, r ≠ .success → P (r, cbs))
    (hok : ∀ p c, avail = some p → addCallback ord cbs p = .ok c → P (.success, c)) :
    P (load ord cbs name avail f) := by
  unfold load
  refine ite_cases (fun _ => hfail _ nofun) fun _ => ?_
  cases avail with
  | none => exact hfail _ nofun
  | some p =>
    refine ite_cases (fun _ => hfail _ nofun) fun _ => ite_cases (fun _ => hfail _ nofun) fun _ =>
      ite_cases (fun _ => hfail _ nofun) fun _ => ite_cases (fun _ => hfail _ nofun) fun _ => ?_
    cases he : addCallback ord cbs p with
    | error e =>
      obtain ⟨er, c'⟩ := e
      cases addCallback_error he
      exact hfail _ nofun
    | ok c => exact hok p c rfl he

theorem unload_elim (hkeep : ∀ r, P (r, cbs))
    (hrm : isOwnerName name = false → ∀ r old, getCallback cbs name = some old →
      P (r, (removeCallback cbs old.name).2)) : P (unload cbs name f) := by
  unfold unload
  refine ite_cases (fun _ => hkeep _) fun hno => ?_
  have hrm := hrm (Bool.eq_false_iff.mpr hno)
  cases hold : getCallback cbs name with
  | none => exact hkeep _
  | some old => exact ite_cases (fun _ => hrm _ old hold) fun _ => hrm _ old hold

/-- `hput`: also when nobody is registered under the name -/
theorem reload_elim (hkeep : isOwnerName name = true → ∀ r, P (r, cbs))
    (hput : isOwnerName name = false → ∀ r, r ≠ .success →
      P (r, resultCbs (readd ord (removeCallback cbs name).2 (removeCallback cbs name).1)))
    (hnew : isOwnerName name = false →
      ¬ (f.importError = true ∨ f.deprecated = true ∨ avail = none ∨ f.importOther = true) →
      ∀ r ps, P (r, resultCbs (readd ord (removeCallback cbs name).2 ps))) :
    P (reload ord cbs name avail f) := by
  unfold reload
  refine ite_cases (fun ho => hkeep ho _) fun hno => ?_
  have hput := hput (Bool.eq_false_iff.mpr hno)
  have hnew := hnew (Bool.eq_false_iff.mpr hno)
  generalize removeCallback cbs name = rc at hput hnew ⊢
  obtain ⟨bad, good⟩ := rc
  have hbad := fun r r' hr hr' => result_match (readd ord good bad) (hput r hr) (hput r' hr')
  refine ite_cases (fun he => ?_) fun _ => ite_cases (fun _ => hbad _ _ nofun nofun) fun h1 =>
    ite_cases (fun _ => hbad _ _ nofun nofun) fun h2 => ite_cases (fun _ => hbad _ _ nofun nofun) fun h3 => ?_
  · rw [isEmpty_iff.mp he] at hput
    exact hput _ nofun
  · rw [Bool.or_eq_true, Option.isNone_iff_eq_none] at h1
    have hgo := hnew fun h =>
      h.elim (fun h => h1 (.inl h)) fun h => h.elim h3 fun h => h.elim (fun h => h1 (.inr h)) h2
    clear hnew
    refine ite_cases (fun _ => hgo _ []) fun _ => ?_
    cases avail with
    | none => exact hgo _ []
    | some p =>
      have h := fun r => readd_one ord good p ▸ hgo r [p]
      dsimp only
      generalize addCallback ord good p = x at h ⊢
      cases x with
      | ok c => exact h _
      | error e => exact h _

end

theorem load_spec {ord : Ord} (ho : OrdOk ord) {cbs : Cbs} (g : Good cbs) (name : Name)
    (avail : Option Plugin) (f : Faults) :
    Good (load ord cbs name avail f).2 ∧ (∀ q ∈ cbs, q ∈ (load ord cbs name avail f).2) ∧
    ∀ q ∈ (load ord cbs name avail f).2, q ∈ cbs ∨ avail = some q := by
  refine load_elim (P := fun x => Good x.2 ∧ (∀ q ∈ cbs, q ∈ x.2) ∧ ∀ q ∈ x.2, q ∈ cbs ∨ avail = some q)
    (fun _ _ => ⟨g, fun _ h => h, fun _ h => Or.inl h⟩) (fun p c hp hc => ?_)
  have hperm := (addCallback_ok ho g.wf hc).2.1
  refine ⟨g.add ho hc, fun q hq => hperm.mem_iff.mpr (mem_append_left _ hq), fun q hq => ?_⟩
  exact (mem_append.mp (hperm.mem_iff.mp hq)).imp id fun h => by rw [hp, mem_singleton.mp h]

theorem mem_removed {cbs : Cbs} {n : Name} {q : Plugin} :
    q ∈ (removeCallback cbs n).2 ↔ q ∈ cbs ∧ lower q.name ≠ lower n := by
  simp only [removeCallback, mem_filter, Bool.not_eq_true', beq_eq_false_iff_ne]

theorem removeCallback_perm (cbs : Cbs) (n : Name) :
    ((removeCallback cbs n).2 ++ (removeCallback cbs n).1).Perm cbs := by
  unfold removeCallback
  exact (perm_append_comm).trans (filter_append_perm _ _)

theorem removed_singleton {cbs : Cbs} (h : WF cbs) {n : Name} {q : Plugin} (hq : getCallback cbs n = some q) :
    (removeCallback cbs n).1 = [q] := by
  obtain ⟨hqm, hql⟩ := getCallback_mem hq
  have : (cbs.filter fun p => lower p.name == lower n) = cbs.filter (· == q) :=
    filter_congr fun p hp => by
      rw [Bool.eq_iff_iff, beq_iff_eq, beq_iff_eq]
      exact ⟨fun e => lower_inj_on h hp hqm (e.trans hql.symm), fun e => e ▸ hql⟩
  unfold removeCallback
  rw [this, filter_beq, h.nodup.count, if_pos hqm]
  rfl

/-! ### flags and start-up -/

/-- which entries of the flag list make the start-up loader try a plugin -/
def Wanted (env : Env) (x : Name × Bool) : Prop :=
  x.2 = true ∨ (env.important.contains x.1 = true ∧ env.alwaysLoadImportant = true)

theorem startupOne_elim {ord : Ord} {env : Env} {cbs : Cbs} {x : Name × Bool} {P : Cbs → Prop} (hkeep : P cbs)
    (hload : Wanted env x →
      P (load ord cbs x.1 (env.disk x.1) { env.faults x.1 with ignoreDeprecation := true }).2) :
    P (startupOne ord env cbs x) := by
  unfold startupOne
  refine ite_cases (fun _ => hkeep) fun _ => ite_cases (fun hw => hload ?_) fun _ => hkeep
  simp only [Bool.and_eq_true, Bool.or_eq_true] at hw
  exact hw.1

theorem startupOne_spec {ord : Ord} (ho : OrdOk ord) (env : Env) {cbs : Cbs} (g : Good cbs) (x : Name × Bool) :
    Good (startupOne ord env cbs x) ∧ (∀ q ∈ cbs, q ∈ startupOne ord env cbs x) ∧
    (∀ q ∈ startupOne ord env cbs x, q ∈ cbs ∨ (Wanted env x ∧ env.disk x.1 = some q)) :=
  startupOne_elim (P := fun c => Good c ∧ (∀ q ∈ cbs, q ∈ c) ∧
      ∀ q ∈ c, q ∈ cbs ∨ (Wanted env x ∧ env.disk x.1 = some q))
    ⟨g, fun _ h => h, fun _ h => Or.inl h⟩ fun hw =>
      have ⟨h1, h2, h3⟩ := load_spec ho g x.1 (env.disk x.1) { env.faults x.1 with ignoreDeprecation := true }
      ⟨h1, h2, fun q hq => (h3 q hq).imp id fun h => ⟨hw, h⟩⟩

theorem startup_fold {ord : Ord} (ho : OrdOk ord) (env : Env) (fl : Flags) {cbs : Cbs} (g : Good cbs) :
    Good (fl.foldl (startupOne ord env) cbs) ∧ (∀ q ∈ cbs, q ∈ fl.foldl (startupOne ord env) cbs) ∧
    (∀ q ∈ fl.foldl (startupOne ord env) cbs, q ∈ cbs ∨ ∃ x ∈ fl, Wanted env x ∧ env.disk x.1 = some q) := by
  induction fl generalizing cbs with
  | nil => exact ⟨g, fun _ h => h, fun _ h => Or.inl h⟩
  | cons x xs ih =>
    obtain ⟨g1, k1, s1⟩ := startupOne_spec ho env g x
    obtain ⟨g2, k2, s2⟩ := ih g1
    exact ⟨g2, fun q hq => k2 q (k1 q hq), fun q hq => (s2 q hq).elim
      (fun h => (s1 q h).imp id fun h' => ⟨x, mem_cons_self, h'⟩)
      fun ⟨y, hy, hw⟩ => .inr ⟨y, mem_cons_of_mem _ hy, hw⟩⟩

theorem mem_insertFlag {x y : Name × Bool} {l : Flags} : y ∈ insertFlag x l ↔ y = x ∨ y ∈ l := by
  induction l with
  | nil => simp only [insertFlag, mem_singleton, not_mem_nil, or_false]
  | cons a l ih =>
    unfold insertFlag
    refine ite_cases (P := fun r => y ∈ r ↔ y = x ∨ y ∈ a :: l) (fun _ => mem_cons) fun _ => ?_
    rw [mem_cons, ih, mem_cons]
    exact or_left_comm

theorem mem_sortedFlags {y : Name × Bool} {l : Flags} : y ∈ sortedFlags l ↔ y ∈ l := by
  unfold sortedFlags
  induction l with
  | nil => simp
  | cons a l ih => simp only [foldr_cons, mem_insertFlag, ih, mem_cons]

theorem registerPlugin_set (fl : Flags) (n : Name) (b : Bool) :
    (∃ x ∈ registerPlugin fl n (some b), x.1 = n) ∧ ∀ x ∈ registerPlugin fl n (some b), x.1 = n → x.2 = b := by
  have hex : ∃ y ∈ (if hasFlag fl n then fl else fl ++ [(n, false)]), y.1 = n := by
    refine ite_cases (P := fun l : Flags => ∃ y ∈ l, y.1 = n) (fun h => ?_) fun _ =>
      ⟨(n, false), mem_append_right _ mem_cons_self, rfl⟩
    obtain ⟨y, hy, hn⟩ := any_eq_true.mp h
    exact ⟨y, hy, beq_iff_eq.mp hn⟩
  unfold registerPlugin
  dsimp only
  generalize (if hasFlag fl n = true then fl else fl ++ [(n, false)]) = fl' at hex ⊢
  constructor
  · obtain ⟨y, hy, hn⟩ := hex
    exact ⟨(y.1, b), mem_map.mpr ⟨y, hy, if_pos (beq_iff_eq.mpr hn)⟩, hn⟩
  · intro x hx
    obtain ⟨y, _, rfl⟩ := mem_map.mp hx
    exact ite_cases (P := fun z : Name × Bool => z.1 = n → z.2 = b) (fun _ _ => rfl)
      fun hne hn => absurd (beq_iff_eq.mpr hn) hne

end C20
