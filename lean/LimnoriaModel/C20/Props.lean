/-
C20 — property theorems: loading / unloading / reloading plugins keeps the dispatcher consistent.

`ord : Ord` is the iteration order of the Python sets inside `addCallback`; every theorem holds for
every `ord` that enumerates the set it is given (`OrdOk`).  `WF cbs`: registered names are unique
up to case.  `Before l a b`: `a` is placed before `b` in `l`.  `Respects l E`: every edge of `E`.
-/
import LimnoriaModel.C20.Lemmas
import LimnoriaModel.C20.Dispatch
namespace C20
open Py List

/-! ### the order computed by `addCallback` -/

/-- When `addCallback` accepts a callback, the new list is a permutation of the
old callbacks plus the new one (each exactly once) in which every resolved before/after constraint
(`callBefore`, `callAfter`, Owner-before-all, Misc-after-all) holds — for every iteration order of
the Python sets. -/
theorem order_sound {ord : Ord} (ho : OrdOk ord) {cbs : Cbs} (hw : WF cbs) {p : Plugin} {r : Cbs}
    (h : addCallback ord cbs p = .ok r) :
    r.Perm (cbs ++ [p]) ∧ WF r ∧ Respects r (edgesOf (cbs ++ [p])) := by
  obtain ⟨hg, hp, hr⟩ := addCallback_ok ho hw h
  exact ⟨hp, (hw.snoc hg).perm hp, hr⟩

/-- If the core dispatcher plugin is among the callbacks, it is element 0 of every
list `addCallback` produces. -/
theorem owner_first {ord : Ord} (ho : OrdOk ord) {cbs : Cbs} (hw : WF cbs) {p : Plugin} {r : Cbs}
    (h : addCallback ord cbs p = .ok r) {o : Plugin} (hmem : o ∈ cbs ++ [p]) (hk : o.kind = .owner) :
    r.head? = some o := by
  obtain ⟨hp, hwr, hr⟩ := order_sound ho hw h
  exact (Good.of_perm hp hwr hr).owner_first (hp.mem_iff.mpr hmem) hk

/-- Misc (which must see a message after everybody else) is the last element. -/
theorem misc_last {ord : Ord} (ho : OrdOk ord) {cbs : Cbs} (hw : WF cbs) {p : Plugin} {r : Cbs}
    (h : addCallback ord cbs p = .ok r) {m : Plugin} (hmem : m ∈ cbs ++ [p]) (hk : m.kind = .misc) :
    r.getLast? = some m := by
  obtain ⟨hp, hwr, hr⟩ := order_sound ho hw h
  exact (Good.of_perm hp hwr hr).misc_last (hp.mem_iff.mpr hmem) hk

/-- If no order of the callbacks satisfies the constraints (they are cyclic),
`addCallback` raises, and the list of callbacks is left as it was. -/
theorem cycle_rejected {ord : Ord} (ho : OrdOk ord) {cbs : Cbs} (hw : WF cbs) {p : Plugin}
    (hc : ¬ ∃ l : Cbs, l.Perm (cbs ++ [p]) ∧ Respects l (edgesOf (cbs ++ [p]))) :
    addCallback ord cbs p = .error (.assertion, cbs) := by
  cases h : addCallback ord cbs p with
  | error e =>
    obtain ⟨er, c'⟩ := e
    cases addCallback_error h
    cases er; rfl
  | ok r =>
    obtain ⟨hp, _, hr⟩ := order_sound ho hw h
    exact absurd ⟨r, hp, hr⟩ hc

/-- The converse of `cycle_rejected`.  Whenever *some* order of the callbacks
satisfies all resolved constraints, `addCallback` accepts the new callback — whatever the iteration
order of the sets: a plugin is never refused for a constraint set that can be met. -/
theorem acyclic_accepted {ord : Ord} (ho : OrdOk ord) {cbs : Cbs} (hw : WF cbs) {p : Plugin}
    (hnew : getCallback cbs p.name = none)
    (hc : ∃ l : Cbs, l.Perm (cbs ++ [p]) ∧ Respects l (edgesOf (cbs ++ [p]))) :
    ∃ r, addCallback ord cbs p = .ok r := by
  obtain ⟨l, hl, hr⟩ := hc
  have hw' := hw.snoc hnew
  have hlen : (tsort ord (cbs ++ [p]) (edgesOf (cbs ++ [p]))).length = (cbs ++ [p]).length :=
    rounds_complete ho hw'.nodup (inv_init _ _) hl (hw'.perm hl).names_nodup hr _ (by simp)
  exact addCallback_elim (P := fun x => ∃ r, x = .ok r) (fun h => h.elim (absurd hnew) (absurd hlen))
    fun _ _ => ⟨_, rfl⟩

/-- The model bounds the `while firsts:` loop by one round per callback; no run
ever needs more: with any amount of extra rounds the result is the same. -/
theorem fuel_enough {ord : Ord} (ho : OrdOk ord) {nodes : Cbs} (hn : nodes.Nodup) (E : List Edge) (k : Nat) :
    rounds ord nodes (nodes.length + k) [] E = tsort ord nodes E :=
  rounds_extra_fuel ho hn (inv_init nodes E) nodes.length k (by simp)

/-- a name that is already registered (in any capitalisation) is refused, nothing changes -/
theorem duplicate_rejected (ord : Ord) (cbs : Cbs) (p : Plugin) (q : Plugin)
    (h : getCallback cbs p.name = some q) : addCallback ord cbs p = .error (.assertion, cbs) :=
  addCallback_elim (P := fun x => x = .error (.assertion, cbs)) (fun _ => rfl)
    fun hnew _ => nomatch h ▸ hnew

/-! ### Owner's commands: failures change nothing, Owner stays -/

/-- A `load` that does not answer "success" — already loaded, no such
plugin, `ImportError` or any other exception while importing, raising constructor, rejected
constraints — leaves the list of callbacks exactly as it was. -/
theorem load_failure_preserves (ord : Ord) (cbs : Cbs) (name : Name) (avail : Option Plugin) (f : Faults)
    (h : (load ord cbs name avail f).1 ≠ .success) : (load ord cbs name avail f).2 = cbs :=
  load_elim (P := fun x => x.1 ≠ .success → x.2 = cbs) (fun _ _ _ => rfl) (fun _ _ _ _ h => absurd rfl h) h

/-- `unload` and `reload` of the core dispatcher plugin (any capitalisation) are
refused with an error and change nothing. -/
theorem owner_stays (ord : Ord) (cbs : Cbs) (name : Name) (avail : Option Plugin) (f : Faults)
    (h : isOwnerName name = true) :
    unload cbs name f = (.error "can't unload Owner", cbs) ∧
    reload ord cbs name avail f = (.error "can't reload Owner", cbs) := by
  unfold unload reload
  simp [h]

/-! ### histories -/

theorem exec_inv {ord : Ord} (ho : OrdOk ord) {cbs : Cbs} (g : Good cbs) {o : Plugin} (hm : o ∈ cbs)
    (hn : isOwnerName o.name = true) (c : Cmd) :
    Good (exec ord cbs c).2 ∧ o ∈ (exec ord cbs c).2 := by
  have hlow : ∀ name, isOwnerName name = false → lower o.name ≠ lower name := fun name h e => by
    unfold isOwnerName at hn h
    rw [← e, hn] at h
    cases h
  cases c with
  | load n a f => exact ⟨(load_spec ho g n a f).1, (load_spec ho g n a f).2.1 o hm⟩
  | unload n f =>
    exact unload_elim (name := n) (f := f) (P := fun x => Good x.2 ∧ o ∈ x.2) (fun _ => ⟨g, hm⟩)
      (fun hno _ _ hold => ⟨g.filter _, mem_removed.mpr ⟨hm, (getCallback_mem hold).2 ▸ hlow n hno⟩⟩)
  | reload n a f =>
    have hre := fun hno ps => (readd_result ho ps (g.filter fun p => !(lower p.name == lower n))).imp id
      fun h => h o (mem_removed.mpr ⟨hm, hlow n hno⟩)
    exact reload_elim (P := fun x => Good x.2 ∧ o ∈ x.2) (fun _ _ => ⟨g, hm⟩) (fun hno _ _ => hre hno _)
      fun hno _ _ => hre hno

/-- Start from a dispatcher list with unique names, satisfied constraints and the
core dispatcher plugin in it.  After *any* sequence of `load` / `unload` / `reload` commands — any
names and capitalisations, any available plugins with any `callBefore`/`callAfter` sets, any
injected import / constructor / die failures, any iteration order of the Python sets at every
step — each registered name is still unique (each plugin exactly once), every resolved
before/after constraint holds in the list, and the core dispatcher plugin is still registered and
is element 0. -/
theorem history_inv (cbs : Cbs) (g : Good cbs) (o : Plugin) (hm : o ∈ cbs) (hk : o.kind = .owner)
    (hn : isOwnerName o.name = true) (cs : List (Ord × Cmd)) (hord : ∀ c ∈ cs, OrdOk c.1) :
    WF (runCmds cbs cs) ∧ Respects (runCmds cbs cs) (edgesOf (runCmds cbs cs)) ∧
    o ∈ runCmds cbs cs ∧ (runCmds cbs cs).head? = some o := by
  induction cs generalizing cbs with
  | nil => exact ⟨g.wf, g.resp, hm, g.owner_first hm hk⟩
  | cons c cs ih =>
    obtain ⟨ord, cmd⟩ := c
    have h := exec_inv (hord (ord, cmd) mem_cons_self) g hm hn cmd
    exact ih _ h.1 h.2 (fun c hc => hord c (mem_cons_of_mem _ hc))

/-- `reload` of a loaded plugin whose module cannot be imported any
more — `ImportError`, deprecated without `--deprecated`, no such plugin, or any other exception
while importing (syntax error …) —
answers with an error and leaves exactly the previously registered plugins registered: the old
instance, untouched so far, is put back (its position may change, all constraints still hold). -/
theorem reload_failure_preserves {ord : Ord} (ho : OrdOk ord) {cbs : Cbs} (g : Good cbs) (name : Name)
    (avail : Option Plugin) (f : Faults) (hno : isOwnerName name = false)
    (hl : (getCallback cbs name).isSome)
    (hf : f.importError = true ∨ f.deprecated = true ∨ avail = none ∨ f.importOther = true) :
    (reload ord cbs name avail f).1 ≠ .success ∧ (reload ord cbs name avail f).2.Perm cbs ∧
    Good (reload ord cbs name avail f).2 := by
  obtain ⟨q, hq⟩ := Option.isSome_iff_exists.mp hl
  have hql := (getCallback_mem hq).2
  have hbad := removed_singleton g.wf hq
  have hperm := removeCallback_perm cbs name
  rw [hbad] at hperm
  have gf : Good (removeCallback cbs name).2 := g.filter _
  have hnew : getCallback (removeCallback cbs name).2 q.name = none :=
    getCallback_none_iff.mpr fun x hx hc => (mem_removed.mp hx).2 (hc.trans hql)
  have hw' := gf.wf.snoc hnew
  -- the list as it was is an admissible order for the re-add, so the re-add is accepted
  obtain ⟨r, hr⟩ := acyclic_accepted ho gf.wf hnew
    ⟨cbs, hperm.symm, fun e he => g.resp e ((edgesOf_perm hw' hperm.symm e).mpr he)⟩
  refine reload_elim (P := fun x => x.1 ≠ .success ∧ x.2.Perm cbs ∧ Good x.2)
    (fun h => absurd h (hno ▸ nofun)) (fun _ r' hr' => ⟨hr', ?_⟩) fun _ h => absurd hf h
  rw [hbad, readd_one, hr]
  exact ⟨(addCallback_ok ho gf.wf hr).2.1.trans hperm, gf.add ho hr⟩

/-! ### persisted flags and the start-up loader (`Owner._loadPlugins`, run when a network connects) -/

/-- The start-up loader keeps the invariant (unique names, all constraints,
hence Owner first), never drops a registered plugin, and everything it adds is a plugin found on
disk under a name whose flag `supybot.plugins.<Name>` is set (or that is "important" while
`alwaysLoadImportant` is on) — whatever fails on the way (every failure is swallowed). -/
theorem startup_inv {ord : Ord} (ho : OrdOk ord) (env : Env) (b : Bot) (g : Good b.cbs) :
    Good (startup ord env b).cbs ∧ (∀ q ∈ b.cbs, q ∈ (startup ord env b).cbs) ∧
    (∀ q ∈ (startup ord env b).cbs, q ∈ b.cbs ∨ ∃ x ∈ b.flags, Wanted env x ∧ env.disk x.1 = some q) ∧
    (startup ord env b).flags = b.flags :=
  ⟨(startup_fold ho env _ g).1, (startup_fold ho env _ g).2.1,
   fun q hq => ((startup_fold ho env _ g).2.2 q hq).imp id
     fun ⟨x, hx, hw⟩ => ⟨x, mem_sortedFlags.mp hx, hw⟩, rfl⟩

/-- A plugin that is not registered, whose flag is off and that is not
forced by `alwaysLoadImportant`, is not brought back by a reconnect. -/
theorem unloaded_stays_out {ord : Ord} (ho : OrdOk ord) (env : Env) (b : Bot) (g : Good b.cbs) (q : Plugin)
    (hq : q ∉ b.cbs) (hoff : ∀ x ∈ b.flags, env.disk x.1 = some q → ¬ Wanted env x) :
    q ∉ (startup ord env b).cbs := by
  intro hm
  rcases (startup_inv ho env b g).2.2.1 q hm with h | ⟨x, hx, hw, hd⟩
  · exact hq h
  · exact hoff x hx hd hw

/-- A successful `load` leaves the plugin's flag set (so the next start loads it
again); an `unload` that finds the plugin leaves its flag cleared. -/
theorem flag_tracks (ord : Ord) (b : Bot) (name : Name) (p : Plugin) (f : Faults) :
    ((loadB ord b name (some p) f).1 = .success →
      (∃ x ∈ (loadB ord b name (some p) f).2.flags, x.1 = p.name) ∧
      ∀ x ∈ (loadB ord b name (some p) f).2.flags, x.1 = p.name → x.2 = true) ∧
    (isOwnerName name = false → ∀ old, getCallback b.cbs name = some old →
      (∃ x ∈ (unloadB b name f).2.flags, x.1 = old.name) ∧
      ∀ x ∈ (unloadB b name f).2.flags, x.1 = old.name → x.2 = false) := by
  constructor
  · intro hs
    have : (loadB ord b name (some p) f).2.flags = registerPlugin _ p.name (some true) := if_pos hs
    rw [this]
    exact registerPlugin_set _ _ _
  · intro hno old hold
    unfold unloadB
    simp only [hno, Bool.false_eq_true, if_false, hold]
    exact registerPlugin_set _ _ _

/-! ### several networks -/

theorem execOn_ref (ord : Ord) (w : World) (i : Nat) (c : Cmd) : (execOn ord w i c).2.ref = w.ref := rfl

theorem runOn_ref (w : World) (h : List (Ord × Nat × Cmd)) : (runOn w h).ref = w.ref := by
  induction h generalizing w with
  | nil => rfl
  | cons x xs ih => obtain ⟨ord, i, c⟩ := x; exact (ih _).trans (execOn_ref ord w i c)

/-- All `Irc` objects start out referring to the same list object; after any
history of `load` / `unload` / `reload` commands arriving on any of the networks they still all see
the same registration list (no command rebinds `self.callbacks`). -/
theorem shared_view (w : World) (hs : ∀ i j, w.ref.getD i 0 = w.ref.getD j 0)
    (h : List (Ord × Nat × Cmd)) (i j : Nat) : (runOn w h).view i = (runOn w h).view j := by
  unfold World.view
  rw [runOn_ref, hs i j]

/-- … and what they all see is the single-list history of the model above, whichever network each
command arrived on: `history_inv` applies to every network's view. -/
theorem shared_history (w : World) (hs : ∀ i j, w.ref.getD i 0 = w.ref.getD j 0)
    (hr : w.ref.getD 0 0 < w.heap.length) (h : List (Ord × Nat × Cmd)) (i : Nat) :
    (runOn w h).view i = runCmds (w.view i) (h.map fun x => (x.1, x.2.2)) := by
  induction h generalizing w with
  | nil => rfl
  | cons x xs ih =>
    obtain ⟨ord, k, c⟩ := x
    have hs' : ∀ a b, (execOn ord w k c).2.ref.getD a 0 = (execOn ord w k c).2.ref.getD b 0 := hs
    have hr' : (execOn ord w k c).2.ref.getD 0 0 < (execOn ord w k c).2.heap.length := by
      show w.ref.getD 0 0 < (w.heap.set _ _).length
      rw [length_set]; exact hr
    show (runOn (execOn ord w k c).2 xs).view i = runCmds (exec ord (w.view i) c).2 _
    rw [ih _ hs' hr']
    congr 1
    unfold World.view execOn
    simp only
    rw [hs i k]
    have hk : w.ref.getD k 0 < w.heap.length := by rw [hs k 0]; exact hr
    generalize w.ref.getD k 0 = r at hk
    rw [List.getD_eq_getElem?_getD, List.getElem?_set_self hk]
    rfl

/-- every handle refers to the module-level list (object 0) -/
def AllDefault (w : World) : Prop := ∀ r ∈ w.ref, r = 0

theorem view_default {w : World} (h : AllDefault w) (i : Nat) : w.view i = w.heap.getD 0 [] := by
  unfold World.view
  congr 1
  by_cases hi : i < w.ref.length
  · rw [List.getD_eq_getElem?_getD, List.getElem?_eq_getElem hi]
    exact h _ (List.getElem_mem hi)
  · rw [List.getD_eq_getElem?_getD, List.getElem?_eq_none (by omega)]; rfl

theorem runNet_default (w : World) (h : AllDefault w) (cs : List NetCmd) : AllDefault (runNet w cs) := by
  induction cs generalizing w with
  | nil => exact h
  | cons c cs ih =>
    cases c with
    | cmd ord i c => exact ih _ h
    | connect => exact ih _ fun r hr => (mem_append.mp hr).elim (h r) mem_singleton.mp
    | disconnect i => exact ih _ fun r hr => h r (mem_of_mem_eraseIdx hr)

/-- Networks may be connected and disconnected at any point of a
history of load / unload / reload commands: every `Irc` object that exists afterwards — also one
created *after* all the loads — sees the same registration list (and therefore answers the same
union of commands). -/
theorem late_network_sees_all (w : World) (h : AllDefault w) (cs : List NetCmd) (i j : Nat) :
    (runNet w cs).view i = (runNet w cs).view j := by
  rw [view_default (runNet_default w h cs) i, view_default (runNet_default w h cs) j]

theorem foldl_none {α β} (f : Option α → β → Option α) (hf : ∀ x, f none x = none) (l : List β) :
    l.foldl f none = none := by
  induction l with
  | nil => rfl
  | cons x xs ih => rw [foldl_cons, hf, ih]

/-- Applying the registered renames to the version of a plugin found on
disk changes nothing but command names: name, kind and constraints — everything the order theorems
depend on — and the number of commands stay the same. -/
theorem renames_keep_identity (rn : Renames) (p q : Plugin) (h : applyRenames rn p = some q) :
    q.name = p.name ∧ q.kind = p.kind ∧ q.callBefore = p.callBefore ∧ q.callAfter = p.callAfter ∧
    q.commands.length = p.commands.length := by
  unfold applyRenames at h
  generalize (rn.filter fun x => x.1 == p.name) = l at h
  induction l generalizing p with
  | nil => cases h; exact ⟨rfl, rfl, rfl, rfl, rfl⟩
  | cons x xs ih =>
    simp only [foldl_cons] at h
    by_cases hc : (p.commands.contains x.2.1 && !p.commands.contains x.2.2) = true
    · rw [if_pos hc] at h
      obtain ⟨h1, h2, h3, h4, h5⟩ := ih _ h
      exact ⟨h1, h2, h3, h4, h5.trans (length_map _)⟩
    · rw [if_neg hc, foldl_none _ (fun _ => rfl)] at h; cases h

/-! ### commands -/

/-- The commands the dispatcher can route are exactly those of the registered
callbacks; in particular a successful `addCallback` adds exactly the new plugin's commands. -/
theorem commands_union {ord : Ord} (ho : OrdOk ord) {cbs : Cbs} (hw : WF cbs) {p : Plugin} {r : Cbs}
    (h : addCallback ord cbs p = .ok r) (c : Name) :
    c ∈ answered r ↔ c ∈ answered cbs ∨ c ∈ p.commands := by
  simp only [answered, mem_flatMap, (order_sound ho hw h).1.mem_iff, mem_append, mem_singleton, or_and_right,
    exists_or, exists_eq_left]

/-- The same statement through C14's model of the real dispatcher
(`findCallbacksForArgs` + `finalEval`, imported from C14): for a canonical one-word command, the
dispatcher over the current list finds no plugin exactly when no registered plugin has the command,
and when exactly one registered plugin has it, that plugin (at its position in the list) is run —
whatever `importantPlugins` says. -/
theorem commands_dispatch (cbs : Cbs) (hw : WF cbs) (imp : List Name) (c : Name)
    (hc : C14.canonicalName c = c) :
    (c ∉ answered cbs → C14.dispatch (dispCfg cbs imp) [c] = .none) ∧
    (∀ p ∈ cbs, c ∈ p.commands → (∀ q ∈ cbs, c ∈ q.commands → q = p) →
      ∃ i, cbs[i]? = some p ∧ C14.dispatch (dispCfg cbs imp) [c] = .run i p.name [c] []) := by
  constructor
  · intro h
    apply dispatch_none cbs imp c hc
    intro p hp hcp
    exact h (by unfold answered; exact mem_flatMap.mpr ⟨p, hp, hcp⟩)
  · intro p hp hcp huniq
    obtain ⟨l1, l2, rfl⟩ := append_of_mem hp
    -- nobody else in the list has the command: such a `q` would be `p`, which occurs once
    have hno : ∀ q ∈ l1 ++ l2, c ∉ q.commands := fun q hq hcq =>
      (nodup_cons.mp (hw.nodup.perm perm_middle)).1
        (huniq q (mem_append.mpr ((mem_append.mp hq).imp id (mem_cons_of_mem _))) hcq ▸ hq)
    exact ⟨l1.length, by simp, dispatch_unique _ imp c hc l1 l2 p rfl hcp
      (fun q hq => hno q (mem_append_left _ hq)) fun q hq => hno q (mem_append_right _ hq)⟩

/-! ### non-vacuity, and the two recorded defects -/

def pOwner : Plugin := ⟨"Owner".toList, .owner, [], [], []⟩
def pMisc : Plugin := ⟨"Misc".toList, .misc, [], [], []⟩
def pA : Plugin := ⟨['A'], .plain, [['B']], [], [['a']]⟩     -- callBefore = ['B']
def pB : Plugin := ⟨['B'], .plain, [], [], [['b']]⟩
def pB' : Plugin := ⟨['B'], .plain, [['A']], [], [['b']]⟩    -- callBefore = ['A']: closes a cycle with pA
def pS : Plugin := ⟨['S'], .plain, [['S'], "Owner".toList], [], []⟩   -- names itself and wants to precede Owner

deriving instance DecidableEq for Except
instance (cbs : Cbs) : Decidable (WF cbs) := by unfold WF; exact inferInstance
instance (l : Cbs) (E : List Edge) : Decidable (Respects l E) := by unfold Respects; exact inferInstance

example : OrdOk id := fun _ => Perm.refl _
example : WF [pOwner, pB, pMisc] := by decide +kernel
/-- accepted: A is placed before B, Owner first, Misc last -/
example : addCallback id [pOwner, pB, pMisc] pA = .ok [pOwner, pA, pB, pMisc] := by decide +kernel
/-- rejected, list unchanged: B' → A → B' -/
example : addCallback id [pOwner, pA, pMisc] pB' = .error (.assertion, [pOwner, pA, pMisc]) := by decide +kernel
example : isOwnerName "OWNER".toList = true := by decide +kernel
example : C14.canonicalName ['a'] = ['a'] := by decide +kernel
example : C14.dispatch (dispCfg [pOwner, pA, pB, pMisc] []) [['a']] = .run 1 ['A'] [['a']] [] :=
  dispatch_unique _ _ _ (by decide) [pOwner] [pB, pMisc] pA rfl (by decide) (by decide) (by decide)
/-- start-up: A's flag is on, B's is off, Misc is important: A and Misc are loaded, B is not -/
example : (startup id ⟨fun n => if n = ['A'] then some pA else if n = ['B'] then some pB else
      if n = pMisc.name then some pMisc else none, fun _ => {}, [pMisc.name], true⟩
    ⟨[pOwner], [(['A'], true), (['B'], false), (pMisc.name, false)]⟩).cbs = [pOwner, pA, pMisc] := by decide +kernel
example : Good [pOwner, pA, pB, pMisc] := ⟨by decide +kernel, by decide +kernel⟩

/-- Finding C20-reload-loses-plugin.  "A plugin whose constructor raises
leaves the previously loaded set registered" is false for `reload`: the old instance is removed and
killed before the new one is built. -/
theorem reload_ctor_counter :
    (reload id [pOwner, pB, pMisc] ['B'] (some pB) { ctorRaises := true }).2 = [pOwner, pMisc] := by
  decide +kernel

/-- What remains of "a raising constructor leaves the previously loaded
set registered" for `reload`: nothing *else* is lost — the result is the old list without the
reloaded name.  (The old instance has been `die()`d before the new one is built; building the new
one first would run two instances of a plugin side by side, which plugins holding a named
scheduler event or an HTTP hook cannot bear.) -/
theorem reload_failure_partial (ord : Ord) (cbs : Cbs) (name : Name) (p : Plugin) (f : Faults)
    (h1 : f.importError = false) (h2 : f.importOther = false) (h3 : f.deprecated = false)
    (hf : f.ctorRaises = true)
    (hno : isOwnerName name = false) (hl : ((removeCallback cbs name).1).isEmpty = false) :
    reload ord cbs name (some p) f = (.exception, (removeCallback cbs name).2) := by
  unfold reload
  simp [hno, hl, h1, h2, h3, hf]

/-- A plugin that names itself in `callBefore` or `callAfter` (in any
capitalisation) declares a cycle of length one: it is refused and the list stays as it was. -/
theorem self_reference_rejected {ord : Ord} (ho : OrdOk ord) {cbs : Cbs} (hw : WF cbs) {p : Plugin}
    (hk : p.kind = .plain) (hnew : getCallback cbs p.name = none) {n : Name}
    (hn : n ∈ p.callBefore ∨ n ∈ p.callAfter) (hl : lower n = lower p.name) :
    addCallback ord cbs p = .error (.assertion, cbs) := by
  apply cycle_rejected ho hw
  rintro ⟨l, hperm, hresp⟩
  have hw' := (hw.snoc hnew)
  have hp : p ∈ cbs ++ [p] := mem_append_right _ mem_cons_self
  have hedge : (p.name, p.name) ∈ edgesOf (cbs ++ [p]) := by
    refine (mem_edgesOf hw').mpr ⟨p, hp, p, hp, ?_, rfl⟩
    unfold WantsBefore WantsAfter
    rw [hk]
    exact hn.imp (fun hn => ⟨n, hn, hl.symm⟩) fun hn => ⟨n, hn, hl.symm⟩
  exact before_irrefl (hw'.perm hperm).names_nodup (hresp _ hedge)

example : addCallback id [pOwner, pMisc] pS = .error (.assertion, [pOwner, pMisc]) := by decide +kernel

end C20
