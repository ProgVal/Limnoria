/-
C01 — capability-gated commands never take effect for callers lacking the capability.
Property theorems (DESIGN.md §6 C01).  Every statement quantifies over all databases `db`
(users, channels, default capabilities, flags), all times `now`, all callers `m.pfx`, all channels
`m.channel`, all plugin names and command paths — nothing is bounded.

The body of a command is reached only through `invoke … = .body _`, which needs `gate … = .allow`
(the prefix loop of `_callCommand`) and then every converter of the wrap spec to return.
-/
import LimnoriaModel.C01.Lemmas
import LimnoriaModel.C01.Required
import LimnoriaModel.C01.Total
namespace C01
open Py C03

/-- the capability names `_callCommand` checks, in order: "Y", then "P", "P.X", "P.X.Y" -/
def checkedNames (pluginName : Str) (command : List Str) (y : Str) : List Str :=
  y :: (prefixes (fullCommandName (canonicalName pluginName) command)).map (joinChar '.')

/-- when the class name lower-cases to its canonical name (true of every bundled plugin,
`plugin_names_canonical` below) the loop performs exactly the checks of `checkedNames` -/
theorem gateChecks_eq (db : Db) (now : Int) (m : Msg) (P : Str) (cmd : List Str) (y : Str)
    (hP : canonicalName P = asciiLower P) (hne : cmd ≠ []) :
    gateChecks db now m P cmd y = (checkedNames P cmd y).map (checkName db now m) := by
  unfold gateChecks checkedNames
  simp only [List.map_cons, List.map_map, List.cons.injEq, true_and]
  obtain ⟨rest, hr⟩ := fullCommandName_head (canonicalName P) cmd hne
  rw [hr]
  apply List.map_congr_left
  intro p hp
  obtain ⟨t, ht⟩ := prefixes_start hp
  subst ht
  simp only [Function.comp, checkPath, ← hP, resolvePath_cons]

/-- **The gate allows exactly when every check allows** (complete characterisation of the
decision taken before `self.callCommand`). -/
theorem gate_allow_iff (db : Db) (now : Int) (m : Msg) (P : Str) (cmd : List Str)
    (hP : canonicalName P = asciiLower P) :
    gate db now m P cmd = .allow ↔
      ∃ y, cmd.getLast? = some y ∧ ∀ n ∈ checkedNames P cmd y, checkName db now m n = .allow := by
  unfold gate
  cases hy : cmd.getLast? with
  | none => simp
  | some y =>
    have hne := ne_nil_of_getLast? hy
    simp only [Option.some.injEq, exists_eq_left']
    rw [firstDeny_allow_iff, gateChecks_eq db now m P cmd y hP hne]
    simp only [List.mem_map, forall_exists_index, and_imp, forall_apply_eq_imp_iff₂]

example : canonicalName ['O', 'w', 'n', 'e', 'r'] = asciiLower ['O', 'w', 'n', 'e', 'r'] := by decide +kernel

/-- a plugin whose class name does not lower-case to its canonical name is refused wholesale
(the `assert commandName[0] == plugin` of `checkCommandCapability` fails closed) -/
theorem gate_name_mismatch (db : Db) (now : Int) (m : Msg) (P : Str) (cmd : List Str)
    (hP : canonicalName P ≠ asciiLower P) : gate db now m P cmd ≠ .allow := by
  unfold gate
  split
  · simp
  · rename_i y hy
    obtain ⟨gs, hg⟩ := gateChecks_plugin db now m P y (ne_nil_of_getLast? hy)
    rw [hg]
    apply firstDeny_ne_allow_of_mem (List.mem_cons_of_mem _ List.mem_cons_self)
    have : (canonicalName P == asciiLower P) = false := by simpa using hP
    simp [checkPath, resolvePath, this]

example : canonicalName ['M', 'y', '_', 'P'] ≠ asciiLower ['M', 'y', '_', 'P'] := by decide +kernel

theorem gate_allow_checks {db : Db} {now : Int} {m : Msg} {P : Str} {cmd : List Str} {y : Str}
    (h : gate db now m P cmd = .allow) (hy : cmd.getLast? = some y) :
    ∀ n ∈ checkedNames P cmd y, checkName db now m n = .allow := by
  by_cases hP : canonicalName P = asciiLower P
  · obtain ⟨y', hy', hall⟩ := (gate_allow_iff db now m P cmd hP).1 h
    cases hy.symm.trans hy'
    exact hall
  · exact absurd h (gate_name_mismatch db now m P cmd hP)

/-- **gate_forbidden**: if the caller's effective answer for the anti-capability of any of
"Y", "P", "P.X", "P.X.Y" is true, the command method is not called.  Independent of identity,
addressing form and wrapper: the gate is a function of `(msg.prefix, msg.channel, plugin, path)`. -/
theorem gate_forbidden (db : Db) (now : Int) (m : Msg) (P : Str) (cmd : List Str) (y n anti : Str)
    (hy : cmd.getLast? = some y) (hn : n ∈ checkedNames P cmd y)
    (hanti : makeAntiCapability n = .ok anti)
    (hheld : db.checkCapability now m.pfx anti = .ok true) :
    gate db now m P cmd ≠ .allow :=
  fun h => checkName_ne_allow_of_held hanti hheld (gate_allow_checks h hy n hn)

/-- the same for an anti-capability scoped to the channel the message was sent to
(`#chan,-Y`, `#chan,-P`, …), held by the user, by the channel or through the channel default -/
theorem gate_forbidden_channel (db : Db) (now : Int) (m : Msg) (P : Str) (cmd : List Str)
    (y n anti ch chanAnti : Str)
    (hy : cmd.getLast? = some y) (hn : n ∈ checkedNames P cmd y)
    (hanti : makeAntiCapability n = .ok anti)
    (hch : m.channel = some ch) (hca : makeChannelCapability ch anti = .ok chanAnti)
    (hheld : db.checkCapability now m.pfx chanAnti = .ok true) :
    gate db now m P cmd ≠ .allow :=
  fun h => checkName_ne_allow_of_held_channel hanti hch hca hheld (gate_allow_checks h hy n hn)

/-- the plugin's own (lower-cased) name is always among the checked names: the prefix loop
doubles as the `owner` / `admin` capability check -/
theorem gate_checks_plugin (P : Str) (cmd : List Str) (y : Str) (hy : cmd.getLast? = some y) :
    canonicalName P ∈ checkedNames P cmd y := by
  have hne := ne_nil_of_getLast? hy
  obtain ⟨rest, hr⟩ := fullCommandName_head (canonicalName P) cmd hne
  unfold checkedNames
  rw [hr]
  apply List.mem_cons_of_mem
  have := List.mem_map_of_mem (f := joinChar '.') (prefixes_head (canonicalName P) rest)
  simpa [joinChar] using this

theorem gate_refuses_plugin {db : Db} {now : Int} {m : Msg} {P p anti : Str} {cmd : List Str}
    (hP : canonicalName P = p) (hanti : makeAntiCapability p = .ok anti)
    (hheld : db.checkCapability now m.pfx anti = .ok true) : gate db now m P cmd ≠ .allow := by
  cases hy : cmd.getLast? with
  | none => simp [gate, hy]
  | some y =>
    exact gate_forbidden db now m P cmd y p anti hy (hP ▸ gate_checks_plugin P cmd y hy) hanti hheld

/-- a caller "is a recognised, non-ignored owner" exactly when the negation of this holds -/
def NotOwner (db : Db) (now : Int) (h : Str) : Prop :=
  ∀ u, db.recognise now h = some u → u.ignore = true ∨ (ownerS ∉ u.caps ∧ antiOwnerS ∉ u.caps)

/-- the capability decision the whole mechanism rests on: with `-owner` among the defaults,
everybody but a recognised non-ignored owner "holds" `-owner` -/
theorem check_antiowner (db : Db) (now : Int) (h : Str)
    (hdef : antiOwnerS ∈ db.defaults) (hu : NotOwner db now h) :
    db.checkCapability now h antiOwnerS = .ok true := by
  have e : db.checkCapability now h antiOwnerS = _ := checkCapability_render lcap_owner true db now h {}
  rw [e]
  have hd : lookW true db.defaults ownerS ('-' :: ownerS) = some false := by
    simp [lookW, Spec.look, show ('-' :: ownerS) ∈ db.defaults from hdef]
  cases hr : db.recognise now h with
  | none => simp [Spec.holdsW, Spec.globalLevelW, hd]
  | some u =>
    rcases hu u hr with hi | ⟨ho, ha⟩
    · simp [Spec.holdsW, Spec.userLevelW, asksOwner, hi]
    · simp [Spec.holdsW, Spec.userLevelW, asksOwner, own, Spec.look, ho, ha]

/-- **gate_antiowner**: if `-owner` is a default capability and the caller is not a recognised
non-ignored owner, no command of a plugin named `Owner` is called, whatever the command path,
the channel and the rest of the database; and when the "Y" check lets the call through, the
reply names `owner`. -/
theorem gate_antiowner (db : Db) (now : Int) (m : Msg) (P : Str) (cmd : List Str)
    (hP : canonicalName P = ownerS)
    (hdef : antiOwnerS ∈ db.defaults) (hu : NotOwner db now m.pfx) :
    gate db now m P cmd ≠ .allow :=
  gate_refuses_plugin hP (by decide +kernel) (check_antiowner db now m.pfx hdef hu)

example : canonicalName ['O', 'w', 'n', 'e', 'r'] = ownerS := by decide +kernel
example : NotOwner {} 0 ['j', '!', 'j', '@', 'h'] := by
  intro u hu; simp [Db.recognise, Db.lookup] at hu

/-- the same mechanism for any plugin `P` and default anti-capability `-p` (`Admin` / `-admin`):
a caller who is not an owner and does not hold `p` never reaches a command of `P` -/
theorem gate_antiplugin (db : Db) (now : Int) (m : Msg) (P p : Str) (cmd : List Str)
    (hP : canonicalName P = p) (hp : PlainCap p)
    (hdef : ('-' :: p) ∈ db.defaults)
    (hu : ∀ u, db.recognise now m.pfx = some u →
      u.ignore = true ∨ (ownerS ∉ u.caps ∧ antiOwnerS ∉ u.caps ∧ p ∉ u.caps)) :
    gate db now m P cmd ≠ .allow :=
  gate_refuses_plugin hP hp.2.2.2.2.2.1 (check_anti_of_default db now m.pfx p hp hdef hu)

def adminS : Str := ['a', 'd', 'm', 'i', 'n']

/-- instance for the `Admin` plugin -/
theorem gate_antiadmin (db : Db) (now : Int) (m : Msg) (cmd : List Str)
    (hdef : ('-' :: adminS) ∈ db.defaults)
    (hu : ∀ u, db.recognise now m.pfx = some u →
      u.ignore = true ∨ (ownerS ∉ u.caps ∧ antiOwnerS ∉ u.caps ∧ adminS ∉ u.caps)) :
    gate db now m ['A', 'd', 'm', 'i', 'n'] cmd ≠ .allow :=
  gate_antiplugin db now m _ adminS cmd (by decide +kernel) (by decide +kernel) hdef hu

example : PlainCap adminS := by decide +kernel
example : PlainCap ['s', 'c', 'h', 'e', 'd', 'u', 'l', 'e', 'r', '.', 'a', 'd', 'd'] := by decide +kernel

/-- the reply names `owner`: when the "Y" check lets the call through, the first loop iteration
(`P` = owner) answers `denied "owner"` -/
theorem gate_antiowner_reply (db : Db) (now : Int) (m : Msg) (P : Str) (cmd : List Str) (y : Str)
    (hP : canonicalName P = ownerS) (hL : asciiLower P = ownerS)
    (hdef : antiOwnerS ∈ db.defaults) (hu : NotOwner db now m.pfx)
    (hy : cmd.getLast? = some y) (hyallow : checkName db now m y = .allow) :
    gate db now m P cmd = .denied ownerS := by
  have hown : checkName db now m ownerS = .denied ownerS := by
    have h1 : makeAntiCapability ownerS = .ok antiOwnerS := makeAnti_render chanOK_none baseOK_owner
    have h2 : isAntiCapability antiOwnerS = true := isAnti_render (a := true) chanOK_none baseOK_owner
    have h3 : unAntiCapability antiOwnerS = .ok ownerS := unAnti_render chanOK_none baseOK_owner
    simp only [checkName, h1, antiHit, h2, Bool.not_true, Bool.false_eq_true, ↓reduceIte,
      check_antiowner db now m.pfx hdef hu, deniedBy, h3]
  obtain ⟨gs, hg⟩ := gateChecks_plugin db now m P y (ne_nil_of_getLast? hy)
  have hp : checkPath db now m (asciiLower P) [canonicalName P] = .denied ownerS := by
    rw [checkPath, hP, hL, resolvePath_cons]
    exact hown
  simp only [gate, hy, hg, hyallow, hp, firstDeny]

theorem checkCapability_touch (db : Db) (now : Int) (h cap ch : Str) (fl : Flags) :
    (db.touchChannel ch).checkCapability now h cap fl = db.checkCapability now h cap fl :=
  touch_invisible_check db ch now h cap fl

theorem gate_congr {db db' : Db} {now : Int} {m : Msg}
    (hc : ∀ cap fl, db'.checkCapability now m.pfx cap fl = db.checkCapability now m.pfx cap fl)
    (hdf : db'.defaultFlag = db.defaultFlag) (hg : ∀ c, db'.getChannel c = db.getChannel c)
    (P : Str) (cmd : List Str) : gate db' now m P cmd = gate db now m P cmd := by
  have hany : ∀ l, anyHeld db' now m.pfx l = anyHeld db now m.pfx l := by
    intro l
    induction l with
    | nil => rfl
    | cons c cs ih => simp only [anyHeld, hc, ih]
  have hname : ∀ n, checkName db' now m n = checkName db now m n := by
    intro n
    simp only [checkName, checkNameInChannel, antiHit, finish, hc, hany, hdf, hg]
  have hpath : checkPath db' now m (asciiLower P) = checkPath db now m (asciiLower P) := by
    funext p
    simp only [checkPath, hname]
  simp only [gate, gateChecks, hname, hpath]

/-- the channel record `getChannel` creates on the way (the only state a refused call leaves
behind) changes no later gate decision -/
theorem gate_touch (db : Db) (now : Int) (m : Msg) (P : Str) (cmd : List Str) (ch : Str) :
    gate (db.touchChannel ch) now m P cmd = gate db now m P cmd :=
  gate_congr (fun cap fl => checkCapability_touch db now m.pfx cap ch fl)
    (by unfold Db.touchChannel; split <;> rfl) (getChannel_touch db ch) P cmd

/-! ## converters -/

theorem runSpec_ok_mem {db : Db} {now : Int} {m : Msg} {oth : Nat → CState → Option CState}
    {items : List Item} {i : Nat} {st st' : CState} (hrun : runSpec db now m oth i items st = .ok st')
    {it : Item} (hmem : it ∈ items) : ∃ j s s', runItem db now m oth j it s = .ok s' := by
  induction items generalizing i st with
  | nil => cases hmem
  | cons x rest ih =>
    unfold runSpec at hrun
    split at hrun
    · cases hrun
    · rename_i st1 hx
      rcases List.mem_cons.1 hmem with rfl | h
      · exact ⟨i, st, st1, hx⟩
      · exact ih hrun h

theorem convCap_ok {db : Db} {now : Int} {m : Msg} {c : Str} {io : Bool} {st st' : CState}
    (h : convCap db now m c io st = .ok st') :
    ∃ c', canonicalCapability c = .ok c' ∧
      db.checkCapability now m.pfx c' { ignoreOwner := io } = .ok true := by
  unfold convCap at h
  split at h
  · cases h
  · rename_i c' hc
    split at h
    · cases h
    · rename_i hk; exact ⟨c', hc, hk⟩
    · cases h

theorem convChanCap_ok {db : Db} {now : Int} {m : Msg} {c : Str} {st st' : CState}
    (h : convChanCap db now m c st = .ok st') :
    ∃ st1 ch cc, getChannel m st = .ok st1 ∧ st1.channel = some ch ∧ chanCapName ch c = .ok cc ∧
      db.checkCapability now m.pfx cc = .ok true := by
  unfold convChanCap at h
  split at h
  · cases h
  · rename_i st1 hg
    split at h
    · cases h
    · rename_i ch hch
      split at h
      · cases h
      · rename_i cc hn
        split at h
        · cases h
        · rename_i hk; exact ⟨st1, ch, cc, hg, hch, hn, hk⟩
        · cases h

/-- **converter_guard**: whatever the unmodelled converters `oth` do, and wherever in the spec it
stands, a top-level `owner` / `admin` / `('checkCapability', c)` lets the spec driver reach the end
only if the capability check answered true. -/
theorem converter_guard (db : Db) (now : Int) (m : Msg) (oth : Nat → CState → Option CState)
    (items : List Item) (i : Nat) (st st' : CState) (c : Str)
    (hmem : Item.cap c ∈ items)
    (hrun : runSpec db now m oth i items st = .ok st') :
    ∃ c', canonicalCapability c = .ok c' ∧ db.checkCapability now m.pfx c' = .ok true := by
  obtain ⟨_, _, _, h⟩ := runSpec_ok_mem hrun hmem
  exact convCap_ok h

/-- the same for `('checkCapabilityButIgnoreOwner', c)`: the check is made with `ignoreOwner` -/
theorem converter_guard_noowner (db : Db) (now : Int) (m : Msg) (oth : Nat → CState → Option CState)
    (items : List Item) (i : Nat) (st st' : CState) (c : Str)
    (hmem : Item.capNoOwner c ∈ items)
    (hrun : runSpec db now m oth i items st = .ok st') :
    ∃ c', canonicalCapability c = .ok c' ∧
      db.checkCapability now m.pfx c' { ignoreOwner := true } = .ok true := by
  obtain ⟨_, _, _, h⟩ := runSpec_ok_mem hrun hmem
  exact convCap_ok h

/-- **converter_guard_chan**: a top-level `op` / `halfop` / `voice` /
`('checkChannelCapability', c)` lets the driver through only if the caller holds `#ch,c` for the
channel `getChannel` chose (an explicit first argument, else the channel of the message). -/
theorem converter_guard_chan (db : Db) (now : Int) (m : Msg) (oth : Nat → CState → Option CState)
    (items : List Item) (i : Nat) (st st' : CState) (c : Str)
    (hmem : Item.chancap c ∈ items)
    (hrun : runSpec db now m oth i items st = .ok st') :
    ∃ ch cc, chanCapName ch c = .ok cc ∧ db.checkCapability now m.pfx cc = .ok true := by
  obtain ⟨_, _, _, h⟩ := runSpec_ok_mem hrun hmem
  obtain ⟨_, ch, cc, _, _, hn, hk⟩ := convChanCap_ok h
  exact ⟨ch, cc, hn, hk⟩

theorem getChannel_fresh {m : Msg} {args : List Str} {st1 : CState} {ch : Str}
    (hg : getChannel m { args := args } = .ok st1) (hch : st1.channel = some ch) :
    args.head?.filter isChannel = some ch ∨
      (args.head?.filter isChannel = none ∧ m.channel = some ch) := by
  unfold getChannel at hg
  cases args with
  | nil =>
    simp only at hg
    split at hg
    · rename_i ch' hmc
      cases hg
      exact Or.inr ⟨rfl, by simpa [hmc] using hch⟩
    · cases hg
  | cons a as =>
    simp only at hg
    split at hg
    · rename_i ha
      cases hg; exact Or.inl (by simpa [Option.filter, ha] using hch)
    · rename_i ha
      split at hg
      · rename_i ch' hmc
        cases hg
        exact Or.inr ⟨by simp [Option.filter, ha], by simpa [hmc] using hch⟩
      · cases hg

/-- when the channel converter stands first, the channel it asks about is determined by the
arguments and the message: an explicit channel argument, else the message's channel -/
theorem chancap_first_channel (db : Db) (now : Int) (m : Msg) (oth : Nat → CState → Option CState)
    (rest : List Item) (args : List Str) (st' : CState) (c : Str)
    (hrun : runSpec db now m oth 0 (Item.chancap c :: rest) { args := args } = .ok st') :
    ∃ ch cc, (args.head?.filter isChannel = some ch ∨
              (args.head?.filter isChannel = none ∧ m.channel = some ch)) ∧
      chanCapName ch c = .ok cc ∧ db.checkCapability now m.pfx cc = .ok true := by
  unfold runSpec at hrun
  split at hrun
  · cases hrun
  · rename_i st1 hit
    obtain ⟨st2, ch, cc, hg, hch, hn, hk⟩ := convChanCap_ok hit
    exact ⟨ch, cc, getChannel_fresh hg hch, hn, hk⟩

/-- **invoke_body_requires**: the wrapped function runs only if the gate allowed and the whole
spec returned; every other outcome is a reply (error / help) without the body. -/
theorem invoke_body_requires (db : Db) (now : Int) (m : Msg) (P : Str) (cmd : List Str)
    (spec : List Item) (allowExtra : Bool) (oth : Nat → CState → Option CState) (args : List Str)
    (st : CState)
    (h : invoke db now m P cmd spec allowExtra oth args = .body st) :
    gate db now m P cmd = .allow ∧ runSpec db now m oth 0 spec { args := args } = .ok st := by
  unfold invoke at h
  split at h <;> try cases h
  rename_i hg
  split at h <;> try cases h
  rename_i st1 hr
  split at h
  · cases h
  · cases h; exact ⟨hg, hr⟩

/-- end to end for the `Owner` plugin: no caller but a recognised non-ignored owner ever runs the
body of one of its commands — whatever the wrap spec, the arguments and the other converters -/
theorem owner_plugin_body_needs_owner (db : Db) (now : Int) (m : Msg) (P : Str) (cmd : List Str)
    (spec : List Item) (allowExtra : Bool) (oth : Nat → CState → Option CState) (args : List Str)
    (hP : canonicalName P = ownerS) (hdef : antiOwnerS ∈ db.defaults) (hu : NotOwner db now m.pfx) :
    (invoke db now m P cmd spec allowExtra oth args).isBody = false := by
  cases h : invoke db now m P cmd spec allowExtra oth args with
  | body st =>
    exact absurd (invoke_body_requires db now m P cmd spec allowExtra oth args st h).1
      (gate_antiowner db now m P cmd hP hdef hu)
  | _ => rfl

/-- end to end for a command behind `owner` / `admin` / `('checkCapability', c)` -/
theorem guarded_body_needs_capability (db : Db) (now : Int) (m : Msg) (P : Str) (cmd : List Str)
    (spec : List Item) (allowExtra : Bool) (oth : Nat → CState → Option CState) (args : List Str)
    (c : Str) (hmem : Item.cap c ∈ spec)
    (hlack : ∀ c', canonicalCapability c = .ok c' → db.checkCapability now m.pfx c' ≠ .ok true) :
    (invoke db now m P cmd spec allowExtra oth args).isBody = false := by
  cases h : invoke db now m P cmd spec allowExtra oth args with
  | body st =>
    obtain ⟨_, hr⟩ := invoke_body_requires db now m P cmd spec allowExtra oth args st h
    obtain ⟨c', hc, hk⟩ := converter_guard db now m oth spec 0 _ st c hmem hr
    exact absurd hk (hlack c' hc)
  | _ => rfl

/-- **The gate never crashes**: for every database (arbitrary stored capability sets), time and
caller, when the plugin's name is canonical, the message's channel is a channel name and every
checked name is a plain word, `_callCommand`'s decision is allow / denied / default-denied — never
an assertion failure or an escaping KeyError. -/
theorem gate_no_crash (db : Db) (now : Int) (m : Msg) (P : Str) (cmd : List Str) (y : Str)
    (hP : canonicalName P = asciiLower P) (hy : cmd.getLast? = some y)
    (hnames : ∀ n ∈ checkedNames P cmd y, validBase n = true)
    (hch : ChanOK m.channel) (e : Err) : gate db now m P cmd ≠ .crash e := by
  have hne := ne_nil_of_getLast? hy
  unfold gate
  rw [hy]
  simp only
  rw [gateChecks_eq db now m P cmd y hP hne]
  rcases firstDeny_mem ((checkedNames P cmd y).map (checkName db now m)) with h | h
  · rw [h]; simp
  · intro hc
    rw [hc] at h
    obtain ⟨n, hn, hcn⟩ := List.mem_map.1 h
    exact checkName_no_crash db now m n (baseOK_of_valid (hnames n hn)) hch e hcn

theorem checkedNames_plain {P : Str} {cmd : List Str} {y : Str}
    (hP : plainWord (canonicalName P) = true) (hcmd : ∀ x ∈ cmd, plainWord x = true) (hy : y ∈ cmd) :
    ∀ n ∈ checkedNames P cmd y, validBase n = true := by
  intro n hn
  rcases List.mem_cons.1 hn with rfl | hn
  · exact plainWord_valid (hcmd n hy)
  · obtain ⟨p, hp, rfl⟩ := List.mem_map.1 hn
    obtain ⟨hne, hsub⟩ := prefixes_sub hp
    refine plainWord_valid (plainWord_join hne fun x hx => ?_)
    have := hsub x hx
    unfold fullCommandName at this
    split at this
    · rcases List.mem_cons.1 this with rfl | h
      · exact hP
      · exact hcmd x h
    · exact hcmd x this

/-- obligation on the generated table: canonical class names, plain words throughout -/
theorem inventory_rows_ok :
    Gen.commands.all (fun r =>
      canonicalName r.plugin == asciiLower r.plugin && plainWord (asciiLower r.plugin) &&
        r.path.all plainWord && !r.path.isEmpty) = true := by
  decide +kernel

theorem inventory_row {r : Gen.CommandRow} (hr : r ∈ Gen.commands) :
    canonicalName r.plugin = asciiLower r.plugin ∧ plainWord (canonicalName r.plugin) = true ∧
      (∀ x ∈ r.path, plainWord x = true) ∧ r.path ≠ [] := by
  have h := List.all_eq_true.1 inventory_rows_ok r hr
  simp only [Bool.and_eq_true, beq_iff_eq, List.all_eq_true, Bool.not_eq_true',
    List.isEmpty_eq_false_iff] at h
  obtain ⟨⟨⟨h1, h2⟩, h3⟩, h4⟩ := h
  exact ⟨h1, h1 ▸ h2, h3, h4⟩

/-- every name the gate builds for a command of the inventory (called directly or
plugin-qualified) is a plain word: `gate_no_crash` applies to every bundled command -/
theorem inventory_names_plain :
    Gen.commands.all (fun r =>
      match r.path.getLast? with
      | none => false
      | some y =>
        ((checkedNames r.plugin r.path y) ++ (checkedNames r.plugin (canonicalName r.plugin :: r.path) y)).all validBase) = true := by
  rw [List.all_eq_true]
  intro r hr
  obtain ⟨_, hP, hpath, hne⟩ := inventory_row hr
  cases hy : r.path.getLast? with
  | none => exact absurd (List.getLast?_eq_none_iff.1 hy) hne
  | some y =>
    have hm := List.mem_of_getLast? hy
    simp only [List.all_append, Bool.and_eq_true, List.all_eq_true]
    exact ⟨checkedNames_plain hP hpath hm,
      checkedNames_plain hP (List.forall_mem_cons.2 ⟨hP, hpath⟩) (List.mem_cons_of_mem _ hm)⟩

/-! ## re-dispatch sites: whose message reaches the gate -/

/-- at every re-dispatch site but the scheduler's (and `acmd`, which dispatches nothing) the gate
is asked about the message being handled: the capability hypothesis of the gate theorems is about
the caller whose message it is -/
theorem site_msg_is_current (s : Site) (cur stored : RawMsg) (h1 : s ≠ .scheduled) (h2 : s ≠ .acmd) :
    siteMsg s cur stored = some cur := by
  cases s <;> simp_all [siteMsg]

/-- a scheduled command is gated against the message of the caller who scheduled it (on the
database as it is when the event fires), never against whoever happens to be talking -/
theorem site_msg_scheduled (cur stored : RawMsg) : siteMsg .scheduled cur stored = some stored := rfl

/-- hence: a command replayed by the scheduler for a caller who is not (or no longer) an owner never
reaches an `Owner` command, whoever is talking when it fires -/
theorem scheduled_owner_command_refused (db : Db) (now : Int) (cur stored : RawMsg) (sm : Str) (strict : Bool)
    (P : Str) (cmd : List Str) (r : RawMsg)
    (hr : siteMsg .scheduled cur stored = some r)
    (hP : canonicalName P = ownerS) (hdef : antiOwnerS ∈ db.defaults)
    (hu : NotOwner db now stored.pfx) :
    gate db now (r.toMsg sm strict) P cmd ≠ .allow := by
  have : r = stored := by simpa [siteMsg] using hr.symm
  subst this
  exact gate_antiowner db now _ P cmd hP hdef hu

def wOwner : User := { id := 1, name := ['b', 'o', 's', 's'], caps := [ownerS],
                       hostmasks := [['o', '!', 'o', '@', 'h']] }
def wOp : User := { id := 2, name := ['o', 'p'], caps := [['#', 'c', ',', 'o', 'p']],
                    hostmasks := [['p', '!', 'p', '@', 'h']] }
def wDb : Db := { Db.initial with users := [wOwner, wOp] }

/-- FULL STATEMENT (false on the pinned tree, finding C01-trigger-runs-as-speaker): "a stored
command is gated against the caller who stored it":
  ∀ site cur stored, siteMsg site cur stored = some r → r.pfx = (whoever issued the command text).pfx
For `MessageParser` the command text was issued by the user who added the trigger, the message is
the speaker's.  Proved part: `site_msg_is_current` / `site_msg_scheduled` (what reaches the gate);
counter-example: the trigger added by a channel op (not an owner) runs an `Owner` command when the
owner speaks. -/
theorem trigger_runs_with_speakers_authority :
    NotOwner wDb 0 ['p', '!', 'p', '@', 'h'] ∧
    (∃ r, siteMsg .trigger ⟨['o', '!', 'o', '@', 'h'], ['#', 'c']⟩ ⟨['p', '!', 'p', '@', 'h'], ['#', 'c']⟩ = some r ∧
      gate wDb 0 (r.toMsg [] false) ['O', 'w', 'n', 'e', 'r'] [['f', 'l', 'u', 's', 'h']] = .allow) := by
  constructor
  · intro u hu
    have : u = wOp := by
      have h2 : wDb.recognise 0 ['p', '!', 'p', '@', 'h'] = some wOp := by decide +kernel
      rw [h2] at hu; exact (Option.some.inj hu).symm
    subst this
    right; decide
  · exact ⟨_, rfl, by decide +kernel⟩

/-- the same adder, speaking himself, is refused (the gate is sound for the message it is given) -/
example : gate wDb 0 (RawMsg.toMsg [] false ⟨['p', '!', 'p', '@', 'h'], ['#', 'c']⟩) ['O', 'w', 'n', 'e', 'r'] [['f', 'l', 'u', 's', 'h']] = .denied ownerS := by
  decide +kernel

/-- `msg.channel` is a function of `args[0]` alone; with `strictRfc` off a STATUSMSG prefix is
stripped, so `@#chan` is gated like `#chan` -/
example : msgChannel ['@', '+'] false ['@', '#', 'c'] = some ['#', 'c'] := by decide +kernel
example : msgChannel ['@', '+'] true ['@', '#', 'c'] = none := by decide +kernel

/-! ## ignored callers -/

/-- **ignored_silent**: when `ircdb.checkIgnored(msg.prefix)` is true `Owner.doPrivmsg` returns
before tokenising: no command, no reply. -/
theorem ignored_silent (db : Db) (ig : IgnoreDb) (di : Bool) (now : Int) (h : Str)
    (hi : checkIgnored db ig di now h = .ok true) :
    ownerDoPrivmsg db ig di now h = .silent := by
  unfold ownerDoPrivmsg
  split
  · rfl
  · simp [hi]

/-- a sender whose prefix is not `nick!user@host` (a server, a service, a gateway relaying with a bare
nick) is never dispatched: such a prefix is nobody's identity, in particular not an account name -/
theorem bare_prefix_silent (db : Db) (ig : IgnoreDb) (di : Bool) (now : Int) (h : Str)
    (hh : isUserHostmask h = false) : ownerDoPrivmsg db ig di now h = .silent := by
  simp [ownerDoPrivmsg, hh]

/-- … and even if a command reached the gate with such a prefix (a MessageParser trigger, a stored
message), no account's capabilities apply: commands of the `Owner` plugin are refused -/
theorem bare_prefix_never_owner (db : Db) (now : Int) (m : Msg) (P : Str) (cmd : List Str)
    (hh : isUserHostmask m.pfx = false) (hP : canonicalName P = ownerS) (hdef : antiOwnerS ∈ db.defaults) :
    gate db now m P cmd ≠ .allow :=
  gate_antiowner db now m P cmd hP hdef fun _ hu =>
    nomatch (recognise_needs_hostmask db now m.pfx hh).symm.trans hu

/-- nothing is dispatched unless the caller is positively known not to be ignored -/
theorem dispatch_requires_not_ignored (db : Db) (ig : IgnoreDb) (di : Bool) (now : Int) (h : Str)
    (hd : ownerDoPrivmsg db ig di now h = .dispatch) :
    checkIgnored db ig di now h = .ok false ∧ isUserHostmask h = true := by
  unfold ownerDoPrivmsg at hd
  split at hd
  · cases hd
  · rename_i hh
    split at hd <;> try cases hd
    rename_i hc
    exact ⟨hc, by simpa using hh⟩

/-- a registered user carrying the ignore flag is ignored (even an owner: the flag makes
`_checkCapability('trusted')` answer false) -/
theorem ignore_flag_ignored (db : Db) (ig : IgnoreDb) (di : Bool) (now : Int) (h : Str) (u : User)
    (hh : isUserHostmask h = true)
    (hl : db.lookup now h = .found u) (hflag : u.ignore = true) :
    checkIgnored db ig di now h = .ok true := by
  unfold checkIgnored ignoredGlobal
  rw [hh, if_pos rfl, hl]
  simp only
  have : u.checkCapability trustedS = .ok false := by
    unfold User.checkCapability
    simp only [hflag, ↓reduceIte]
    decide +kernel
  rw [this]
  simp [hflag]

/-- an unregistered hostmask matched by a live entry of the ignore database is ignored -/
theorem ignores_db_ignored (db : Db) (ig : IgnoreDb) (di : Bool) (now : Int) (h : Str)
    (hl : db.lookup now h = .missing) (hm : ig.check now h = true) :
    checkIgnored db ig di now h = .ok true := by
  have hlk : (if isUserHostmask h = true then db.lookup now h else Lookup.missing) = Lookup.missing := by
    split
    · exact hl
    · rfl
  unfold checkIgnored ignoredGlobal
  rw [hlk]
  cases di <;> simp [hm]

theorem isEmpty_of_hostmask {h : Str} (hh : isUserHostmask h = true) : h.isEmpty = false := by
  cases h with
  | nil => simp [isUserHostmask, userHostBody] at hh
  | cons c cs => rfl

/-- a caller ignored globally or by the channel the message was sent to never reaches the
dispatcher: `PluginMixin.__call__` does not even call `Owner.doPrivmsg` -/
theorem channel_ignored_silent (db : Db) (ig : IgnoreDb) (di : Bool) (now : Int) (h : Str)
    (recipient : Option Str) (chan : Str → ChanIgn)
    (hh : isUserHostmask h = true)
    (hi : checkIgnoredIn db ig di now h recipient chan = .ok true) :
    received db ig di now h recipient chan = .silent := by
  simp [received, pluginSees, hh, isEmpty_of_hostmask hh, hi]

/-- a command is dispatched only if both tests answered "not ignored" -/
theorem received_dispatch_requires (db : Db) (ig : IgnoreDb) (di : Bool) (now : Int) (h : Str)
    (recipient : Option Str) (chan : Str → ChanIgn)
    (hh : isUserHostmask h = true)
    (hd : received db ig di now h recipient chan = .dispatch) :
    checkIgnoredIn db ig di now h recipient chan = .ok false ∧ checkIgnored db ig di now h = .ok false := by
  unfold received pluginSees at hd
  simp only [hh, isEmpty_of_hostmask hh, Bool.not_true, Bool.or_self, Bool.false_eq_true, ↓reduceIte] at hd
  split at hd <;> try cases hd
  rename_i hp
  split at hp <;> try cases hp
  rename_i b hc
  cases b
  · exact ⟨hc, (dispatch_requires_not_ignored db ig di now h hd).1⟩
  · cases hp

/-- a live channel ban or channel ignore matching the caller silences them in that channel -/
theorem channel_ban_ignored (db : Db) (ig : IgnoreDb) (di : Bool) (now : Int) (h ch : Str)
    (chan : Str → ChanIgn) (e : Str × Int)
    (hg : ignoredGlobal db ig di now h = .ok none)
    (hch : isChannel ch = true) (hh : isUserHostmask h = true)
    (hmem : e ∈ (chan ch).bans ∨ e ∈ (chan ch).ignores)
    (hlive : banLive now e = true) (hmatch : glob e.1 h = true) :
    checkIgnoredIn db ig di now h (some ch) chan = .ok true := by
  unfold checkIgnoredIn
  rw [hg]
  simp only [hch, ↓reduceIte]
  unfold ChanIgn.check
  by_cases hl : (chan ch).lobotomized = true
  · simp [hl]
  · simp only [hl, Bool.false_eq_true, ↓reduceIte, hh, Bool.not_true, Except.ok.injEq, Bool.or_eq_true,
      List.any_eq_true, Bool.and_eq_true]
    rcases hmem with hm | hm
    · left; exact ⟨e, hm, hlive, hmatch⟩
    · right; exact ⟨e, hm, hlive, hmatch⟩

/-- a trusted user (owners included) is never ignored, not even in a lobotomized channel -/
theorem trusted_never_ignored (db : Db) (ig : IgnoreDb) (di : Bool) (now : Int) (h : Str) (u : User)
    (recipient : Option Str) (chan : Str → ChanIgn)
    (hh : isUserHostmask h = true)
    (hl : db.lookup now h = .found u) (ht : u.checkCapability trustedS = .ok true) :
    checkIgnoredIn db ig di now h recipient chan = .ok false := by
  simp [checkIgnoredIn, ignoredGlobal, hh, hl, ht]

/-! ## the flood guard -/

/-- with the flood guard on, a command is dispatched only if the caller is not ignored and either
stayed within the rate or is trusted -/
theorem flood_dispatch_requires (db : Db) (ig : IgnoreDb) (di : Bool) (now : Int) (h : Str)
    (on : Bool) (queued maximum : Nat) (bm : Str) (pun : Int) (ig' : IgnoreDb)
    (hd : ownerDoPrivmsgFlood db ig di now h on queued maximum bm pun = (.dispatch, ig')) :
    checkIgnored db ig di now h = .ok false ∧ ig' = ig ∧
      (on = false ∨ queued ≤ maximum ∨ db.checkCapability now h trustedS = .ok true) := by
  unfold ownerDoPrivmsgFlood at hd
  split at hd
  · cases hd
  · split at hd <;> try cases hd
    rename_i hc
    split at hd <;> try cases hd
    rename_i hf
    refine ⟨hc, rfl, ?_⟩
    unfold floodGuard at hf
    split at hf
    · split at hf <;> try cases hf
      rename_i ht
      exact Or.inr (Or.inr ht)
    · rename_i hg
      cases on
      · exact Or.inl rfl
      · exact Or.inr (Or.inl (by simpa using hg))

/-- the entry a punishment adds makes the ignore database match the caller for as long as it lives
(when the ban mask matches the caller) -/
theorem flood_punishment_ignores (ig : IgnoreDb) (bm h : Str) (t now' : Int)
    (hm : glob bm h = true) (hlive : now' ≤ t) :
    IgnoreDb.check { entries := ig.entries ++ [(bm, t)] } now' h = true := by
  unfold IgnoreDb.check
  simp only [List.any_append, List.any_cons, List.any_nil, Bool.or_false, Bool.or_eq_true]
  right
  simp only [ignoreLive, hm, Bool.and_true, Bool.not_eq_true', Bool.and_eq_false_iff, bne_eq_false_iff_eq,
    decide_eq_false_iff_not, Int.not_lt]
  right
  omega

/-! ## channel-operator commands act on the channel the caller was checked for -/

/-- `Channel.capability add / remove`: the capability argument `c` is stored as
`makeChannelCapability(channel, c)` with the channel the `op` converter checked.  Whatever `c` is —
also a string that itself looks like a channel capability such as `#b,op` — the stored capability
belongs to THAT channel (`fromChannelCapability` gives back `(channel, c)`), never to the channel
named inside the argument: an #a op cannot hand out #b capabilities. -/
theorem chancap_argument_scoped (channel c stored : Str)
    (h : makeChannelCapability channel c = .ok stored) :
    chanSplit stored = some (channel, c) := by
  unfold makeChannelCapability at h
  by_cases hc : isCapability c = true
  · by_cases hch : isChannel channel = true
    · simp only [hc, hch, Bool.not_true, Bool.false_eq_true, if_false, Except.ok.injEq] at h
      rw [← h]
      exact chanSplit_chan hch hc
    · simp [hc, hch] at h
  · simp [hc] at h

example : makeChannelCapability ['#', 'a'] ['#', 'b', ',', 'o', 'p'] = .ok ['#', 'a', ',', '#', 'b', ',', 'o', 'p'] := by decide +kernel
example : chanSplit ['#', 'a', ',', '#', 'b', ',', 'o', 'p'] = some (['#', 'a'], ['#', 'b', ',', 'o', 'p']) := by decide +kernel

theorem voice_op_or_self (n : Str) (nicks : List Str) :
    voiceCapability n nicks = opS ∨ voiceTargets n nicks = [n] := by
  match nicks with
  | [] => exact Or.inr rfl
  | [x] =>
    by_cases hx : x = n
    · subst hx; exact Or.inr rfl
    · exact Or.inl (by simp [voiceCapability, hx])
  | _ :: _ :: _ => exact Or.inl rfl

/-- **voice / devoice act on others only for channel ops**: if the body of `voice` / `devoice` sends
a mode change for any nick other than the caller's own — wherever in the list the caller's nick
stands, however many nicks there are — the caller holds `#chan,op`; `#chan,voice` alone only ever
reaches the caller himself. -/
theorem voice_others_needs_op (db : Db) (now : Int) (h callerNick channel : Str) (nicks targets : List Str)
    (t : Str) (hout : voiceBody db now h callerNick channel nicks = .modes targets)
    (ht : t ∈ targets) (hne : t ≠ callerNick) :
    ∃ cap, makeChannelCapability channel opS = .ok cap ∧ db.checkCapability now h cap = .ok true := by
  unfold voiceBody at hout
  split at hout
  · cases hout
  · rename_i cap hm
    split at hout
    · cases hout
    · rename_i hk
      cases hout
      rcases voice_op_or_self callerNick nicks with hop | hself
      · exact ⟨cap, hop ▸ hm, hk⟩
      · rw [hself, List.mem_singleton] at ht
        exact absurd ht hne
    · cases hout

example : voiceCapability ['j', 'o', 'e'] [['j', 'o', 'e'], ['a', 'l']] = opS := by decide +kernel
example : voiceCapability ['j', 'o', 'e'] [['j', 'o', 'e']] = voiceS := by decide +kernel
example : voiceCapability ['j', 'o', 'e'] [['J', 'o', 'e']] = opS := by decide +kernel

/-! ## configuration writes -/

/-- **config_write_guard**: `group.set(value)` is reached only for a name that is not read-only and
only when the caller holds the capability `getCapability` computes, which is `owner` or
`#chan,op` for a channel component of the name; `#chan,op` only when every group on the path is
op-settable. -/
theorem config_write_guard (db : Db) (now : Int) (m : Msg) (allowShell : Bool)
    (opSettable : List Str → Bool) (parts partsLower : List Str)
    (h : checkCanSetValue db now m allowShell opSettable parts partsLower = .pass) :
    isReadOnly allowShell partsLower = false ∧
    ∃ root rest cap, parts = root :: rest ∧ getCapability opSettable parts = .ok cap ∧
      db.checkCapability now m.pfx cap = .ok true ∧
      (cap = ownerS ∨
        ((∃ part ∈ rest, isChannel part = true ∧ makeChannelCapability part opS = .ok cap) ∧
         ∀ k, 0 < k → k ≤ rest.length → opSettable ([root] ++ rest.take k) = true)) := by
  unfold checkCanSetValue at h
  split at h
  · cases h
  · rename_i hro
    split at h <;> try cases h
    rename_i cap hg
    split at h <;> try cases h
    rename_i hk
    cases parts with
    | nil => cases hg
    | cons root rest =>
      refine ⟨by simpa using hro, root, rest, cap, rfl, hg, hk, ?_⟩
      obtain ⟨hA, hB⟩ := cfgLoop_spec opSettable [root] rest ownerS cap hg
      by_cases hc : cap = ownerS
      · exact Or.inl hc
      · exact Or.inr ⟨(hA.resolve_left hc).resolve_left hc, hB hc⟩

/-- `Config.channel` with several channels: a channel's value is written only if the check made
FOR THAT CHANNEL passed (the permission for the first listed channel says nothing about the others) -/
theorem config_channel_each_checked (check : Str → CfgOut) (chs : List Str) (ch : Str)
    (h : ch ∈ (setChannels check chs).1) : check ch = .pass := by
  induction chs with
  | nil => cases h
  | cons c rest ih =>
    unfold setChannels at h
    split at h
    · rename_i hc
      rcases List.mem_cons.1 h with rfl | h
      · exact hc
      · exact ih h
    · cases h

/-- … and nothing after the first refused channel is written -/
theorem config_channel_stops (check : Str → CfgOut) (pre post : List Str) (ch : Str)
    (hpre : ∀ c ∈ pre, check c = .pass) (hch : check ch ≠ .pass) :
    setChannels check (pre ++ ch :: post) = (pre, check ch) := by
  induction pre with
  | nil =>
    simp only [List.nil_append]
    unfold setChannels
    cases hc : check ch with
    | pass => exact absurd hc hch
    | readOnly => rfl
    | noCapability x => rfl
    | crash e => rfl
  | cons c rest ih =>
    have h1 := hpre c List.mem_cons_self
    have h2 := ih (fun x hx => hpre x (List.mem_cons_of_mem _ hx))
    simp only [List.cons_append, setChannels, h1, h2]

/-- read-only names (`supybot.commands.allowShell` off → on, `supybot.directories.*`) are never
written through the bot unless `allowShell` is already on -/
theorem readonly_never_written (db : Db) (now : Int) (m : Msg)
    (opSettable : List Str → Bool) (parts partsLower : List Str)
    (h : isReadOnly false partsLower = true) :
    checkCanSetValue db now m false opSettable parts partsLower = .readOnly := by
  simp [checkCanSetValue, h]

example : isReadOnly false [supybotS, directoriesS, ['c', 'o', 'n', 'f']] = true := by decide +kernel
example : isReadOnly false [commandsS, allowshellS] = true := by decide +kernel

/-! ## supybot.capabilities -/

/-- after any assignment of `supybot.capabilities` (without `--allow-default-owner`) the stored set
contains `-owner` and does not contain `owner` -/
theorem defaults_antiowner_not_owner (v : List Str) (s : CapSet) (h : setDefaults false v = .ok s) :
    antiOwnerS ∈ s ∧ ownerS ∉ s := by
  unfold setDefaults at h
  split at h
  · cases h
  · rename_i s0 hs
    split at h
    · exact add_antiOwner h
    · rename_i hc
      injection h with h; subst h
      have hm : antiOwnerS ∈ s0 := by simpa using hc
      exact ⟨hm, ofList_owner_excl hs hm⟩

/-- **defaults_have_antiowner**: whatever list is assigned to `supybot.capabilities` (without
`--allow-default-owner`), the stored set contains `-owner`. -/
theorem defaults_have_antiowner (v : List Str) (s : CapSet) (h : setDefaults false v = .ok s) :
    antiOwnerS ∈ s :=
  (defaults_antiowner_not_owner v s h).1

/-- … and when `-owner` had to be added, `owner` is gone -/
theorem defaults_drop_owner (v : List Str) (s0 s : CapSet) (h0 : CapSet.ofList v = .ok s0)
    (hm : antiOwnerS ∉ s0) (h : setDefaults false v = .ok s) : ownerS ∉ s := by
  unfold setDefaults at h
  simp only [h0, hm, decide_false, Bool.not_false, Bool.and_self, if_true] at h
  exact (add_antiOwner h).2

example : setDefaults false [ownerS] = .ok [antiOwnerS] := by decide +kernel

/-! ## obligations on what was extracted from /repo (checked again on every run) -/

/-- the shipped default capabilities contain `-owner`, `-admin` and `-trusted` -/
theorem shipped_defaults_ok :
    antiOwnerS ∈ Db.initial.defaults ∧ ('-' :: adminS) ∈ Db.initial.defaults ∧
    ('-' :: trustedS) ∈ Db.initial.defaults := by decide +kernel

/-- is `(kind, capability)` a top-level spec item of the row `(plugin, path)` of the generated table? -/
def rowHas (pl : Str) (path : List Str) (k : String) (a : Str) : Bool :=
  Gen.commands.any (fun r => r.plugin == pl && r.path == path && r.spec.contains (k, a))

theorem rowHas_spec {pl : Str} {path : List Str} {k : String} {a : Str} (h : rowHas pl path k a = true) :
    ∃ r ∈ Gen.commands, r.plugin = pl ∧ r.path = path ∧ (k, a) ∈ r.spec := by
  simp only [rowHas, List.any_eq_true, Bool.and_eq_true, beq_iff_eq, List.contains_iff_mem] at h
  obtain ⟨r, hr, ⟨h1, h2⟩, h3⟩ := h
  exact ⟨r, hr, h1, h2, h3⟩

/-- every command the committed list `requiredGuards` declares privileged still has its capability
converter at top level of its wrap spec in the current tree -/
theorem required_present : requiredGuards.all (fun x => rowHas x.1 x.2.1 x.2.2.1 x.2.2.2) = true := by
  decide +kernel

/-- every bundled plugin's class name lower-cases to its canonical name (hypothesis of
`gate_allow_iff`), `Owner` ↦ `owner`, `Admin` ↦ `admin`, and no capability converter is nested
inside a context that could swallow its error -/
theorem plugin_names_canonical :
    Gen.commands.all (fun r => canonicalName r.plugin == asciiLower r.plugin) = true ∧
    canonicalName ['O', 'w', 'n', 'e', 'r'] = ownerS ∧ canonicalName ['A', 'd', 'm', 'i', 'n'] = adminS ∧
    Gen.commands.any (fun r => r.plugin == ['O', 'w', 'n', 'e', 'r']) = true ∧
    Gen.commands.any (fun r => r.plugin == ['A', 'd', 'm', 'i', 'n']) = true ∧
    Gen.capInsideContext = [] := by
  refine ⟨?_, by decide +kernel⟩
  rw [List.all_eq_true]
  intro r hr
  exact beq_iff_eq.2 (inventory_row hr).1

theorem required_kinds :
    requiredGuards.all (fun x => x.2.2.1 == "cap" || x.2.2.1 == "capNoOwner" || x.2.2.1 == "chancap") = true := by
  decide +kernel

/-- every entry of the committed list is, after decoding the generated row, a modelled capability
item of that row's spec — so `guarded_body_needs_capability` / `converter_guard_chan` apply to it -/
theorem required_rows_guarded :
    ∀ x ∈ requiredGuards, ∃ r ∈ Gen.commands, r.plugin = x.1 ∧ r.path = x.2.1 ∧
      Item.ofGen (x.2.2.1, x.2.2.2) ∈ r.spec.map Item.ofGen ∧
      (Item.ofGen (x.2.2.1, x.2.2.2) = .cap x.2.2.2 ∨ Item.ofGen (x.2.2.1, x.2.2.2) = .capNoOwner x.2.2.2 ∨
       Item.ofGen (x.2.2.1, x.2.2.2) = .chancap x.2.2.2) := by
  intro x hx
  obtain ⟨r, hr, h1, h2, h3⟩ := rowHas_spec (List.all_eq_true.1 required_present x hx)
  refine ⟨r, hr, h1, h2, List.mem_map_of_mem h3, ?_⟩
  have hk := List.all_eq_true.1 required_kinds x hx
  simp only [Bool.or_eq_true, beq_iff_eq] at hk
  rcases hk with (hk | hk) | hk <;> simp [Item.ofGen, hk]

/-- pins the only writers of the default set outside `setValue`: `Owner.defaultcapability` (owner-only) -/
theorem defaults_mutators_ok :
    Gen.defaultCapsMutators = ["plugins/Owner/plugin.py:Owner.defaultcapability:add",
                               "plugins/Owner/plugin.py:Owner.defaultcapability:add",
                               "plugins/Owner/plugin.py:Owner.defaultcapability:remove"] := by
  decide +kernel

/-- the capability names the gate builds for every command of the inventory (invoked directly or
plugin-qualified) are well-formed: their anti-capability exists and inverts back to the name, so
the gate's answer for a bundled command is never an assertion failure on the name -/
theorem inventory_names_valid :
    Gen.commands.all (fun r =>
      match r.path.getLast? with
      | none => false
      | some y =>
        ((checkedNames r.plugin r.path y) ++ (checkedNames r.plugin (canonicalName r.plugin :: r.path) y)).all (fun n =>
          match makeAntiCapability n with
          | .ok a => isAntiCapability a && decide (unAntiCapability a = .ok n) && isCapability n
          | .error _ => false)) = true := by
  rw [List.all_eq_true]
  intro r hr
  have h := List.all_eq_true.1 inventory_names_plain r hr
  split at h
  · exact h
  · rw [List.all_eq_true] at h ⊢
    intro n hn
    have hb := baseOK_of_valid (h n hn)
    have hm : makeAntiCapability n = .ok ('-' :: n) := makeAnti_render chanOK_none hb
    have ha : isAntiCapability ('-' :: n) = true := isAnti_render (a := true) chanOK_none hb
    have hu : unAntiCapability ('-' :: n) = .ok n := unAnti_render chanOK_none hb
    simp only [hm, ha, hu, hb.cap, decide_true, Bool.and_self]

/-- the call graph around the gate: `callCommand` is only called from `_callCommand` (overrides
delegate to their parent), `_callCommand` only from `finalEval` (directly or as a thread target)
and from `commands.thread`, `getCommandMethod` only from `callCommand` and the help functions, and
every re-dispatch site hands the caller's own `msg` (or `Utilities.let`'s copy of it) to `Proxy` -/
theorem callgraph_ok :
    Gen.callCommandCallers = ["src/callbacks.py:Commands._callCommand"] ∧
    Gen.callGateCallers = ["src/callbacks.py:NestedCommandsIrcProxy.finalEval",
                           "src/callbacks.py:NestedCommandsIrcProxy.finalEval",
                           "src/commands.py:thread.newf"] ∧
    Gen.getCommandMethodCallers = ["plugins/Factoids/plugin.py:Factoids.getCommandHelp",
                                   "src/callbacks.py:Commands.callCommand",
                                   "src/callbacks.py:Commands.getCommandHelp"] ∧
    Gen.proxySites.all (fun s => s.2.1 == "msg" || s.2.1 == "fake_msg") = true := by
  decide +kernel

/-- the shape of the gate code the model mirrors (each fact is a syntactic check of the current
source by the extractor; the count is stated so that the extractor cannot silently drop one) -/
theorem gate_shape_ok : Gen.gateShape.all (fun s => s.2) = true ∧ Gen.gateShape.length = 22 := by
  decide +kernel

/-- a refusal is a `raise`: no call site of `errorNoCapability` passes `Raise=False` (the default is
True, and `gate_shape_ok` pins that the function raises whatever the configured message text is —
also the empty one), so nothing after such a call runs -/
theorem refusals_raise :
    Gen.noCapabilitySites.all (fun s => s.2 == "True" || s.2 == "default") = true ∧
    Gen.noCapabilitySites.length ≥ 20 := by
  decide +kernel

end C01
