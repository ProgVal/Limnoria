/-
C01 — helper lemmas for the gate theorems.
-/
import LimnoriaModel.C01.Model
import LimnoriaModel.C03.Props
namespace C01
open Py C03

theorem firstDeny_allow_iff (gs : List Gate) : firstDeny gs = .allow ↔ ∀ g ∈ gs, g = .allow := by
  induction gs with
  | nil => simp [firstDeny]
  | cons g gs ih =>
    cases g with
    | allow => simp [firstDeny, ih]
    | denied c => simp [firstDeny]
    | deniedDefault => simp [firstDeny]
    | crash e => simp [firstDeny]

theorem firstDeny_ne_allow_of_mem {gs : List Gate} {g : Gate} (hg : g ∈ gs) (hne : g ≠ .allow) :
    firstDeny gs ≠ .allow := by
  intro h
  exact hne ((firstDeny_allow_iff gs).1 h g hg)

/-- the result of the fold is one of the checks (or `allow`) -/
theorem firstDeny_mem (gs : List Gate) : firstDeny gs = .allow ∨ firstDeny gs ∈ gs := by
  induction gs with
  | nil => simp [firstDeny]
  | cons g gs ih =>
    cases g with
    | allow =>
      rcases ih with h | h
      · left; simpa [firstDeny] using h
      · right; simp only [firstDeny]; exact List.mem_cons_of_mem _ h
    | denied c => right; simp [firstDeny]
    | deniedDefault => right; simp [firstDeny]
    | crash e => right; simp [firstDeny]

theorem deniedBy_ne_allow (a : Str) : deniedBy a ≠ .allow := by
  unfold deniedBy
  split <;> simp

theorem antiHit_false {db : Db} {now : Int} {h x : Str} (hh : antiHit db now h x = .ok false) :
    isAntiCapability x = true ∧ db.checkCapability now h x = .ok false := by
  unfold antiHit at hh
  split at hh
  · cases hh
  · rename_i hx; exact ⟨by simpa using hx, hh⟩

/-- what an allowing check established -/
theorem checkName_allow {db : Db} {now : Int} {m : Msg} {name : Str}
    (h : checkName db now m name = .allow) :
    ∃ anti, makeAntiCapability name = .ok anti ∧ isAntiCapability anti = true ∧
      db.checkCapability now m.pfx anti = .ok false ∧
      (∀ ch, m.channel = some ch →
        ∃ chanAnti, makeChannelCapability ch anti = .ok chanAnti ∧ isAntiCapability chanAnti = true ∧
          db.checkCapability now m.pfx chanAnti = .ok false) := by
  unfold checkName at h
  split at h
  · cases h
  · rename_i anti hanti
    split at h
    · cases h
    · exact absurd h (deniedBy_ne_allow anti)
    · rename_i h1
      refine ⟨anti, hanti, (antiHit_false h1).1, (antiHit_false h1).2, fun ch hch => ?_⟩
      rw [hch] at h
      simp only [checkNameInChannel] at h
      split at h
      · cases h
      · rename_i chanAnti hca
        split at h
        · cases h
        · exact absurd h (deniedBy_ne_allow chanAnti)
        · rename_i h2
          exact ⟨chanAnti, hca, antiHit_false h2⟩

/-- if the caller "holds" the anti-capability of `name`, the check of `name` does not allow -/
theorem checkName_ne_allow_of_held {db : Db} {now : Int} {m : Msg} {name anti : Str}
    (hanti : makeAntiCapability name = .ok anti)
    (hheld : db.checkCapability now m.pfx anti = .ok true) :
    checkName db now m name ≠ .allow := by
  intro h
  obtain ⟨a, ha, _, hf, _⟩ := checkName_allow h
  cases hanti.symm.trans ha
  cases hheld.symm.trans hf

/-- same for the anti-capability scoped to the channel the message was sent to -/
theorem checkName_ne_allow_of_held_channel {db : Db} {now : Int} {m : Msg} {name anti ch chanAnti : Str}
    (hanti : makeAntiCapability name = .ok anti)
    (hch : m.channel = some ch)
    (hca : makeChannelCapability ch anti = .ok chanAnti)
    (hheld : db.checkCapability now m.pfx chanAnti = .ok true) :
    checkName db now m name ≠ .allow := by
  intro h
  obtain ⟨a, ha, _, _, hc⟩ := checkName_allow h
  cases hanti.symm.trans ha
  obtain ⟨ca, hca', _, hf⟩ := hc ch hch
  cases hca.symm.trans hca'
  cases hheld.symm.trans hf

theorem prefixes_head (x : Str) (xs : List Str) : [x] ∈ prefixes (x :: xs) := by
  simp [prefixes]

theorem fullCommandName_head (canon : Str) (command : List Str) (hne : command ≠ []) :
    ∃ rest, fullCommandName canon command = canon :: rest := by
  unfold fullCommandName
  split
  · exact ⟨command, rfl⟩
  · rename_i h
    cases command with
    | nil => exact absurd rfl hne
    | cons c cs =>
      simp only [List.head?_cons, Bool.or_eq_true, not_or] at h
      have : c = canon := by
        have := h.2
        simpa using this
      exact ⟨cs, by rw [this]⟩

theorem ne_nil_of_getLast? {α} {l : List α} {y : α} (h : l.getLast? = some y) : l ≠ [] :=
  List.ne_nil_of_mem (List.mem_of_getLast? h)

theorem gateChecks_plugin (db : Db) (now : Int) (m : Msg) (P : Str) {cmd : List Str} (y : Str) (hne : cmd ≠ []) :
    ∃ gs, gateChecks db now m P cmd y =
      checkName db now m y :: checkPath db now m (asciiLower P) [canonicalName P] :: gs := by
  obtain ⟨rest, hr⟩ := fullCommandName_head (canonicalName P) cmd hne
  unfold gateChecks
  rw [hr]
  exact ⟨_, rfl⟩

/-- every prefix the loop builds starts with the first element -/
theorem prefixes_start {x : Str} {xs : List Str} {p : List Str} (hp : p ∈ prefixes (x :: xs)) :
    ∃ t, p = x :: t := by
  simp only [prefixes, List.mem_cons, List.mem_map] at hp
  rcases hp with h | ⟨q, _, h⟩
  · exact ⟨[], h⟩
  · exact ⟨q, h.symm⟩

theorem resolvePath_cons (pl : Str) (t : List Str) : resolvePath pl (pl :: t) = .ok (joinChar '.' (pl :: t)) := by
  simp [resolvePath]

deriving instance DecidableEq for Except

/-- decidable side conditions on a plain capability name `p` other than `owner` ("admin",
"scheduler.add", …): lower-case, not a channel capability, its anti form is `'-' :: p` -/
def PlainCap (p : Str) : Prop :=
  toLower p = p ∧ toLower ('-' :: p) = '-' :: p ∧ chanSplit ('-' :: p) = none ∧
  isAntiCapability ('-' :: p) = true ∧ invertCapability ('-' :: p) = .ok p ∧
  makeAntiCapability p = .ok ('-' :: p) ∧ unAntiCapability ('-' :: p) = .ok p ∧ p ≠ ownerS

instance (p : Str) : Decidable (PlainCap p) := by unfold PlainCap; infer_instance

theorem plainCap_lcap {p : Str} (hp : PlainCap p) : LCap none p := by
  obtain ⟨hl, _, _, _, _, hmk, _, _⟩ := hp
  unfold makeAntiCapability at hmk
  split at hmk
  · cases hmk
  · rename_i hc
    have hcap : isCapability p = true := by simpa using hc
    split at hmk
    · cases hmk
    · rename_i ha
      split at hmk
      · rename_i ch c hs
        obtain ⟨_, hch, _⟩ := chanSplit_some hs
        obtain ⟨_, x, xs, rfl, hx⟩ := isChannel_facts hch
        unfold makeChannelCapability at hmk
        split at hmk
        · cases hmk
        · split at hmk
          · cases hmk
          · simp only [List.cons_append, Except.ok.injEq, List.cons.injEq] at hmk
            rw [hmk.1, chanTypes_no_dash] at hx; cases hx
      · rename_i hs
        refine ⟨chanOK_none, ⟨hcap, ?_, hs⟩, rfl, hl⟩
        unfold isAntiCapability capPart at ha
        rw [hs] at ha
        simpa [hcap] using ha

theorem check_anti_of_default (db : Db) (now : Int) (h p : Str) (hp : PlainCap p)
    (hdef : ('-' :: p) ∈ db.defaults)
    (hu : ∀ u, db.recognise now h = some u →
      u.ignore = true ∨ (ownerS ∉ u.caps ∧ antiOwnerS ∉ u.caps ∧ p ∉ u.caps)) :
    db.checkCapability now h ('-' :: p) = .ok true := by
  have e : db.checkCapability now h ('-' :: p) = _ := checkCapability_render (plainCap_lcap hp) true db now h {}
  rw [e]
  have hd : lookW true db.defaults p ('-' :: p) = some false := by simp [lookW, Spec.look, hdef]
  have hask : (p == ownerS) = false := by simpa using hp.2.2.2.2.2.2.2
  cases hr : db.recognise now h with
  | none => simp [Spec.holdsW, Spec.globalLevelW, hd]
  | some u =>
    rcases hu u hr with hi | ⟨ho, ha, hpn⟩
    · simp only [Spec.holdsW, Spec.userLevelW, Spec.globalLevelW, asksOwner, Option.bind_some, hi, hd, hask, keyPos, keyNeg,
        Option.isNone_none, Bool.true_and, Bool.false_or, if_true, Option.getD_some, Bool.xor_true,
        Except.ok.injEq, Bool.not_eq_true']
      split <;> rfl
    · by_cases hm : ('-' :: p) ∈ u.caps <;> cases u.ignore <;>
        simp [Spec.holdsW, Spec.userLevelW, Spec.globalLevelW, asksOwner, own, Spec.look, lookW, ho, ha, hpn, hm, hdef, hask,
          keyPos, keyNeg]

theorem getChannel_touch (db : Db) (ch ch' : Str) : (db.touchChannel ch).getChannel ch' = db.getChannel ch' :=
  touch_invisible db ch ch'

theorem checkCapability_congr (db db' : Db) (now : Int) (h cap : Str) (fl : Flags)
    (hu : db'.users = db.users) (hd : db'.defaults = db.defaults) (hr : db'.registered = db.registered)
    (hf : db'.defaultFlag = db.defaultFlag) (ht : db'.timeout = db.timeout)
    (hc : ∀ c, db'.getChannel c = db.getChannel c) :
    db'.checkCapability now h cap fl = db.checkCapability now h cap fl :=
  C03.checkCapability_congr db db' now h cap fl hu hd hr hf ht hc

/-- what `Config.getCapability` can answer: `owner`, or `#chan,op` for a channel component of the
name — and a capability other than `owner` only when every group on the path is op-settable -/
theorem cfgLoop_spec (opSettable : List Str → Bool) (seen rest : List Str) (cap c : Str)
    (h : cfgLoop opSettable seen rest cap = .ok c) :
    (c = ownerS ∨ c = cap ∨
      ∃ part ∈ rest, isChannel part = true ∧ makeChannelCapability part opS = .ok c) ∧
    (c ≠ ownerS → ∀ k, 0 < k → k ≤ rest.length → opSettable (seen ++ rest.take k) = true) := by
  induction rest generalizing seen cap with
  | nil =>
    simp only [cfgLoop, Except.ok.injEq] at h
    exact ⟨Or.inr (Or.inl h.symm), fun _ k hk hk' => by simp at hk'; omega⟩
  | cons part rest ih =>
    unfold cfgLoop at h
    split at h
    · cases h; exact ⟨Or.inl rfl, fun hc => absurd rfl hc⟩
    · rename_i ho
      -- the loop goes on from the group reached, with `cap'` the capability chosen at this step
      obtain ⟨cap', hcap, hr⟩ : ∃ cap', (cap' = cap ∨
          (isChannel part = true ∧ makeChannelCapability part opS = .ok cap')) ∧
          cfgLoop opSettable (seen ++ [part]) rest cap' = .ok c := by
        split at h
        · rename_i hch
          split at h
          · cases h
          · rename_i c1 hm; exact ⟨c1, Or.inr ⟨hch, hm⟩, h⟩
        · exact ⟨cap, Or.inl rfl, h⟩
      obtain ⟨hA, hB⟩ := ih _ _ hr
      refine ⟨?_, fun hc k hk hk' => ?_⟩
      · rcases hA with h1 | h1 | ⟨p, hp, hpc, hpm⟩
        · exact Or.inl h1
        · rcases hcap with e | ⟨hch, hm⟩
          · exact Or.inr (Or.inl (h1.trans e))
          · exact Or.inr (Or.inr ⟨part, List.mem_cons_self, hch, h1 ▸ hm⟩)
        · exact Or.inr (Or.inr ⟨p, List.mem_cons_of_mem _ hp, hpc, hpm⟩)
      · match k, hk with
        | 1, _ => simpa using ho
        | k + 2, _ =>
          have := hB hc (k + 1) (by omega) (by simp at hk'; omega)
          simpa [List.append_assoc] using this

end C01
