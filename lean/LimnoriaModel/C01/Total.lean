/-
C01 — nothing raises on any database (no well-formedness assumed): `checkCapability_total` from the
decision on every database (`C03.checkCapability_render`), then one gate check on a plain command name;
last, command names made of plain words (`plainWord`), which are such names.
-/
import LimnoriaModel.C01.Model
import LimnoriaModel.C03.Lemmas
namespace C01
open Py C03

/-- **No crash, whatever is stored.**  For EVERY database — inconsistent capability sets, `-owner`
in a user's set, garbage strings in any set, any users / channels / defaults — every time, sender
and flag combination, `checkCapability` on a valid capability string returns a boolean: none of
its assertions can fail and no KeyError escapes. -/
theorem checkCapability_total (db : Db) (now : Int) (h cap : Str) (fl : Flags) (hv : validCap cap = true) :
    ∃ v, db.checkCapability now h cap fl = .ok v := by
  obtain ⟨a, ch, b, hl, e, _⟩ := valid_lower hv
  rw [← checkCapability_lower, e]
  exact ⟨_, checkCapability_render hl a db now h fl⟩

theorem anyHeld_total (db : Db) (now : Int) (h : Str) (l : List Str) (hl : ∀ c ∈ l, validCap c = true) :
    ∃ v, anyHeld db now h l = .ok v := by
  induction l with
  | nil => exact ⟨_, rfl⟩
  | cons c cs ih =>
    unfold anyHeld
    obtain ⟨v, hv⟩ := checkCapability_total db now h c {} (hl c List.mem_cons_self)
    rw [hv]
    cases v
    · exact ih (fun x hx => hl x (List.mem_cons_of_mem _ hx))
    · exact ⟨_, rfl⟩

theorem finish_no_crash (db : Db) (now : Int) (h : Str) (d : Bool) (l : List Str)
    (hl : ∀ c ∈ l, validCap c = true) (e : Err) : finish db now h d l ≠ .crash e := by
  unfold finish
  split
  · simp
  · obtain ⟨v, hv⟩ := anyHeld_total db now h l hl
    rw [hv]; cases v <;> simp

theorem antiHit_render (db : Db) (now : Int) (h : Str) {ch : Option Str} {b : Str} (hch : ChanOK ch)
    (hb : BaseOK b) :
    (∃ v, antiHit db now h (keyNeg ch b) = .ok v) ∧ deniedBy (keyNeg ch b) = .denied (keyPos ch b) := by
  have hia : isAntiCapability (keyNeg ch b) = true := isAnti_render (a := true) hch hb
  have hu : unAntiCapability (keyNeg ch b) = .ok (keyPos ch b) := unAnti_render hch hb
  refine ⟨?_, by unfold deniedBy; rw [hu]⟩
  unfold antiHit
  simp only [hia, Bool.not_true, Bool.false_eq_true, if_false]
  exact checkCapability_total db now h _ {} (validCap_render (a := true) hch hb)

/-- **one gate check never crashes on a plain command name**, whatever the database holds -/
theorem checkName_no_crash (db : Db) (now : Int) (m : Msg) (n : Str) (hb : BaseOK n)
    (hch : ChanOK m.channel) (e : Err) : checkName db now m n ≠ .crash e := by
  have hmk : makeAntiCapability n = .ok ('-' :: n) := makeAnti_render chanOK_none hb
  have hvn : validCap n = true := validCap_render (a := false) chanOK_none hb
  obtain ⟨⟨v, hv⟩, hd⟩ := antiHit_render db now m.pfx chanOK_none hb
  have hv' : antiHit db now m.pfx ('-' :: n) = .ok v := hv
  have hd' : deniedBy ('-' :: n) = .denied n := hd
  unfold checkName
  simp only [hmk, hv']
  cases v
  · cases hmc : m.channel with
    | none =>
      exact finish_no_crash db now m.pfx _ [n] (by intro c hc; simp at hc; subst hc; exact hvn) e
    | some ch =>
      have hc : ChanOK (some ch) := hmc ▸ hch
      obtain ⟨⟨w, hw⟩, hdc⟩ := antiHit_render db now m.pfx hc hb
      have hm1 : makeChannelCapability ch ('-' :: n) = .ok (keyNeg (some ch) n) :=
        makeChannel_render (a := true) hc hb
      have hm2 : makeChannelCapability ch n = .ok (keyPos (some ch) n) :=
        makeChannel_render (a := false) hc hb
      simp only [checkNameInChannel, hm1, hw]
      cases w
      · simp only [hm2]
        refine finish_no_crash db now m.pfx _ _ (fun c hc' => ?_) e
        simp only [List.mem_cons, List.not_mem_nil, or_false] at hc'
        rcases hc' with rfl | rfl
        · exact hvn
        · exact validCap_render (a := false) hc hb
      · simp [hdc]
  · simp [hd']

/-- a piece of a command name: not empty, not starting with `-`, free of blanks and commas -/
def plainWord (w : Str) : Bool :=
  !w.isEmpty && w.head? != some '-' && w.all (fun c => !isSpace c && c != ',')

theorem split1_none {k : Char} {s : Str} (h : ∀ c ∈ s, c ≠ k) : split1 k s = none := by
  induction s with
  | nil => rfl
  | cons x xs ih =>
    simp only [split1, h x List.mem_cons_self, if_false, ih fun c hc => h c (List.mem_cons_of_mem _ hc)]

theorem plainWord_valid {w : Str} (h : plainWord w = true) : validBase w = true := by
  simp only [plainWord, Bool.and_eq_true, List.all_eq_true, Bool.not_eq_true', bne_iff_ne, ne_eq] at h
  obtain ⟨⟨hne, hd⟩, hall⟩ := h
  have hs : chanSplit w = none := by
    unfold chanSplit; rw [split1_none fun c hc => (hall c hc).2]
  simp only [validBase, isCapability, isChannelCapability, hs, hne, Bool.and_eq_true, List.all_eq_true,
    Bool.not_eq_true', bne_iff_ne, ne_eq]
  exact ⟨⟨⟨trivial, fun c hc => (hall c hc).1⟩, hd⟩, rfl⟩

theorem plainWord_join : ∀ {ps : List Str}, ps ≠ [] → (∀ p ∈ ps, plainWord p = true) →
    plainWord (joinChar '.' ps) = true
  | [p], _, h => h p List.mem_cons_self
  | p :: q :: ps, _, h => by
    have hp := h p List.mem_cons_self
    have hq := plainWord_join (List.cons_ne_nil q ps) fun x hx => h x (List.mem_cons_of_mem _ hx)
    cases p with
    | nil => cases hp
    | cons c cs =>
      simp only [plainWord, joinChar, List.cons_append, List.isEmpty_cons, List.head?_cons, List.all_cons,
        List.all_append, Bool.and_eq_true] at hp hq ⊢
      exact ⟨hp.1, hp.2.1, hp.2.2, by decide, hq.2⟩

theorem prefixes_sub : ∀ {l p : List Str}, p ∈ prefixes l → p ≠ [] ∧ ∀ y ∈ p, y ∈ l
  | x :: xs, p, hp => by
    simp only [prefixes, List.mem_cons, List.mem_map] at hp
    rcases hp with rfl | ⟨q, hq, rfl⟩
    · exact ⟨List.cons_ne_nil _ _, fun y hy => List.mem_cons.2 (Or.inl (List.mem_singleton.1 hy))⟩
    · refine ⟨List.cons_ne_nil _ _, fun y hy => ?_⟩
      rcases List.mem_cons.1 hy with rfl | h
      · exact List.mem_cons_self
      · exact List.mem_cons_of_mem _ ((prefixes_sub hq).2 y h)

end C01
