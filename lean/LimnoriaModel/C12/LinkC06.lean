/-
C12 ↔ C06/C11: one notion of "bytes on the wire".
C12 measures strings with `blen` (sum of `Char.utf8Size`); C06 measures with `utf8Len` and proves
(`C06.utf8Len_eq`) that it is the length of the byte list the socket driver writes (`C11.utf8`).
Here: the two measures are the same function and C12's `takeBytes`/`sentLine` are C06's
`cutToBytes`/`truncate`, so what C06 proves of `truncate` is about the lines C12 says are sent, and
every C12 length theorem is a statement about driver bytes.
-/
import LimnoriaModel.C12.Props
import LimnoriaModel.C06.Props
namespace C12
open Py

theorem blen_eq_utf8Len (s : Str) : blen s = C06.utf8Len s := by
  induction s with
  | nil => rfl
  | cons c cs ih => simp [blen, C06.utf8Len, ih] at *

/-- `blen` is the number of bytes the socket driver writes for the text -/
theorem blen_eq_driver_bytes (s : Str) : blen s = (C11.utf8 s).length := by
  rw [blen_eq_utf8Len, C06.utf8Len_eq]

theorem takeBytes_eq_cutToBytes : ∀ (s : Str) (n : Nat), takeBytes n s = C06.cutToBytes n s := by
  intro s
  induction s with
  | nil => intro n; rfl
  | cons c cs ih => intro n; simp [takeBytes, C06.cutToBytes, ih]

/-- the two extractions of the same constants agree -/
theorem limits_agree : Gen.ircMaxLine = Gen.maxLineSize ∧ Gen.truncateReserve = 2 ∧
    Gen.privmsgCmd.head? ≠ some '@' ∧ Gen.noticeCmd.head? ≠ some '@' := by decide

/-- C12's `sentLine` is C06's `truncate` on the serialised reply (a reply carries no server tag) -/
theorem sentLine_eq_truncate (o : Out) (hcmd : o.command = Gen.privmsgCmd ∨ o.command = Gen.noticeCmd) :
    C06.truncate (outLine o) = some (sentLine o) := by
  obtain ⟨h1, h2, h3, h4⟩ := limits_agree
  have hhead : (outLine o).head? ≠ some '@' := by
    unfold outLine
    rcases hcmd with h | h <;> rw [h]
    · cases hc : Gen.privmsgCmd with
      | nil => simp
      | cons x xs => rw [hc] at h3; simpa using h3
    · cases hc : Gen.noticeCmd with
      | nil => simp
      | cons x xs => rw [hc] at h4; simpa using h4
  unfold C06.truncate C06.splitTagPart sentLine truncateLine
  simp only [hhead, ↓reduceIte, ← blen_eq_utf8Len, ← h1, h2, List.nil_append]
  split
  · rw [takeBytes_eq_cutToBytes]; rfl
  · rfl

/-- what C12 says is sent is at most 512 driver bytes (`sentLine_le`, read in driver bytes) -/
theorem sentLine_driver_bytes (o : Out) (hcmd : o.command = Gen.privmsgCmd ∨ o.command = Gen.noticeCmd) :
    (C11.utf8 (sentLine o)).length ≤ 512 :=
  blen_eq_driver_bytes _ ▸ (sentLine_le o).1

/-- and the relayed line of the 512-byte theorems is measured in driver bytes as well -/
theorem relayed_driver_bytes (p : Str) (o : Out) : blen (wireAs p o) = (C11.utf8 (wireAs p o)).length :=
  blen_eq_driver_bytes _

/-- the command of every message `_makeReply` builds is PRIVMSG or NOTICE -/
theorem makeReply_command (e : Env) (s : Str) :
    (makeReply e s).command = Gen.privmsgCmd ∨ (makeReply e s).command = Gen.noticeCmd := by
  have : ∀ (b : Bool), (if b then Gen.noticeCmd else Gen.privmsgCmd) = Gen.privmsgCmd ∨
      (if b then Gen.noticeCmd else Gen.privmsgCmd) = Gen.noticeCmd := by
    intro b; cases b <;> simp
  unfold makeReply replyFrame
  exact this _

end C12
