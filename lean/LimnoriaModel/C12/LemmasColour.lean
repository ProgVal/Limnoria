/-
C12 — helper lemmas: text WITH colour codes.  `ircutils.wrap` recomputes the context of each
line by parsing the line it has just produced (re-opened codes + chunk).  We show by simulation that,
as long as every cut is safe (`SafeCut`: the next line does not begin with a digit or a comma, or no
colour is set and none is being read there), the recomputed contexts are the contexts of the original
text (up to a lone background gaining the foreground 0), hence re-opening never costs more than the
overhead that was reserved.
-/
import LimnoriaModel.C12.LemmasFlags
namespace C12
open Py

/-! ## simulation relation between the recomputed state `p` and the original state `o` -/

/-- `c` = the recomputed context, `o` = the original one: the same foreground, or the one divergence that
`start` + re-parse introduces (`reparsed`): a lone background has gained the foreground 0 -/
def FgRel (c o : Ctx) : Prop := c.fg = o.fg ∨ (o.fg = none ∧ c.fg = some 0 ∧ o.bg.isSome = true)

/-- `p` = the parser on what the loop has produced (re-opened codes + chunk), `o` = the parser on the
original text.  While a foreground number is being read nothing is asked of `fg` (it is about to be
overwritten); while a background is read the foreground has just been set, to the same value on both sides. -/
def SimSt (p o : PState) : Prop :=
  p.mode = o.mode ∧ p.ctx.bold = o.ctx.bold ∧ p.ctx.reverse = o.ctx.reverse ∧
  p.ctx.underline = o.ctx.underline ∧ p.ctx.bg = o.ctx.bg ∧
  (match o.mode with
    | .plain => FgRel p.ctx o.ctx
    | .fg _ _ _ => True
    | .bg _ _ _ => p.ctx.fg = o.ctx.fg)

theorem simSt_refl (o : PState) : SimSt o o := by
  refine ⟨rfl, rfl, rfl, rfl, rfl, ?_⟩
  split
  · exact Or.inl rfl
  · trivial
  · rfl

theorem toggle_sim {c o : Ctx} (x : Char) (h1 : c.bold = o.bold) (h2 : c.reverse = o.reverse)
    (h3 : c.underline = o.underline) (h4 : c.bg = o.bg) (h5 : FgRel c o) :
    (toggle c x).bold = (toggle o x).bold ∧ (toggle c x).reverse = (toggle o x).reverse ∧
    (toggle c x).underline = (toggle o x).underline ∧ (toggle c x).bg = (toggle o x).bg ∧
    FgRel (toggle c x) (toggle o x) := by
  rcases toggle_eq x with h | h | h | h | h <;> rw [h c, h o]
  · exact ⟨congrArg (!·) h1, h2, h3, h4, h5⟩
  · exact ⟨h1, congrArg (!·) h2, h3, h4, h5⟩
  · exact ⟨h1, h2, congrArg (!·) h3, h4, h5⟩
  · exact ⟨rfl, rfl, rfl, rfl, Or.inl rfl⟩
  · exact ⟨h1, h2, h3, h4, h5⟩

theorem plainStep_sim {p o : PState} (h : SimSt p o) (hm : o.mode = .plain) (x : Char) :
    SimSt (plainStep p x) (plainStep o x) := by
  obtain ⟨h0, h1, h2, h3, h4, h5⟩ := h
  rw [hm] at h5
  obtain ⟨t1, t2, t3, t4, t5⟩ := toggle_sim x h1 h2 h3 h4 h5
  rw [plainStep_eq, plainStep_eq]
  split
  · exact ⟨h0, t1, t2, t3, t4, by simp only [bump_mode, hm]; exact t5⟩
  · split
    · exact ⟨h0, rfl, rfl, rfl, rfl, by simp only [hm]; exact Or.inl rfl⟩
    · split
      · exact ⟨rfl, h1, h2, h3, h4, trivial⟩
      · exact ⟨h0, h1, h2, h3, h4, by rw [hm]; exact h5⟩

theorem finish_sim {p o : PState} (h : SimSt p o) : SimSt (finish p) (finish o) ∧ (finish o).mode = .plain := by
  obtain ⟨h0, h1, h2, h3, h4, h5⟩ := h
  unfold finish
  rw [h0]
  cases hm : o.mode with
  | plain =>
    rw [hm] at h5
    exact ⟨⟨by rw [h0, hm], h1, h2, h3, h4, by rw [hm]; exact h5⟩, hm⟩
  | fg i set n =>
    refine ⟨⟨rfl, h1, h2, h3, h4, ?_⟩, rfl⟩
    simp only [bump_mode, setFg]
    exact Or.inl rfl
  | bg i set n =>
    rw [hm] at h5
    simp only at h5
    refine ⟨⟨rfl, h1, h2, h3, rfl, ?_⟩, rfl⟩
    simp only [bump_mode, setBg]
    exact Or.inl h5

theorem continues_digit {i n : Nat} {c : Char} (h : continues i n c = true) : isDigit c = true := by
  simp only [continues, Bool.and_eq_true] at h; exact h.1.1

theorem step_sim {p o : PState} (h : SimSt p o) (x : Char) : SimSt (step p x) (step o x) := by
  obtain ⟨h0, h1, h2, h3, h4, h5⟩ := h
  have hfin := finish_sim ⟨h0, h1, h2, h3, h4, h5⟩
  cases hm : o.mode with
  | plain =>
    have hpm : p.mode = .plain := by rw [h0, hm]
    have hs := plainStep_sim ⟨h0, h1, h2, h3, h4, h5⟩ hm x
    unfold step
    rw [hpm, hm]
    exact hs
  | fg i set n =>
    have hpm : p.mode = .fg i set n := by rw [h0, hm]
    have hplain := plainStep_sim hfin.1 hfin.2 x
    unfold finish at hplain
    rw [hpm, hm] at hplain
    unfold step
    rw [hpm, hm]
    simp only
    split
    · exact ⟨rfl, h1, h2, h3, h4, trivial⟩
    · split
      · exact ⟨rfl, h1, h2, h3, h4, rfl⟩
      · exact hplain
  | bg i set n =>
    have hpm : p.mode = .bg i set n := by rw [h0, hm]
    have hplain := plainStep_sim hfin.1 hfin.2 x
    unfold finish at hplain
    rw [hpm, hm] at hplain
    rw [hm] at h5
    simp only at h5
    unfold step
    rw [hpm, hm]
    simp only
    split
    · exact ⟨rfl, h1, h2, h3, h4, h5⟩
    · exact hplain

theorem foldl_step_sim (s : Str) : ∀ {p o : PState}, SimSt p o → SimSt (s.foldl step p) (s.foldl step o) := by
  induction s with
  | nil => intro p o h; exact h
  | cons x xs ih => intro p o h; exact ih (step_sim h x)

/-! ## re-opening a context at a safe cut reproduces it -/

/-- what `start` + re-parse makes of a context: a lone background gets the foreground 0 -/
def reparsed (c : Ctx) : Ctx := if c.fg.isNone && c.bg.isSome then { c with fg := some 0 } else c

theorem foldl_step_toggles (s : Str) (hs : ∀ x ∈ s, contChar x = false ∧ x ≠ Gen.colorChar) :
    ∀ st, (finish (s.foldl step st)).ctx = s.foldl toggle (finish st).ctx := by
  induction s with
  | nil => intro st; rfl
  | cons x xs ih =>
    intro st
    obtain ⟨hx, hcol⟩ := hs x List.mem_cons_self
    have hst : step st x = step (finish st) x := by
      rw [step_clean st hx, step_clean _ hx, finish_finish]
    obtain ⟨h1, h2⟩ := step_plain (finish_mode st) hcol
    rw [List.foldl_cons, List.foldl_cons, ih (fun y hy => hs y (List.mem_cons_of_mem _ hy)), hst,
      finish_plain h2, h1]

def optFin (f : Fin 17) : Option Nat := if f.val = 16 then none else some f.val

theorem forall_colours {P : Option Nat → Option Nat → Prop} (h : ∀ f b : Fin 17, P (optFin f) (optFin b))
    {c : Ctx} (h16 : CtxB 16 c) : P c.fg c.bg := by
  have surj : ∀ v : Option Nat, (∀ x, v = some x → x < 16) → ∃ f : Fin 17, optFin f = v := by
    intro v hv
    cases v with
    | none => exact ⟨⟨16, by omega⟩, by simp [optFin]⟩
    | some x => exact ⟨⟨x, by have := hv x rfl; omega⟩, by have := hv x rfl; simp [optFin]; omega⟩
  obtain ⟨f, hf⟩ := surj c.fg h16.1
  obtain ⟨b, hb⟩ := surj c.bg h16.2
  rw [← hf, ← hb]
  exact h f b

/-- all 289 colour codes `start` can emit for colours below 16: parsing the code gives the colours back -/
theorem reopen_table : ∀ f b : Fin 17,
    (finish ((colorPrefix ⟨optFin f, optFin b, false, false, false⟩).foldl step {})).ctx =
      reparsed ⟨optFin f, optFin b, false, false, false⟩ := by
  decide +kernel

theorem reopen_ctx (hf : FlagsOk) (c : Ctx) (h16 : CtxB 16 c) :
    (finish ((c.start []).foldl step {})).ctx = reparsed c := by
  have hp : (finish ((colorPrefix c).foldl step {})).ctx = reparsed ⟨c.fg, c.bg, false, false, false⟩ :=
    forall_colours (P := fun fg bg => (finish ((colorPrefix ⟨fg, bg, false, false, false⟩).foldl step {})).ctx =
      reparsed ⟨fg, bg, false, false, false⟩) reopen_table h16
  rw [start_eq, List.append_nil, List.foldl_append, foldl_step_toggles _ (flagStr_clean c).1, hp,
    foldl_toggle_flagStr hf c _ (by unfold reparsed; split <;> exact ⟨rfl, rfl, rfl⟩)]
  unfold reparsed
  split <;> rfl

theorem start_append (c : Ctx) (l : Str) : c.start l = c.start [] ++ l := by
  simp [Ctx.start, List.append_assoc]

theorem fgRel_reparsed {c o : Ctx} (hbg : c.bg = o.bg) (h : FgRel c o) : FgRel (reparsed c) o := by
  unfold reparsed
  split
  · rename_i hn
    simp only [Bool.and_eq_true, Option.isNone_iff_eq_none] at hn
    rcases h with h | h
    · right; exact ⟨by rw [← h]; exact hn.1, rfl, by rw [← hbg]; exact hn.2⟩
    · rw [h.2.1] at hn; simp at hn
  · exact h

def CleanHead (l : Str) : Prop := ∃ x xs, l = x :: xs ∧ contChar x = false

/-- a cut of the text at which re-opening the context is harmless: the next line cannot continue a colour
code, or (`o` = the parser on the original text, at the cut) no colour is set and none is being read -/
def SafeCut (o : PState) (l : Str) : Prop := CleanHead l ∨ (o.mode = .plain ∧ Flags o.ctx)

theorem reopen_sim (hf : FlagsOk) {p o : PState} (h : SimSt p o) (h16 : CtxB 16 (finish p).ctx) {l : Str}
    (hl : SafeCut o l) : SimSt (((finish p).ctx.start l).foldl step {}) (l.foldl step o) := by
  rcases hl with ⟨x, xs, rfl, hx⟩ | ⟨hm, hfl⟩
  · rw [start_append, List.foldl_append, List.foldl_cons, List.foldl_cons]
    apply foldl_step_sim
    rw [step_clean _ hx, step_clean o hx]
    obtain ⟨⟨_, g1, g2, g3, g4, g5⟩, gm⟩ := finish_sim h
    rw [gm] at g5
    simp only at g5
    have hq := reopen_ctx hf (finish p).ctx h16
    have hqm := finish_mode (((finish p).ctx.start []).foldl step {})
    apply plainStep_sim _ gm
    refine ⟨by rw [hqm, gm], ?_, ?_, ?_, ?_, ?_⟩
    · rw [hq]; unfold reparsed; split <;> exact g1
    · rw [hq]; unfold reparsed; split <;> exact g2
    · rw [hq]; unfold reparsed; split <;> exact g3
    · rw [hq]; unfold reparsed; split <;> exact g4
    · rw [gm]; simp only; rw [hq]; exact fgRel_reparsed g4 g5
  · -- no colour: `start` emits the toggles only, and they rebuild the context exactly
    obtain ⟨h0, h1, h2, h3, h4, h5⟩ := h
    rw [hm] at h5
    have hp : Flags p.ctx := ⟨h5.elim (fun e => e.trans hfl.1) (fun e => by simp [hfl.2] at e), h4.trans hfl.2⟩
    rw [finish_plain (h0.trans hm), start_eq, colorPrefix_flags hp, List.nil_append, List.foldl_append]
    apply foldl_step_sim
    obtain ⟨g1, g2⟩ := foldl_step_nocolour (flagStr p.ctx) {} rfl fun x hx => ((flagStr_clean p.ctx).1 x hx).2
    rw [foldl_toggle_flagStr hf p.ctx {} ⟨rfl, rfl, rfl⟩] at g1
    refine ⟨g2.trans hm.symm, ?_, ?_, ?_, ?_, ?_⟩
    · rw [g1]; exact h1
    · rw [g1]; exact h2
    · rw [g1]; exact h3
    · rw [g1]; exact hfl.2.symm
    · rw [hm, g1]; exact Or.inl hfl.1.symm

/-! ## the maximum of the whole text dominates the context closed at a safe cut -/

theorem size_finish_le_final {st : PState} (h : MaxCovers st) (rest : Str)
    (hrest : rest = [] ∨ (∃ y ys, rest = y :: ys ∧ contChar y = false) ∨ st.mode = .plain) :
    (finish st).ctx.size ≤ (finish (rest.foldl step st)).maxSize := by
  rcases hrest with rfl | ⟨y, ys, rfl, hy⟩ | hm
  · exact (finish_inv h).1
  · simp only [List.foldl_cons]
    have h1 := (finish_inv h).1
    have h2 := (plainStep_inv h1 y)
    rw [← step_clean st hy] at h2
    have h3 := foldl_step_inv ys h2.1
    have h4 := finish_inv h3.1
    have : (finish st).ctx.size ≤ (step st y).maxSize := by
      rw [step_clean st hy]
      have := (plainStep_inv h1 y).2
      omega
    omega
  · have h1 := foldl_step_inv rest h
    have h2 := (finish_inv h1.1).2
    have h3 := h hm
    rw [finish_plain hm]; omega

/-! ## cost of re-opening a recomputed context, against the size of the original one -/

/-- the one difference: a lone background `\x0300,bb` is re-read as `\x030,bb` -/
theorem startCost_sim {c o : Ctx} (h1 : c.bold = o.bold) (h2 : c.reverse = o.reverse)
    (h3 : c.underline = o.underline) (h4 : c.bg = o.bg) (h5 : FgRel c o) :
    c.startCost ≤ o.startCost ∧ c.active = o.active := by
  obtain ⟨cf, cb, cbd, crv, cul⟩ := c
  obtain ⟨of, ob, obd, orv, oul⟩ := o
  simp only at h1 h2 h3 h4
  subst h1 h2 h3 h4
  rcases h5 with h5 | ⟨h5, h5', h5''⟩
  · simp only at h5; subst h5; exact ⟨Nat.le_refl _, rfl⟩
  · simp only at h5 h5' h5''
    subst h5 h5'
    obtain ⟨b, rfl⟩ := Option.isSome_iff_exists.mp h5''
    have h0 : natToStr 0 = ['0'] := rfl
    refine ⟨?_, by simp [Ctx.active]⟩
    simp only [Ctx.startCost, colorPrefix, h0, blen_cons, blen_append, blen_nil]; omega

theorem cost_sim (hcs : ConstsOk) (hk : CharsOk) {c o : Ctx}
    (h1 : c.bold = o.bold) (h2 : c.reverse = o.reverse) (h3 : c.underline = o.underline) (h4 : c.bg = o.bg)
    (h5 : FgRel c o) (ho : CtxB 16 o) :
    c.startCost + b2n c.active ≤ o.size := by
  obtain ⟨hs, ha⟩ := startCost_sim h1 h2 h3 h4 h5
  have hsz := startCost_le_size hcs hk o (ho.mono (by omega))
  rw [ha]; omega

/-! ## the loop of `ircutils.wrap` over safe cuts -/

/-- `o` is the parser on the original text at the first cut -/
def SafeFrom : PState → List Str → Prop
  | _, [] => True
  | o, l :: ls => SafeCut o l ∧ SafeFrom (l.foldl step o) ls

theorem safeFrom_cut {o : PState} {ls : List Str} (h : SafeFrom o ls) :
    ls.flatten = [] ∨ (∃ y ys, ls.flatten = y :: ys ∧ contChar y = false) ∨ o.mode = .plain := by
  cases ls with
  | nil => exact Or.inl rfl
  | cons l ls' =>
    rcases h.1 with ⟨x, xs, rfl, hx⟩ | ⟨hm, _⟩
    · exact Or.inr (Or.inl ⟨x, xs ++ ls'.flatten, by simp, hx⟩)
    · exact Or.inr (Or.inr hm)

theorem cleanHead_of_cleanStarts {l : Str} {ls : List Str} (h : cleanStarts (l :: ls) = true) :
    ∀ x ∈ ls, CleanHead x := by
  intro x hx
  simp only [cleanStarts, List.tail_cons, List.all_eq_true] at h
  have := h x hx
  cases x with
  | nil => simp at this
  | cons y ys => exact ⟨y, ys, rfl, by simpa using this⟩

theorem safeFrom_clean {lines : List Str} (h : cleanStarts lines = true) : SafeFrom {} lines := by
  have all : ∀ (ls : List Str), (∀ l ∈ ls, CleanHead l) → ∀ o, SafeFrom o ls := by
    intro ls
    induction ls with
    | nil => intro _ _; trivial
    | cons m ms ih =>
      intro hcl o
      exact ⟨Or.inl (hcl m List.mem_cons_self), ih (fun x hx => hcl x (List.mem_cons_of_mem _ hx)) _⟩
  cases lines with
  | nil => trivial
  | cons l ls => exact ⟨Or.inr ⟨rfl, flags_default⟩, all ls (cleanHead_of_cleanStarts h) _⟩

theorem safeFrom_nocolour : ∀ (lines : List Str) (o : PState), NoColour lines.flatten → o.mode = .plain →
    Flags o.ctx → SafeFrom o lines := by
  intro lines
  induction lines with
  | nil => intro _ _ _ _; trivial
  | cons l ls ih =>
    intro o hn hm hfl
    obtain ⟨hnl, hnls⟩ := nocolour_append.mp (by simpa using hn)
    obtain ⟨g1, g2⟩ := foldl_step_nocolour l o hm hnl
    exact ⟨Or.inr ⟨hm, hfl⟩, ih _ hnls g2 (g1 ▸ foldl_toggle_flags l hfl)⟩

theorem coherentFrom_safe (hcs : ConstsOk) (hk : CharsOk) (hf : FlagsOk) (ov : Nat) :
    ∀ (lines : List Str) (p o : PState), SimSt p o → StB 16 p → StB 16 o → MaxCovers o → SafeFrom o lines →
      (finish (lines.flatten.foldl step o)).maxSize ≤ ov →
      coherentFrom ov (some (finish p).ctx) lines = true := by
  intro lines
  induction lines with
  | nil => intro _ _ _ _ _ _ _ _; rfl
  | cons l ls ih =>
    intro p o hsim hp ho hinv hsafe hov
    have hov' : (finish (ls.flatten.foldl step (l.foldl step o))).maxSize ≤ ov := by
      simpa [List.foldl_append] using hov
    -- the recomputed state after this line simulates the original one
    have hsim' := reopen_sim hf hsim (finish_ctxB hp) hsafe.1
    have hp' : StB 16 (((finish p).ctx.start l).foldl step {}) :=
      foldl_step_okB (by omega) hcs.colorLimit _ _ (stB_default 16)
    have ho' : StB 16 (l.foldl step o) := foldl_step_okB (by omega) hcs.colorLimit _ _ ho
    have hinv' := (foldl_step_inv l hinv).1
    have hrest := ih _ _ hsim' hp' ho' hinv' hsafe.2 hov'
    -- sizes of the two original contexts involved are below the overhead
    have hs1 : (finish o).ctx.size ≤ ov := by
      have := size_finish_le_final hinv (l :: ls).flatten (safeFrom_cut hsafe); omega
    have hs2 : (finish (l.foldl step o)).ctx.size ≤ ov := by
      have := size_finish_le_final hinv' ls.flatten (safeFrom_cut hsafe.2); omega
    obtain ⟨⟨_, a1, a2, a3, a4, a5⟩, am⟩ := finish_sim hsim
    rw [am] at a5
    obtain ⟨⟨_, b1, b2, b3, b4, b5⟩, bm⟩ := finish_sim hsim'
    rw [bm] at b5
    have c1 := cost_sim hcs hk a1 a2 a3 a4 a5 (finish_ctxB ho)
    have d1 := cost_sim hcs hk b1 b2 b3 b4 b5 (finish_ctxB ho')
    have hcost : (finish p).ctx.startCost +
        b2n (finish (((finish p).ctx.start l).foldl step {})).ctx.active ≤ ov :=
      reopen_cost (by omega) (by omega)
    simp only [coherentFrom, Bool.and_eq_true, decide_eq_true_eq]
    exact ⟨hcost, hrest⟩

/-- before the first line nothing is open: the loop starts as if it re-opened the empty context -/
theorem coherentFrom_none (ov : Nat) (lines : List Str) :
    coherentFrom ov none lines = coherentFrom ov (some {}) lines := by
  cases lines with
  | nil => rfl
  | cons l ls => simp [coherentFrom, start_default, inactive_startCost {} rfl]

theorem coherentFrom_safe_all (hcs : ConstsOk) (hk : CharsOk) (hf : FlagsOk) (ov : Nat)
    (lines : List Str) (hsafe : SafeFrom {} lines) (hov : (parse lines.flatten).maxSize ≤ ov) :
    coherentFrom ov none lines = true := by
  rw [coherentFrom_none]
  exact coherentFrom_safe hcs hk hf ov lines {} {} (simSt_refl _) (stB_default 16) (stB_default 16)
    maxCovers_default hsafe hov

end C12
