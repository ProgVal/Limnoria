/-
C12 — helper lemmas: _makeReply, the reply arithmetic, the more stack.
-/
import LimnoriaModel.C12.LemmasFmt
namespace C12
open Py

/-- table facts about the probe of the reply code -/
structure TextsOk : Prop where
  probeStrip : stripCtcpStr Gen.probePayload = Gen.probePayload
  probeLen : Gen.probePayload.length = 1

/-- what the suffix reserve needs from the locale: the text picked by `max(…, key=len)` (characters) is
at least as long, in BYTES, as both the singular and the plural text -/
def TextsFine (t : Texts) : Prop :=
  blen t.moreSingular ≤ blen (longerMore t) ∧ blen t.morePlural ≤ blen (longerMore t)

instance (t : Texts) : Decidable (TextsFine t) := by unfold TextsFine; exact inferInstance

/-- an ordinary reply: neither `action=True` nor an error reply -/
def Normal (e : Env) : Prop := e.action = false ∧ e.errorMode = false

instance (e : Env) : Decidable (Normal e) := by unfold Normal; exact inferInstance

/-! ## _makeReply and the wire form -/

theorem blen_wireAs (p : Str) (o : Out) :
    blen (wireAs p o) = blen p + blen o.command + blen o.target + blen o.payload + 7 := by
  simp only [wireAs, blen_cons, blen_append, blen_nil, size_colon, size_sp, size_cr, size_lf]; omega

theorem blen_wire (e : Env) (o : Out) :
    blen (wire e o) = blen e.botPrefix + blen o.command + blen o.target + blen o.payload + 7 :=
  blen_wireAs e.botPrefix o

/-- bytes of a relayed reply around its text: `:prefix CMD target :` + nick prefix + CR LF -/
def frameLen (e : Env) : Nat :=
  blen e.botPrefix + blen (replyFrame e).1 + blen (replyFrame e).2.1 + blen (replyFrame e).2.2 + 7

theorem wire_makeReply (e : Env) (s : Str) :
    blen (wire e (makeReply e s)) = frameLen e + blen (replyBody e s) := by
  rw [blen_wire]; simp only [makeReply, frameLen, blen_append]; omega

theorem blen_stripCtcp_le (s : Str) : blen (stripCtcpStr s) ≤ blen s := by
  unfold stripCtcpStr rstripP lstripP
  rw [blen_reverse]
  calc blen (List.dropWhile isCtcp (List.dropWhile isCtcp s).reverse)
      ≤ blen (List.dropWhile isCtcp s).reverse := blen_dropWhile_le _ _
    _ = blen (List.dropWhile isCtcp s) := blen_reverse _
    _ ≤ blen s := blen_dropWhile_le _ _

theorem stripCtcpStr_replicate (k : Nat) {c : Char} (hc : isCtcp c = false) :
    stripCtcpStr (List.replicate k c) = List.replicate k c := by
  have h : ∀ n, (List.replicate n c).dropWhile isCtcp = List.replicate n c := by
    intro n; cases n <;> simp [List.replicate_succ, hc]
  simp [stripCtcpStr, rstripP, lstripP, h]

theorem replyBody_normal (e : Env) (hn : Normal e) (s : Str) :
    replyBody e s = (if (if e.stripCtcp then stripCtcpStr s else s).isEmpty then e.texts.emptyReply
      else (if e.stripCtcp then stripCtcpStr s else s)) := by
  unfold replyBody
  simp [hn.1, hn.2]

theorem blen_replyBody_le (e : Env) (hn : Normal e) (s : Str) :
    blen (replyBody e s) ≤ max (blen s) (blen e.texts.emptyReply) := by
  rw [replyBody_normal e hn]
  have := blen_stripCtcp_le s
  cases e.stripCtcp <;> simp only [Bool.false_eq_true, ↓reduceIte] <;> split <;> omega

theorem autoLength_eq (ht : TextsOk) (e : Env) (hn : Normal e) :
    autoLength e = if frameLen e < Gen.maxLine then some (Gen.maxLine - frameLen e) else none := by
  obtain ⟨hprobe, hlen⟩ := ht
  unfold autoLength
  have hne : Gen.probePayload.isEmpty = false := by
    cases hp : Gen.probePayload with
    | nil => rw [hp] at hlen; simp at hlen
    | cons _ _ => rfl
  have hbody : replyBody e Gen.probePayload = Gen.probePayload := by
    rw [replyBody_normal e hn]
    cases hsc : e.stripCtcp
    · simp [hne]
    · simp [hprobe, hne]
  have hdrop : (makeReply e Gen.probePayload).payload.dropLast = (replyFrame e).2.2 := by
    simp only [makeReply, hbody]
    cases hp : Gen.probePayload with
    | nil => rw [hp] at hlen; simp at hlen
    | cons c cs =>
      cases cs with
      | nil => simp
      | cons _ _ => rw [hp] at hlen; simp at hlen
  dsimp only
  rw [blen_wire]
  simp only [hdrop]
  simp only [makeReply, frameLen]
  rfl

/-! ## suffixes -/

theorem blen_bold (hk : CharsOk) (s : Str) : blen (bold s) = blen s + 2 := by
  simp only [bold, blen, blen_append, hk.bold]; omega

theorem blen_countText (n : Nat) (more : Str) :
    blen (countText n more) = (natToStr n).length + blen more + 3 := by
  simp only [countText, blen, blen_append, size_lpar, size_sp, size_rpar, blen_natToStr]; omega

theorem suffixReserve_eq (hk : CharsOk) (t : Texts) (n : Nat) :
    suffixReserve t n = (natToStr (Gen.tabFactor * n)).length + blen (longerMore t) + 6 := by
  simp only [suffixReserve, blen, blen_bold hk, blen_countText, size_sp]; omega

theorem blen_withSuffix_le (hk : CharsOk) (t : Texts) (ht : TextsFine t) (i n : Nat) (chunk : Str)
    (hi : i ≤ Gen.tabFactor * n) :
    blen (withSuffix t i chunk) ≤ blen chunk + suffixReserve t n := by
  unfold withSuffix
  split
  · omega
  · have hm := natToStr_length_mono _ _ hi
    rw [suffixReserve_eq hk]
    simp only [blen_append, blen, blen_bold hk, blen_countText, size_sp]
    split
    · have := ht.1; omega
    · have := ht.2; omega

/-! ## the list of messages -/

theorem buildMsgs_eq (e : Env) : ∀ (rs : List Str) (acc : List Out),
    buildMsgs e rs acc = acc ++ rs.mapIdx (fun j c => makeReply e (withSuffix e.texts (acc.length + j) c)) := by
  intro rs
  induction rs with
  | nil => intro acc; simp [buildMsgs]
  | cons c cs ih =>
    intro acc
    simp only [buildMsgs, ih, List.mapIdx_cons, List.length_append, List.length_singleton, Nat.add_zero,
      List.append_assoc, List.singleton_append]
    congr 2
    rw [List.mapIdx_eq_mapIdx_iff]
    intro i _
    congr 2
    omega

/-! ## the stack of stored messages, seen in the order of delivery (`R` = the Python list reversed) -/

theorem popLast_reverse (r : List Out) :
    popLast r.reverse = match r with
      | [] => none
      | x :: xs => some (x, xs.reverse) := by
  cases r with
  | nil => rfl
  | cons x xs => simp [popLast, List.getLast?_reverse]

theorem instantLoop_reverse : ∀ (n : Nat) (r sent : List Out),
    instantLoop n r.reverse sent = (sent ++ r.take (n - 1), (r.drop (n - 1)).reverse) := by
  intro n
  induction n using Nat.strongRecOn with
  | _ n ih =>
    intro r sent
    match n with
    | 0 => simp [instantLoop]
    | 1 => simp [instantLoop]
    | n + 2 =>
      cases r with
      | nil => simp [instantLoop, popLast]
      | cons x xs =>
        have hp := popLast_reverse (x :: xs)
        simp only at hp
        simp only [instantLoop, hp]
        rw [ih (n + 1) (by omega) xs (sent ++ [x])]
        simp

theorem moreStep_reverse (k : Nat) (hk : 1 ≤ k) (r : List Out) :
    moreStep k r.reverse = (r.take k, (r.drop k).reverse) := by
  unfold moreStep
  have hk0 : ¬ (k = 0) := by omega
  simp only [hk0, ↓reduceIte, List.length_reverse]
  have h1 : r.length - (r.length - min k r.length) = min k r.length := by omega
  rw [List.drop_reverse, List.take_reverse, h1]
  simp only [List.reverse_reverse]
  have ht : List.take (min k r.length) r = List.take k r := by
    rw [List.take_eq_take_iff]; omega
  have hd : List.drop (min k r.length) r = List.drop k r := by
    by_cases h : k ≤ r.length
    · rw [Nat.min_eq_left h]
    · rw [Nat.min_eq_right (by omega), List.drop_of_length_le (Nat.le_refl _), List.drop_of_length_le (by omega)]
  rw [ht, hd]

/-- successive `more` commands with batch sizes `ks` on the stored list `l`:
(the batches of messages queued, the list left in `_mores`) -/
def runMores : List Nat → List Out → List (List Out) × List Out
  | [], l => ([], l)
  | k :: ks, l =>
    let r := moreStep k l
    let rs := runMores ks r.2
    (r.1 :: rs.1, rs.2)

theorem runMores_reverse : ∀ (ks : List Nat), (∀ k ∈ ks, 1 ≤ k) → ∀ (r : List Out),
    (runMores ks r.reverse).1.flatten = r.take ks.sum ∧ (runMores ks r.reverse).2 = (r.drop ks.sum).reverse := by
  intro ks
  induction ks with
  | nil => intro _ r; simp [runMores]
  | cons k ks ih =>
    intro hks r
    have hk := hks k List.mem_cons_self
    have := ih (fun x hx => hks x (List.mem_cons_of_mem _ hx)) (r.drop k)
    simp only [runMores, moreStep_reverse k hk r, List.flatten_cons, List.sum_cons, this.1, this.2,
      List.take_add, List.drop_drop, and_self]

/-- the messages of a chunked reply in the order in which they are delivered -/
def deliveryOrder (e : Env) (lines : List Str) : List Out := (buildMsgs e lines.reverse []).reverse

theorem deliveryOrder_length (e : Env) (lines : List Str) : (deliveryOrder e lines).length = lines.length := by
  simp [deliveryOrder, buildMsgs_eq]

theorem deliver_eq (e : Env) (cfg : Cfg) (lines : List Str) :
    deliver e cfg lines = .sent ((deliveryOrder e lines).take (max cfg.instant 1))
      (if (deliveryOrder e lines).length < max cfg.instant 1 then none
       else some ((deliveryOrder e lines).drop (max cfg.instant 1)).reverse) := by
  unfold deliver
  have hm : buildMsgs e lines.reverse [] = (deliveryOrder e lines).reverse := by simp [deliveryOrder]
  have hmax : max cfg.instant 1 = cfg.instant - 1 + 1 := by omega
  simp only
  rw [hm, instantLoop_reverse, List.nil_append, popLast_reverse, hmax]
  by_cases hk : cfg.instant - 1 < (deliveryOrder e lines).length
  · rw [List.drop_eq_getElem_cons hk, if_neg (by omega), ← List.take_append_getElem hk]
  · rw [List.drop_of_length_le (by omega), if_pos (by omega), List.take_of_length_le (by omega),
      List.take_of_length_le (by omega)]

theorem stored_getD (d : List Out) (m : Nat) :
    (if d.length < m then none else some (d.drop m).reverse).getD [] = (d.drop m).reverse := by
  split
  · rw [List.drop_of_length_le (by omega)]; rfl
  · rfl

theorem reply_chunked (e : Env) (cfg : Cfg) (chunks : List Str) (s : Str) (allowed : Nat) (s1 : Str)
    (hprep : prepare e cfg s = some (allowed, s1, false))
    (lines : List Str) (hwrap : ircWrap chunks s1 (allowed - suffixReserve e.texts (blen s1)) = .ok lines) :
    reply e cfg chunks s = .sent ((deliveryOrder e (lines.take cfg.maximumMores)).take (max cfg.instant 1))
      (if (deliveryOrder e (lines.take cfg.maximumMores)).length < max cfg.instant 1 then none
       else some ((deliveryOrder e (lines.take cfg.maximumMores)).drop (max cfg.instant 1)).reverse) := by
  unfold reply
  rw [hprep]
  simp only [Bool.false_eq_true, ↓reduceIte, hwrap]
  exact deliver_eq e cfg _

theorem reply_count (e : Env) (cfg : Cfg) (chunks : List Str) (s : Str) (allowed : Nat) (s1 : Str)
    (hprep : prepare e cfg s = some (allowed, s1, false))
    (lines : List Str) (hwrap : ircWrap chunks s1 (allowed - suffixReserve e.texts (blen s1)) = .ok lines) :
    ∃ now stored, reply e cfg chunks s = .sent now stored ∧
      now.length + (stored.getD []).length ≤ cfg.maximumMores := by
  refine ⟨_, _, reply_chunked e cfg chunks s allowed s1 hprep lines hwrap, ?_⟩
  have hd := deliveryOrder_length e (lines.take cfg.maximumMores)
  have ht : (lines.take cfg.maximumMores).length ≤ cfg.maximumMores := List.length_take_le _ _
  rw [stored_getD]
  simp only [List.length_reverse, List.length_take, List.length_drop]; omega

theorem reply_single (e : Env) (cfg : Cfg) (chunks : List Str) (s : Str) (allowed : Nat) (s1 : Str)
    (hprep : prepare e cfg s = some (allowed, s1, true)) :
    reply e cfg chunks s = .sent [makeReply e s1] none := by
  unfold reply; rw [hprep]; rfl

theorem mem_deliveryOrder (e : Env) (lines : List Str) (o : Out) (h : o ∈ deliveryOrder e lines) :
    ∃ j l, j < lines.length ∧ l ∈ lines ∧ o = makeReply e (withSuffix e.texts j l) := by
  unfold deliveryOrder at h
  rw [List.mem_reverse, buildMsgs_eq, List.nil_append, List.mem_mapIdx] at h
  obtain ⟨i, hi, rfl⟩ := h
  simp only [List.length_nil, Nat.zero_add]
  rw [List.length_reverse] at hi
  exact ⟨i, lines.reverse[i], hi, List.mem_reverse.mp (List.getElem_mem _), rfl⟩

theorem deliveryOrder_getElem? (e : Env) (lines : List Str) (k : Nat) :
    (deliveryOrder e lines)[k]? =
      (lines[k]?).map (fun l => makeReply e (withSuffix e.texts (lines.length - 1 - k) l)) := by
  unfold deliveryOrder
  rw [buildMsgs_eq, List.nil_append]
  by_cases hk : k < lines.length
  · rw [List.getElem?_reverse (by simpa using hk)]
    simp only [List.length_mapIdx, List.length_reverse, List.getElem?_mapIdx, List.length_nil, Nat.zero_add]
    rw [List.getElem?_reverse (by omega)]
    have : lines.length - 1 - (lines.length - 1 - k) = k := by omega
    rw [this]
  · rw [List.getElem?_eq_none (by simpa using Nat.le_of_not_lt hk), List.getElem?_eq_none (Nat.le_of_not_lt hk)]
    rfl

theorem prepare_s1 (e : Env) (cfg : Cfg) (s : Str) (allowed : Nat) (s1 : Str) (b : Bool)
    (hprep : prepare e cfg s = some (allowed, s1, b)) :
    s1 = truncate allowed cfg s ∧ b = (decide (blen s1 ≤ allowed) || !cfg.mores) := by
  unfold prepare at hprep
  split at hprep
  · cases hprep
  · simp only [Option.some.injEq, Prod.mk.injEq] at hprep
    obtain ⟨h1, h2, h3⟩ := hprep
    subst h1
    exact ⟨h2.symm, by rw [← h3, ← h2]⟩

theorem prepare_auto (ht : TextsOk) (hc : ConstsOk) (e : Env) (hn : Normal e) (cfg : Cfg) (s : Str) (allowed : Nat)
    (s1 : Str) (b : Bool) (hauto : cfg.moresLength = 0) (hprep : prepare e cfg s = some (allowed, s1, b)) :
    frameLen e + allowed = 512 := by
  unfold prepare allowedLength at hprep
  simp only [hauto, ne_eq, not_true_eq_false, ↓reduceIte] at hprep
  rw [autoLength_eq ht e hn] at hprep
  have hmax := hc.maxLine
  split at hprep
  · cases hprep
  · rename_i a heq
    split at heq
    · injection heq with heq
      simp only [Option.some.injEq, Prod.mk.injEq] at hprep
      omega
    · cases heq

theorem truncate_length (allowed : Nat) (cfg : Cfg) (s : Str) : (truncate allowed cfg s).length ≤ allowed * cfg.maximumMores := by
  unfold truncate
  split
  · simp; omega
  · omega

theorem prepare_mem {e : Env} {cfg : Cfg} {s : Str} {allowed : Nat} {s1 : Str} {b : Bool}
    (hprep : prepare e cfg s = some (allowed, s1, b)) {c : Char} (hc : c ∈ s1) : c ∈ s := by
  rw [(prepare_s1 e cfg s allowed s1 b hprep).1] at hc
  unfold truncate at hc
  split at hc
  · exact List.mem_of_mem_take hc
  · exact hc

end C12
