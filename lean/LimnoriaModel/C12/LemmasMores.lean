/-
C12 — helper lemmas: the shared `_mores` dictionary and two (or more) requesters.
What a requester gets from his own `more` commands depends only on the list bound to his own
`user@host`; nothing another requester does (his own replies, `more`, `more <nick>`) changes that list,
because `more <nick>` works on a COPY and every reply allocates a fresh list.
-/
import LimnoriaModel.C12.LemmasReply
namespace C12
open Py

/-- the list currently bound to a (lowered) `user@host` key -/
def Mores.listOf (m : Mores) (key : Str) : Option (List Out) :=
  (lookupKey key m.byMask).map fun id => m.lists.getD id []

/-- list objects bound to hostmasks exist, and two different hostmasks never share a list object -/
def Mores.WF (m : Mores) : Prop :=
  (∀ k id, lookupKey k m.byMask = some id → id < m.lists.length) ∧
  (∀ k1 k2 id, lookupKey k1 m.byMask = some id → lookupKey k2 m.byMask = some id → k1 = k2)

theorem wf_empty : ({} : Mores).WF := ⟨by intro k id h; simp [lookupKey] at h, by intro k1 k2 id h; simp [lookupKey] at h⟩

theorem lookupKey_cons {β : Type} (k k' : Str) (v : β) (rest : List (Str × β)) :
    lookupKey k ((k', v) :: rest) = if k = k' then some v else lookupKey k rest := rfl

theorem getD_append_new (l : List (List Out)) (x : List Out) : (l ++ [x]).getD l.length [] = x := by
  simp [List.getD]

/-! ## binding a key to a fresh list object (a reply, or the copy made by `more <nick>`) -/

def Mores.bindFresh (m : Mores) (key : Str) (l : List Out) : Mores :=
  { m with lists := m.lists ++ [l], byMask := (key, m.lists.length) :: m.byMask }

theorem bindFresh_wf {m : Mores} (h : m.WF) (key : Str) (l : List Out) : (m.bindFresh key l).WF := by
  obtain ⟨h1, h2⟩ := h
  constructor
  · intro k id hk
    simp only [Mores.bindFresh, lookupKey_cons] at hk
    simp only [Mores.bindFresh, List.length_append, List.length_singleton]
    split at hk
    · injection hk with hk; omega
    · have := h1 k id hk; omega
  · intro k1 k2 id hk1 hk2
    simp only [Mores.bindFresh, lookupKey_cons] at hk1 hk2
    split at hk1 <;> split at hk2
    · rename_i a b; rw [a, b]
    · injection hk1 with hk1; have := h1 k2 id hk2; omega
    · injection hk2 with hk2; have := h1 k1 id hk1; omega
    · exact h2 k1 k2 id hk1 hk2

theorem bindFresh_listOf_self (m : Mores) (key : Str) (l : List Out) : (m.bindFresh key l).listOf key = some l := by
  simp [Mores.listOf, Mores.bindFresh, lookupKey_cons]

theorem bindFresh_listOf_other {m : Mores} (h : m.WF) (key a : Str) (hne : a ≠ key) (l : List Out) :
    (m.bindFresh key l).listOf a = m.listOf a := by
  simp only [Mores.listOf, Mores.bindFresh, lookupKey_cons, hne, ↓reduceIte]
  cases hl : lookupKey a m.byMask with
  | none => rfl
  | some id => simp [List.getD, List.getElem?_append_left (h.1 a id hl)]

/-- `store` and `adopt` are `bindFresh` as far as the hostmask bindings and the heap are concerned
(`WF` and `listOf` read nothing else) -/
theorem store_eq (m : Mores) (mask nick : Str) (priv : Bool) (msgs : List Out) (a : Str) :
    (m.store mask nick priv msgs).listOf a = (m.bindFresh (ircLower mask) msgs).listOf a := rfl

theorem adopt_eq {m m' : Mores} {mask nick : Str} (h : m.adopt mask nick = .ok m') :
    ∃ l, (m'.WF ↔ (m.bindFresh (ircLower mask) l).WF) ∧ ∀ a, m'.listOf a = (m.bindFresh (ircLower mask) l).listOf a := by
  unfold Mores.adopt at h
  split at h
  · cases h
  · rename_i priv id _
    split at h
    · cases h
    · injection h with h; subst h
      exact ⟨m.lists.getD id [], Iff.rfl, fun _ => rfl⟩

/-! ## popping -/

theorem pop_wf {m : Mores} (h : m.WF) (mask : Str) (n : Nat) : (m.pop mask n).1.WF := by
  unfold Mores.pop
  split
  · exact h
  · exact ⟨by simpa using h.1, by simpa using h.2⟩

theorem pop_listOf_other {m : Mores} (h : m.WF) (mask : Str) (n : Nat) (a : Str) (hne : a ≠ ircLower mask) :
    (m.pop mask n).1.listOf a = m.listOf a := by
  unfold Mores.pop
  split
  · rfl
  · rename_i id hid
    simp only [Mores.listOf]
    cases hl : lookupKey a m.byMask with
    | none => rfl
    | some ida =>
      simp only [Option.map_some]
      have : id ≠ ida := by
        intro heq; subst heq
        exact hne (h.2 a (ircLower mask) id hl hid)
      simp [List.getD, List.getElem?_set_ne this]

/-- what a plain `more` answers, and what is left, are functions of the caller's own list only -/
theorem pop_own {m : Mores} (h : m.WF) (mask : Str) (n : Nat) :
    (m.pop mask n).2 = (match m.listOf (ircLower mask) with
      | none => MoreRes.notAsked
      | some l => if (moreStep n l).1.isEmpty then .noMore else .sent (moreStep n l).1) ∧
    (m.pop mask n).1.listOf (ircLower mask) = (m.listOf (ircLower mask)).map fun l => (moreStep n l).2 := by
  unfold Mores.pop Mores.listOf
  cases hl : lookupKey (ircLower mask) m.byMask with
  | none => simp [hl]
  | some id =>
    simp only [Option.map_some, hl]
    exact ⟨trivial, by simp [List.getD, List.getElem?_set_self (h.1 _ id hl)]⟩

/-! ## traces of actions by several requesters -/

inductive Act where
  | more (mask : Str) (nick : Option Str) (number : Nat)          -- `more [<nick>]` by `…!mask`
  | store (mask nick : Str) (priv : Bool) (msgs : List Out)       -- a chunked reply to `nick!mask`

/-- whose `user@host` an action is made under -/
def Act.key : Act → Str
  | .more mask _ _ => ircLower mask
  | .store mask _ _ _ => ircLower mask

/-- an action that only looks at the caller's own binding -/
def Act.own : Act → Bool
  | .more _ none _ => true
  | .more _ (some _) _ => false
  | .store _ _ _ _ => true

def Mores.act (m : Mores) : Act → Mores × Option MoreRes
  | .more mask nick n => ((m.more mask nick n).1, some (m.more mask nick n).2)
  | .store mask nick priv msgs => (m.store mask nick priv msgs, none)

/-- the answers of the bot along a trace, each tagged with the hostmask it was given to -/
def Mores.run (m : Mores) : List Act → List (Str × Option MoreRes)
  | [] => []
  | a :: as => (a.key, (m.act a).2) :: (m.act a).1.run as

theorem act_other {m : Mores} (h : m.WF) (act : Act) (a : Str) (hne : a ≠ act.key) :
    (m.act act).1.WF ∧ (m.act act).1.listOf a = m.listOf a := by
  cases act with
  | store mask nick priv msgs =>
    simp only [Mores.act, Act.key] at hne ⊢
    exact ⟨bindFresh_wf h _ msgs, bindFresh_listOf_other h _ a hne msgs⟩
  | more mask nick n =>
    simp only [Act.key] at hne
    cases nick with
    | none =>
      simp only [Mores.act, Mores.more]
      exact ⟨pop_wf h mask n, pop_listOf_other h mask n a hne⟩
    | some nk =>
      simp only [Mores.act, Mores.more]
      cases hadopt : m.adopt mask nk with
      | error e => exact ⟨h, rfl⟩
      | ok m' =>
        obtain ⟨l, hw, hl⟩ := adopt_eq hadopt
        have hwf' : m'.WF := hw.mpr (bindFresh_wf h _ l)
        simp only
        refine ⟨pop_wf hwf' mask n, ?_⟩
        rw [pop_listOf_other hwf' mask n a hne, hl a, bindFresh_listOf_other h _ a hne l]

theorem act_own {m m' : Mores} (h : m.WF) (h' : m'.WF) (act : Act) (hown : act.own = true)
    (hl : m.listOf act.key = m'.listOf act.key) :
    (m.act act).2 = (m'.act act).2 ∧ (m.act act).1.WF ∧ (m'.act act).1.WF ∧
    (m.act act).1.listOf act.key = (m'.act act).1.listOf act.key := by
  cases act with
  | store mask nick priv msgs =>
    simp only [Mores.act, Act.key]
    refine ⟨trivial, bindFresh_wf h _ msgs, bindFresh_wf h' _ msgs, ?_⟩
    rw [store_eq, store_eq, bindFresh_listOf_self, bindFresh_listOf_self]
  | more mask nick n =>
    cases nick with
    | some nk => simp [Act.own] at hown
    | none =>
      simp only [Act.key] at hl
      simp only [Mores.act, Mores.more, Act.key]
      obtain ⟨a1, a2⟩ := pop_own h mask n
      obtain ⟨b1, b2⟩ := pop_own h' mask n
      refine ⟨by rw [a1, b1, hl], pop_wf h mask n, pop_wf h' mask n, by rw [a2, b2, hl]⟩

theorem run_filter (a : Str) : ∀ (acts : List Act) (m m' : Mores), m.WF → m'.WF → m.listOf a = m'.listOf a →
    (∀ act ∈ acts, act.key = a → act.own = true) →
    (m.run acts).filter (fun r => r.1 = a) = m'.run (acts.filter fun act => act.key = a) := by
  intro acts
  induction acts with
  | nil => intro _ _ _ _ _ _; rfl
  | cons act rest ih =>
    intro m m' h h' hl hown
    have hrest : ∀ x ∈ rest, x.key = a → x.own = true := fun x hx => hown x (List.mem_cons_of_mem _ hx)
    by_cases hk : act.key = a
    · have ho := hown act List.mem_cons_self hk
      obtain ⟨e1, e2, e3, e4⟩ := act_own h h' act ho (by rw [hk]; exact hl)
      rw [hk] at e4
      simp only [Mores.run, List.filter_cons, hk, decide_true, ↓reduceIte]
      rw [e1, ih _ _ e2 e3 e4 hrest]
    · obtain ⟨e1, e2⟩ := act_other h act a (fun heq => hk heq.symm)
      simp only [Mores.run, List.filter_cons, hk, decide_false, Bool.false_eq_true, ↓reduceIte]
      exact ih _ _ e1 h' (by rw [e2]; exact hl) hrest

def Act.number : Act → Nat
  | .more _ _ k => k
  | .store _ _ _ _ => 0

def Act.plain : Act → Bool
  | .more _ none _ => true
  | _ => false

theorem Act.own_of_plain : ∀ {act : Act}, act.plain = true → act.own = true
  | .more _ none _, _ => rfl
  | .more _ (some _) _, h => by cases h
  | .store _ _ _ _, h => by cases h

def moreAnswer (b : List Out) : Option MoreRes := some (if b.isEmpty then .noMore else .sent b)

theorem run_plain (a : Str) : ∀ (acts : List Act) (m : Mores) (l : List Out), m.WF → m.listOf a = some l →
    (∀ act ∈ acts, act.key = a ∧ act.plain = true) →
    m.run acts = (runMores (acts.map Act.number) l).1.map fun b => (a, moreAnswer b) := by
  intro acts
  induction acts with
  | nil => intro _ _ _ _ _; rfl
  | cons act rest ih =>
    intro m l h hl hall
    obtain ⟨hk, hp⟩ := hall act List.mem_cons_self
    have hrest : ∀ x ∈ rest, x.key = a ∧ x.plain = true := fun x hx => hall x (List.mem_cons_of_mem _ hx)
    cases act with
    | store _ _ _ _ => simp [Act.plain] at hp
    | more mask nick n =>
      cases nick with
      | some _ => simp [Act.plain] at hp
      | none =>
        simp only [Act.key] at hk
        obtain ⟨a1, a2⟩ := pop_own h mask n
        rw [hk, hl] at a1 a2
        simp only [Option.map_some] at a2
        simp only [Mores.run, Mores.act, Mores.more, Act.key, hk, List.map_cons, Act.number, runMores]
        rw [ih _ _ (pop_wf h mask n) a2 hrest, a1]
        rfl
end C12
