/-
C12 — property theorems: long replies are split without loss, invention or overflow.

Parameters of the model (stated contracts): `chunks` is `textwrap.TextWrapper()._split_chunks(t)`,
whose only assumed property is `chunks.flatten = munge t` (and no empty chunk); the text `s` is what
`ircutils.safeArgument` returned; `irc.isChannel` enters through three booleans of `Env`.
-/
import LimnoriaModel.C12.LemmasStrip
import LimnoriaModel.C12.LemmasMores
namespace C12
open Py

/-- Facts about the constants *extracted from /repo* on which the theorems below rest: the four tries of
`splitBytes`, the sizes counted by `FormatContext.size`, the colour limit of `getInt`, 512, the factor 8
of the suffix reserve, the wire template of the probe, the suffix texts, the control characters.
Re-checked by `decide` against whatever the sources say now. -/
theorem consts_ok : ConstsOk ∧ CharsOk ∧ TextsOk := by
  refine ⟨?_, ?_, ?_⟩ <;> constructor <;> decide +kernel

theorem flags_ok : FlagsOk := by constructor <;> decide +kernel

theorem colour_ok : Gen.colorLimit ≤ 16 := consts_ok.1.colorLimit

def textsOfRow (r : Str × Str × Str × Str × Str) : Texts :=
  { moreSingular := r.2.1, morePlural := r.2.2.1, emptyReply := r.2.2.2.1, errorPrefix := r.2.2.2.2 }

/-- The suffix reserve is sufficient in every shipped translation (and in English): the text chosen by
`max(_('more message'), _('more messages'), key=len)` is, in bytes, at least as long as both.
An obligation over the table extracted from locales/*.po. -/
theorem locale_texts_ok : TextsFine Texts.english ∧ ∀ r ∈ Gen.localeTexts, TextsFine (textsOfRow r) := by
  decide +kernel

/-! ## utils.str.splitBytes / byteTextWrap -/

/-- `splitBytes(word, size)` for a word longer than `size ≥ 4` bytes never hits its `assert False`: it
cuts the word at a character boundary; the first part is not empty and has at most `size` bytes. -/
theorem splitBytes_spec (w : Str) (size : Nat) (h4 : 4 ≤ size) (hlong : size < blen w) :
    ∃ a b, splitBytes w size = some (a, b) ∧ a ++ b = w ∧ 0 < blen a ∧ blen a ≤ size := by
  obtain ⟨a, b, h1, h2, h3, h4'⟩ := splitBytes_cut consts_ok.1 w size h4 hlong
  exact ⟨a, b, h1, h2, by omega, h3⟩

example : splitBytes "aé😀b".toList 4 = some ("aé".toList, "😀b".toList) := by decide +kernel

/-- `byteTextWrap(t, size)` for any text and any `size ≥ 4`: the loop terminates normally, the lines
concatenate to the whitespace-munged text, and no line has more than `size` bytes. -/
theorem wrap_concat (t : Str) (chunks : List Str) (hcontract : chunks.flatten = munge t)
    (size : Nat) (h4 : 4 ≤ size) :
    ∃ lines, byteTextWrap chunks size = .ok lines ∧ lines.flatten = munge t ∧ ∀ l ∈ lines, blen l ≤ size := by
  obtain ⟨out, h1, h2, h3, _⟩ := byteTextWrap_ok consts_ok.1 chunks size h4
  exact ⟨out, h1, h2.trans hcontract, h3⟩

example : ["ab".toList, "      ".toList, "cd".toList].flatten = munge "ab\tcd".toList := by decide +kernel

/-- no line is empty (so there are at most as many lines as bytes) -/
theorem byteTextWrap_lines_nonempty (chunks : List Str) (hne : chunks ≠ []) (hall : ∀ c ∈ chunks, c ≠ [])
    (size : Nat) (h4 : 4 ≤ size) (lines : List Str) (h : byteTextWrap chunks size = .ok lines) :
    ∀ l ∈ lines, l ≠ [] := by
  obtain ⟨out, h2, h3, _, h5⟩ := byteTextWrap_ok consts_ok.1 chunks size h4
  rw [h] at h2; injection h2 with h2; subst h2
  rcases h5 hall with h1 | h1
  · -- lines = [[]] is impossible: the chunks are not empty, so the flattened text is not empty
    subst h1
    cases chunks with
    | nil => exact absurd rfl hne
    | cons c cs =>
      simp only [List.flatten_cons, List.flatten_nil, List.append_nil] at h3
      exact absurd (List.append_eq_nil_iff.mp h3.symm).1 (hall c List.mem_cons_self)
  · exact h1

example : byteTextWrap ["中中中".toList, " ".toList, "ab".toList] 4 = .ok ["中".toList, "中".toList, "中 ".toList, "ab".toList] := by
  decide +kernel

/-! ## FormatContext / FormatParser / ircutils.wrap -/

/-- the parser only returns colours of at most two digits -/
theorem parse_colours_small (s : Str) : CtxOk (parse s).ctx := parse_ctxOk consts_ok.1 s

/-- re-opening a context in front of a chunk and closing it after it costs at most `size()` bytes
(`size()` is what `ircutils.wrap` reserves).  Needed the fix to `FormatContext.size`: colour 0 and a
lone background were not counted. -/
theorem start_end_size (c : Ctx) (hok : CtxOk c) (s : Str) : blen (c.end (c.start s)) ≤ blen s + c.size := by
  rw [blen_end consts_ok.2.1, blen_start consts_ok.2.1]
  have := startCost_le_size consts_ok.1 consts_ok.2.1 c hok
  omega

example : CtxOk { fg := some 0, bg := some 15, bold := true } := by
  constructor <;> intro x h <;> simp at h <;> omega

/-- structure of `ircutils.wrap` when the size handed to `byteTextWrap` is at least 4 -/
theorem ircWrap_struct (chunks : List Str) (s : Str) (length : Nat) (h4 : (parse s).maxSize + 4 ≤ length) :
    ∃ raw, byteTextWrap chunks (length - (parse s).maxSize) = .ok raw ∧
      ircWrap chunks s length = .ok (processLines none raw) ∧ raw.flatten = chunks.flatten ∧
      (∀ l ∈ raw, blen l ≤ length - (parse s).maxSize) := by
  obtain ⟨out, hb, h2, h3, _⟩ := byteTextWrap_ok consts_ok.1 chunks (length - (parse s).maxSize) (by omega)
  exact ⟨out, hb, by unfold ircWrap; simp only [hb], h2, h3⟩

theorem ircWrap_coherent (chunks : List Str) (s : Str) (length : Nat) (h4 : (parse s).maxSize + 4 ≤ length)
    (hco : coherent chunks s length = true) :
    ∃ raw, byteTextWrap chunks (length - (parse s).maxSize) = .ok raw ∧ raw.flatten = chunks.flatten ∧
      ircWrap chunks s length = .ok (processLines none raw) ∧ ∀ l ∈ processLines none raw, blen l ≤ length := by
  obtain ⟨raw, hb, hw, hflat, h3⟩ := ircWrap_struct chunks s length h4
  rw [coherent_eq hb] at hco
  refine ⟨raw, hb, hflat, hw, fun l hl => ?_⟩
  have := processLines_fits consts_ok.2.1 (parse s).maxSize (length - (parse s).maxSize) raw none hco h3 l hl
  omega

/-
Full statement (every line of `ircutils.wrap(s, length)` has at most `length` bytes):

    ∀ chunks s length, chunks.flatten = munge s → (parse s).maxSize + 4 ≤ length →
      ∃ lines, ircWrap chunks s length = .ok lines ∧ ∀ l ∈ lines, blen l ≤ length

FALSE on the pinned tree (`ircWrap_fits_counterexample`): the contexts are recomputed by parsing the
*produced* lines, so a re-opened foreground colour code followed by ",<digit>" is read as a
foreground,background pair and the next chunks are re-opened with a context larger than any context of
the original text (a digit following the code is harmless since `getInt` reads at most two digits)
(known finding C12-reopened-colour-runs-into-text).  Proved under the decidable coherence condition,
which holds for every text without formatting codes (`ircWrap_plain`).
-/
theorem ircWrap_fits_partial (chunks : List Str) (s : Str) (length : Nat)
    (h4 : (parse s).maxSize + 4 ≤ length) (hco : coherent chunks s length = true) :
    ∃ lines, ircWrap chunks s length = .ok lines ∧ ∀ l ∈ lines, blen l ≤ length := by
  obtain ⟨raw, _, _, hw, hfit⟩ := ircWrap_coherent chunks s length h4 hco
  exact ⟨_, hw, hfit⟩

def cexChunks : List Str := [[Char.ofNat 3, '1'], " ".toList, "aaaa".toList, " ".toList, ",2bbbb".toList, " ".toList, ",cccc".toList]
def cexText : Str := [Char.ofNat 3, '1'] ++ " aaaa ,2bbbb ,cccc".toList

example : cexChunks.flatten = munge cexText ∧ (parse cexText).maxSize + 4 ≤ 11 := by decide +kernel

/-- `ircutils.wrap('\x031 aaaa ,2bbbb ,cccc', 11)` returns a line of 12 bytes. -/
theorem ircWrap_fits_counterexample :
    ¬ (∀ chunks s length, chunks.flatten = munge s → (parse s).maxSize + 4 ≤ length →
        ∃ lines, ircWrap chunks s length = .ok lines ∧ ∀ l ∈ lines, blen l ≤ length) := by
  intro h
  obtain ⟨lines, h1, h2⟩ := h cexChunks cexText 11 (by decide +kernel) (by decide +kernel)
  have hv : ircWrap cexChunks cexText 11 = .ok
      [[Char.ofNat 3, '1', ' ', Char.ofNat 15],
       Char.ofNat 3 :: ("01aaaa ".toList ++ [Char.ofNat 15]),
       Char.ofNat 3 :: ("01,2bbbb".toList ++ [Char.ofNat 15]),
       Char.ofNat 3 :: ("1,02 ,cccc".toList ++ [Char.ofNat 15])] := by decide +kernel
  rw [hv] at h1
  injection h1 with h1
  subst h1
  exact absurd (h2 (Char.ofNat 3 :: ("1,02 ,cccc".toList ++ [Char.ofNat 15])) (by simp)) (by decide +kernel)

theorem coherent_of_safe (chunks : List Str) (s : Str) (hcontract : chunks.flatten = munge s)
    (length : Nat) (h4 : (parse s).maxSize + 4 ≤ length)
    (hsafe : ∀ raw, byteTextWrap chunks (length - (parse s).maxSize) = .ok raw → raw.flatten = munge s →
      SafeFrom {} raw) : coherent chunks s length = true := by
  obtain ⟨raw, hraw, _, hflat, _⟩ := ircWrap_struct chunks s length h4
  rw [coherent_eq hraw]
  apply coherentFrom_safe_all consts_ok.1 consts_ok.2.1 flags_ok _ raw (hsafe raw hraw (hflat.trans hcontract))
  rw [hflat, hcontract, parse_munge]
  exact Nat.le_refl _

/-- For text without colour codes (any use of bold, reverse, underline, reset, italic; over-long words;
multi-byte characters) the contexts `ircutils.wrap` recomputes from the produced lines are the contexts
of the original text, so the reserved overhead always suffices. -/
theorem coherent_nocolour (chunks : List Str) (s : Str) (hn : NoColour s) (hcontract : chunks.flatten = munge s)
    (length : Nat) (h4 : (parse s).maxSize + 4 ≤ length) : coherent chunks s length = true := by
  exact coherent_of_safe chunks s hcontract length h4 fun raw _ hflat =>
    safeFrom_nocolour raw {} (hflat ▸ nocolour_munge flags_ok hn) rfl flags_default

/-- For text without formatting codes `ircutils.wrap` is `byteTextWrap`: the lines concatenate to the
munged text (nothing lost, nothing invented) and every line has at most `length` bytes. -/
theorem ircWrap_plain (chunks : List Str) (s : Str) (hplain : Plain s) (hcontract : chunks.flatten = munge s)
    (length : Nat) (h4 : 4 ≤ length) :
    ∃ lines, ircWrap chunks s length = .ok lines ∧ lines.flatten = munge s ∧ ∀ l ∈ lines, blen l ≤ length := by
  have hms : (parse s).maxSize = 0 := by rw [parse_plain s hplain]
  obtain ⟨out, h1, h2, h3⟩ := wrap_concat s chunks hcontract length h4
  have hpl : ∀ l ∈ out, Plain l := fun l hl c hc =>
    plain_munge hplain c (h2 ▸ List.mem_flatten.mpr ⟨l, hl, hc⟩)
  refine ⟨out, ?_, h2, h3⟩
  unfold ircWrap
  simp only [hms, Nat.sub_zero, h1]
  rw [processLines_plain out hpl none (Or.inl rfl)]

theorem coherent_plain (chunks : List Str) (s : Str) (hplain : Plain s) (hcontract : chunks.flatten = munge s)
    (length : Nat) (h4 : 4 ≤ length) : coherent chunks s length = true :=
  coherent_nocolour chunks s (plain_nocolour hplain) hcontract length (by rw [parse_plain s hplain]; exact h4)

example : Plain "hello wörld 中文 😀".toList := by decide +kernel

/-! ## _makeReply and the reply arithmetic -/

/-- A relayed reply is the frame chosen by `_makeReply` (bot hostmask, command, real target, nick prefix:
`frameLen`) plus its text; the text is the payload stripped of `\x01`, or the 44-byte error text. -/
theorem makeReply_wire (e : Env) (hn : Normal e) (s : Str) :
    blen (wire e (makeReply e s)) = frameLen e + blen (replyBody e s) ∧
    blen (replyBody e s) ≤ max (blen s) (blen e.texts.emptyReply) :=
  ⟨wire_makeReply e s, blen_replyBody_le e hn s⟩

/-- number of lines: at most 8 × the bytes of the text (never 0) -/
theorem raw_length_le (chunks : List Str) (t : Str) (hcontract : chunks.flatten = munge t) (hne : ∀ c ∈ chunks, c ≠ [])
    (size : Nat) (h4 : 4 ≤ size) (raw : List Str) (h : byteTextWrap chunks size = .ok raw) :
    raw.length ≤ max 1 (8 * blen t) := by
  obtain ⟨out, h1, h2, _, h5⟩ := byteTextWrap_ok consts_ok.1 chunks size h4
  rw [h] at h1; injection h1 with h1; subst h1
  rcases h5 hne with rfl | hn
  · simp only [List.length_cons, List.length_nil]; omega
  · have := blen_flatten_ge_length hn
    rw [h2, hcontract] at this
    have := munge_blen_le t
    omega

/-
Full statement (every message of a chunked reply, as relayed by the server, fits in 512 bytes, for all
texts and settings):  `fits_512_partial` without the hypothesis `hco`.  FALSE on the pinned tree for the
reason given at `ircWrap_fits_partial` (a formatted reply whose re-opened colour code runs into the
following digits and comma); true outright for text without formatting codes (`fits_512_plain`).
What was repaired so that it holds at all: the room is measured on the message `_makeReply` really
builds (`frameLen`), the suffix reserve covers `' \x02(N more messages)\x02'` for every possible `N`,
`FormatContext.size` counts colour 0 and lone backgrounds.
-/
theorem fits_length_partial (e : Env) (hn : Normal e) (hT : TextsFine e.texts) (cfg : Cfg) (chunks : List Str)
    (s : Str) (allowed : Nat) (s1 : Str)
    (hprep : prepare e cfg s = some (allowed, s1, false))
    (hE : blen e.texts.emptyReply ≤ allowed)
    (hcontract : chunks.flatten = munge s1) (hne : ∀ c ∈ chunks, c ≠ [])
    (h4 : suffixReserve e.texts (blen s1) + (parse s1).maxSize + 4 ≤ allowed)
    (hco : coherent chunks s1 (allowed - suffixReserve e.texts (blen s1)) = true) :
    ∃ now stored, reply e cfg chunks s = .sent now stored ∧
      ∀ o ∈ now ++ stored.getD [], blen (wire e o) ≤ frameLen e + allowed := by
  obtain ⟨hc, hk, ht⟩ := consts_ok
  have hlen4 : (parse s1).maxSize + 4 ≤ allowed - suffixReserve e.texts (blen s1) := by omega
  obtain ⟨raw, hraw, _, hwrap, hfit⟩ := ircWrap_coherent chunks s1 _ hlen4 hco
  have hcount : (processLines none raw).length ≤ max 1 (8 * blen s1) := by
    rw [processLines_length]
    exact raw_length_le chunks s1 hcontract hne _ (by omega) raw hraw
  have hrep := reply_chunked e cfg chunks s allowed s1 hprep _ hwrap
  refine ⟨_, _, hrep, ?_⟩
  intro o ho
  have hmem : o ∈ deliveryOrder e ((processLines none raw).take cfg.maximumMores) := by
    rw [stored_getD] at ho
    rcases List.mem_append.mp ho with h | h
    · exact List.mem_of_mem_take h
    · exact List.mem_of_mem_drop (List.mem_reverse.mp h)
  obtain ⟨j, l, hj, hl, rfl⟩ := mem_deliveryOrder e _ o hmem
  have hl := List.mem_of_mem_take hl
  have hj : j < (processLines none raw).length := by
    simp only [List.length_take] at hj; omega
  have htab := hc.tabFactor
  have hj' : j ≤ Gen.tabFactor * blen s1 := by rw [htab]; omega
  have h1 := blen_withSuffix_le hk e.texts hT j (blen s1) l hj'
  have h2 := hfit l hl
  obtain ⟨h3, h5⟩ := makeReply_wire e hn (withSuffix e.texts j l)
  omega

/-- the same with `reply.mores.length = 0`: the room is what is left of 512 bytes -/
theorem fits_512_partial (e : Env) (hn : Normal e) (hT : TextsFine e.texts) (cfg : Cfg) (chunks : List Str)
    (s : Str) (allowed : Nat) (s1 : Str)
    (hauto : cfg.moresLength = 0)
    (hprep : prepare e cfg s = some (allowed, s1, false))
    (hE : blen e.texts.emptyReply ≤ allowed)
    (hcontract : chunks.flatten = munge s1) (hne : ∀ c ∈ chunks, c ≠ [])
    (h4 : suffixReserve e.texts (blen s1) + (parse s1).maxSize + 4 ≤ allowed)
    (hco : coherent chunks s1 (allowed - suffixReserve e.texts (blen s1)) = true) :
    ∃ now stored, reply e cfg chunks s = .sent now stored ∧
      ∀ o ∈ now ++ stored.getD [], blen (wire e o) ≤ 512 := by
  obtain ⟨hc, _, ht⟩ := consts_ok
  have hframe := prepare_auto ht hc e hn cfg s allowed s1 false hauto hprep
  obtain ⟨now, stored, h1, h2⟩ := fits_length_partial e hn hT cfg chunks s allowed s1 hprep hE hcontract hne h4 hco
  exact ⟨now, stored, h1, fun o ho => by have := h2 o ho; omega⟩

/-- For a reply without formatting codes, every message of a chunked reply fits in 512 bytes — for every
target, nick prefix, notice/private/to= combination, bot hostmask, nick and setting of
reply.mores.{maximum,instant}. -/
theorem fits_512_plain (e : Env) (hn : Normal e) (hT : TextsFine e.texts) (cfg : Cfg) (chunks : List Str) (s : Str) (allowed : Nat) (s1 : Str)
    (hplain : Plain s)
    (hauto : cfg.moresLength = 0)
    (hprep : prepare e cfg s = some (allowed, s1, false))
    (hE : blen e.texts.emptyReply ≤ allowed)
    (hcontract : chunks.flatten = munge s1) (hne : ∀ c ∈ chunks, c ≠ [])
    (h4 : suffixReserve e.texts (blen s1) + 4 ≤ allowed) :
    ∃ now stored, reply e cfg chunks s = .sent now stored ∧
      ∀ o ∈ now ++ stored.getD [], blen (wire e o) ≤ 512 := by
  have hp1 : Plain s1 := fun c hc => hplain c (prepare_mem hprep hc)
  have hms : (parse s1).maxSize = 0 := by rw [parse_plain s1 hp1]
  exact fits_512_partial e hn hT cfg chunks s allowed s1 hauto hprep hE hcontract hne (by omega)
    (coherent_plain chunks s1 hp1 hcontract _ (by omega))

/-- A reply that goes out as one message (reply.mores on) fits in 512 bytes. -/
theorem single_fits_512 (e : Env) (hn : Normal e) (cfg : Cfg) (chunks : List Str) (s : Str) (allowed : Nat) (s1 : Str)
    (hauto : cfg.moresLength = 0) (hmores : cfg.mores = true)
    (hprep : prepare e cfg s = some (allowed, s1, true))
    (hE : blen e.texts.emptyReply ≤ allowed) :
    reply e cfg chunks s = .sent [makeReply e s1] none ∧ blen (wire e (makeReply e s1)) ≤ 512 := by
  obtain ⟨hc, hk, ht⟩ := consts_ok
  have hframe := prepare_auto ht hc e hn cfg s allowed s1 true hauto hprep
  obtain ⟨_, hb⟩ := prepare_s1 e cfg s allowed s1 true hprep
  constructor
  · exact reply_single e cfg chunks s allowed s1 hprep
  · simp only [hmores, Bool.not_true, Bool.or_false, true_eq_decide_iff] at hb
    obtain ⟨h3, h5⟩ := makeReply_wire e hn s1
    omega

/-! ## the more protocol -/

/-- Python order of the stored stack: the message at index `j` carries the count `j`, which is the
number of messages below it, i.e. still stored once it has been delivered. -/
theorem more_counts (e : Env) (revChunks : List Str) :
    buildMsgs e revChunks [] = revChunks.mapIdx (fun j c => makeReply e (withSuffix e.texts j c)) := by
  rw [buildMsgs_eq]; simp

/-- In delivery order: the `k`-th message (0-based) of `n` carries line `k` followed by the count
`n - 1 - k` — the number of messages that remain. -/
theorem more_counts_delivery (e : Env) (lines : List Str) (k : Nat) :
    (deliveryOrder e lines)[k]? =
      (lines[k]?).map (fun l => makeReply e (withSuffix e.texts (lines.length - 1 - k) l)) :=
  deliveryOrder_getElem? e lines k

/-- The first answer of a chunked reply is the first `max instant 1` messages in order; the rest is
stored, in order, in `_mores` (nothing is stored when everything went out at once). -/
theorem reply_first_batch (e : Env) (cfg : Cfg) (chunks : List Str) (s : Str) (allowed : Nat) (s1 : Str)
    (hprep : prepare e cfg s = some (allowed, s1, false))
    (hres : suffixReserve e.texts (blen s1) ≤ allowed)
    (lines : List Str) (hwrap : ircWrap chunks s1 (allowed - suffixReserve e.texts (blen s1)) = .ok lines) :
    reply e cfg chunks s = .sent ((deliveryOrder e (lines.take cfg.maximumMores)).take (max cfg.instant 1))
      (if (deliveryOrder e (lines.take cfg.maximumMores)).length < max cfg.instant 1 then none
       else some ((deliveryOrder e (lines.take cfg.maximumMores)).drop (max cfg.instant 1)).reverse) :=
  reply_chunked e cfg chunks s allowed s1 hprep lines hwrap

/-- First answer plus successive `more` commands, for any batch sizes `ks` (Misc.mores ≥ 1, possibly
changing between calls): the messages queued are, in order and each exactly once, the first
`max instant 1 + Σ ks` messages of the reply; what is left in `_mores` is the rest.  In particular
once `max instant 1 + Σ ks ≥ n` everything has been delivered and the stack is empty. -/
theorem more_protocol (e : Env) (cfg : Cfg) (chunks : List Str) (s : Str) (allowed : Nat) (s1 : Str)
    (hprep : prepare e cfg s = some (allowed, s1, false))
    (hres : suffixReserve e.texts (blen s1) ≤ allowed)
    (lines : List Str) (hwrap : ircWrap chunks s1 (allowed - suffixReserve e.texts (blen s1)) = .ok lines)
    (ks : List Nat) (hks : ∀ k ∈ ks, 1 ≤ k) :
    ∃ now stored, reply e cfg chunks s = .sent now stored ∧
      now ++ (runMores ks (stored.getD [])).1.flatten = (deliveryOrder e (lines.take cfg.maximumMores)).take (max cfg.instant 1 + ks.sum) ∧
      (runMores ks (stored.getD [])).2 = ((deliveryOrder e (lines.take cfg.maximumMores)).drop (max cfg.instant 1 + ks.sum)).reverse := by
  refine ⟨_, _, reply_chunked e cfg chunks s allowed s1 hprep lines hwrap, ?_⟩
  rw [stored_getD]
  obtain ⟨h1, h2⟩ := runMores_reverse ks hks ((deliveryOrder e (lines.take cfg.maximumMores)).drop (max cfg.instant 1))
  rw [h1, h2, List.drop_drop, List.take_add]
  exact ⟨rfl, rfl⟩

example : runMores [1, 2] [(⟨[], [], ['c']⟩ : Out), ⟨[], [], ['b']⟩, ⟨[], [], ['a']⟩] =
    ([[⟨[], [], ['a']⟩], [⟨[], [], ['b']⟩, ⟨[], [], ['c']⟩]], []) := by decide +kernel

/-! ## several requesters: the shared `_mores` dictionary -/

/-- Non-interference.  Along ANY trace of replies, `more` and `more <nick>` commands by any number of
requesters, what the requester with `user@host` key `a` is answered is exactly what he would be
answered if nobody else had done anything — provided his own actions are replies and plain `more`s.
(`more <nick>` by somebody else works on a copy; every reply allocates a fresh list; two different
`user@host` never share a list object — the invariant `Mores.WF`.) -/
theorem two_requesters (m : Mores) (hwf : m.WF) (a : Str) (acts : List Act)
    (hown : ∀ act ∈ acts, act.key = a → act.own = true) :
    (m.run acts).filter (fun r => r.1 = a) = m.run (acts.filter fun act => act.key = a) :=
  run_filter a acts m m hwf hwf rfl hown

/-- The protocol theorem for interleavings: `stored` is what a chunked reply left in `_mores` for
`nick!mask`; whatever the other requesters do meanwhile — including `more <nick>` on this very reply —
the successive plain `more`s of the requester are answered, in order and each exactly once, with the
batches `runMores` computes on `stored` alone (see `more_protocol` for what these batches are), then
with "there is no more". -/
theorem more_protocol_interleaved (m : Mores) (hwf : m.WF) (mask nick : Str) (priv : Bool) (stored : List Out)
    (acts : List Act)
    (hplain : ∀ act ∈ acts, act.key = ircLower mask → act.plain = true) :
    ((m.store mask nick priv stored).run acts).filter (fun r => r.1 = ircLower mask) =
      (runMores ((acts.filter fun act => act.key = ircLower mask).map Act.number) stored).1.map
        fun b => (ircLower mask, moreAnswer b) := by
  have hwf' : (m.store mask nick priv stored).WF := bindFresh_wf hwf _ stored
  have hown : ∀ act ∈ acts, act.key = ircLower mask → act.own = true :=
    fun act hact hk => Act.own_of_plain (hplain act hact hk)
  rw [two_requesters _ hwf' (ircLower mask) acts hown]
  apply run_plain (ircLower mask) _ _ stored hwf'
  · rw [store_eq]; exact bindFresh_listOf_self _ _ _
  · intro act hact
    obtain ⟨h1, h2⟩ := List.mem_filter.mp hact
    have hk : act.key = ircLower mask := by simpa using h2
    exact ⟨hk, hplain act h1 hk⟩

/-- what `more <nick>` gives the caller: a copy of the list stored under `<nick>`, as it is now -/
theorem adopt_copy (m m' : Mores) (mask nick : Str) (id : Nat)
    (hn : lookupKey (ircLower nick) m.byNick = some (false, id)) (h : m.adopt mask nick = .ok m') :
    m'.listOf (ircLower mask) = some (m.lists.getD id []) := by
  unfold Mores.adopt at h
  rw [hn] at h
  simp only [Bool.false_eq_true, ↓reduceIte] at h
  injection h with h; subst h
  simp [Mores.listOf, lookupKey_cons, List.getD]

def o1 : Out := ⟨[], [], ['1']⟩
def o2 : Out := ⟨[], [], ['2']⟩
def o3 : Out := ⟨[], [], ['3']⟩
def exActs : List Act :=
  [.more "bo@b".toList (some "ALICE".toList) 1, .more "al@a".toList none 1, .more "bo@b".toList none 1,
   .more "al@a".toList none 2, .more "al@a".toList none 1]

/-- alice has messages 1,2,3 pending (stack `[3,2,1]`); bob peeks with `more ALICE`, then both go on:
alice still gets 1, then 2 3, then "no more"; bob gets 1 then 2 -/
example : (({} : Mores).store "al@a".toList "Alice".toList false [o3, o2, o1]).run exActs =
    [("bo@b".toList, some (.sent [o1])), ("al@a".toList, some (.sent [o1])), ("bo@b".toList, some (.sent [o2])),
     ("al@a".toList, some (.sent [o2, o3])), ("al@a".toList, some .noMore)] := by decide +kernel

example : ∀ act ∈ exActs, act.key = ircLower "al@a".toList → act.plain = true := by decide +kernel

/-- The keys of `_mores` are lowered with the rfc1459 mapping, whatever CASEMAPPING any network's 005
announces before, between or after: what a reply stored under `user@host` is what a later `more` by the
same `user@host` finds (`~`, `[`, `]`, `\\` in the ident, host or nick included). -/
theorem mores_key_stable (m : Mores) (mask nick : Str) (priv : Bool) (msgs : List Out) :
    (m.store mask nick priv msgs).listOf (ircLower mask) = some msgs := by
  rw [store_eq]; exact bindFresh_listOf_self _ _ _

example : ircLower "~Al[1]\\x@Host".toList = "^al{1}|x@host".toList := by decide +kernel

/-! ## the text itself -/

/-- For a reply without formatting codes, nothing is lost and nothing invented: the chunks are lines
that concatenate to the (truncated, whitespace-munged) text, each of at most the computed size, and the
messages delivered are exactly these lines, in order, each followed by its count (`more_counts_delivery`,
`more_protocol`). -/
theorem visible_text_plain (e : Env) (cfg : Cfg) (chunks : List Str) (s : Str) (allowed : Nat) (s1 : Str)
    (hplain : Plain s1)
    (hprep : prepare e cfg s = some (allowed, s1, false))
    (hcontract : chunks.flatten = munge s1)
    (h4 : suffixReserve e.texts (blen s1) + 4 ≤ allowed) :
    ∃ lines : List Str, lines.flatten = munge s1 ∧ (∀ l ∈ lines, blen l ≤ allowed - suffixReserve e.texts (blen s1)) ∧
      reply e cfg chunks s = .sent ((deliveryOrder e (lines.take cfg.maximumMores)).take (max cfg.instant 1))
        (if (deliveryOrder e (lines.take cfg.maximumMores)).length < max cfg.instant 1 then none
         else some ((deliveryOrder e (lines.take cfg.maximumMores)).drop (max cfg.instant 1)).reverse) := by
  obtain ⟨lines, h1, h2, h3⟩ := ircWrap_plain chunks s1 hplain hcontract (allowed - suffixReserve e.texts (blen s1)) (by omega)
  exact ⟨lines, h2, h3, reply_chunked e cfg chunks s allowed s1 hprep lines h1⟩

/-! ## text without colour codes: full theorems; text with colour codes: the counter-example -/

/-- `ircutils.wrap` on text without colour codes: every line fits the requested length, and the visible
text of the lines, concatenated, is the visible text of the (munged) input — nothing lost, nothing
invented, whatever the words, the formatting toggles and the cut points. -/
theorem ircWrap_nocolour (chunks : List Str) (s : Str) (hn : NoColour s) (hcontract : chunks.flatten = munge s)
    (length : Nat) (h4 : (parse s).maxSize + 4 ≤ length) :
    ∃ lines, ircWrap chunks s length = .ok lines ∧ (∀ l ∈ lines, blen l ≤ length) ∧
      (lines.map stripFormatting).flatten = stripFormatting (munge s) := by
  obtain ⟨raw, _, hflat, hwrap, h2⟩ := ircWrap_coherent chunks s length h4 (coherent_nocolour chunks s hn hcontract length h4)
  refine ⟨_, hwrap, h2, ?_⟩
  rw [strip_processLines_nocolour raw (by rw [hflat, hcontract]; exact nocolour_munge flags_ok hn),
    hflat, hcontract]

example : NoColour ([Char.ofNat 2] ++ "bold ".toList ++ [Char.ofNat 31] ++ "both".toList ++ [Char.ofNat 15] ++ " plain".toList) := by decide +kernel

/-- Every message of a chunked reply without colour codes fits in 512 bytes. -/
theorem fits_512_nocolour (e : Env) (hn' : Normal e) (hT : TextsFine e.texts) (cfg : Cfg) (chunks : List Str) (s : Str) (allowed : Nat) (s1 : Str)
    (hn : NoColour s)
    (hauto : cfg.moresLength = 0)
    (hprep : prepare e cfg s = some (allowed, s1, false))
    (hE : blen e.texts.emptyReply ≤ allowed)
    (hcontract : chunks.flatten = munge s1) (hne : ∀ c ∈ chunks, c ≠ [])
    (h4 : suffixReserve e.texts (blen s1) + (parse s1).maxSize + 4 ≤ allowed) :
    ∃ now stored, reply e cfg chunks s = .sent now stored ∧
      ∀ o ∈ now ++ stored.getD [], blen (wire e o) ≤ 512 := by
  exact fits_512_partial e hn' hT cfg chunks s allowed s1 hauto hprep hE hcontract hne h4
    (coherent_nocolour chunks s1 (fun c hc => hn c (prepare_mem hprep hc)) hcontract _ (by omega))

/-
Full statement (visible text preserved by `ircutils.wrap`, for all texts):

    ∀ chunks s length, chunks.flatten = munge s → (parse s).maxSize + 4 ≤ length →
      ∃ lines, ircWrap chunks s length = .ok lines ∧
        (lines.map stripFormatting).flatten = stripFormatting (munge s)

FALSE on the pinned tree (`visible_text_counterexample`, known finding C12-cut-inside-colour-code):
`splitBytes` cuts an over-long word between `\x03` and its digits.  Proved for all text without colour
codes (`ircWrap_nocolour`).
-/
def cutText : Str := "aaaaaaaaa".toList ++ Char.ofNat 3 :: "04".toList ++ List.replicate 20 'b'

theorem visible_text_counterexample :
    ¬ (∀ chunks s length, chunks.flatten = munge s → (parse s).maxSize + 4 ≤ length →
        ∃ lines, ircWrap chunks s length = .ok lines ∧
          (lines.map stripFormatting).flatten = stripFormatting (munge s)) := by
  intro h
  -- the lines show a `4` (the digit cut off its `\x03`) that the text does not
  obtain ⟨hflat, hsize, hv, hne⟩ : [cutText].flatten = munge cutText ∧ (parse cutText).maxSize + 4 ≤ 16 ∧
      (match ircWrap [cutText] cutText 16 with
        | .ok ls => (ls.map stripFormatting).flatten
        | _ => []) = "aaaaaaaaa4".toList ++ List.replicate 20 'b' ∧
      stripFormatting (munge cutText) ≠ "aaaaaaaaa4".toList ++ List.replicate 20 'b' := by decide +kernel
  obtain ⟨lines, h1, h2⟩ := h [cutText] cutText 16 hflat hsize
  rw [h1] at hv
  exact hne (h2.symm.trans hv)

/-! ## text with colour codes whose wrapped lines start cleanly -/

/-
For text WITH colour codes the recomputed contexts are those of the text (up to a lone background
gaining the foreground 00) provided no line after the first begins with a digit or a comma — which
excludes exactly the two recorded findings (a cut inside `\x03NN`, a re-opened code running into the
text).  Then re-opening never costs more than the reserved overhead.
-/
theorem coherent_clean (chunks : List Str) (s : Str) (hcontract : chunks.flatten = munge s)
    (length : Nat) (h4 : (parse s).maxSize + 4 ≤ length) (hclean : cleanWrap chunks s length = true) :
    coherent chunks s length = true := by
  exact coherent_of_safe chunks s hcontract length h4 fun raw hraw _ => safeFrom_clean (cleanWrap_eq hraw ▸ hclean)

/-- every line of `ircutils.wrap` fits the requested length, for any text (colours included) whose
wrapped lines start cleanly -/
theorem ircWrap_fits_clean (chunks : List Str) (s : Str) (hcontract : chunks.flatten = munge s)
    (length : Nat) (h4 : (parse s).maxSize + 4 ≤ length) (hclean : cleanWrap chunks s length = true) :
    ∃ lines, ircWrap chunks s length = .ok lines ∧ ∀ l ∈ lines, blen l ≤ length :=
  ircWrap_fits_partial chunks s length h4 (coherent_clean chunks s hcontract length h4 hclean)

/-- every message of a chunked reply fits in 512 bytes, for any text (colours included) whose wrapped
lines start cleanly -/
theorem fits_512_clean (e : Env) (hn : Normal e) (hT : TextsFine e.texts) (cfg : Cfg) (chunks : List Str) (s : Str) (allowed : Nat) (s1 : Str)
    (hauto : cfg.moresLength = 0)
    (hprep : prepare e cfg s = some (allowed, s1, false))
    (hE : blen e.texts.emptyReply ≤ allowed)
    (hcontract : chunks.flatten = munge s1) (hne : ∀ c ∈ chunks, c ≠ [])
    (h4 : suffixReserve e.texts (blen s1) + (parse s1).maxSize + 4 ≤ allowed)
    (hclean : cleanWrap chunks s1 (allowed - suffixReserve e.texts (blen s1)) = true) :
    ∃ now stored, reply e cfg chunks s = .sent now stored ∧
      ∀ o ∈ now ++ stored.getD [], blen (wire e o) ≤ 512 :=
  fits_512_partial e hn hT cfg chunks s allowed s1 hauto hprep hE hcontract hne h4
    (coherent_clean chunks s1 hcontract _ (by omega) hclean)

/-- `ircutils.wrap` on any text — colours, over-long words, multi-byte characters — whose wrapped lines
start cleanly: every line fits, and the visible text of the lines, concatenated, is the visible text of
the (munged) input: nothing lost, nothing invented.  (When a line does start with a digit or a comma
after a colour code the statement is false: `visible_text_counterexample`, `ircWrap_fits_counterexample`.) -/
theorem visible_text_clean (chunks : List Str) (s : Str) (hcontract : chunks.flatten = munge s)
    (length : Nat) (h4 : (parse s).maxSize + 4 ≤ length) (hclean : cleanWrap chunks s length = true) :
    ∃ lines, ircWrap chunks s length = .ok lines ∧ (∀ l ∈ lines, blen l ≤ length) ∧
      (lines.map stripFormatting).flatten = stripFormatting (munge s) := by
  obtain ⟨raw, hraw, hflat, hwrap, h2⟩ := ircWrap_coherent chunks s length h4 (coherent_clean chunks s hcontract length h4 hclean)
  refine ⟨_, hwrap, h2, ?_⟩
  rw [strip_processLines_all colour_ok raw (cleanWrap_eq hraw ▸ hclean), hflat, hcontract]

/-- The whole reply, any text whose wrapped lines start cleanly: the messages delivered (first answer,
then `more`, see `more_protocol`) are, in order, the lines `l_k` each followed by the count of messages
that remain (`more_counts_delivery`), and the visible text of the lines, concatenated, is the visible
text of the (truncated, munged) reply. -/
theorem reply_text_clean (e : Env) (cfg : Cfg) (chunks : List Str) (s : Str) (allowed : Nat) (s1 : Str)
    (hprep : prepare e cfg s = some (allowed, s1, false))
    (hcontract : chunks.flatten = munge s1)
    (h4 : suffixReserve e.texts (blen s1) + (parse s1).maxSize + 4 ≤ allowed)
    (hclean : cleanWrap chunks s1 (allowed - suffixReserve e.texts (blen s1)) = true) :
    ∃ lines : List Str, (lines.map stripFormatting).flatten = stripFormatting (munge s1) ∧
      (∀ l ∈ lines, blen l ≤ allowed - suffixReserve e.texts (blen s1)) ∧
      reply e cfg chunks s = .sent ((deliveryOrder e (lines.take cfg.maximumMores)).take (max cfg.instant 1))
        (if (deliveryOrder e (lines.take cfg.maximumMores)).length < max cfg.instant 1 then none
         else some ((deliveryOrder e (lines.take cfg.maximumMores)).drop (max cfg.instant 1)).reverse) := by
  obtain ⟨lines, h1, h2, h3⟩ := visible_text_clean chunks s1 hcontract (allowed - suffixReserve e.texts (blen s1)) (by omega) hclean
  exact ⟨lines, h3, h2, reply_chunked e cfg chunks s allowed s1 hprep lines h1⟩

def clText : Str := [Char.ofNat 3, '4'] ++ "red ".toList ++ [Char.ofNat 3, '0', ',', '1'] ++ "white on black".toList ++
  [Char.ofNat 15] ++ " plain".toList
def clChunks : List Str := [[Char.ofNat 3, '4'] ++ "red".toList, " ".toList,
  [Char.ofNat 3, '0', ',', '1'] ++ "white".toList, " ".toList, "on".toList, " ".toList,
  "black".toList ++ [Char.ofNat 15], " ".toList, "plain".toList]

example : clChunks.flatten = munge clText ∧ (parse clText).maxSize + 4 ≤ 20 ∧ cleanWrap clChunks clText 20 = true := by
  decide +kernel


/-! ## reply.mores.maximum -/

/-- "… up to the configured maximum number of chunks": a chunked reply consists of at most
`reply.mores.maximum` messages (first answer and everything `more` can ever release), whatever the text.
(Before the fix `chunks = chunks[:maximumMores]` the only cut counted CHARACTERS of the text, while a chunk
holds fewer than `allowedLength` BYTES: 7 messages for maximum = 2 and the reply `'é' * 200`.) -/
theorem chunk_count (e : Env) (cfg : Cfg) (chunks : List Str) (s : Str) (allowed : Nat) (s1 : Str)
    (hprep : prepare e cfg s = some (allowed, s1, false))
    (hres : suffixReserve e.texts (blen s1) ≤ allowed)
    (lines : List Str) (hwrap : ircWrap chunks s1 (allowed - suffixReserve e.texts (blen s1)) = .ok lines) :
    ∃ now stored, reply e cfg chunks s = .sent now stored ∧
      now.length + (stored.getD []).length ≤ cfg.maximumMores := by
  exact reply_count e cfg chunks s allowed s1 hprep lines hwrap

def cexEnv : Env :=
  { botPrefix := "test!u@h".toList, nick := "alice".toList, msgTarget := "#chan".toList,
    msgIsChannel := true, to := none, pubTo := false, pubNick := false, pubMsgTarget := true,
    notice := none, priv := none, prefixNick := none, stripCtcp := true, confWithNotice := false,
    confInPrivate := false, confWithNickPrefix := true, confNoticeWhenPrivate := true }
def cexCfg : Cfg := { moresLength := 60, maximumMores := 2, instant := 1, mores := true }

/-- `reply.mores.length = 60`, `maximum = 2`, reply `'é' * 200`: exactly 2 messages -/
example : ∃ now stored, reply cexEnv cexCfg [List.replicate 120 'é'] (List.replicate 200 'é') = .sent now stored ∧
    now.length + (stored.getD []).length = 2 := by
  have h : (match reply cexEnv cexCfg [List.replicate 120 'é'] (List.replicate 200 'é') with
      | .sent now stored => now.length + (stored.getD []).length
      | _ => 0) = 2 := by decide +kernel
  cases hr : reply cexEnv cexCfg [List.replicate 120 'é'] (List.replicate 200 'é') with
  | sent now stored => rw [hr] at h; exact ⟨now, stored, rfl, h⟩
  | _ => rw [hr] at h; cases h

/-! ## explicit reply.mores.length -/

theorem fits_length_nocolour (e : Env) (hn' : Normal e) (hT : TextsFine e.texts) (cfg : Cfg) (chunks : List Str)
    (s : Str) (allowed : Nat) (s1 : Str)
    (hn : NoColour s)
    (hprep : prepare e cfg s = some (allowed, s1, false))
    (hE : blen e.texts.emptyReply ≤ allowed)
    (hcontract : chunks.flatten = munge s1) (hne : ∀ c ∈ chunks, c ≠ [])
    (h4 : suffixReserve e.texts (blen s1) + (parse s1).maxSize + 4 ≤ allowed) :
    ∃ now stored, reply e cfg chunks s = .sent now stored ∧
      ∀ o ∈ now ++ stored.getD [], blen (wire e o) ≤ frameLen e + allowed := by
  exact fits_length_partial e hn' hT cfg chunks s allowed s1 hprep hE hcontract hne h4
    (coherent_nocolour chunks s1 (fun c hc => hn c (prepare_mem hprep hc)) hcontract _ (by omega))

/-- Whatever `reply.mores.length` is (explicit, or 0 = computed): every message of a chunked reply, as
relayed, has at most `frameLen e + allowedLength` bytes — the frame `:hostmask CMD target :nick: … CRLF`
plus the allowed length.  With an explicit length this is ≤ 512 exactly when
`length ≤ 512 - frameLen e`; a larger length makes 512 impossible (`length_overflow_counterexample`). -/
theorem fits_length_clean (e : Env) (hn : Normal e) (hT : TextsFine e.texts) (cfg : Cfg) (chunks : List Str)
    (s : Str) (allowed : Nat) (s1 : Str)
    (hprep : prepare e cfg s = some (allowed, s1, false))
    (hE : blen e.texts.emptyReply ≤ allowed)
    (hcontract : chunks.flatten = munge s1) (hne : ∀ c ∈ chunks, c ≠ [])
    (h4 : suffixReserve e.texts (blen s1) + (parse s1).maxSize + 4 ≤ allowed)
    (hclean : cleanWrap chunks s1 (allowed - suffixReserve e.texts (blen s1)) = true) :
    ∃ now stored, reply e cfg chunks s = .sent now stored ∧
      ∀ o ∈ now ++ stored.getD [], blen (wire e o) ≤ frameLen e + allowed :=
  fits_length_partial e hn hT cfg chunks s allowed s1 hprep hE hcontract hne h4
    (coherent_clean chunks s1 hcontract _ (by omega) hclean)

/-- a reply of exactly `reply.mores.length` bytes is one message: the frame comes on top -/
theorem explicit_length_single (e : Env) (hn : Normal e) (cfg : Cfg) (chunks : List Str)
    (hlen : cfg.moresLength ≠ 0) (hmax : cfg.maximumMores ≠ 0) :
    reply e cfg chunks (List.replicate cfg.moresLength 'x') =
      .sent [makeReply e (List.replicate cfg.moresLength 'x')] none ∧
    blen (wire e (makeReply e (List.replicate cfg.moresLength 'x'))) = frameLen e + cfg.moresLength := by
  have hb : blen (List.replicate cfg.moresLength 'x') = cfg.moresLength := by
    rw [blen_replicate, show ('x' : Char).utf8Size = 1 by decide +kernel, Nat.mul_one]
  constructor
  · apply reply_single e cfg chunks _ cfg.moresLength
    have ht : truncate cfg.moresLength cfg (List.replicate cfg.moresLength 'x') =
        List.replicate cfg.moresLength 'x' := by
      unfold truncate
      rw [List.length_replicate, if_neg (Nat.not_lt.mpr (Nat.le_mul_of_pos_right _ (Nat.pos_of_ne_zero hmax)))]
    simp [prepare, allowedLength, hlen, ht, hb]
  · rw [wire_makeReply, replyBody_normal e hn, stripCtcpStr_replicate _ (by decide +kernel : isCtcp 'x' = false)]
    simp [hlen, hb]

def bigCfg : Cfg := { moresLength := 600, maximumMores := 50, instant := 1, mores := true }

/-- `reply.mores.length = 600` in a channel: a reply of 600 bytes is relayed as one line of more than
512 bytes (the operator asked for it). -/
theorem length_overflow_counterexample :
    ¬ (∀ (e : Env) (cfg : Cfg) (chunks : List Str) (s : Str) now stored, Normal e →
        reply e cfg chunks s = .sent now stored → ∀ o ∈ now, blen (wire e o) ≤ 512) := by
  intro h
  have hn : Normal cexEnv := by decide +kernel
  obtain ⟨h1, h2⟩ := explicit_length_single cexEnv hn bigCfg [] (by decide +kernel) (by decide +kernel)
  have := h cexEnv bigCfg [] _ _ _ hn h1 _ (List.mem_singleton_self _)
  rw [h2] at this
  exact absurd this (by decide +kernel)

/-! ## Irc._truncateMsg and the replies that are not length-checked -/

theorem blen_takeBytes_le : ∀ (l : Str) (n : Nat), blen (takeBytes n l) ≤ n := by
  intro l
  induction l with
  | nil => intro n; simp [takeBytes, blen]
  | cons c cs ih =>
    intro n
    unfold takeBytes
    split
    · have := ih (n - c.utf8Size); simp only [blen]; omega
    · simp [blen]

theorem takeBytes_prefix : ∀ (l : Str) (n : Nat), takeBytes n l <+: l := by
  intro l
  induction l with
  | nil => intro n; simp [takeBytes]
  | cons c cs ih =>
    intro n
    unfold takeBytes
    split
    · exact List.prefix_cons_inj c |>.mpr (ih _)
    · exact List.nil_prefix

/-- What is written to the socket never exceeds 512 bytes (`Irc._truncateMsg` cuts the outgoing line at a
character boundary) and is the line itself when it fits.  This bounds the OUTGOING line: the server
prepends `:hostmask ` when relaying, so a reply that was not length-checked can still be cut a second
time by the server — and its text is lost either way (`unchecked_counterexample`). -/
theorem sentLine_le (o : Out) : blen (sentLine o) ≤ 512 ∧ (blen (outLine o) ≤ 512 → sentLine o = outLine o) := by
  unfold sentLine truncateLine
  rw [consts_ok.1.ircMaxLine]
  constructor
  · split
    · have := blen_takeBytes_le (outLine o) (512 - 2)
      simp only [blen_append, blen_cons, blen_nil, size_cr, size_lf]; omega
    · omega
  · intro h; simp [show ¬ (512 < blen (outLine o)) by omega]

/-- an action reply is one message, whatever its length (`action=True` implies `noLengthCheck`) -/
theorem action_reply_single (e : Env) (ha : e.action = true) (cfg : Cfg) (chunks : List Str) (s : Str) :
    replyCall e cfg chunks s = .sent [makeReply e s] none := by
  simp [replyCall, ha]

/-- an ordinary reply goes through the length-checked branch -/
theorem replyCall_normal (e : Env) (ha : e.action = false) (cfg : Cfg) (chunks : List Str) (s : Str) :
    replyCall e cfg chunks s = reply e cfg chunks s := by
  simp [replyCall, ha]

theorem call_env_normal (c : Call) (ha : c.action = false) : Normal c.env := ⟨ha, rfl⟩

/-
Full statement for the replies that bypass the length check (`irc.error(long text)`, `action=True`,
`reply.mores` off): relayed line ≤ 512 bytes and no text lost.  FALSE on the pinned tree
(`unchecked_counterexample`, known finding C12-unchecked-replies-truncated): they are sent as ONE message,
which `Irc._truncateMsg` cuts at 512 bytes of the outgoing line.
-/
theorem unchecked_counterexample :
    ∃ o, errorReply cexEnv (List.replicate 600 'x') = some o ∧ 512 < blen (wire cexEnv o) ∧
      sentLine o ≠ outLine o ∧ blen (sentLine o) = 512 := by
  obtain ⟨hl, hs⟩ : 512 < blen (outLine (makeReply (errorEnv cexEnv) (List.replicate 600 'x'))) ∧
      blen (sentLine (makeReply (errorEnv cexEnv) (List.replicate 600 'x'))) = 512 := by decide +kernel
  refine ⟨makeReply (errorEnv cexEnv) (List.replicate 600 'x'), rfl, ?_, ?_, hs⟩
  · -- the relayed line is the outgoing one with `:hostmask ` in front
    show 512 < blen (':' :: (cexEnv.botPrefix ++ ' ' :: outLine _))
    rw [blen_cons, blen_append, blen_cons]; omega
  · -- `_truncateMsg` lets at most 512 bytes through
    intro h
    have h1 := (sentLine_le (makeReply (errorEnv cexEnv) (List.replicate 600 'x'))).1
    rw [h] at h1; omega

/-! ## reply.mores off, nested replies, configuration lookups, the key of the stored stack -/

/-- `reply.mores` off: one message, whatever its size (what `Irc._truncateMsg` then does to it is
`sentLine_le`); the operator's choice, outside the 512-byte claim -/
theorem mores_off_single (e : Env) (cfg : Cfg) (chunks : List Str) (s : Str) (allowed : Nat) (s1 : Str) (b : Bool)
    (hoff : cfg.mores = false) (hprep : prepare e cfg s = some (allowed, s1, b)) :
    reply e cfg chunks s = .sent [makeReply e s1] none := by
  obtain ⟨_, hb⟩ := prepare_s1 e cfg s allowed s1 b hprep
  simp only [hoff, Bool.not_false, Bool.or_true] at hb
  subst hb
  exact reply_single e cfg chunks s allowed s1 hprep

/-- a nested command's reply reaches the outer command cut to `reply.maximumLength` characters, and then
goes through the same length-checked branch (all the theorems above apply to the cut text) -/
theorem nested_arg (n : Nat) (s : Str) : (nestedArg n s).length ≤ n ∧ nestedArg n s <+: s := by
  unfold nestedArg
  exact ⟨by simp [List.length_take]; omega, List.take_prefix n s⟩

/-- The 512-byte theorem at the level of one call of `irc.reply`, configuration lookups included: the
values of `reply.mores.*` are those `registry.getSpecific` returns for the (raw) target `_getTarget`
designates, `withNotice` / `inPrivate` / `withNickPrefix` those of the channel `_makeReply` replies to
(network values first, then the channel's, then the global ones), for every combination of `to=`,
`private=`, `notice=`, `prefixNick=` — given here or leaked from a nested command — and every locale of
the table; `noLengthCheck` (i.e. `action=True`, here or in the nested command) must not be set. -/
theorem fits_512_call (c : Call) (hu : c.unchecked = false) (ha : c.action = false) (hT : TextsFine c.texts)
    (chunks : List Str) (s : Str) (allowed : Nat) (s1 : Str)
    (hauto : c.cfg.moresLength = 0)
    (hprep : prepare c.env c.cfg s = some (allowed, s1, false))
    (hE : blen c.texts.emptyReply ≤ allowed)
    (hcontract : chunks.flatten = munge s1) (hne : ∀ x ∈ chunks, x ≠ [])
    (h4 : suffixReserve c.texts (blen s1) + (parse s1).maxSize + 4 ≤ allowed)
    (hclean : cleanWrap chunks s1 (allowed - suffixReserve c.texts (blen s1)) = true) :
    ∃ now stored, c.reply chunks s = .sent now stored ∧
      ∀ o ∈ now ++ stored.getD [], blen (wire c.env o) ≤ 512 := by
  have hn := call_env_normal c ha
  unfold Call.reply
  simp only [hu, Bool.false_eq_true, ↓reduceIte]
  exact fits_512_clean c.env hn hT c.cfg chunks s allowed s1 hauto hprep hE hcontract hne h4 hclean

/-- keywords of a nested command leak into the enclosing reply: after `[inner …]` replied with
`private=True` the outer reply is private too; after `action=True` it is an unchecked ACTION -/
theorem nested_keywords_leak (c : Call) (ki : Kw) (hi : c.inner = some ki) :
    (ki.priv = some true → c.attrs.priv = some true) ∧
    (ki.action = some true → c.unchecked = true ∧ c.action = true) := by
  unfold Call.unchecked Call.action Call.attrs
  rw [hi]
  constructor
  · intro h
    simp only [Attrs.apply, Attrs.forward, Call.reset, h, orPy]
    cases c.kw.priv <;> simp
  · intro h
    simp only [Attrs.apply, Attrs.forward, Call.reset, h, orPy]
    cases c.kw.action <;> cases c.kw.noLengthCheck <;> simp

/-- where a chunked reply is stored: under the `user@host` of `to` when it is a nick the bot knows,
else under the requester's; `more_protocol_interleaved` then applies to THAT hostmask -/
theorem storeMask_cases (c : Call) :
    c.storeMask = (match split1 '!' (match c.to with
        | some t => if !t.isEmpty && c.toIsNick then c.toHostmask.getD c.msgPrefix else c.msgPrefix
        | none => c.msgPrefix) with
      | some (_, rest) => rest
      | none => []) := rfl

def exCall : Call :=
  { botPrefix := "test!u@h".toList, msgPrefix := "alice!al@host.a".toList, nick := "alice".toList,
    msgTarget := "@#chan".toList, msgChannel := some "#chan".toList, kw := { to := some "bob".toList },
    inner := some { notice := some true }, toStripped := some "bob".toList, pubTo := false, pubNick := false,
    pubMsgTarget := true, chanTo := false, chanMsgTarget := false, toIsNick := true,
    toHostmask := some "bob!bo@host.b".toList, stripCtcp := true, texts := Texts.english, noticeWhenPrivate := true,
    confGlobal := ⟨false, false, true, false, false, true, 0, 50, 1⟩,
    confChan := some ("#chan".toList, ⟨false, false, false, false, false, true, 60, 3, 2⟩),
    confNet := { net := some ⟨false, false, false, false, false, true, 80, 7, 1⟩ } }

/-- alice, on `@#chan` (STATUSMSG), runs an outer command with `to='bob'` (a known nick) around a nested
one that replied with `notice=True`: the stack is stored under bob's `user@host`; the notice leaks; the
raw target `@#chan` is not a channel for the registry, so `reply.mores.*` are the NETWORK's values
(80, 7, 1) and the values set for #chan are ignored (the network has values set) -/
example : exCall.storeMask = "bo@host.b".toList ∧ exCall.cfg = ⟨80, 7, 1, true⟩ ∧
    replyFrame exCall.env = (Gen.noticeCmd, "@#chan".toList, []) ∧ exCall.unchecked = false ∧
    exCall.action = false ∧ TextsFine exCall.texts := by
  decide +kernel

/-! ## the bot's belief of its own hostmask and the hostmask the server relays with -/

/-- relaying with the hostmask `p` instead of the believed one shifts the length by the difference -/
theorem relayed_len (e : Env) (p : Str) (o : Out) :
    blen (wireAs p o) + blen e.botPrefix = blen (wire e o) + blen p := by
  have := blen_wireAs p o
  have := blen_wire e o
  omega

/-- The 512-byte theorem as the property states it — "once prefixed with the bot's own hostmask as the
server relays it".  The arithmetic of `reply` uses `irc.prefix`, the bot's BELIEF; the statement about
the relayed line needs the explicit hypothesis belief = truth (any true hostmask not longer than the
believed one does as well).  That `irc.prefix` equals what a conformant server holds for the bot after
any sequence of NICK / CHGHOST / JOIN … is what `C10.view_refines_partial` proves ("the bot's own prefix").
When the belief is stale and shorter (`stale_belief_overflows`) full chunks overflow. -/
theorem fits_512_relayed (e : Env) (hn : Normal e) (hT : TextsFine e.texts) (cfg : Cfg) (chunks : List Str) (s : Str)
    (allowed : Nat) (s1 : Str) (p : Str) (hbelief : blen p ≤ blen e.botPrefix)
    (hauto : cfg.moresLength = 0)
    (hprep : prepare e cfg s = some (allowed, s1, false))
    (hE : blen e.texts.emptyReply ≤ allowed)
    (hcontract : chunks.flatten = munge s1) (hne : ∀ c ∈ chunks, c ≠ [])
    (h4 : suffixReserve e.texts (blen s1) + (parse s1).maxSize + 4 ≤ allowed)
    (hclean : cleanWrap chunks s1 (allowed - suffixReserve e.texts (blen s1)) = true) :
    ∃ now stored, reply e cfg chunks s = .sent now stored ∧
      ∀ o ∈ now ++ stored.getD [], blen (wireAs p o) ≤ 512 := by
  obtain ⟨now, stored, h1, h2⟩ := fits_512_clean e hn hT cfg chunks s allowed s1 hauto hprep hE hcontract hne h4 hclean
  refine ⟨now, stored, h1, fun o ho => ?_⟩
  have := h2 o ho
  have := relayed_len e p o
  omega

/-- a message that exactly fills 512 bytes for the believed hostmask is over 512 as soon as the true
hostmask is longer -/
theorem stale_belief_overflows (e : Env) (p : Str) (o : Out) (hfull : blen (wire e o) = 512)
    (hstale : blen e.botPrefix < blen p) : 512 < blen (wireAs p o) := by
  have := relayed_len e p o
  omega

/-! ## termination for every size and every `reply.mores.length` -/

/-- `byteTextWrap(t, size)` terminates normally for EVERY size (0 stands for the zero or negative sizes
the subtractions of its callers can produce): since the fix `size = max(size, 4)` a line can always
hold one character.  The lines concatenate to the munged text and have at most `max size 4` bytes.
(Before: `splitBytes` returned an empty first part for a size below 4 and `while words:` never ended —
e.g. `reply.mores.length = 45` with the French suffix texts.) -/
theorem byteTextWrap_total (t : Str) (chunks : List Str) (hcontract : chunks.flatten = munge t) (size : Nat) :
    ∃ lines, byteTextWrap chunks size = .ok lines ∧ lines.flatten = munge t ∧ ∀ l ∈ lines, blen l ≤ max size 4 := by
  rw [byteTextWrap_clamped consts_ok.1]
  exact wrap_concat t chunks hcontract (max size 4) (by omega)

theorem ircWrap_total (chunks : List Str) (s : Str) (hcontract : chunks.flatten = munge s) (length : Nat) :
    ∃ lines, ircWrap chunks s length = .ok lines := by
  obtain ⟨raw, h, _, _⟩ := byteTextWrap_total s chunks hcontract (length - (parse s).maxSize)
  exact ⟨processLines none raw, by unfold ircWrap; simp only [h]⟩

/-- A chunked reply always comes out, whatever `reply.mores.length` (even one that leaves no room after
the suffix reserve): some messages are sent, at most `reply.mores.maximum` in all. -/
theorem reply_total (e : Env) (cfg : Cfg) (chunks : List Str) (s : Str) (allowed : Nat) (s1 : Str)
    (hprep : prepare e cfg s = some (allowed, s1, false)) (hcontract : chunks.flatten = munge s1) :
    ∃ now stored, reply e cfg chunks s = .sent now stored ∧
      now.length + (stored.getD []).length ≤ cfg.maximumMores := by
  obtain ⟨lines, hw⟩ := ircWrap_total chunks s1 hcontract (allowed - suffixReserve e.texts (blen s1))
  exact reply_count e cfg chunks s allowed s1 hprep lines hw

/-! ## several replies in one command invocation; the two queues of `Irc.takeMsg` -/

/-- the attributes each of the successive final replies of ONE command invocation is built with: every
`reply()` ends with `_resetReplyAttributes()` (its `finally:` clause) -/
def replySeq (reset : Attrs) : Attrs → List Kw → List Attrs
  | _, [] => []
  | a, k :: ks => a.apply k :: replySeq reset reset ks

/-- … so no reply depends on the keywords of an earlier one (in particular `action=True` /
`noLengthCheck=True` of a first reply does not switch the length check off for the next) -/
theorem attrs_reset_between_replies (reset : Attrs) (ks : List Kw) :
    replySeq reset reset ks = ks.map reset.apply := by
  induction ks with
  | nil => rfl
  | cons k ks ih => simp [replySeq, ih]

/-- `Irc.takeMsg` empties the fast queue (`sendMsg`) before the ordinary one (`queueMsg`) -/
def takeOrder (fast normal : List Out) : List Out := fast ++ normal

/-- all the messages of one reply go through the SAME function (`sendMsg = irc.sendMsg if sendImmediately
else irc.queueMsg`), so they leave in the order they were produced, `sendImmediately` or not -/
theorem same_queue_order (sendImmediately : Bool) (now : List Out) :
    (if sendImmediately then takeOrder now [] else takeOrder [] now) = now := by
  cases sendImmediately <;> simp [takeOrder]

/-! ## non-vacuity: a concrete chunked reply meets the hypotheses of the theorems above -/

def exEnv : Env :=
  { botPrefix := "test!".toList ++ List.replicate 395 'h', nick := "al".toList, msgTarget := "#c".toList,
    msgIsChannel := true, to := none, pubTo := false, pubNick := false, pubMsgTarget := true,
    notice := none, priv := none, prefixNick := none, stripCtcp := true, confWithNotice := false,
    confInPrivate := false, confWithNickPrefix := true, confNoticeWhenPrivate := true }
def exCfg : Cfg := { moresLength := 0, maximumMores := 50, instant := 1, mores := true }
def exText : Str := List.replicate 100 'x' ++ ' ' :: List.replicate 100 'y'
def exChunks : List Str := [List.replicate 100 'x', [' '], List.replicate 100 'y']

example : prepare exEnv exCfg exText = some (92, exText, false) ∧ blen Gen.emptyReply ≤ 92 ∧
    exChunks.flatten = munge exText ∧ (∀ c ∈ exChunks, c ≠ []) ∧
    suffixReserve Texts.english (blen exText) + (parse exText).maxSize + 4 ≤ 92 ∧
    coherent exChunks exText (92 - suffixReserve Texts.english (blen exText)) = true ∧ Plain exText ∧
    suffixReserve Texts.english (blen exText) = 23 ∧ NoColour exText ∧ Normal exEnv ∧ TextsFine exEnv.texts ∧
    cleanWrap exChunks exText (92 - suffixReserve Texts.english (blen exText)) = true := by decide +kernel

example : ∃ lines, ircWrap exChunks exText (92 - suffixReserve Texts.english (blen exText)) = .ok lines := by
  obtain ⟨l, h, _⟩ := ircWrap_plain exChunks exText (by decide +kernel) (by decide +kernel) (92 - suffixReserve Texts.english (blen exText)) (by decide +kernel)
  exact ⟨l, h⟩

example : prepare exEnv exCfg "short".toList = some (92, "short".toList, true) := by decide +kernel

end C12
