/-
C12 — helper lemmas: FormatContext, FormatParser (one character, the invariants of a parse, munging),
the fit of `ircutils.wrap`.
-/
import LimnoriaModel.C12.Lemmas
namespace C12
open Py

/-- the control characters are single bytes; bold is not the CTCP delimiter `strip('\x01')` removes -/
structure CharsOk : Prop where
  bold : Gen.boldChar.utf8Size = 1
  reverse : Gen.reverseChar.utf8Size = 1
  underline : Gen.underlineChar.utf8Size = 1
  reset : Gen.resetChar.utf8Size = 1
  color : Gen.colorChar.utf8Size = 1
  boldNeCtcp : Gen.boldChar ≠ Gen.ctcpChar

def CtxB (B : Nat) (c : Ctx) : Prop := (∀ f, c.fg = some f → f < B) ∧ (∀ b, c.bg = some b → b < B)

/-- colours a context can hold after parsing: below 100, i.e. at most two digits (`CtxB 100`) -/
def CtxOk (c : Ctx) : Prop := (∀ f, c.fg = some f → f < 100) ∧ (∀ b, c.bg = some b → b < 100)

/-! ## start / end / size -/

theorem b2n_le (b : Bool) : b2n b ≤ 1 := by cases b <;> simp [b2n]

theorem blen_start (hk : CharsOk) (c : Ctx) (s : Str) : blen (c.start s) = c.startCost + blen s := by
  unfold Ctx.start Ctx.startCost
  simp only [blen_append]
  cases c.underline <;> cases c.reverse <;> cases c.bold <;>
    simp [blen, b2n, hk.bold, hk.reverse, hk.underline] <;> omega

theorem blen_end (hk : CharsOk) (c : Ctx) (s : Str) : blen (c.end s) = blen s + b2n c.active := by
  unfold Ctx.end
  cases c.active
  · simp [b2n]
  · simp [b2n, blen_append, blen, hk.reset]

theorem blen_colorPrefix (hk : CharsOk) (c : Ctx) (hok : CtxOk c) :
    blen (colorPrefix c) ≤ (if c.bg.isSome then 6 else if c.fg.isSome then 3 else 0) := by
  have hcc := hk.color
  unfold colorPrefix
  cases hf : c.fg with
  | none =>
    cases hb : c.bg with
    | none => simp [blen]
    | some b =>
      have := blen_zfill2 b (hok.2 b hb)
      simp [blen, hcc, size_comma, size_zero, this]
  | some f =>
    cases hb : c.bg with
    | none =>
      have := blen_zfill2 f (hok.1 f hf)
      simp [blen, hcc, this]
    | some b =>
      have h1 := blen_zfill2 b (hok.2 b hb)
      have h2 := natToStr_small f (hok.1 f hf)
      have h3 := blen_natToStr f
      simp [blen, blen_append, hcc, size_comma, h1]; omega

theorem b2n_true : b2n true = 1 := rfl
theorem b2n_false : b2n false = 0 := rfl

theorem b2n_or (a b : Bool) : b2n (a || b) ≤ b2n a + b2n b := by cases a <;> cases b <;> simp [b2n]

theorem b2n_active_le (c : Ctx) :
    b2n c.active ≤ b2n c.bold + b2n c.reverse + b2n c.underline + b2n c.fg.isSome + b2n c.bg.isSome := by
  have g1 := b2n_or (c.bold || c.reverse || c.underline || c.fg.isSome) c.bg.isSome
  have g2 := b2n_or (c.bold || c.reverse || c.underline) c.fg.isSome
  have g3 := b2n_or (c.bold || c.reverse) c.underline
  have g4 := b2n_or c.bold c.reverse
  unfold Ctx.active; omega

/-- re-opening a context and closing it again costs at most `size()` bytes -/
theorem startCost_le_size (hc : ConstsOk) (hk : CharsOk) (c : Ctx) (hok : CtxOk c) :
    c.startCost + b2n c.active ≤ c.size := by
  have h6 := hc.sizeWithBg
  have h3 := hc.sizeFgOnly
  have h1 := hc.sizeEnd
  have hp := blen_colorPrefix hk c hok
  have ha := b2n_active_le c
  have hb := b2n_le c.active
  unfold Ctx.startCost Ctx.size
  cases hbg : c.bg.isSome <;> cases hfg : c.fg.isSome <;>
    simp only [hbg, hfg, b2n_true, b2n_false, Bool.false_eq_true, ↓reduceIte] at hp ha ⊢ <;> split <;> omega

theorem inactive_startCost (c : Ctx) (h : c.active = false) : c.startCost = 0 := by
  simp only [Ctx.active, Bool.or_eq_false_iff, Option.isSome_eq_false_iff, Option.isNone_iff_eq_none] at h
  obtain ⟨⟨⟨⟨hb, hr⟩, hu⟩, hf⟩, hg⟩ := h
  simp [Ctx.startCost, colorPrefix, hb, hr, hu, hf, hg, b2n, blen]

/-- an inactive `c` costs nothing to re-open -/
theorem reopen_cost {c c' : Ctx} {ov : Nat} (h : c.startCost + b2n c.active ≤ ov) (h' : b2n c'.active ≤ ov) :
    c.startCost + b2n c'.active ≤ ov := by
  have := b2n_le c'.active
  cases hact : c.active
  · have := inactive_startCost c hact; omega
  · rw [hact, b2n_true] at h; omega

/-! ## one character in plain mode -/

/-- what one character does to a context when no colour is being read -/
def toggle (c : Ctx) (ch : Char) : Ctx :=
  if ch = Gen.boldChar then { c with bold := !c.bold }
  else if ch = Gen.reverseChar then { c with reverse := !c.reverse }
  else if ch = Gen.underlineChar then { c with underline := !c.underline }
  else if ch = Gen.resetChar then {}
  else c

theorem toggle_eq (x : Char) :
    (∀ c, toggle c x = { c with bold := !c.bold }) ∨ (∀ c, toggle c x = { c with reverse := !c.reverse }) ∨
    (∀ c, toggle c x = { c with underline := !c.underline }) ∨ (∀ c, toggle c x = {}) ∨ ∀ c, toggle c x = c := by
  unfold toggle
  by_cases h1 : x = Gen.boldChar
  · exact Or.inl fun c => if_pos h1
  by_cases h2 : x = Gen.reverseChar
  · exact Or.inr (Or.inl fun c => by rw [if_neg h1, if_pos h2])
  by_cases h3 : x = Gen.underlineChar
  · exact Or.inr (Or.inr (Or.inl fun c => by rw [if_neg h1, if_neg h2, if_pos h3]))
  by_cases h4 : x = Gen.resetChar
  · exact Or.inr (Or.inr (Or.inr (Or.inl fun c => by rw [if_neg h1, if_neg h2, if_neg h3, if_pos h4])))
  · exact Or.inr (Or.inr (Or.inr (Or.inr fun c => by rw [if_neg h1, if_neg h2, if_neg h3, if_neg h4])))

theorem toggle_colours (c : Ctx) (ch : Char) :
    toggle c ch = {} ∨ ((toggle c ch).fg = c.fg ∧ (toggle c ch).bg = c.bg) := by
  rcases toggle_eq ch with h | h | h | h | h <;> rw [h c]
  · exact Or.inr ⟨rfl, rfl⟩
  · exact Or.inr ⟨rfl, rfl⟩
  · exact Or.inr ⟨rfl, rfl⟩
  · exact Or.inl rfl
  · exact Or.inr ⟨rfl, rfl⟩

@[simp] theorem bump_ctx (st : PState) : st.bump.ctx = st.ctx := rfl
@[simp] theorem bump_mode (st : PState) : st.bump.mode = st.mode := rfl

theorem plainStep_eq (st : PState) (c : Char) : plainStep st c =
    if c = Gen.boldChar ∨ c = Gen.reverseChar ∨ c = Gen.underlineChar then
      ({ st with ctx := toggle st.ctx c }).bump
    else if c = Gen.resetChar then { st with ctx := {} }
    else if c = Gen.colorChar then { st with mode := .fg 0 false 0 }
    else st := by
  unfold plainStep toggle
  by_cases h1 : c = Gen.boldChar
  · simp only [if_pos h1, if_pos (Or.inl h1 : c = Gen.boldChar ∨ _)]
  by_cases h2 : c = Gen.reverseChar
  · simp only [if_neg h1, if_pos h2, if_pos (Or.inr (Or.inl h2) : c = Gen.boldChar ∨ _)]
  by_cases h3 : c = Gen.underlineChar
  · simp only [if_neg h1, if_neg h2, if_pos h3, if_pos (Or.inr (Or.inr h3) : c = Gen.boldChar ∨ c = Gen.reverseChar ∨ _)]
  · simp only [if_neg h1, if_neg h2, if_neg h3, if_neg (not_or.mpr ⟨h1, not_or.mpr ⟨h2, h3⟩⟩)]

theorem plainStep_ctx (st : PState) (c : Char) : (plainStep st c).ctx = toggle st.ctx c := by
  rw [plainStep_eq]
  split
  · rfl
  · rename_i h
    rw [not_or, not_or] at h
    simp only [toggle, if_neg h.1, if_neg h.2.1, if_neg h.2.2]
    split
    · rfl
    · split <;> rfl

theorem plainStep_mode (st : PState) {c : Char} (h : c ≠ Gen.colorChar) : (plainStep st c).mode = st.mode := by
  rw [plainStep_eq, if_neg h]
  split; · rfl
  split <;> rfl

/-! ## the parser only produces colours below `colorLimit` -/

theorem continues_lt {i n : Nat} {c : Char} (h : continues i n c = true) :
    i * Gen.colorBase + digitVal c < Gen.colorLimit := by
  simp only [continues, Bool.and_eq_true, decide_eq_true_eq] at h; exact h.2

def StB (B : Nat) (st : PState) : Prop :=
  CtxB B st.ctx ∧ (match st.mode with
    | .plain => True
    | .fg i _ _ => i < B
    | .bg i _ _ => i < B)

theorem ctxB_default (B : Nat) : CtxB B {} := ⟨(by intro f h; simp at h), (by intro b h; simp at h)⟩

theorem toggle_ctxB {B : Nat} {c : Ctx} (h : CtxB B c) (ch : Char) : CtxB B (toggle c ch) := by
  rcases toggle_colours c ch with h0 | ⟨h1, h2⟩
  · rw [h0]; exact ctxB_default B
  · exact ⟨fun f hf => h.1 f (h1 ▸ hf), fun b hb => h.2 b (h2 ▸ hb)⟩

theorem plainStep_okB {B : Nat} (hB : 0 < B) {st : PState} (h : CtxB B st.ctx) (hm : st.mode = .plain) (c : Char) :
    StB B (plainStep st c) := by
  rw [plainStep_eq]
  split
  · exact ⟨toggle_ctxB h c, by simp [hm]⟩
  · split
    · exact ⟨ctxB_default B, by simp [hm]⟩
    · split
      · exact ⟨h, by simpa using hB⟩
      · exact ⟨h, by simp [hm]⟩

theorem ctxB_setFg {B : Nat} {st : PState} (h : CtxB B st.ctx) {i : Nat} (hi : i < B) (set : Bool) :
    CtxB B (setFg st (optOf i set)).ctx := by
  refine ⟨?_, h.2⟩
  intro f hf
  cases set <;> simp [setFg, optOf] at hf
  omega

theorem ctxB_setBg {B : Nat} {st : PState} (h : CtxB B st.ctx) {i : Nat} (hi : i < B) (set : Bool) :
    CtxB B (setBg st (optOf i set)).ctx := by
  refine ⟨h.1, ?_⟩
  intro f hf
  cases set <;> simp [setBg, optOf] at hf
  omega

theorem step_okB {B : Nat} (hB : 0 < B) (hlim : Gen.colorLimit ≤ B) {st : PState} (h : StB B st) (c : Char) :
    StB B (step st c) := by
  obtain ⟨hctx, hmode⟩ := h
  unfold step
  split
  · rename_i hm; exact plainStep_okB hB hctx hm c
  · rename_i i set n hm
    rw [hm] at hmode
    simp only at hmode
    split
    · rename_i hcont
      have := continues_lt hcont
      exact ⟨hctx, by simp only; omega⟩
    · split
      · exact ⟨ctxB_setFg hctx hmode set, by simpa using hB⟩
      · exact plainStep_okB hB (st := (setFg st (optOf i set)).bump) (ctxB_setFg hctx hmode set) rfl c
  · rename_i i set n hm
    rw [hm] at hmode
    simp only at hmode
    split
    · rename_i hcont
      have := continues_lt hcont
      exact ⟨hctx, by simp only; omega⟩
    · exact plainStep_okB hB (st := (setBg st (optOf i set)).bump) (ctxB_setBg hctx hmode set) rfl c

theorem foldl_step_okB {B : Nat} (hB : 0 < B) (hlim : Gen.colorLimit ≤ B) (s : Str) :
    ∀ st, StB B st → StB B (s.foldl step st) := by
  induction s with
  | nil => intro st h; exact h
  | cons c cs ih => intro st h; exact ih _ (step_okB hB hlim h c)

theorem finish_ctxB {B : Nat} {st : PState} (h : StB B st) : CtxB B (finish st).ctx := by
  obtain ⟨hctx, hmode⟩ := h
  unfold finish
  split
  · exact hctx
  · rename_i i set n hm; rw [hm] at hmode; exact ctxB_setFg hctx hmode set
  · rename_i i set n hm; rw [hm] at hmode; exact ctxB_setBg hctx hmode set

theorem stB_default (B : Nat) : StB B {} := ⟨ctxB_default B, by simp⟩

theorem CtxB.mono {B B' : Nat} (h : B ≤ B') {c : Ctx} (hc : CtxB B c) : CtxB B' c :=
  ⟨fun f hf => Nat.lt_of_lt_of_le (hc.1 f hf) h, fun b hb => Nat.lt_of_lt_of_le (hc.2 b hb) h⟩

theorem parse_ctxB {B : Nat} (hB : 0 < B) (hlim : Gen.colorLimit ≤ B) (s : Str) : CtxB B (parse s).ctx :=
  finish_ctxB (foldl_step_okB hB hlim s {} (stB_default B))

theorem parse_ctxOk (hc : ConstsOk) (s : Str) : CtxOk (parse s).ctx :=
  parse_ctxB (by omega) (Nat.le_trans hc.colorLimit (by omega)) s

/-! ## the recorded maximum dominates every context that is ever closed -/

theorem size_default : ({} : Ctx).size = 0 := by simp [Ctx.size, b2n]

/-- in plain mode the current context has been accounted for -/
def MaxCovers (st : PState) : Prop := st.mode = .plain → st.ctx.size ≤ st.maxSize

theorem maxCovers_default : MaxCovers {} := by intro _; simp [size_default]

theorem bump_inv (st : PState) : st.bump.ctx.size ≤ st.bump.maxSize ∧ st.maxSize ≤ st.bump.maxSize := by
  simp only [PState.bump]; omega

theorem plainStep_inv {st : PState} (h : st.ctx.size ≤ st.maxSize) (x : Char) :
    MaxCovers (plainStep st x) ∧ st.maxSize ≤ (plainStep st x).maxSize := by
  rw [plainStep_eq]
  split
  · exact ⟨fun _ => (bump_inv _).1, (bump_inv { st with ctx := toggle st.ctx x }).2⟩
  · split
    · exact ⟨fun _ => by simp [size_default], Nat.le_refl _⟩
    · split
      · exact ⟨fun hm => by simp at hm, Nat.le_refl _⟩
      · exact ⟨fun _ => h, Nat.le_refl _⟩

theorem finish_inv {st : PState} (h : MaxCovers st) :
    (finish st).ctx.size ≤ (finish st).maxSize ∧ st.maxSize ≤ (finish st).maxSize := by
  unfold finish
  cases hm : st.mode with
  | plain => exact ⟨h hm, Nat.le_refl _⟩
  | fg i set n =>
    have hs : (setFg st (optOf i set)).maxSize = st.maxSize := rfl
    have hb := bump_inv (setFg st (optOf i set))
    simp only
    exact ⟨hb.1, by omega⟩
  | bg i set n =>
    have hs : (setBg st (optOf i set)).maxSize = st.maxSize := rfl
    have hb := bump_inv (setBg st (optOf i set))
    simp only
    exact ⟨hb.1, by omega⟩

theorem step_inv {st : PState} (h : MaxCovers st) (x : Char) : MaxCovers (step st x) ∧ st.maxSize ≤ (step st x).maxSize := by
  cases hm : st.mode with
  | plain =>
    have := plainStep_inv (h hm) x
    unfold step; rw [hm]; exact this
  | fg i set n =>
    unfold step; rw [hm]
    simp only
    split
    · exact ⟨fun hm' => by simp at hm', Nat.le_refl _⟩
    · split
      · exact ⟨fun hm' => by simp at hm', Nat.le_refl _⟩
      · have hb := bump_inv (setFg st (optOf i set))
        obtain ⟨h3, h4⟩ := plainStep_inv hb.1 x
        have hs : (setFg st (optOf i set)).maxSize = st.maxSize := rfl
        exact ⟨h3, by omega⟩
  | bg i set n =>
    unfold step; rw [hm]
    simp only
    split
    · exact ⟨fun hm' => by simp at hm', Nat.le_refl _⟩
    · have hb := bump_inv (setBg st (optOf i set))
      obtain ⟨h3, h4⟩ := plainStep_inv hb.1 x
      have hs : (setBg st (optOf i set)).maxSize = st.maxSize := rfl
      exact ⟨h3, by omega⟩

theorem foldl_step_inv (s : Str) : ∀ {st : PState}, MaxCovers st →
    MaxCovers (s.foldl step st) ∧ st.maxSize ≤ (s.foldl step st).maxSize := by
  induction s with
  | nil => intro st h; exact ⟨h, Nat.le_refl _⟩
  | cons x xs ih =>
    intro st h
    obtain ⟨h1, h2⟩ := step_inv h x
    obtain ⟨h3, h4⟩ := ih h1
    exact ⟨h3, by simp only [List.foldl_cons]; omega⟩

/-! ## text without formatting codes -/

/-- no bold / reverse / underline / reset / colour character -/
def Plain (s : Str) : Prop :=
  ∀ c ∈ s, c ≠ Gen.boldChar ∧ c ≠ Gen.reverseChar ∧ c ≠ Gen.underlineChar ∧ c ≠ Gen.resetChar ∧ c ≠ Gen.colorChar

instance (s : Str) : Decidable (Plain s) := by unfold Plain; exact inferInstance

theorem foldl_step_plain (s : Str) (h : Plain s) : s.foldl step {} = {} := by
  induction s with
  | nil => rfl
  | cons c cs ih =>
    obtain ⟨h1, h2, h3, h4, h5⟩ := h c List.mem_cons_self
    have : step {} c = {} := by simp [step, plainStep, h1, h2, h3, h4, h5]
    simp only [List.foldl_cons, this]
    exact ih (fun x hx => h x (List.mem_cons_of_mem _ hx))

theorem parse_plain (s : Str) (h : Plain s) : parse s = {} := by
  unfold parse; rw [foldl_step_plain s h]; rfl

theorem start_default (s : Str) : ({} : Ctx).start s = s := by
  simp [Ctx.start, colorPrefix]

theorem end_default (s : Str) : ({} : Ctx).end s = s := by
  simp [Ctx.end, Ctx.active]

theorem processLines_plain (lines : List Str) (h : ∀ l ∈ lines, Plain l) :
    ∀ ctx, (ctx = none ∨ ctx = some {}) → processLines ctx lines = lines := by
  induction lines with
  | nil => intro ctx _; rfl
  | cons l ls ih =>
    intro ctx hctx
    have hl := h l List.mem_cons_self
    have hrest := ih (fun x hx => h x (List.mem_cons_of_mem _ hx)) (some {}) (Or.inr rfl)
    rcases hctx with rfl | rfl <;> simp only [processLines, start_default, parse_plain l hl, end_default, hrest]

theorem plain_munge {s : Str} (h : Plain s) : Plain (munge s) := by
  intro c hc
  rcases mem_munge hc with h1 | h1
  · exact h c h1
  · subst h1; decide

/-! ## ircutils.wrap: every line fits when the contexts are coherent -/

theorem processLines_fits (hk : CharsOk) (overhead size : Nat) :
    ∀ (lines : List Str) (ctx : Option Ctx), coherentFrom overhead ctx lines = true →
      (∀ l ∈ lines, blen l ≤ size) → ∀ l ∈ processLines ctx lines, blen l ≤ size + overhead := by
  intro lines
  induction lines with
  | nil => intro ctx _ _ l hl; simp [processLines] at hl
  | cons x xs ih =>
    intro ctx hco hsz l hl
    simp only [coherentFrom, Bool.and_eq_true, decide_eq_true_eq] at hco
    obtain ⟨hcost, hrest⟩ := hco
    simp only [processLines, List.mem_cons] at hl
    have hx := hsz x List.mem_cons_self
    rcases hl with rfl | hl
    · rw [blen_end hk]
      cases ctx with
      | none => simp only at hcost ⊢; omega
      | some c => simp only at hcost ⊢; rw [blen_start hk]; omega
    · exact ih _ hrest (fun y hy => hsz y (List.mem_cons_of_mem _ hy)) l hl

theorem processLines_length (lines : List Str) : ∀ ctx, (processLines ctx lines).length = lines.length := by
  induction lines with
  | nil => intro ctx; rfl
  | cons x xs ih => intro ctx; simp [processLines, ih]

theorem coherent_eq {chunks : List Str} {s : Str} {length : Nat} {raw : List Str}
    (h : byteTextWrap chunks (length - (parse s).maxSize) = .ok raw) :
    coherent chunks s length = coherentFrom (parse s).maxSize none raw := by
  unfold coherent; rw [h]

theorem cleanWrap_eq {chunks : List Str} {s : Str} {length : Nat} {raw : List Str}
    (h : byteTextWrap chunks (length - (parse s).maxSize) = .ok raw) :
    cleanWrap chunks s length = cleanStarts raw := by
  unfold cleanWrap; rw [h]

/-! ## closing a pending colour -/

theorem finish_plain {st : PState} (hm : st.mode = .plain) : finish st = st := by
  unfold finish; rw [hm]

theorem finish_mode (st : PState) : (finish st).mode = .plain := by
  unfold finish
  cases hm : st.mode <;> simp [setFg, setBg, hm]

theorem finish_finish (st : PState) : finish (finish st) = finish st :=
  finish_plain (finish_mode st)

/-- a character that cannot continue a colour code closes any pending colour, then acts as in plain mode -/
theorem step_clean (st : PState) {x : Char} (hx : contChar x = false) : step st x = plainStep (finish st) x := by
  simp only [contChar, Bool.or_eq_false_iff, decide_eq_false_iff_not] at hx
  obtain ⟨hd, hcomma⟩ := hx
  unfold step finish
  cases hm : st.mode <;> simp [continues, hd, hcomma]

/-! ## munging does not change what the parser sees -/

/-- the five control characters of the parser -/
def isCtl (c : Char) : Bool :=
  c = Gen.boldChar || c = Gen.reverseChar || c = Gen.underlineChar || c = Gen.resetChar || c = Gen.colorChar

/-- neither a control character, nor a digit, nor a comma -/
def neutral (c : Char) : Bool := !isCtl c && !isDigit c && !(c = ',')

theorem step_neutral (st : PState) {c : Char} (h : neutral c = true) : step st c = finish st := by
  simp only [neutral, Bool.and_eq_true, Bool.not_eq_true', decide_eq_false_iff_not] at h
  obtain ⟨⟨h1, h2⟩, h3⟩ := h
  have hx : contChar c = false := by simp [contChar, h2, h3]
  rw [step_clean st hx]
  simp only [isCtl, Bool.or_eq_false_iff, decide_eq_false_iff_not] at h1
  obtain ⟨⟨⟨⟨g1, g2⟩, g3⟩, g4⟩, g5⟩ := h1
  simp [plainStep, g1, g2, g3, g4, g5]

theorem isTwWs_neutral {c : Char} (h : isTwWs c = true) : neutral c = true := by
  simp only [isTwWs, Bool.or_eq_true, decide_eq_true_eq] at h
  rcases h with ((((h | h) | h) | h) | h) | h <;> subst h <;> decide

theorem foldl_replicate_space (k : Nat) (hk : 0 < k) (st : PState) :
    (List.replicate k ' ').foldl step st = finish st := by
  induction k generalizing st with
  | zero => omega
  | succ k ih =>
    simp only [List.replicate_succ, List.foldl_cons]
    rw [step_neutral st (by decide)]
    by_cases hk0 : k = 0
    · subst hk0; rfl
    · rw [ih (by omega), finish_finish]

theorem foldl_expandTabs (s : Str) : ∀ (col : Nat) (st : PState),
    (expandTabs col s).foldl step st = s.foldl step st := by
  induction s with
  | nil => intro col st; rfl
  | cons c cs ih =>
    intro col st
    unfold expandTabs
    split
    · rename_i h; subst h
      rw [List.foldl_append, foldl_replicate_space _ (by omega), ih, List.foldl_cons, step_neutral st (by decide)]
    · split <;> simp only [List.foldl_cons, ih]

theorem foldl_map_ws (s : Str) : ∀ (st : PState),
    (s.map fun c => if isTwWs c then ' ' else c).foldl step st = s.foldl step st := by
  induction s with
  | nil => intro st; rfl
  | cons c cs ih =>
    intro st
    simp only [List.map_cons, List.foldl_cons]
    cases hw : isTwWs c
    · simp only [Bool.false_eq_true, ↓reduceIte, ih]
    · simp only [↓reduceIte]
      rw [step_neutral st (by decide : neutral ' ' = true), step_neutral st (isTwWs_neutral hw), ih]

theorem parse_munge (s : Str) : parse (munge s) = parse s := by
  unfold parse munge
  rw [foldl_map_ws, foldl_expandTabs]

end C12
