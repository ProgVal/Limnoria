/-
C12 — helper lemmas: text without colour codes (bold / reverse / underline / reset / italic only):
parsing it folds `toggle`, and its visible text survives the loop of `ircutils.wrap`.  (That the reserved
overhead suffices for it is a case of the coherence lemma of LemmasColour.)
-/
import LimnoriaModel.C12.LemmasFmt
namespace C12
open Py

/-- no `\x03` -/
def NoColour (s : Str) : Prop := ∀ c ∈ s, c ≠ Gen.colorChar

instance (s : Str) : Decidable (NoColour s) := by unfold NoColour; exact inferInstance

theorem plain_nocolour {s : Str} (h : Plain s) : NoColour s := fun c hc => (h c hc).2.2.2.2

/-- table facts: the three toggles are pairwise distinct; a blank does not start a colour code -/
structure FlagsOk : Prop where
  boldRev : Gen.boldChar ≠ Gen.reverseChar
  boldUl : Gen.boldChar ≠ Gen.underlineChar
  revUl : Gen.reverseChar ≠ Gen.underlineChar
  spNeColor : ' ' ≠ Gen.colorChar

/-- a context without colours -/
def Flags (c : Ctx) : Prop := c.fg = none ∧ c.bg = none

theorem flags_default : Flags {} := ⟨rfl, rfl⟩

theorem toggle_flags {c : Ctx} (h : Flags c) (ch : Char) : Flags (toggle c ch) := by
  rcases toggle_colours c ch with h0 | ⟨h1, h2⟩
  · rw [h0]; exact flags_default
  · exact ⟨h1.trans h.1, h2.trans h.2⟩

theorem foldl_toggle_flags (s : Str) : ∀ {c : Ctx}, Flags c → Flags (s.foldl toggle c) := by
  induction s with
  | nil => intro c h; exact h
  | cons x xs ih => intro c h; exact ih (toggle_flags h x)

/-- the toggles `start` emits after the colour code -/
def flagStr (c : Ctx) : Str :=
  (if c.underline then [Gen.underlineChar] else []) ++ ((if c.reverse then [Gen.reverseChar] else []) ++
    (if c.bold then [Gen.boldChar] else []))

theorem start_eq (c : Ctx) (s : Str) : c.start s = colorPrefix c ++ (flagStr c ++ s) := by
  simp [Ctx.start, flagStr]

theorem flagStr_clean (c : Ctx) :
    (∀ x ∈ flagStr c, contChar x = false ∧ x ≠ Gen.colorChar) ∧ stripFormatting (flagStr c) = [] := by
  unfold flagStr
  cases c.underline <;> cases c.reverse <;> cases c.bold <;> decide

theorem foldl_toggle_flagStr (hf : FlagsOk) (c c0 : Ctx)
    (h : c0.bold = false ∧ c0.reverse = false ∧ c0.underline = false) :
    (flagStr c).foldl toggle c0 = { c0 with bold := c.bold, reverse := c.reverse, underline := c.underline } := by
  obtain ⟨fg, bg, bd, rv, ul⟩ := c0
  obtain ⟨rfl, rfl, rfl⟩ := h
  unfold flagStr
  cases c.bold <;> cases c.reverse <;> cases c.underline <;> simp [toggle, hf.boldRev.symm, hf.boldUl.symm, hf.revUl.symm]

theorem step_plain {st : PState} (hm : st.mode = .plain) {ch : Char} (hch : ch ≠ Gen.colorChar) :
    (step st ch).ctx = toggle st.ctx ch ∧ (step st ch).mode = .plain := by
  unfold step
  rw [hm]
  exact ⟨plainStep_ctx st ch, (plainStep_mode st hch).trans hm⟩

theorem foldl_step_nocolour (s : Str) : ∀ (st : PState), st.mode = .plain → NoColour s →
    (s.foldl step st).ctx = s.foldl toggle st.ctx ∧ (s.foldl step st).mode = .plain := by
  induction s with
  | nil => intro st hm _; exact ⟨rfl, hm⟩
  | cons x xs ih =>
    intro st hm hn
    obtain ⟨h1, h2⟩ := step_plain hm (hn x List.mem_cons_self)
    obtain ⟨g1, g2⟩ := ih (step st x) h2 (fun y hy => hn y (List.mem_cons_of_mem _ hy))
    simp only [List.foldl_cons]
    exact ⟨by rw [g1, h1], g2⟩

theorem parse_nocolour (s : Str) (hn : NoColour s) : Flags (parse s).ctx := by
  obtain ⟨h1, h2⟩ := foldl_step_nocolour s {} rfl hn
  unfold parse
  rw [finish_plain h2, h1]
  exact foldl_toggle_flags s flags_default

theorem nocolour_append {a b : Str} : NoColour (a ++ b) ↔ NoColour a ∧ NoColour b := by
  unfold NoColour
  constructor
  · intro h; exact ⟨fun c hc => h c (List.mem_append_left _ hc), fun c hc => h c (List.mem_append_right _ hc)⟩
  · intro ⟨h1, h2⟩ c hc
    rcases List.mem_append.mp hc with h | h
    · exact h1 c h
    · exact h2 c h

theorem colorPrefix_flags {c : Ctx} (hc : Flags c) : colorPrefix c = [] := by
  unfold colorPrefix; rw [hc.1, hc.2]

theorem nocolour_start {c : Ctx} (hc : Flags c) {l : Str} (hl : NoColour l) : NoColour (c.start l) := by
  rw [start_eq, colorPrefix_flags hc, List.nil_append]
  exact nocolour_append.mpr ⟨fun x hx => ((flagStr_clean c).1 x hx).2, hl⟩

/-- the context with which the loop re-opens the next line: none before the first line -/
def ctxOf : Option Ctx → Ctx
  | none => {}
  | some c => c

theorem nocolour_munge (hf : FlagsOk) {s : Str} (h : NoColour s) : NoColour (munge s) := by
  intro c hc
  rcases mem_munge hc with h1 | h1
  · exact h c h1
  · exact h1 ▸ hf.spNeColor

theorem scGo_nocolour (s : Str) (h : NoColour s) : scGo .plain s = s := by
  induction s with
  | nil => rfl
  | cons c cs ih =>
    have hc := h c List.mem_cons_self
    simp only [scGo, scStep, scPlain, hc, ↓reduceIte, List.singleton_append]
    rw [ih (fun y hy => h y (List.mem_cons_of_mem _ hy))]

theorem stripFormatting_nocolour (s : Str) (h : NoColour s) :
    stripFormatting s = s.filter fun c => !isFmtChar c := by
  unfold stripFormatting stripColor; rw [scGo_nocolour s h]

end C12
