/-
C12 — helper lemmas: what a client shows (`stripFormatting`) of the lines `ircutils.wrap` produces.
-/
import LimnoriaModel.C12.LemmasColour
namespace C12
open Py

/-- run the colour-stripping machine over a string: (state reached, characters emitted) -/
def scRun : SC → Str → SC × Str
  | st, [] => (st, [])
  | st, c :: cs => ((scRun (scStep st c).1 cs).1, (scStep st c).2 ++ (scRun (scStep st c).1 cs).2)

/-- a comma read after a colour code and not followed by a digit is text -/
def scFlush : SC → Str
  | .comma => [',']
  | _ => []

theorem scGo_eq (s : Str) : ∀ st, scGo st s = (scRun st s).2 ++ scFlush (scRun st s).1 := by
  induction s with
  | nil => intro st; cases st <;> rfl
  | cons c cs ih => intro st; simp only [scGo, scRun, ih, List.append_assoc]

theorem scRun_append (a b : Str) : ∀ st, scRun st (a ++ b) =
    ((scRun (scRun st a).1 b).1, (scRun st a).2 ++ (scRun (scRun st a).1 b).2) := by
  induction a with
  | nil => intro st; simp [scRun]
  | cons c cs ih => intro st; simp only [List.cons_append, scRun, ih, List.append_assoc]

theorem scStep_clean (st : SC) {x : Char} (hx : contChar x = false) :
    scStep st x = ((scPlain x).1, scFlush st ++ (scPlain x).2) := by
  simp only [contChar, Bool.or_eq_false_iff, decide_eq_false_iff_not] at hx
  obtain ⟨hd, hc⟩ := hx
  cases st <;> simp [scStep, scFlush, hd, hc]

theorem scGo_clean (st : SC) {x : Char} (hx : contChar x = false) (b : Str) :
    scGo st (x :: b) = scFlush st ++ scGo .plain (x :: b) := by
  simp only [scGo, scStep_clean st hx, List.append_assoc]
  rfl

theorem stripColor_append_clean (a : Str) {x : Char} (hx : contChar x = false) (b : Str) :
    stripColor (a ++ x :: b) = stripColor a ++ stripColor (x :: b) := by
  unfold stripColor
  rw [scGo_eq (a ++ x :: b), scRun_append, scGo_eq a]
  simp only
  have := scGo_clean (scRun .plain a).1 hx b
  rw [scGo_eq (x :: b) (scRun .plain a).1] at this
  rw [List.append_assoc, this, List.append_assoc]

theorem stripFormatting_append_clean (a : Str) {x : Char} (hx : contChar x = false) (b : Str) :
    stripFormatting (a ++ x :: b) = stripFormatting a ++ stripFormatting (x :: b) := by
  unfold stripFormatting
  rw [stripColor_append_clean a hx b, List.filter_append]

theorem strip_flatten_clean (l : Str) (ls : List Str) (h : ∀ x ∈ ls, CleanHead x) :
    stripFormatting (l :: ls).flatten = ((l :: ls).map stripFormatting).flatten := by
  induction ls generalizing l with
  | nil => simp
  | cons m ms ih =>
    obtain ⟨x, xs, rfl, hx⟩ := h m List.mem_cons_self
    have hrest := ih (x :: xs) (fun y hy => h y (List.mem_cons_of_mem _ hy))
    have : (l :: (x :: xs) :: ms).flatten = l ++ x :: (xs ++ ms.flatten) := by simp
    rw [this, stripFormatting_append_clean l hx]
    have h2 : x :: (xs ++ ms.flatten) = ((x :: xs) :: ms).flatten := by simp
    rw [h2, hrest]
    simp

/-- all 289 colour codes `start` can emit for colours below 16 are invisible -/
theorem strip_prefix_table : ∀ f b : Fin 17,
    stripFormatting (colorPrefix ⟨optFin f, optFin b, false, false, false⟩) = [] := by
  decide +kernel

theorem strip_start_nil (c : Ctx) (h16 : CtxB 16 c) : stripFormatting (c.start []) = [] := by
  have hp : stripFormatting (colorPrefix c) = [] :=
    forall_colours (P := fun fg bg => stripFormatting (colorPrefix ⟨fg, bg, false, false, false⟩) = [])
      strip_prefix_table h16
  obtain ⟨hclean, hstrip⟩ := flagStr_clean c
  rw [start_eq, List.append_nil]
  cases hfs : flagStr c with
  | nil => rw [List.append_nil, hp]
  | cons x xs =>
    rw [stripFormatting_append_clean _ (hclean x (hfs ▸ List.mem_cons_self)).1, hp, ← hfs, hstrip]
    rfl

theorem strip_end (c : Ctx) (y : Str) : stripFormatting (c.end y) = stripFormatting y := by
  unfold Ctx.end
  split
  · have hr : contChar Gen.resetChar = false := by decide
    rw [stripFormatting_append_clean y hr []]
    have : stripFormatting [Gen.resetChar] = [] := by decide
    rw [this, List.append_nil]
  · rfl

theorem strip_start_flags (c c' : Ctx) (hc : Flags c) (l : Str) (hl : NoColour l) :
    stripFormatting (c'.end (c.start l)) = stripFormatting l := by
  obtain ⟨hclean, hstrip⟩ := flagStr_clean c
  rw [strip_end, stripFormatting_nocolour _ (nocolour_start hc hl), stripFormatting_nocolour _ hl, start_eq,
    colorPrefix_flags hc, List.nil_append, List.filter_append,
    ← stripFormatting_nocolour _ (fun x hx => (hclean x hx).2), hstrip, List.nil_append]

theorem strip_processLines : ∀ (lines : List Str) (ctx : Option Ctx),
    (∀ l ∈ lines, NoColour l) → (ctx = none ∨ ∃ c, ctx = some c ∧ Flags c) →
    (processLines ctx lines).map stripFormatting = lines.map stripFormatting := by
  intro lines
  induction lines with
  | nil => intro ctx _ _; rfl
  | cons l ls ih =>
    intro ctx hn hctx
    have hl := hn l List.mem_cons_self
    have hls : ∀ x ∈ ls, NoColour x := fun x hx => hn x (List.mem_cons_of_mem _ hx)
    simp only [processLines, List.map_cons]
    rcases hctx with rfl | ⟨c, rfl, hc⟩
    · rw [ih _ hls (Or.inr ⟨_, rfl, parse_nocolour l hl⟩), strip_end]
    · rw [ih _ hls (Or.inr ⟨_, rfl, parse_nocolour _ (nocolour_start hc hl)⟩), strip_start_flags c _ hc l hl]

theorem strip_processLines_nocolour (lines : List Str) (h : NoColour lines.flatten) :
    ((processLines none lines).map stripFormatting).flatten = stripFormatting lines.flatten := by
  have hl : ∀ l ∈ lines, NoColour l := fun l hl c hc => h c (List.mem_flatten.mpr ⟨l, hl, hc⟩)
  rw [strip_processLines lines none hl (Or.inl rfl), stripFormatting_nocolour _ h, List.filter_flatten]
  congr 1
  exact List.map_congr_left fun l hm => stripFormatting_nocolour l (hl l hm)

theorem strip_reopen (c c' : Ctx) (h16 : CtxB 16 c) {l : Str} (hl : CleanHead l) :
    stripFormatting (c'.end (c.start l)) = stripFormatting l := by
  obtain ⟨x, xs, rfl, hx⟩ := hl
  rw [strip_end, start_append, stripFormatting_append_clean _ hx, strip_start_nil c h16, List.nil_append]

theorem strip_processLines_clean (hlim : Gen.colorLimit ≤ 16) : ∀ (lines : List Str) (c : Ctx), CtxB 16 c →
    (∀ l ∈ lines, CleanHead l) →
    (processLines (some c) lines).map stripFormatting = lines.map stripFormatting := by
  intro lines
  induction lines with
  | nil => intro c _ _; rfl
  | cons l ls ih =>
    intro c hc hcl
    simp only [processLines, List.map_cons]
    rw [strip_reopen c _ hc (hcl l List.mem_cons_self),
      ih _ (parse_ctxB (by omega) hlim _) (fun y hy => hcl y (List.mem_cons_of_mem _ hy))]

theorem strip_processLines_all (hlim : Gen.colorLimit ≤ 16) (lines : List Str) (h : cleanStarts lines = true) :
    ((processLines none lines).map stripFormatting).flatten = stripFormatting lines.flatten := by
  cases lines with
  | nil => rfl
  | cons l ls =>
    have hcl := cleanHead_of_cleanStarts h
    simp only [processLines, List.map_cons]
    rw [strip_end, strip_processLines_clean hlim ls _ (parse_ctxB (by omega) hlim _) hcl, strip_flatten_clean l ls hcl]
    simp

end C12
