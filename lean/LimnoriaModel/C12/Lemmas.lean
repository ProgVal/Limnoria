/-
C12 — helper lemmas: bytes, decimal rendering, whitespace munging, splitBytes, byteTextWrap.
-/
import LimnoriaModel.C12.Model
namespace C12
open Py

/-- What the theorems need from the constants extracted from /repo.  The templates, `digitChars`,
`colorBase` and `colorDigits` are read by no proof: the model hard-codes these formats (`wire`, `countText`,
`withSuffix`, `replyFrame`, `digitChar`, `continues`), and the fields make a change of them in /repo break
the build. -/
structure ConstsOk : Prop where
  tries : Gen.splitBytesTries = 4
  sizeWithBg : 6 ≤ Gen.sizeWithBg + 1
  sizeFgOnly : 3 ≤ Gen.sizeFgOnly + 1
  sizeEnd : 1 ≤ Gen.sizeEnd
  colorLimit : Gen.colorLimit ≤ 16
  colorBase : Gen.colorBase = 10
  colorDigits : Gen.colorDigits = 2
  maxLine : Gen.maxLine = 512
  ircMaxLine : Gen.ircMaxLine = 512
  tabFactor : Gen.tabFactor = 8
  minWrapSize : Gen.minWrapSize = 4
  digitChars : Gen.digitChars = ['0', '1', '2', '3', '4', '5', '6', '7', '8', '9']
  probeTemplate :
    Gen.probeTemplate = [':', '%', 's', ' ', '%', 's', ' ', '%', 's', ' ', ':', '%', 's', '\r', '\n']
  probePayload : Gen.probePayload = ['.']
  countTemplate : Gen.countTemplate = ['(', '%', 'i', ' ', '%', 's', ')']
  joinTemplate : Gen.joinTemplate = ['%', 's', ' ', '%', 's']
  nickPrefixTemplate : Gen.nickPrefixTemplate = ['%', 's', ':', ' ', '%', 's']

/-! ## bytes -/

theorem blen_append (a b : Str) : blen (a ++ b) = blen a + blen b := by
  induction a with
  | nil => simp [blen]
  | cons c cs ih => simp [blen, ih]; omega

theorem blen_nil : blen [] = 0 := rfl

theorem blen_cons (c : Char) (cs : Str) : blen (c :: cs) = c.utf8Size + blen cs := rfl

theorem blen_singleton (c : Char) : blen [c] = c.utf8Size := by simp [blen]

theorem size_sp : (' ' : Char).utf8Size = 1 := by decide +kernel
theorem size_tab : ('\t' : Char).utf8Size = 1 := by decide +kernel
theorem size_cr : ('\r' : Char).utf8Size = 1 := by decide +kernel
theorem size_lf : ('\n' : Char).utf8Size = 1 := by decide +kernel
theorem size_colon : (':' : Char).utf8Size = 1 := by decide +kernel
theorem size_comma : (',' : Char).utf8Size = 1 := by decide +kernel
theorem size_zero : ('0' : Char).utf8Size = 1 := by decide +kernel
theorem size_lpar : ('(' : Char).utf8Size = 1 := by decide +kernel
theorem size_rpar : (')' : Char).utf8Size = 1 := by decide +kernel

theorem blen_pos {s : Str} (h : s ≠ []) : 0 < blen s := by
  cases s with
  | nil => exact absurd rfl h
  | cons c cs => have := Char.utf8Size_pos c; simp [blen]; omega

theorem blen_reverse (s : Str) : blen s.reverse = blen s := by
  induction s with
  | nil => rfl
  | cons c cs ih => simp [blen_append, blen, ih]; omega

theorem blen_replicate (k : Nat) (c : Char) : blen (List.replicate k c) = k * c.utf8Size := by
  induction k with
  | zero => simp [blen]
  | succ k ih => rw [List.replicate_succ, blen_cons, ih, Nat.succ_mul, Nat.add_comm]

theorem length_le_blen (s : Str) : s.length ≤ blen s := by
  induction s with
  | nil => simp [blen]
  | cons c cs ih => have := Char.utf8Size_pos c; simp [blen]; omega

theorem blen_le_four_length (s : Str) : blen s ≤ 4 * s.length := by
  induction s with
  | nil => simp [blen]
  | cons c cs ih => have := Char.utf8Size_le_four c; simp [blen]; omega

theorem blen_dropWhile_le (p : Char → Bool) (s : Str) : blen (s.dropWhile p) ≤ blen s := by
  induction s with
  | nil => simp [blen]
  | cons c cs ih =>
    simp only [List.dropWhile_cons]
    split
    · simp [blen]; omega
    · exact Nat.le_refl _

theorem blen_flatten_ge_length {ls : List Str} (h : ∀ l ∈ ls, l ≠ []) : ls.length ≤ blen ls.flatten := by
  induction ls with
  | nil => simp [blen]
  | cons l ls ih =>
    have h1 := blen_pos (h l List.mem_cons_self)
    have h2 := ih (fun x hx => h x (List.mem_cons_of_mem _ hx))
    simp [blen_append]; omega

/-! ## decimal rendering -/

theorem natToStrAux_fuel : ∀ (k f : Nat), k ≤ f → natToStrAux f k = natToStrAux k k := by
  intro k
  induction k using Nat.strongRecOn with
  | _ k ih =>
    intro f hf
    by_cases hk : k < 10
    · cases f with
      | zero =>
        have : k = 0 := by omega
        subst this; rfl
      | succ f' =>
        cases k with
        | zero => simp [natToStrAux]
        | succ k' => simp [natToStrAux, hk]
    · cases f with
      | zero => omega
      | succ f' =>
        cases k with
        | zero => omega
        | succ k' =>
          simp only [natToStrAux, hk, ↓reduceIte]
          have h1 : (k' + 1) / 10 < k' + 1 := Nat.div_lt_self (by omega) (by omega)
          rw [ih ((k' + 1) / 10) h1 f' (by omega), ih ((k' + 1) / 10) h1 k' (by omega)]

theorem natToStr_unfold (n : Nat) :
    natToStr n = if n < 10 then [digitChar n] else natToStr (n / 10) ++ [digitChar (n % 10)] := by
  unfold natToStr
  cases n with
  | zero => simp [natToStrAux]
  | succ k =>
    simp only [natToStrAux]
    split
    · rfl
    · rw [natToStrAux_fuel ((k + 1) / 10) k (by omega)]

theorem natToStr_length_pos (n : Nat) : 1 ≤ (natToStr n).length := by
  rw [natToStr_unfold]; split <;> simp

theorem natToStr_length_mono : ∀ (m n : Nat), n ≤ m → (natToStr n).length ≤ (natToStr m).length := by
  intro m
  induction m using Nat.strongRecOn with
  | _ m ih =>
    intro n hnm
    rw [natToStr_unfold n, natToStr_unfold m]
    by_cases hm : m < 10
    · have hn : n < 10 := by omega
      simp [hm, hn]
    · by_cases hn : n < 10
      · simp [hm, hn]
      · simp only [hm, hn, ↓reduceIte, List.length_append, List.length_singleton]
        have := ih (m / 10) (Nat.div_lt_self (by omega) (by omega)) (n / 10) (Nat.div_le_div_right hnm)
        omega

theorem digitChar_size : ∀ d, d < 10 → (digitChar d).utf8Size = 1 := by decide +kernel

theorem blen_natToStr : ∀ (n : Nat), blen (natToStr n) = (natToStr n).length := by
  intro n
  induction n using Nat.strongRecOn with
  | _ n ih =>
    rw [natToStr_unfold]
    split
    · rename_i h; simp [blen, digitChar_size n h]
    · rename_i h
      have := ih (n / 10) (Nat.div_lt_self (by omega) (by omega))
      simp [blen_append, blen, this, digitChar_size (n % 10) (Nat.mod_lt _ (by omega))]

theorem natToStr_small : ∀ n, n < 100 → (natToStr n).length ≤ 2 := by decide +kernel

theorem zfill2_small : ∀ n, n < 100 → (zfill2 n).length = 2 := by decide +kernel

theorem blen_zfill2 : ∀ n, n < 100 → blen (zfill2 n) = 2 := by decide +kernel

/-! ## textwrap munging -/

theorem isTwWs_size {c : Char} (h : isTwWs c = true) : c.utf8Size = 1 := by
  simp only [isTwWs, Bool.or_eq_true, decide_eq_true_eq] at h
  rcases h with ((((h | h) | h) | h) | h) | h <;> subst h <;> decide +kernel

theorem blen_expandTabs_le (s : Str) : ∀ col, blen (expandTabs col s) ≤ 8 * blen s := by
  induction s with
  | nil => intro col; simp [expandTabs, blen]
  | cons c cs ih =>
    intro col
    unfold expandTabs
    split
    · rename_i h; subst h
      have := ih (col + (8 - col % 8))
      simp only [blen_append, blen_replicate, blen, size_tab, size_sp]; omega
    · split
      · have := ih 0; have := Char.utf8Size_pos c; simp only [blen]; omega
      · have := ih (col + 1); have := Char.utf8Size_pos c; simp only [blen]; omega

theorem blen_map_ws (s : Str) : blen (s.map fun c => if isTwWs c then ' ' else c) = blen s := by
  induction s with
  | nil => rfl
  | cons c cs ih =>
    simp only [List.map_cons, blen, ih]
    split
    · rename_i h
      rw [isTwWs_size h, size_sp]
    · rfl

/-- tabs expand to at most eight columns: the munged text has at most 8 times the bytes of the text -/
theorem munge_blen_le (s : Str) : blen (munge s) ≤ 8 * blen s := by
  unfold munge; rw [blen_map_ws]; exact blen_expandTabs_le s 0

theorem mem_expandTabs {s : Str} : ∀ {col : Nat} {x : Char}, x ∈ expandTabs col s → x ∈ s ∨ x = ' ' := by
  induction s with
  | nil => intro col x h; simp [expandTabs] at h
  | cons c cs ih =>
    intro col x h
    have hcons : ∀ col', x ∈ c :: expandTabs col' cs → x ∈ c :: cs ∨ x = ' ' := fun _ h =>
      (List.mem_cons.mp h).elim (fun h => .inl (h ▸ List.mem_cons_self)) fun h =>
        (ih h).imp (List.mem_cons_of_mem _) id
    unfold expandTabs at h
    split at h
    · exact (List.mem_append.mp h).elim (fun h => .inr (List.mem_replicate.mp h).2) fun h =>
        (ih h).imp (List.mem_cons_of_mem _) id
    · split at h <;> exact hcons _ h

theorem mem_munge {s : Str} {x : Char} (h : x ∈ munge s) : x ∈ s ∨ x = ' ' := by
  unfold munge at h
  rw [List.mem_map] at h
  obtain ⟨y, hy, hxy⟩ := h
  split at hxy
  · right; exact hxy.symm
  · subst hxy; exact mem_expandTabs hy

/-! ## splitBytes -/

theorem cutAt_spec : ∀ (w : Str) (p : Nat) (a b : Str), cutAt w p = some (a, b) →
    a ++ b = w ∧ blen a = min p (blen w) := by
  intro w
  induction w with
  | nil =>
    intro p a b h
    simp only [cutAt, Option.some.injEq, Prod.mk.injEq] at h
    obtain ⟨rfl, rfl⟩ := h
    simp [blen]
  | cons c cs ih =>
    intro p a b h
    unfold cutAt at h
    split at h
    · rename_i hp
      simp only [Option.some.injEq, Prod.mk.injEq] at h
      obtain ⟨rfl, rfl⟩ := h
      simp [blen, hp]
    · split at h
      · rename_i hp hsz
        split at h
        · rename_i a' b' hrec
          simp only [Option.some.injEq, Prod.mk.injEq] at h
          obtain ⟨rfl, rfl⟩ := h
          obtain ⟨h1, h2⟩ := ih _ _ _ hrec
          refine ⟨by simp [h1], ?_⟩
          simp only [blen, h2]; omega
        · cases h
      · cases h

theorem cutAt_exists : ∀ (w : Str) (n : Nat), n ≤ blen w → ∃ i, i ≤ 3 ∧ i ≤ n ∧ (cutAt w (n - i)).isSome := by
  intro w
  induction w with
  | nil => intro n _; exact ⟨0, by omega, by omega, by simp [cutAt]⟩
  | cons c cs ih =>
    intro n hn
    by_cases h0 : n = 0
    · exact ⟨0, by omega, by omega, by subst h0; simp [cutAt]⟩
    · by_cases hsz : c.utf8Size ≤ n
      · have hn' : n - c.utf8Size ≤ blen cs := by simp only [blen] at hn; omega
        obtain ⟨i, hi3, hin, hsome⟩ := ih (n - c.utf8Size) hn'
        refine ⟨i, hi3, by omega, ?_⟩
        have hpos := Char.utf8Size_pos c
        unfold cutAt
        have h1 : ¬ (n - i = 0) := by omega
        have h2 : c.utf8Size ≤ n - i := by omega
        simp only [h1, h2, ↓reduceIte]
        have h3 : n - i - c.utf8Size = n - c.utf8Size - i := by omega
        rw [h3]
        cases hc : cutAt cs (n - c.utf8Size - i) with
        | none => rw [hc] at hsome; simp at hsome
        | some r => obtain ⟨a, b⟩ := r; simp
      · have h4 := Char.utf8Size_le_four c
        refine ⟨n, by omega, by omega, ?_⟩
        simp [cutAt]

theorem splitBytesFrom_spec (w : Str) (size : Nat) :
    ∀ (is : List Nat), (∃ i ∈ is, (cutAt w (pyIdx size i (blen w))).isSome) →
    ∃ j ∈ is, ∃ r, cutAt w (pyIdx size j (blen w)) = some r ∧ splitBytesFrom w size is = some r := by
  intro is
  induction is with
  | nil => intro ⟨i, hi, _⟩; cases hi
  | cons x xs ih =>
    intro ⟨i, hi, hsome⟩
    unfold splitBytesFrom
    cases hx : cutAt w (pyIdx size x (blen w)) with
    | some r => exact ⟨x, List.mem_cons_self, r, hx, rfl⟩
    | none =>
      simp only
      rcases List.mem_cons.mp hi with rfl | hi'
      · rw [hx] at hsome; simp at hsome
      · obtain ⟨j, hj, r, h1, h2⟩ := ih ⟨i, hi', hsome⟩
        exact ⟨j, List.mem_cons_of_mem _ hj, r, h1, h2⟩

theorem splitBytes_cut (hc : ConstsOk) (w : Str) (size : Nat) (h4 : 4 ≤ size) (hlong : size < blen w) :
    ∃ a b, splitBytes w size = some (a, b) ∧ a ++ b = w ∧ blen a ≤ size ∧ size < blen a + 4 := by
  obtain ⟨i, hi3, hin, hsome⟩ := cutAt_exists w size (by omega)
  have hidx : ∀ j, j < 4 → pyIdx size j (blen w) = size - j := fun j hj => by
    unfold pyIdx; rw [if_pos (by omega)]
  obtain ⟨j, hj, ⟨a, b⟩, h1, h2⟩ := splitBytesFrom_spec w size (List.range 4)
    ⟨i, List.mem_range.mpr (by omega), by rw [hidx i (by omega)]; exact hsome⟩
  have hj := List.mem_range.mp hj
  rw [hidx j hj] at h1
  obtain ⟨hab, hlen⟩ := cutAt_spec _ _ _ _ h1
  refine ⟨a, b, ?_, hab, by omega, by omega⟩
  unfold splitBytes; rw [hc.tries]; exact h2

/-! ## byteTextWrap -/

def LinesOk (size : Nat) (lines : List Str) : Prop := ∀ l ∈ lines, blen l ≤ size

theorem addWord_ok {size : Nat} {lines : List Str} {w : Str} (hl : LinesOk size lines) (hw : blen w ≤ size) :
    LinesOk size (addWord size lines w) := by
  unfold addWord
  cases lines with
  | nil => intro l hl'; simp at hl'; subst hl'; exact hw
  | cons l ls =>
    simp only
    split
    · rename_i h
      intro x hx
      rcases List.mem_cons.mp hx with rfl | hx
      · rw [blen_append]; exact h
      · exact hl x (List.mem_cons_of_mem _ hx)
    · intro x hx
      rcases List.mem_cons.mp hx with rfl | hx
      · exact hw
      · exact hl x hx

theorem addWord_flatten (size : Nat) (lines : List Str) (w : Str) :
    (addWord size lines w).reverse.flatten = lines.reverse.flatten ++ w := by
  unfold addWord
  cases lines with
  | nil => simp
  | cons l ls =>
    simp only
    split <;> simp

/-- all lines are non-empty, except that the initial state is the single empty line -/
def LinesNe (lines : List Str) : Prop := lines = [[]] ∨ ∀ l ∈ lines, l ≠ []

theorem addWord_ne {size : Nat} {lines : List Str} {w : Str} (hl : LinesNe lines) (hw : w ≠ [])
    (hws : blen w ≤ size) : ∀ l ∈ addWord size lines w, l ≠ [] := by
  unfold addWord
  rcases hl with rfl | hl
  · simp only
    split
    · intro l hl; simp at hl; subst hl; exact hw
    · rename_i h
      exact absurd (by simp [blen]; omega) h
  · cases lines with
    | nil => intro l hl'; simp at hl'; subst hl'; exact hw
    | cons l ls =>
      simp only
      split
      · intro x hx
        rcases List.mem_cons.mp hx with rfl | hx
        · intro h; exact hl l List.mem_cons_self (List.append_eq_nil_iff.mp h).1
        · exact hl x (List.mem_cons_of_mem _ hx)
      · intro x hx
        rcases List.mem_cons.mp hx with rfl | hx
        · exact hw
        · exact hl x hx

theorem linesNe_reverse {lines : List Str} (h : LinesNe lines) : LinesNe lines.reverse := by
  rcases h with rfl | h
  · left; rfl
  · right; intro l hl; exact h l (List.mem_reverse.mp hl)

/-- the `while words:` loop, for a size of at least 4 (a line can hold one character, so the loop ends) -/
theorem wrapLoop_ok (hc : ConstsOk) (size : Nat) (h4 : 4 ≤ size) :
    ∀ (f : Nat) (ws lines : List Str), fuelFor ws ≤ f → LinesOk size lines →
    ∃ out, wrapLoop size f ws lines = .ok out ∧ out.flatten = lines.reverse.flatten ++ ws.flatten ∧
      LinesOk size out ∧ ((∀ w ∈ ws, w ≠ []) → LinesNe lines → LinesNe out) := by
  intro f
  induction f with
  | zero =>
    intro ws lines hf hl
    cases ws with
    | nil => exact ⟨lines.reverse, by simp [wrapLoop], by simp, fun l hl' => hl l (List.mem_reverse.mp hl'),
        fun _ => linesNe_reverse⟩
    | cons w ws => simp only [fuelFor] at hf; omega
  | succ f ih =>
    intro ws lines hf hl
    cases ws with
    | nil => exact ⟨lines.reverse, by simp [wrapLoop], by simp, fun l hl' => hl l (List.mem_reverse.mp hl'),
        fun _ => linesNe_reverse⟩
    | cons w ws =>
      by_cases hlong : size < blen w
      · obtain ⟨a, b, hs, hab, hle, hgt⟩ := splitBytes_cut hc w size h4 hlong
        have ha : a ≠ [] := by
          intro h; subst h; simp only [blen] at hgt; omega
        have hab' : blen w = blen a + blen b := by rw [← hab, blen_append]
        have hb : b ≠ [] := by
          intro h; subst h; simp only [blen] at hab'; omega
        have hapos := blen_pos ha
        have hfuel : fuelFor (b :: ws) ≤ f := by
          simp only [fuelFor] at hf ⊢; omega
        obtain ⟨out, h1, h2, h3, h5⟩ := ih (b :: ws) (addWord size lines a) hfuel (addWord_ok hl hle)
        refine ⟨out, ?_, ?_, h3, fun hws hne => h5 ?_ (Or.inr (addWord_ne hne ha hle))⟩
        · simp only [wrapLoop, hlong, ↓reduceIte, hs, List.isEmpty_eq_false_iff.mpr ha, Bool.false_eq_true]
          exact h1
        · rw [h2, addWord_flatten, ← hab]; simp
        · intro x hx
          rcases List.mem_cons.mp hx with rfl | hx
          · exact hb
          · exact hws x (List.mem_cons_of_mem _ hx)
      · have hw : blen w ≤ size := by omega
        have hfuel : fuelFor ws ≤ f := by simp only [fuelFor] at hf; omega
        obtain ⟨out, h1, h2, h3, h5⟩ := ih ws (addWord size lines w) hfuel (addWord_ok hl hw)
        refine ⟨out, ?_, ?_, h3, fun hws hne =>
          h5 (fun x hx => hws x (List.mem_cons_of_mem _ hx)) (Or.inr (addWord_ne hne (hws w List.mem_cons_self) hw))⟩
        · simp only [wrapLoop, hlong, ↓reduceIte]
          exact h1
        · rw [h2, addWord_flatten]; simp

theorem byteTextWrap_eq (hc : ConstsOk) (chunks : List Str) (size : Nat) (h4 : 4 ≤ size) :
    byteTextWrap chunks size = wrapLoop size (fuelFor chunks) chunks [[]] := by
  unfold byteTextWrap
  rw [hc.minWrapSize, Nat.max_eq_left h4]

theorem byteTextWrap_ok (hc : ConstsOk) (chunks : List Str) (size : Nat) (h4 : 4 ≤ size) :
    ∃ out, byteTextWrap chunks size = .ok out ∧ out.flatten = chunks.flatten ∧ LinesOk size out ∧
      ((∀ c ∈ chunks, c ≠ []) → LinesNe out) := by
  rw [byteTextWrap_eq hc _ _ h4]
  obtain ⟨out, h1, h2, h3, h5⟩ := wrapLoop_ok hc size h4 (fuelFor chunks) chunks [[]] (Nat.le_refl _)
    (by intro l hl; simp at hl; subst hl; simp [blen])
  exact ⟨out, h1, by simpa using h2, h3, fun h => h5 h (Or.inl rfl)⟩

/-- `byteTextWrap` with ANY size (0 stands for the negative sizes the callers can produce): the loop
runs with `max size 4` -/
theorem byteTextWrap_clamped (hc : ConstsOk) (chunks : List Str) (size : Nat) :
    byteTextWrap chunks size = byteTextWrap chunks (max size 4) := by
  unfold byteTextWrap
  rw [hc.minWrapSize]
  congr 1
  omega

end C12
