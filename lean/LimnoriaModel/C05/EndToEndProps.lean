/-
C05 ∘ C11 — the end-to-end theorems (helper lemmas: `EndToEnd.lean`).

`delivered_as_sent`: the byte stream a drained writer has produced for the messages `ms`
(`wireOf ms`; by `C11.write_exact_drained` that is what the socket has received when the strings of
`ms` were queued), cut into `recv()` results in *any* way, is delivered by the reading driver as
exactly `ms` (fields; an empty tag value reads back as no value — `canon`), in order, with nothing
left in the in-buffer.  `bot_to_bot` composes it with the writer's theorem: two instances of the
driver model, one history of partial sends / EAGAINs on the writing side, any fragmentation on the
reading side.

Hypotheses: `WF` (C05's well-formedness, with the reader's `strptime` accepting the time tag) and
`Tight` (no LF inside the line, no blank at its ends: what `_read`'s framing and
`drivers.parseMsg`'s `strip()` would otherwise change — `trailing_blank_lost` is the proved
counter-example without it); the reader's Irc raises nothing (`NoEscape`) and does not reconnect on
these messages (`NoReconnect`).
-/
import LimnoriaModel.C05.EndToEnd
namespace EndToEnd
open Py C05

/-- **Delivered as sent**, for every fragmentation of the stream. -/
theorem delivered_as_sent (env : C11.Env) (hne : C11.NoEscape env) (hnr : C11.NoReconnect env)
    (ms : List Msg) (hwf : ∀ m ∈ ms, WF env.timeOk m ∧ Tight m)
    (cs : List C11.Bytes) (hcs : ∀ c ∈ cs, c ≠ []) (h : cs.flatten = wireOf ms) :
    (C11.runOps env C11.init (C11.chunkOps cs)).fed = ms.map canon ∧
    (C11.runOps env C11.init (C11.chunkOps cs)).inbuffer = [] := by
  obtain ⟨f, b⟩ := C11.read_delivers_lines env hne hnr cs hcs
  rw [f, b, h, splitLF_wire ms (fun m hm => (hwf m hm).2.1)]
  exact ⟨msgsOf_wire env ms hwf, rfl⟩

/-- **Bot to bot**: whatever the writing driver's history of short writes, EAGAINs and loop passes,
once it is drained the reading driver — fed the written bytes in any fragmentation — has delivered
exactly the messages whose strings were queued on the writing side. -/
theorem bot_to_bot (envA envB : C11.Env) (hneA : C11.NoEscape envA) (hneB : C11.NoEscape envB)
    (hnrB : C11.NoReconnect envB) (opsA : List C11.Op) (ms : List Msg)
    (hq : (C11.runOps envA C11.init opsA).queued = ms.map format)
    (hdq : (C11.runOps envA C11.init opsA).queue = [])
    (hdb : (C11.runOps envA C11.init opsA).outbuffer = [])
    (hwf : ∀ m ∈ ms, WF envB.timeOk m ∧ Tight m)
    (cs : List C11.Bytes) (hcs : ∀ c ∈ cs, c ≠ [])
    (h : cs.flatten = (C11.runOps envA C11.init opsA).wire) :
    (C11.runOps envB C11.init (C11.chunkOps cs)).fed = ms.map canon := by
  have hw := C11.write_exact_drained envA hneA opsA hdq hdb
  rw [hq] at hw
  exact (delivered_as_sent envB hneB hnrB ms hwf cs hcs (h.trans hw)).1

/-- without `Tight`: `PRIVMSG #c :hi ` (trailing blank) arrives as `hi` — `drivers.parseMsg`
strips the line. -/
theorem trailing_blank_lost :
    C11.parseMsg (fun _ => true) "PRIVMSG #c :hi \r".toList
      = .msg ⟨[], "PRIVMSG".toList, ["#c".toList, "hi".toList], []⟩ := by decide

def ex1 : Msg :=
  ⟨"nick!u@h".toList, "PRIVMSG".toList, ["#chan".toList, ":héllo  wörld:".toList],
    [("msgid".toList, some "a b;c".toList), ("x".toList, none)]⟩
def ex2 : Msg := ⟨[], "PING".toList, [":é".toList], []⟩
def exMsgs : List Msg := [ex1, ex2]

theorem ex1_ok : WFD (fun _ => true) ex1 ∧ Tight ex1 := by decide +kernel
theorem ex2_ok : WFD (fun _ => true) ex2 ∧ Tight ex2 := by decide +kernel

/-- non-vacuity: concrete messages (prefix, tags with an escaped value, multi-byte text, a trailing
argument beginning with a colon) meet the hypotheses, and the wire of a drained writer, cut at
arbitrary places (inside `é`, inside a tag), is delivered as those messages. -/
example : ∀ m ∈ exMsgs, WF (fun _ => true) m ∧ Tight m := by
  intro m hm
  simp only [exMsgs, List.mem_cons, List.not_mem_nil, or_false] at hm
  rcases hm with rfl | rfl
  · exact ⟨wf_of_wfd _ _ ex1_ok.1, ex1_ok.2⟩
  · exact ⟨wf_of_wfd _ _ ex2_ok.1, ex2_ok.2⟩

set_option maxRecDepth 100000 in
example :
    (C11.runOps C11.stubEnv C11.init
      (C11.chunkOps [(wireOf exMsgs).take 40, ((wireOf exMsgs).drop 40).take 29, (wireOf exMsgs).drop 69])).fed
      = exMsgs.map canon := by decide +kernel

end EndToEnd
