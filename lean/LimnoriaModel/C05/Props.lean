/-
C05 — property theorems.  (Helper lemmas: `Lemmas.lean`, `RoundTrip.lean`.)
-/
import LimnoriaModel.C05.Lemmas
import LimnoriaModel.C05.RoundTrip
import LimnoriaModel.C05.Full
namespace C05
open Py

/-- Facts about the *extracted* escape table on which `unescape_escape` rests.  Re-checked by
`decide` against whatever `/repo/src/ircmsgs.py` says now. -/
theorem tagEscape_table_ok : TableOk Gen.serverTagEscape := by decide +kernel

/-- … and escaped values never contain the tag separators. -/
theorem tagEscape_table_sep : TableSep Gen.serverTagEscape := by decide +kernel

/-- Tag values survive escaping and unescaping unchanged — for every string. -/
theorem unescape_escape (v : Str) : unescapeTag (escapeTag v) = v :=
  unescape_escape_of_tableOk Gen.serverTagEscape tagEscape_table_ok v

theorem format_cached (timeOk : Str → Bool) (l : Str) (m : Msg) (str : Str)
    (h : parse timeOk l = .ok m str) : str = addLF l := by
  rcases parse_total timeOk l with ⟨m', h'⟩ | h'
  · rw [h'] at h; injection h with _ h2; exact h2.symm
  · rw [h'] at h; cases h

/-- Filling `.nick/.user/.host` never fails: every prefix the `^\\S+!\\S+@\\S+$` regexp accepts can be
split by `splitHostmask` (true since the `fix:` that splits off the host first; before it
`a!b@c!d` was a counter-example). -/
theorem hostFields_total (p : Str) : (hostFields p).isSome = true := by
  unfold hostFields
  split
  · rename_i h
    unfold isUserHostmask at h
    simp only [Bool.and_eq_true] at h
    obtain ⟨X, Y, hXY, hb⟩ := core_spec h.2
    by_cases hl : endsWithChar '\n' p = true
    · simp only [hl, ↓reduceIte] at hXY
      have hne : p ≠ [] := by intro e; subst e; simp [endsWithChar] at hl
      have hp : p = p.dropLast ++ ['\n'] := by
        have h1 := (List.dropLast_concat_getLast hne).symm
        have h2 : p.getLast hne = '\n' := by
          have : p.getLast? = some (p.getLast hne) := List.getLast?_eq_some_getLast hne
          unfold endsWithChar at hl
          rw [this] at hl
          simpa using hl
        rw [h2] at h1; exact h1
      apply splitHostmask_of_decomp (X := X) (Y := Y ++ ['\n']) _ hb
      rw [hp, hXY]; simp
    · simp only [hl] at hXY
      exact splitHostmask_of_decomp (by simpa using hXY) hb
  · rfl

/-- `.nick/.user/.host` of a user prefix re-join to the prefix (`nick!user@host`), the host has no `@`
and the user no `!`; any other prefix is copied to all three. -/
theorem hostFields_join (p n u h : Str) (hf : hostFields p = some (n, u, h)) :
    (isUserHostmask p = true ∧ p = n ++ '!' :: u ++ '@' :: h ∧ '@' ∉ h ∧ '!' ∉ u) ∨
    (isUserHostmask p = false ∧ n = p ∧ u = p ∧ h = p) := by
  unfold hostFields at hf
  split at hf
  · rename_i hu
    left; exact ⟨hu, splitHostmask_join hf⟩
  · rename_i hu
    right
    simp only [Option.some.injEq, Prod.mk.injEq] at hf
    exact ⟨by simpa using hu, hf.1.symm, hf.2.1.symm, hf.2.2.symm⟩

/-- Totality of the whole constructor, including the part after the `try` block. -/
theorem parseFull_total (timeOk : Str → Bool) (l : Str) :
    (∃ m n u h, parseFull timeOk l = .ok m (addLF l) n u h) ∨ parseFull timeOk l = .malformed := by
  unfold parseFull
  rcases parse_total timeOk l with ⟨m, hm⟩ | hm
  · rw [hm]
    have := hostFields_total m.pfx
    cases hf : hostFields m.pfx with
    | none => rw [hf] at this; simp at this
    | some t =>
      obtain ⟨n, u, h⟩ := t
      left; exact ⟨m, n, u, h, by simp [hf]⟩
  · rw [hm]; right; rfl

/-- `drivers.parseMsg` never raises: a line is delivered as a message or skipped. -/
theorem driverParseMsg_total (timeOk : Str → Bool) (l : Str) :
    (∃ m str n u h, driverParseMsg timeOk l = .msg m str n u h) ∨ driverParseMsg timeOk l = .none := by
  unfold driverParseMsg
  simp only
  split
  · right; rfl
  · rcases parseFull_total timeOk (strip l) with ⟨m, n, u, h, hp⟩ | hp
    · rw [hp]; left; exact ⟨m, _, n, u, h, rfl⟩
    · rw [hp]; right; rfl

/-- …and what it delivers is exactly the parse of the stripped line, whatever its length (no
truncation): the cached string is the stripped line plus LF. -/
theorem driverParseMsg_str (timeOk : Str → Bool) (l : Str) (m : Msg) (str n u h : Str)
    (hd : driverParseMsg timeOk l = .msg m str n u h) : str = addLF (strip l) := by
  unfold driverParseMsg at hd
  simp only at hd
  split at hd
  · cases hd
  · rcases parseFull_total timeOk (strip l) with ⟨m', n', u', h', hp⟩ | hp
    · rw [hp] at hd; injection hd with _ h2; exact h2.symm
    · rw [hp] at hd; cases hd

/-- **Round trip.**  Serialising any message built from a prefix, command, arguments and tags that
satisfies the explicit well-formedness predicate `WF` and parsing the resulting line yields a
message with the same prefix, command, arguments and tags (an empty tag value being the same as
no value, the IRCv3 rule the code cites), and the cached string is the serialised line. -/
theorem parse_format (timeOk : Str → Bool) (m : Msg) (h : WF timeOk m) :
    parse timeOk (format m) = .ok (canon m) (format m) :=
  parse_format_of_tables timeOk m tagEscape_table_ok tagEscape_table_sep h

/-- Copy-constructing without overrides is the identity on the four fields. -/
theorem copy_identity (m : Msg) : copyCtor m [] [] [] = m := by
  simp [copyCtor]

/-- An overriding copy has exactly the overriding fields (tags always those of the original). -/
theorem copy_fields (m : Msg) (p c : Str) (a : List Str) (hp : p ≠ []) (hc : c ≠ []) (ha : a ≠ []) :
    copyCtor m p c a = ⟨p, c, a, m.tags⟩ := by
  simp [copyCtor, hp, hc, ha]

/-- Pickling round trip (`copy.copy`, `pickle`): a well-formed message unpickles to itself. -/
theorem pickle_roundtrip (timeOk : Str → Bool) (m : Msg) (h : WF timeOk m) :
    unpickle timeOk m = .ok (canon m) (format m) := parse_format timeOk m h

/-- non-vacuity: a concrete message with prefix, middle and trailing arguments, an escaped tag value
and an empty one meets `WF`; and the theorem's conclusion evaluates as stated on it. -/
example : WF (fun _ => true)
    ⟨"nick!u@h".toList, "PRIVMSG".toList, ["#chan".toList, ":hello  world: ".toList],
     [("a".toList, some "x; y\\".toList), ("b".toList, some []), ("c".toList, none)]⟩ :=
  wf_of_wfd _ _ (by decide)

end C05
