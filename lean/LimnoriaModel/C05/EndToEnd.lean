/-
C05 ∘ C11 — end to end: **what one bot's driver writes for a message, another bot's driver
delivers as that message**.

The pieces are theorems of the two properties: `C05.parse_format` (serialise → parse gives the
fields back), `C11.write_exact_drained` (the socket receives exactly the UTF-8 of the queued lines),
`C11.read_delivers_lines` (the reader's deliveries are a function of the byte stream, whatever the
fragmentation) and `C11.decode_encode`.  What is new here is the glue the real code has between
them, which none of the two properties states on its own:

* `str(msg)` ends in CR LF, the reader frames on LF, decodes, and `drivers.parseMsg` **strips** the
  line before handing it to `IrcMsg`, whose constructor then puts a bare LF back: the line that is
  parsed on the receiving side is *not* the line that was serialised.  `parse_lineLF` is the round
  trip for that line (an instance of `C05.parse_line`).
* the strip is not harmless: a trailing argument ending in a blank loses it
  (`trailing_blank_lost`, the code's behaviour, reproduced by the correspondence run of C05's
  `parsemsg` stream).  `Tight` is the explicit, decidable condition under which nothing is lost:
  no LF inside the line and no blank at either end of it.
-/
import LimnoriaModel.C05.Props
import LimnoriaModel.C11.Props
namespace EndToEnd
open Py C05

/-! ### the serialised line without its end-of-line -/

def tailNo (m : Msg) : Str :=
  match m.args.getLast? with
  | none => []
  | some l => ' ' :: ':' :: l

def bodyNo (m : Msg) : Str := joinChar ' ' (words m) ++ tailNo m

/-- `str(msg)[:-2]` -/
def lineNo (m : Msg) : Str :=
  if m.tags = [] then bodyNo m else formatTags m.tags ++ ' ' :: bodyNo m

theorem tailPart_eq (m : Msg) : tailPart m = tailNo m ++ ['\r', '\n'] := by
  unfold tailPart tailNo
  cases m.args.getLast? <;> simp

theorem formatBody_eq_no (m : Msg) : formatBody m = bodyNo m ++ ['\r', '\n'] := by
  rw [formatBody_eq, tailPart_eq]; simp [bodyNo]

theorem format_eq_no (m : Msg) : format m = lineNo m ++ ['\r', '\n'] := by
  unfold format lineNo
  split <;> simp [formatBody_eq_no]

/-! ### the round trip for the line the receiving side parses: `lineNo m ++ "\n"` -/

theorem rstripCRLF_lf (a : Str) : rstripCRLF (a ++ ['\n']) = rstripCRLF a := by
  simp [rstripCRLF, rstripP, List.reverse_append, isCRLF]

theorem rawArgs_bodyLF (timeOk : Str → Bool) (m : Msg) (h : WF timeOk m) :
    rawArgs (bodyNo m ++ ['\n']) = pfxWords m ++ m.command :: m.args := by
  have := rawArgs_words timeOk m h ['\n'] rstripCRLF_lf rfl (by decide)
  unfold bodyNo tailNo
  cases hl : m.args.getLast? <;> simpa [hl] using this

theorem endsLF_snoc (x : Str) : endsWithChar '\n' (x ++ ['\n']) = true := by
  rw [endsWith_append _ _ _ (by simp)]; decide

theorem bodyNo_head (timeOk : Str → Bool) (m : Msg) (h : WF timeOk m) (ht : m.tags = []) :
    (bodyNo m ++ ['\n']).head? ≠ some '@' := by
  have := formatBody_head timeOk m h ht
  rw [formatBody_eq_no] at this
  cases hb : bodyNo m with
  | nil => simp
  | cons c cs => rw [hb] at this; simpa using this

/-- **Round trip for the received form of the line** (bare LF, as `IrcMsg.__init__` completes the
stripped line): same fields as were serialised. -/
theorem parse_lineLF (timeOk : Str → Bool) (m : Msg) (h : WF timeOk m) :
    parse timeOk (lineNo m ++ ['\n']) = .ok (canon m) (lineNo m ++ ['\n']) := by
  have := parse_line timeOk m tagEscape_table_ok tagEscape_table_sep h (bodyNo m ++ ['\n'])
    (rawArgs_bodyLF timeOk m h) (endsLF_snoc _) (bodyNo_head timeOk m h)
  unfold lineNo
  split <;> simpa [*] using this

theorem lineNo_ne_nil (timeOk : Str → Bool) (m : Msg) (h : WF timeOk m) : lineNo m ≠ [] := by
  obtain ⟨c, cs, hc⟩ := List.exists_cons_of_ne_nil h.cmd_ne
  unfold lineNo
  split
  · -- the body holds the command
    unfold bodyNo words pfxWords
    split <;> cases m.args.dropLast <;> simp [joinChar, hc]
  · simp [formatTags]

/-- the constructor sees only the LF-completed line -/
theorem parse_addLF (timeOk : Str → Bool) (s : Str) (hs : s ≠ []) :
    parse timeOk s = parse timeOk (addLF s) := by
  have hne : addLF s ≠ [] := by unfold addLF; split <;> simp [hs]
  have hidem : addLF (addLF s) = addLF s := by
    unfold addLF
    split
    · rename_i h; simp
    · simp [endsLF_snoc]
  unfold parse
  simp only [hs, hne, ↓reduceIte, hidem]

/-- Nothing of the line is touched by framing and by `drivers.parseMsg`'s `strip()`: no LF inside
it, no blank (Python `str.isspace`) at its beginning or end. -/
def Tight (m : Msg) : Prop := '\n' ∉ lineNo m ∧ strip (lineNo m ++ ['\r']) = lineNo m

instance (m : Msg) : Decidable (Tight m) := by unfold Tight; exact inferInstance

theorem addLF_of_noLF (s : Str) (h : '\n' ∉ s) : addLF s = s ++ ['\n'] := by
  unfold addLF endsWithChar
  cases hl : s.getLast? with
  | none => simp
  | some x =>
    have hx : x ≠ '\n' := fun e => h (e ▸ List.mem_of_getLast? hl)
    simp [hx]

/-- `drivers.parseMsg` on the decoded line (still carrying the CR) delivers the message -/
theorem parseMsg_wire (timeOk : Str → Bool) (m : Msg) (h : WF timeOk m) (ht : Tight m) :
    C11.parseMsg timeOk (lineNo m ++ ['\r']) = .msg (canon m) := by
  have hne := lineNo_ne_nil timeOk m h
  unfold C11.parseMsg
  simp only [ht.2, hne, ↓reduceIte]
  rw [parse_addLF timeOk _ hne, addLF_of_noLF _ ht.1, parse_lineLF timeOk m h]

theorem lineMsg_wire (env : C11.Env) (m : Msg) (h : WF env.timeOk m) (ht : Tight m) :
    C11.lineMsg env (C11.utf8 (lineNo m ++ ['\r'])) = some (canon m) := by
  unfold C11.lineMsg
  rw [C11.decode_encode, parseMsg_wire env.timeOk m h ht]

theorem lf_not_mem_encChar (c : Char) (h : c ≠ '\n') : C11.LF ∉ C11.encChar c := fun hb =>
  h (Char.toNat_inj.1 (C11.encChar_ascii c C11.LF hb (by decide)).symm)

/-- the only character whose encoding contains the byte 10 is LF itself -/
theorem lf_not_mem_utf8 (s : Str) (h : '\n' ∉ s) : C11.LF ∉ C11.utf8 s := by
  intro hm
  obtain ⟨c, hc, hb⟩ := List.mem_flatMap.1 hm
  exact lf_not_mem_encChar c (fun e => h (e ▸ hc)) hb

/-- the bytes a drained writer has put on the socket for the messages `ms` (`C11.write_exact_drained`
with `queued = ms.map format`) -/
def wireOf (ms : List Msg) : C11.Bytes := ((ms.map format).map C11.utf8).flatten

theorem utf8_format (m : Msg) :
    C11.utf8 (format m) = C11.utf8 (lineNo m ++ ['\r']) ++ C11.LF :: [] := by
  rw [format_eq_no]
  have : lineNo m ++ ['\r', '\n'] = (lineNo m ++ ['\r']) ++ ['\n'] := by simp
  rw [this, C11.utf8_append]
  rfl

theorem splitLF_wire (ms : List Msg) (h : ∀ m ∈ ms, '\n' ∉ lineNo m) :
    C11.splitLF (wireOf ms) = (ms.map (fun m => C11.utf8 (lineNo m ++ ['\r'])), []) := by
  induction ms with
  | nil => rfl
  | cons m ms ih =>
    have hm : '\n' ∉ lineNo m ++ ['\r'] := by
      simp only [List.mem_append, List.mem_singleton, not_or]
      exact ⟨h m (by simp), by decide⟩
    have e : wireOf (m :: ms) = C11.utf8 (lineNo m ++ ['\r']) ++ C11.LF :: wireOf ms := by
      simp [wireOf, utf8_format]
    rw [e, C11.splitLF_line _ _ (lf_not_mem_utf8 _ hm), ih (fun m' hm' => h m' (by simp [hm']))]
    rfl

theorem msgsOf_wire (env : C11.Env) (ms : List Msg) (h : ∀ m ∈ ms, WF env.timeOk m ∧ Tight m) :
    C11.msgsOf env (ms.map (fun m => C11.utf8 (lineNo m ++ ['\r']))) = ms.map canon := by
  induction ms with
  | nil => rfl
  | cons m ms ih =>
    have hm := h m (by simp)
    simp only [C11.msgsOf, List.map_cons, List.filterMap_cons, lineMsg_wire env m hm.1 hm.2]
    have := ih (fun m' hm' => h m' (by simp [hm']))
    simp only [C11.msgsOf] at this
    rw [this]

end EndToEnd
