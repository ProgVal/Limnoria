/-
The parse ∘ format round trip, proved from the two table predicates; and the decidable form `WFD` of the
well-formedness predicate, so that the driver can evaluate the hypothesis of `parse_format` on the very inputs
the harness feeds to the implementation.
-/
import LimnoriaModel.C05.Lemmas
namespace C05
open Py

/-- a middle argument: non-empty, no blank, no leading colon -/
def MidOk (a : Str) : Prop := a ≠ [] ∧ ' ' ∉ a ∧ a.head? ≠ some ':'

instance (a : Str) : Decidable (MidOk a) := by unfold MidOk; exact inferInstance

/-- Well-formedness of a message built from fields (explicit, decidable clause by clause). -/
structure WF (timeOk : Str → Bool) (m : Msg) : Prop where
  cmd_ne : m.command ≠ []
  cmd_sp : ' ' ∉ m.command
  cmd_cr : '\r' ∉ m.command
  cmd_lf : '\n' ∉ m.command
  cmd_colon : m.command.head? ≠ some ':'
  /-- only matters when the line would otherwise start with the command -/
  cmd_at : m.tags = [] → m.pfx = [] → m.command.head? ≠ some '@'
  pfx_sp : ' ' ∉ m.pfx
  mids : ∀ a ∈ m.args.dropLast, MidOk a
  /-- the trailing argument is arbitrary (empty, colons, blanks, Unicode) but does not end in CR/LF -/
  last : ∀ a, m.args.getLast? = some a → rstripCRLF a = a
  keys_nodup : (m.tags.map Prod.fst).Nodup
  keys_ok : ∀ kv ∈ m.tags, TagKeyOk kv.1
  /-- a `time` tag, if present, carries a non-empty value the `strptime` parameter accepts -/
  time_ok : ∀ v, dictGet m.tags timeKey = some v → ∃ s, v = some s ∧ s ≠ [] ∧ timeOk s = true

def canon (m : Msg) : Msg := { m with tags := canonTags m.tags }

def pfxWords (m : Msg) : List Str := if m.pfx = [] then [] else [':' :: m.pfx]

def words (m : Msg) : List Str := pfxWords m ++ [m.command] ++ m.args.dropLast

def tailPart (m : Msg) : Str :=
  match m.args.getLast? with
  | none => ['\r', '\n']
  | some l => ' ' :: ':' :: (l ++ ['\r', '\n'])

theorem joinChar_append (c : Char) (ws vs : List Str) (h1 : ws ≠ []) (h2 : vs ≠ []) :
    joinChar c (ws ++ vs) = joinChar c ws ++ c :: joinChar c vs := by
  induction ws with
  | nil => exact absurd rfl h1
  | cons w rest ih =>
    cases rest with
    | nil =>
      cases vs with
      | nil => exact absurd rfl h2
      | cons v vs' => simp [joinChar]
    | cons r rest' =>
      have := ih (by simp)
      simp only [List.cons_append, joinChar] at this ⊢
      rw [this]
      simp

theorem pfxPart_eq (m : Msg) :
    (if m.pfx = [] then ([] : Str) else ':' :: m.pfx ++ [' ']) ++ m.command
      = joinChar ' ' (pfxWords m ++ [m.command]) := by
  unfold pfxWords
  split <;> simp [joinChar]

theorem formatBody_eq (m : Msg) : formatBody m = joinChar ' ' (words m) ++ tailPart m := by
  unfold formatBody words tailPart
  match h : m.args with
  | [] => simp [← pfxPart_eq]
  | [a] => simp [← pfxPart_eq]
  | a :: b :: rest =>
    have hne : (a :: b :: rest).dropLast ≠ [] := by simp [List.dropLast]
    have hl : (a :: b :: rest).getLast? = some ((a :: b :: rest).getLast (by simp)) :=
      List.getLast?_eq_some_getLast (by simp)
    simp only [hl]
    rw [joinChar_append ' ' (pfxWords m ++ [m.command]) _ (by simp) hne, ← pfxPart_eq]
    simp

theorem words_ok (timeOk : Str → Bool) (m : Msg) (h : WF timeOk m) :
    (∀ w ∈ words m, w ≠ [] ∧ ' ' ∉ w) ∧ (∀ w ∈ (words m).tail, w.head? ≠ some ':') := by
  unfold words pfxWords
  have hc : m.command ≠ [] ∧ ' ' ∉ m.command := ⟨h.cmd_ne, h.cmd_sp⟩
  have hm : ∀ w ∈ m.args.dropLast, w ≠ [] ∧ ' ' ∉ w := fun w hw => ⟨(h.mids w hw).1, (h.mids w hw).2.1⟩
  have hm2 : ∀ w ∈ m.args.dropLast, w.head? ≠ some ':' := fun w hw => (h.mids w hw).2.2
  split
  · constructor
    · intro w hw
      simp only [List.nil_append, List.cons_append, List.mem_cons] at hw
      rcases hw with rfl | hw
      · exact hc
      · exact hm w hw
    · intro w hw
      simp only [List.nil_append, List.cons_append, List.tail_cons] at hw
      exact hm2 w hw
  · constructor
    · intro w hw
      simp only [List.cons_append, List.nil_append, List.mem_cons] at hw
      rcases hw with rfl | rfl | hw
      · exact ⟨by simp, by simpa using h.pfx_sp⟩
      · exact hc
      · exact hm w hw
    · intro w hw
      simp only [List.cons_append, List.nil_append, List.tail_cons, List.mem_cons] at hw
      rcases hw with rfl | hw
      · exact h.cmd_colon
      · exact hm2 w hw

theorem join_words_last (timeOk : Str → Bool) (m : Msg) (h : WF timeOk m) (hargs : m.args = []) :
    rstripCRLF (joinChar ' ' (words m)) = joinChar ' ' (words m) := by
  have : joinChar ' ' (words m) =
      (if m.pfx = [] then ([] : Str) else ':' :: m.pfx ++ [' ']) ++ m.command := by
    rw [pfxPart_eq]; simp [words, hargs]
  rw [this]
  obtain ⟨l, hl⟩ : ∃ l, m.command.getLast? = some l := by
    cases hc : m.command.getLast? with
    | none => exact absurd (List.getLast?_eq_none_iff.mp hc) h.cmd_ne
    | some l => exact ⟨l, rfl⟩
  have hmem : l ∈ m.command := List.mem_of_getLast? hl
  have hp : isCRLF l = false := by
    unfold isCRLF
    have h1 : l ≠ '\r' := fun e => h.cmd_cr (e ▸ hmem)
    have h2 : l ≠ '\n' := fun e => h.cmd_lf (e ▸ hmem)
    simp [h1, h2]
  exact rstripP_append_keep isCRLF _ _ l hl hp

theorem rawArgs_words (timeOk : Str → Bool) (m : Msg) (h : WF timeOk m) (eol : Str)
    (heol : ∀ a, rstripCRLF (a ++ eol) = rstripCRLF a) (hsc : hasSC eol = false) (hhd : eol.head? ≠ some ':') :
    rawArgs (joinChar ' ' (words m) ++
        (match m.args.getLast? with
         | none => eol
         | some l => ' ' :: ':' :: (l ++ eol))) = pfxWords m ++ m.command :: m.args := by
  have hw := words_ok timeOk m h
  have hscw : hasSC (joinChar ' ' (words m)) = false :=
    hasSC_joinWords _ (fun w hw' => (hw.1 w hw').2) hw.2
  unfold rawArgs
  cases hl : m.args.getLast? with
  | none =>
    have hargs : m.args = [] := List.getLast?_eq_none_iff.mp hl
    have hsc2 : hasSC (joinChar ' ' (words m) ++ eol) = false := by
      rw [hasSC_append]; simp [hscw, hsc, hhd]
    simp only [split2_none_of_noSC _ hsc2, heol, join_words_last timeOk m h hargs]
    rw [splitArgs_joinWords _ hw.1]
    simp [words, hargs]
  | some l =>
    simp only [split2_of_noSC _ _ hscw, heol, h.last l hl]
    rw [splitArgs_joinWords _ hw.1]
    have : m.args = m.args.dropLast ++ [l] := by
      obtain ⟨ys, hys⟩ := List.getLast?_eq_some_iff.mp hl
      rw [hys]; simp
    simp only [words, List.append_assoc, List.cons_append, List.nil_append]
    rw [← this]

theorem rawArgs_formatBody (timeOk : Str → Bool) (m : Msg) (h : WF timeOk m) :
    rawArgs (formatBody m) = pfxWords m ++ m.command :: m.args := by
  rw [formatBody_eq]
  exact rawArgs_words timeOk m h ['\r', '\n'] rstripCRLF_crlf rfl (by decide)

theorem finish_words (timeOk : Str → Bool) (m : Msg) (h : WF timeOk m) (s : Str) :
    finish timeOk (canonTags m.tags) s (pfxWords m ++ m.command :: m.args)
      = .ok (canon m) s := by
  have htime : (dictGet (canonTags m.tags) timeKey = none) ∨
      (∃ v, dictGet (canonTags m.tags) timeKey = some (some v) ∧ timeOk v = true) := by
    rw [dictGet_canon]
    cases hd : dictGet m.tags timeKey with
    | none => left; rfl
    | some v =>
      obtain ⟨s', rfl, hne, hok⟩ := h.time_ok v hd
      right
      refine ⟨s', ?_, hok⟩
      cases s' with
      | nil => exact absurd rfl hne
      | cons a b => rfl
  obtain ⟨c, cs, hcmd⟩ := List.exists_cons_of_ne_nil h.cmd_ne
  have hcc : c ≠ ':' := by
    have := h.cmd_colon
    rw [hcmd] at this
    simpa using this
  unfold pfxWords canon
  split
  · rename_i hp
    simp only [List.nil_append, hcmd, finish, hcc, ↓reduceIte]
    rcases htime with ht | ⟨v, ht, hv⟩
    · simp only [ht]; rw [← hcmd, ← hp]
    · simp only [ht, hv, ↓reduceIte]; rw [← hcmd, ← hp]
  · simp only [List.cons_append, List.nil_append, finish, ↓reduceIte]
    rcases htime with ht | ⟨v, ht, hv⟩
    · simp only [ht]
    · simp only [ht, hv, ↓reduceIte]

theorem endsWith_append (c : Char) (a b : Str) (hb : b ≠ []) :
    endsWithChar c (a ++ b) = endsWithChar c b := by
  unfold endsWithChar
  rw [List.getLast?_append]
  cases h : b.getLast? with
  | none => exact absurd (List.getLast?_eq_none_iff.mp h) hb
  | some x => simp

theorem tailPart_ends (m : Msg) : tailPart m ≠ [] ∧ endsWithChar '\n' (tailPart m) = true := by
  unfold tailPart
  cases m.args.getLast? with
  | none => exact ⟨by simp, by decide⟩
  | some l =>
    refine ⟨by simp, ?_⟩
    have : (' ' :: ':' :: (l ++ ['\r', '\n'])) = (' ' :: ':' :: l) ++ ['\r', '\n'] := by simp
    show endsWithChar '\n' (' ' :: ':' :: (l ++ ['\r', '\n'])) = true
    rw [this, endsWith_append _ _ _ (by simp)]
    decide

theorem formatBody_endsLF (m : Msg) : endsWithChar '\n' (formatBody m) = true := by
  rw [formatBody_eq, endsWith_append _ _ _ (tailPart_ends m).1]
  exact (tailPart_ends m).2

theorem formatBody_head (timeOk : Str → Bool) (m : Msg) (h : WF timeOk m) (ht : m.tags = []) :
    (formatBody m).head? ≠ some '@' := by
  rw [formatBody_eq]
  unfold words pfxWords
  obtain ⟨c, cs, hcmd⟩ := List.exists_cons_of_ne_nil h.cmd_ne
  split
  · rename_i hp
    have := h.cmd_at ht hp
    rw [hcmd] at this ⊢
    cases hd : m.args.dropLast with
    | nil => simpa [joinChar] using this
    | cons d ds => simpa [joinChar] using this
  · cases hd : m.args.dropLast with
    | nil => simp [joinChar]
    | cons d ds => simp [joinChar]

theorem parse_line (timeOk : Str → Bool) (m : Msg)
    (hE : TableOk Gen.serverTagEscape) (hS : TableSep Gen.serverTagEscape) (h : WF timeOk m) (body : Str)
    (hraw : rawArgs body = pfxWords m ++ m.command :: m.args)
    (hend : endsWithChar '\n' body = true) (hhead : m.tags = [] → body.head? ≠ some '@') :
    parse timeOk (if m.tags = [] then body else formatTags m.tags ++ ' ' :: body) =
      .ok (canon m) (if m.tags = [] then body else formatTags m.tags ++ ' ' :: body) := by
  have hbne : body ≠ [] := by
    intro e; rw [e] at hend; simp [endsWithChar] at hend
  by_cases ht : m.tags = []
  · have hst : splitTags body = some ([], body) := by
      unfold splitTags
      simp [hhead ht]
    have hlf : addLF body = body := by unfold addLF; simp [hend]
    unfold parse
    simp only [ht, hbne, ↓reduceIte, hlf, hst]
    rw [hraw]
    have := finish_words timeOk m h body
    simpa [ht, canonTags] using this
  · have hfmt : formatTags m.tags ++ ' ' :: body = '@' :: (joinChar ';' (m.tags.map formatTag) ++ ' ' :: body) := by
      unfold formatTags; simp
    have hst : splitTags (formatTags m.tags ++ ' ' :: body) = some (canonTags m.tags, body) := by
      rw [hfmt]
      unfold splitTags
      have hsp : ' ' ∉ '@' :: joinChar ';' (m.tags.map formatTag) := by
        simp only [List.mem_cons, not_or]
        exact ⟨by decide, joinTags_nospace hS m.tags h.keys_ok⟩
      have := split1_append ' ' ('@' :: joinChar ';' (m.tags.map formatTag)) body hsp
      simp only [List.cons_append] at this
      simp only [List.head?_cons, ↓reduceIte, this, List.drop_succ_cons, List.drop_zero]
      rw [parseTags_formatTags hE hS m.tags ht h.keys_ok h.keys_nodup]
    have hlf : addLF (formatTags m.tags ++ ' ' :: body) = formatTags m.tags ++ ' ' :: body := by
      have : formatTags m.tags ++ ' ' :: body = (formatTags m.tags ++ [' ']) ++ body := by simp
      unfold addLF
      rw [this, endsWith_append _ _ _ hbne, hend]
      rfl
    unfold parse
    simp only [ht, ↓reduceIte, List.append_eq_nil_iff, reduceCtorEq, and_false, hlf, hst]
    rw [hraw]
    exact finish_words timeOk m h _

theorem parse_format_of_tables (timeOk : Str → Bool) (m : Msg)
    (hE : TableOk Gen.serverTagEscape) (hS : TableSep Gen.serverTagEscape) (h : WF timeOk m) :
    parse timeOk (format m) = .ok (canon m) (format m) :=
  parse_line timeOk m hE hS h (formatBody m) (rawArgs_formatBody timeOk m h) (formatBody_endsLF m)
    (formatBody_head timeOk m h)

def TimeClause (timeOk : Str → Bool) (m : Msg) : Prop :=
  match dictGet m.tags timeKey with
  | none => True
  | some none => False
  | some (some s) => s ≠ [] ∧ timeOk s = true

instance (timeOk : Str → Bool) (m : Msg) : Decidable (TimeClause timeOk m) := by
  unfold TimeClause
  split <;> exact inferInstance

def LastClause (m : Msg) : Prop :=
  match m.args.getLast? with
  | none => True
  | some a => rstripCRLF a = a

instance (m : Msg) : Decidable (LastClause m) := by
  unfold LastClause
  split <;> exact inferInstance

def WFD (timeOk : Str → Bool) (m : Msg) : Prop :=
  m.command ≠ [] ∧ ' ' ∉ m.command ∧ '\r' ∉ m.command ∧ '\n' ∉ m.command ∧
  m.command.head? ≠ some ':' ∧ (m.tags = [] → m.pfx = [] → m.command.head? ≠ some '@') ∧
  ' ' ∉ m.pfx ∧ (∀ a ∈ m.args.dropLast, MidOk a) ∧ LastClause m ∧
  (m.tags.map Prod.fst).Nodup ∧ (∀ kv ∈ m.tags, TagKeyOk kv.1) ∧ TimeClause timeOk m

instance (timeOk : Str → Bool) (m : Msg) : Decidable (WFD timeOk m) := by
  unfold WFD; exact inferInstance

theorem wf_of_wfd (timeOk : Str → Bool) (m : Msg) (h : WFD timeOk m) : WF timeOk m := by
  obtain ⟨h1, h2, h3, h4, h5, h6, h7, h8, h9, h10, h11, h12⟩ := h
  refine ⟨h1, h2, h3, h4, h5, h6, h7, h8, ?_, h10, h11, ?_⟩
  · intro a ha
    unfold LastClause at h9
    rw [ha] at h9
    exact h9
  · intro v hv
    unfold TimeClause at h12
    rw [hv] at h12
    cases v with
    | none => exact absurd h12 (by simp)
    | some s => exact ⟨s, rfl, h12.1, h12.2⟩

theorem wfd_of_wf (timeOk : Str → Bool) (m : Msg) (h : WF timeOk m) : WFD timeOk m := by
  refine ⟨h.cmd_ne, h.cmd_sp, h.cmd_cr, h.cmd_lf, h.cmd_colon, h.cmd_at, h.pfx_sp, h.mids, ?_,
    h.keys_nodup, h.keys_ok, ?_⟩
  · unfold LastClause
    cases hl : m.args.getLast? with
    | none => trivial
    | some a => exact h.last a hl
  · unfold TimeClause
    cases hd : dictGet m.tags timeKey with
    | none => trivial
    | some v =>
      obtain ⟨s, rfl, h1, h2⟩ := h.time_ok v hd
      exact ⟨h1, h2⟩

end C05
