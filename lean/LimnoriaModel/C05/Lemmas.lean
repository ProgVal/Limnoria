/-
C05 — helper lemmas: splitting strings, the outcomes of the parser, the tag-value escape table and the tag
dictionary, the hostmask regexp.
-/
import LimnoriaModel.C05.Model
import LimnoriaModel.C05.Hostmask
namespace C05
open Py

theorem split1_append (c : Char) (a b : Str) (h : c ∉ a) : split1 c (a ++ c :: b) = some (a, b) := by
  induction a with
  | nil => simp [split1]
  | cons x xs ih =>
    have hx : x ≠ c := fun e => h (by simp [e])
    have hxs : c ∉ xs := fun e => h (by simp [e])
    simp [split1, hx, ih hxs]

theorem split1_none (c : Char) (a : Str) (h : c ∉ a) : split1 c a = none := by
  induction a with
  | nil => simp [split1]
  | cons x xs ih =>
    have hx : x ≠ c := fun e => h (by simp [e])
    have hxs : c ∉ xs := fun e => h (by simp [e])
    simp [split1, hx, ih hxs]

theorem split1_spec {c : Char} {s a b : Str} (h : split1 c s = some (a, b)) : s = a ++ c :: b ∧ c ∉ a := by
  by_cases hc : c ∈ s
  · obtain ⟨a', b', rfl, ha⟩ := List.eq_append_cons_of_mem hc
    rw [split1_append c a' b' ha] at h
    injection h with h
    injection h with h1 h2
    subst h1 h2
    exact ⟨rfl, ha⟩
  · rw [split1_none c s hc] at h
    cases h

theorem split1_some_of_mem (c : Char) (s : Str) (h : c ∈ s) :
    ∃ a b, split1 c s = some (a, b) ∧ s = a ++ c :: b ∧ c ∉ a := by
  obtain ⟨a, b, rfl, ha⟩ := List.eq_append_cons_of_mem h
  exact ⟨a, b, split1_append c a b ha, rfl, ha⟩

/-- `rsplit` succeeds when the separator occurs, and splits at its last occurrence -/
theorem rsplit1_some_of_mem (c : Char) (s : Str) (h : c ∈ s) :
    ∃ r t, rsplit1 c s = some (r, t) ∧ s = r ++ c :: t ∧ c ∉ t := by
  obtain ⟨a, b, h1, h2, h3⟩ := split1_some_of_mem c s.reverse (by simpa using h)
  refine ⟨b.reverse, a.reverse, by simp [rsplit1, h1], ?_, by simpa using h3⟩
  have := congrArg List.reverse h2
  simpa using this

theorem rsplit1_spec {c : Char} {s r t : Str} (h : rsplit1 c s = some (r, t)) : s = r ++ c :: t ∧ c ∉ t := by
  unfold rsplit1 at h
  cases hs : split1 c s.reverse with
  | none => rw [hs] at h; simp at h
  | some p =>
    obtain ⟨a, b⟩ := p
    rw [hs] at h
    simp only [Option.map_some, Option.some.injEq, Prod.mk.injEq] at h
    obtain ⟨h1, h2⟩ := h
    obtain ⟨e, hn⟩ := split1_spec hs
    subst h1; subst h2
    have := congrArg List.reverse e
    simp only [List.reverse_reverse, List.reverse_append, List.reverse_cons, List.append_assoc,
      List.singleton_append] at this
    exact ⟨this, by simpa using hn⟩

theorem splitChar_nomem (c : Char) (a : Str) (h : c ∉ a) : splitChar c a = [a] := by
  induction a with
  | nil => simp [splitChar]
  | cons x xs ih =>
    have hx : x ≠ c := fun e => h (by simp [e])
    have hxs : c ∉ xs := fun e => h (by simp [e])
    simp [splitChar, hx, ih hxs]

theorem splitChar_append (c : Char) (a b : Str) (h : c ∉ a) :
    splitChar c (a ++ c :: b) = a :: splitChar c b := by
  induction a with
  | nil => simp [splitChar]
  | cons x xs ih =>
    have hx : x ≠ c := fun e => h (by simp [e])
    have hxs : c ∉ xs := fun e => h (by simp [e])
    simp [splitChar, hx, ih hxs]

theorem splitChar_join (c : Char) (ps : List Str) (hne : ps ≠ []) (h : ∀ p ∈ ps, c ∉ p) :
    splitChar c (joinChar c ps) = ps := by
  induction ps with
  | nil => exact absurd rfl hne
  | cons p rest ih =>
    cases rest with
    | nil => simp [joinChar, splitChar_nomem c p (h p (by simp))]
    | cons q rest' =>
      have hp : c ∉ p := h p (by simp)
      have := ih (by simp) (fun x hx => h x (by simp [hx]))
      simp only [joinChar]
      rw [splitChar_append c p _ hp, this]

/-- `' :' in s` as a Boolean scan -/
def hasSC : Str → Bool
  | [] => false
  | [_] => false
  | x :: y :: r => (x = ' ' && y = ':') || hasSC (y :: r)

theorem split2_of_noSC (pre post : Str) (h : hasSC pre = false) :
    split2 ' ' ':' (pre ++ ' ' :: ':' :: post) = some (pre, post) := by
  induction pre with
  | nil => simp [split2]
  | cons x xs ih =>
    cases xs with
    | nil =>
      by_cases hx : x = ' '
      · subst hx
        simp [split2]
      · simp [split2, hx]
    | cons y ys =>
      simp only [hasSC, Bool.or_eq_false_iff, Bool.and_eq_false_iff] at h
      have ih' := ih h.2
      have hxy : ¬ (x = ' ' ∧ y = ':') := by
        intro ⟨a, b⟩; rcases h.1 with h1 | h1 <;> simp_all
      simp only [List.cons_append] at ih' ⊢
      simp only [split2, hxy, ↓reduceIte, ih']

theorem split2_none_of_noSC (s : Str) (h : hasSC s = false) : split2 ' ' ':' s = none := by
  induction s with
  | nil => simp [split2]
  | cons x xs ih =>
    cases xs with
    | nil => simp [split2]
    | cons y ys =>
      simp only [hasSC, Bool.or_eq_false_iff, Bool.and_eq_false_iff] at h
      have hxy : ¬ (x = ' ' ∧ y = ':') := by
        intro ⟨a, b⟩; rcases h.1 with h1 | h1 <;> simp_all
      simp only [split2, hxy, ↓reduceIte, ih h.2]

theorem hasSC_append (a b : Str) :
    hasSC (a ++ b) = (hasSC a || hasSC b || (a.getLast? == some ' ' && b.head? == some ':')) := by
  induction a with
  | nil => simp [hasSC]
  | cons x xs ih =>
    cases xs with
    | nil =>
      cases b with
      | nil => simp [hasSC]
      | cons y ys =>
        simp only [List.cons_append, List.nil_append, hasSC, List.getLast?_singleton, List.head?_cons]
        by_cases hx : x = ' ' <;> by_cases hy : y = ':' <;> simp [hx, hy]
    | cons y ys =>
      simp only [List.cons_append] at ih ⊢
      simp only [hasSC, ih, List.getLast?_cons_cons]
      cases (x = ' ' && y = ':' : Bool) <;> simp [Bool.or_assoc]

theorem hasSC_nospace (w : Str) (h : ' ' ∉ w) : hasSC w = false := by
  induction w with
  | nil => rfl
  | cons x xs ih =>
    cases xs with
    | nil => rfl
    | cons y ys =>
      have hx : x ≠ ' ' := fun e => h (by simp [e])
      simp only [hasSC, hx, decide_false, Bool.false_and, Bool.false_or]
      exact ih (fun e => h (by simp [e]))

/-- words without blanks, all but the first not starting with a colon, joined by single blanks:
no `" :"` inside -/
theorem hasSC_joinWords (ws : List Str) (h1 : ∀ w ∈ ws, ' ' ∉ w)
    (h2 : ∀ w ∈ ws.tail, w.head? ≠ some ':') : hasSC (joinChar ' ' ws) = false := by
  induction ws with
  | nil => rfl
  | cons w rest ih =>
    cases rest with
    | nil => exact hasSC_nospace w (h1 w (by simp))
    | cons v rest' =>
      simp only [joinChar]
      have hw := hasSC_nospace w (h1 w (by simp))
      have hrest := ih (fun x hx => h1 x (by simp [hx]))
        (fun x hx => h2 x (by simp only [List.tail_cons] at hx ⊢; exact List.mem_cons_of_mem _ hx))
      have hv : v.head? ≠ some ':' := h2 v (by simp)
      have : (' ' :: joinChar ' ' (v :: rest')) = [' '] ++ joinChar ' ' (v :: rest') := rfl
      rw [this, hasSC_append, hasSC_append]
      have hj : (joinChar ' ' (v :: rest')).head? ≠ some ':' := by
        cases rest' with
        | nil => simpa [joinChar] using hv
        | cons u r =>
          simp only [joinChar]
          cases v with
          | nil => simp
          | cons v0 vs => simpa using hv
      simp [hw, hrest, hasSC, hj]

theorem splitArgs_joinWords (ws : List Str) (h : ∀ w ∈ ws, w ≠ [] ∧ ' ' ∉ w) :
    splitArgs (joinChar ' ' ws) = ws := by
  cases ws with
  | nil => simp [joinChar, splitArgs, splitChar]
  | cons w rest =>
    unfold splitArgs
    rw [splitChar_join ' ' _ (by simp) (fun p hp => (h p hp).2), List.filter_eq_self]
    intro p hp
    simpa using (h p hp).1

theorem rstripP_append_keep (p : Char → Bool) (x y : Str) (l : Char) (hl : y.getLast? = some l)
    (hp : p l = false) : rstripP p (x ++ y) = x ++ y := by
  unfold rstripP
  obtain ⟨ys, rfl⟩ : ∃ ys, y = ys ++ [l] := by
    rcases List.eq_nil_or_concat y with h | ⟨ys, b, h⟩
    · subst h; simp at hl
    · subst h; simp at hl; subst hl; exact ⟨ys, by simp⟩
  simp [List.reverse_append, hp]

theorem rstripCRLF_crlf (a : Str) : rstripCRLF (a ++ ['\r', '\n']) = rstripCRLF a := by
  simp [rstripCRLF, rstripP, List.reverse_append, List.dropWhile, isCRLF]


theorem finish_total (timeOk : Str → Bool) (tags : Tags) (s : Str) (args : List Str) :
    (∃ m, finish timeOk tags s args = .ok m s) ∨ finish timeOk tags s args = .malformed := by
  unfold finish
  split
  · right; rfl
  · right; rfl
  · simp only
    split
    · right; rfl
    · split
      · left; exact ⟨_, rfl⟩
      · right; rfl
      · split
        · left; exact ⟨_, rfl⟩
        · right; rfl

/-- Parsing any line either yields a message or reports it as malformed, never another failure;
and the cached string of a parsed message is the line itself (plus the LF the constructor adds
when it is absent): re-serialising a parsed line gives back that line. -/
theorem parse_total (timeOk : Str → Bool) (l : Str) :
    (∃ m, parse timeOk l = .ok m (addLF l)) ∨ parse timeOk l = .malformed := by
  unfold parse
  split
  · right; rfl
  · split
    · right; rfl
    · exact finish_total _ _ _ _

/-- what the round trip needs from the table: every image is `\x` with `x ≠ LF`, the inverse
lookup of an image gives back the character, and backslash itself is escaped. -/
def TableOk (t : List (Char × Str)) : Prop :=
  (∀ p ∈ t, ∃ x, p.2 = ['\\', x] ∧ x ≠ '\n' ∧ unescLookup t p.2 = some p.1 ∧ t.lookup p.1 = some p.2)
  ∧ (t.lookup '\\').isSome

instance (t : List (Char × Str)) : Decidable (TableOk t) := by
  unfold TableOk
  have : ∀ p : Char × Str, Decidable (∃ x, p.2 = ['\\', x] ∧ x ≠ '\n' ∧ unescLookup t p.2 = some p.1 ∧ t.lookup p.1 = some p.2) := by
    intro p
    match h : p.2 with
    | [a, x] =>
      if h1 : a = '\\' ∧ x ≠ '\n' ∧ unescLookup t [a, x] = some p.1 ∧ t.lookup p.1 = some [a, x] then
        exact isTrue ⟨x, by obtain ⟨rfl, h2, h3, h4⟩ := h1; exact ⟨rfl, h2, h3, h4⟩⟩
      else
        exact isFalse (by
          rintro ⟨y, hy, h2, h3, h4⟩
          injection hy with ha hr
          injection hr with hx _
          subst ha; subst hx
          exact h1 ⟨rfl, h2, h3, h4⟩)
    | [] => exact isFalse (by rintro ⟨y, hy, _⟩; cases hy)
    | [_] => exact isFalse (by rintro ⟨y, hy, _⟩; cases hy)
    | _ :: _ :: _ :: _ => exact isFalse (by rintro ⟨y, hy, _⟩; cases hy)
  exact inferInstance

theorem lookup_mem {t : List (Char × Str)} {c : Char} {r : Str} (h : t.lookup c = some r) : (c, r) ∈ t := by
  induction t with
  | nil => simp [List.lookup] at h
  | cons p ps ih =>
    obtain ⟨a, b⟩ := p
    simp only [List.lookup] at h
    split at h
    · rename_i heq
      have : c = a := by simpa using heq
      subst this
      injection h with h; subst h
      exact List.mem_cons_self
    · exact List.mem_cons_of_mem _ (ih h)

theorem escChar_some {t : List (Char × Str)} {c : Char} {r : Str} (h : t.lookup c = some r) :
    escChar t c = r := by simp [escChar, h]

theorem escChar_none {t : List (Char × Str)} {c : Char} (h : t.lookup c = none) :
    escChar t c = [c] := by simp [escChar, h]

theorem escapeWith_forall {t : List (Char × Str)} {P : Char → Prop} (himg : ∀ p ∈ t, ∀ x ∈ p.2, P x)
    {v : Str} (hself : ∀ c ∈ v, t.lookup c = none → P c) : ∀ x ∈ escapeWith t v, P x := by
  intro x hx
  obtain ⟨c, hc, hxc⟩ := List.mem_flatMap.mp hx
  cases hr : t.lookup c with
  | some r =>
    rw [escChar_some hr] at hxc
    exact himg (c, r) (lookup_mem hr) x hxc
  | none =>
    rw [escChar_none hr, List.mem_singleton] at hxc
    exact hxc ▸ hself c hc hr

theorem unesc_escape_aux (t : List (Char × Str)) (ht : TableOk t) (v : Str) :
    unescAux t false (escapeWith t v) = v := by
  induction v with
  | nil => simp [escapeWith, unescAux]
  | cons c cs ih =>
    unfold escapeWith at ih ⊢
    simp only [List.flatMap_cons]
    cases hr : t.lookup c with
    | some r =>
      obtain ⟨x, hx, hnl, hinv, _⟩ := ht.1 (c, r) (lookup_mem hr)
      simp only at hx hinv
      subst hx
      rw [escChar_some hr]
      simp only [List.cons_append, List.nil_append, unescAux, ↓reduceIte, hnl, hinv, ih]
    | none =>
      have hc : c ≠ '\\' := by
        intro h; subst h
        have := ht.2
        rw [hr] at this
        simp at this
      rw [escChar_none hr]
      simp only [List.cons_append, List.nil_append, unescAux, hc, ↓reduceIte, ih]

theorem unescape_escape_of_tableOk (t : List (Char × Str)) (ht : TableOk t) (v : Str) :
    unescapeWith t (escapeWith t v) = v := unesc_escape_aux t ht v

/-- escaped text never contains the separators `;` and blank -/
def TableSep (t : List (Char × Str)) : Prop :=
  (∀ p ∈ t, ';' ∉ p.2 ∧ ' ' ∉ p.2) ∧ (t.lookup ';').isSome ∧ (t.lookup ' ').isSome

instance (t : List (Char × Str)) : Decidable (TableSep t) := by unfold TableSep; exact inferInstance

theorem escape_nosep {t : List (Char × Str)} (ht : TableSep t) (v : Str) :
    ';' ∉ escapeWith t v ∧ ' ' ∉ escapeWith t v := by
  have h : ∀ x ∈ escapeWith t v, x ≠ ';' ∧ x ≠ ' ' := by
    refine escapeWith_forall (fun p hp x hx => ⟨fun e => (ht.1 p hp).1 (e ▸ hx), fun e => (ht.1 p hp).2 (e ▸ hx)⟩)
      (fun c _ hr => ⟨fun e => ?_, fun e => ?_⟩)
    · have := ht.2.1; rw [← e, hr] at this; cases this
    · have := ht.2.2; rw [← e, hr] at this; cases this
  exact ⟨fun hm => (h _ hm).1 rfl, fun hm => (h _ hm).2 rfl⟩

def TagKeyOk (k : Str) : Prop := ' ' ∉ k ∧ ';' ∉ k ∧ '=' ∉ k

instance (k : Str) : Decidable (TagKeyOk k) := by unfold TagKeyOk; exact inferInstance

/-- an empty tag value is the same as no value (the IRCv3 rule `_parse_server_tags` cites) -/
def canonVal : Option Str → Option Str
  | some [] => none
  | x => x

def canonTags (t : Tags) : Tags := t.map fun kv => (kv.1, canonVal kv.2)

theorem parseTag_formatTag (hE : TableOk Gen.serverTagEscape) (k : Str) (v : Option Str)
    (hk : TagKeyOk k) : parseTag (formatTag (k, v)) = (k, canonVal v) := by
  cases v with
  | none => simp [formatTag, parseTag, split1_none '=' k hk.2.2, canonVal]
  | some v =>
    simp only [formatTag, parseTag, split1_append '=' k _ hk.2.2]
    have : unescapeTag (escapeTag v) = v := unescape_escape_of_tableOk _ hE v
    rw [this]
    cases v <;> simp [canonVal]

theorem formatTag_nosep (hS : TableSep Gen.serverTagEscape) (k : Str) (v : Option Str) (hk : TagKeyOk k) :
    ';' ∉ formatTag (k, v) ∧ ' ' ∉ formatTag (k, v) := by
  cases v with
  | none => exact ⟨hk.2.1, hk.1⟩
  | some v =>
    have := escape_nosep hS v
    simp only [formatTag, escapeTag, List.mem_append, List.mem_cons, not_or]
    exact ⟨⟨hk.2.1, by decide, this.1⟩, ⟨hk.1, by decide, this.2⟩⟩

theorem mem_dictSet {d : Tags} {k : Str} {v : Option Str} {p : Str × Option Str} (h : p ∈ dictSet d k v) :
    p = (k, v) ∨ p ∈ d := by
  induction d with
  | nil => exact .inl (List.mem_singleton.1 h)
  | cons q rest ih =>
    obtain ⟨k', v'⟩ := q
    simp only [dictSet] at h
    split at h
    · rcases List.mem_cons.1 h with e | h'
      · exact .inl e
      · exact .inr (List.mem_cons_of_mem _ h')
    · rcases List.mem_cons.1 h with e | h'
      · exact .inr (e ▸ List.mem_cons_self)
      · exact (ih h').imp_right (List.mem_cons_of_mem _)

theorem dictSet_fresh (d : Tags) (k : Str) (v : Option Str) (h : k ∉ d.map Prod.fst) :
    dictSet d k v = d ++ [(k, v)] := by
  induction d with
  | nil => rfl
  | cons p rest ih =>
    obtain ⟨k', v'⟩ := p
    have h1 : k' ≠ k := fun e => h (by simp [e])
    have h2 : k ∉ rest.map Prod.fst := fun e => h (by simp [e])
    simp [dictSet, h1, ih h2]

theorem foldl_tags (hE : TableOk Gen.serverTagEscape) (tags d0 : Tags)
    (hk : ∀ kv ∈ tags, TagKeyOk kv.1)
    (hnd : ((d0 ++ tags).map Prod.fst).Nodup) :
    (tags.map formatTag).foldl (fun d tag => let (k, v) := parseTag tag; dictSet d k v) d0
      = d0 ++ canonTags tags := by
  induction tags generalizing d0 with
  | nil => simp [canonTags]
  | cons kv rest ih =>
    obtain ⟨k, v⟩ := kv
    simp only [List.map_cons, List.foldl_cons]
    rw [parseTag_formatTag hE k v (hk (k, v) (by simp))]
    simp only
    have hfresh : k ∉ d0.map Prod.fst := by
      intro hin
      simp only [List.map_append, List.map_cons] at hnd
      have := (List.nodup_append.mp hnd).2.2 k hin k (by simp)
      exact this rfl
    rw [dictSet_fresh d0 k _ hfresh]
    have hnd' : (((d0 ++ [(k, canonVal v)]) ++ rest).map Prod.fst).Nodup := by
      simpa [List.map_append] using hnd
    rw [ih (d0 ++ [(k, canonVal v)]) (fun x hx => hk x (by simp [hx])) hnd']
    simp [canonTags]

theorem parseTags_formatTags (hE : TableOk Gen.serverTagEscape) (hS : TableSep Gen.serverTagEscape)
    (tags : Tags) (hne : tags ≠ []) (hk : ∀ kv ∈ tags, TagKeyOk kv.1)
    (hnd : (tags.map Prod.fst).Nodup) :
    parseTags (joinChar ';' (tags.map formatTag)) = canonTags tags := by
  unfold parseTags
  rw [splitChar_join ';' _ (by simpa using hne)]
  · simpa using foldl_tags hE tags [] hk (by simpa using hnd)
  · intro p hp
    obtain ⟨⟨k, v⟩, hkv, rfl⟩ := List.mem_map.mp hp
    exact (formatTag_nosep hS k v (hk _ hkv)).1

theorem joinTags_nospace (hS : TableSep Gen.serverTagEscape) (tags : Tags)
    (hk : ∀ kv ∈ tags, TagKeyOk kv.1) : ' ' ∉ joinChar ';' (tags.map formatTag) := by
  induction tags with
  | nil => simp [joinChar]
  | cons kv rest ih =>
    obtain ⟨k, v⟩ := kv
    have h1 := (formatTag_nosep hS k v (hk (k, v) (by simp))).2
    have h2 := ih (fun x hx => hk x (by simp [hx]))
    cases rest with
    | nil => simpa [joinChar] using h1
    | cons q r =>
      simp only [List.map_cons, joinChar, List.mem_append, List.mem_cons, not_or] at h2 ⊢
      exact ⟨h1, by decide, h2⟩

theorem dictGet_canon (tags : Tags) (k : Str) :
    dictGet (canonTags tags) k = (dictGet tags k).map canonVal := by
  induction tags with
  | nil => rfl
  | cons kv rest ih =>
    obtain ⟨k', v'⟩ := kv
    simp only [canonTags, List.map_cons, dictGet] at ih ⊢
    split <;> simp_all

theorem afterBang_spec {s : Str} (h : afterBang s = true) :
    ∃ b B C d, s = b :: B ++ '@' :: C ++ [d] := by
  cases s with
  | nil => simp [afterBang] at h
  | cons b rest =>
    simp only [afterBang] at h
    have hm : '@' ∈ rest.dropLast := by simpa using h
    obtain ⟨B, C, hBC⟩ := List.append_of_mem hm
    have hne : rest ≠ [] := by intro e; subst e; simp at hm
    obtain ⟨d, hd⟩ : ∃ d, rest = rest.dropLast ++ [d] :=
      ⟨rest.getLast hne, (List.dropLast_concat_getLast hne).symm⟩
    refine ⟨b, B, C, d, ?_⟩
    rw [hd, hBC]
    simp

theorem anyBang_spec {s : Str} (h : anyBang s = true) :
    ∃ A b B C d, s = A ++ '!' :: b :: B ++ '@' :: C ++ [d] := by
  induction s with
  | nil => simp [anyBang] at h
  | cons x xs ih =>
    simp only [anyBang, Bool.or_eq_true, Bool.and_eq_true, beq_iff_eq] at h
    rcases h with ⟨hx, hab⟩ | h
    · subst hx
      obtain ⟨b, B, C, d, hs⟩ := afterBang_spec hab
      exact ⟨[], b, B, C, d, by simp [hs]⟩
    · obtain ⟨A, b, B, C, d, hs⟩ := ih h
      exact ⟨x :: A, b, B, C, d, by simp [hs]⟩

/-- a string accepted by the regexp has a `!` strictly before some `@` -/
theorem core_spec {s : Str} (h : core s = true) :
    ∃ X Y, s = X ++ '@' :: Y ∧ '!' ∈ X := by
  cases s with
  | nil => simp [core] at h
  | cons a rest =>
    obtain ⟨A, b, B, C, d, hs⟩ := anyBang_spec (by simpa [core] using h)
    refine ⟨a :: A ++ '!' :: b :: B, C ++ [d], ?_, by simp⟩
    rw [hs]; simp

/-- if `s = X ++ c :: Y` and also `s = r ++ c :: t` with `c ∉ t` (last occurrence), then `X` is a
prefix of `r` -/
theorem prefix_of_last {c : Char} {X Y r t : Str} (h : X ++ c :: Y = r ++ c :: t) (ht : c ∉ t) :
    ∃ Z, r = X ++ Z := by
  rcases List.append_eq_append_iff.mp h with ⟨a', h1, h2⟩ | ⟨c', h1, h2⟩
  · exact ⟨a', h1⟩
  · -- X = r ++ c', c :: t = c' ++ c :: Y  : then c' = [] (else c ∈ t)
    cases c' with
    | nil => exact ⟨[], by simpa using h1.symm⟩
    | cons z zs =>
      exfalso
      simp only [List.cons_append, List.cons.injEq] at h2
      apply ht
      rw [h2.2]
      simp

theorem splitHostmask_of_decomp {s X Y : Str} (hs : s = X ++ '@' :: Y) (hb : '!' ∈ X) :
    (splitHostmask s).isSome = true := by
  have hat : '@' ∈ s := by rw [hs]; simp
  obtain ⟨r, t, h1, h2, h3⟩ := rsplit1_some_of_mem '@' s hat
  obtain ⟨Z, hZ⟩ := prefix_of_last (hs.symm.trans h2) h3
  have hbr : '!' ∈ r := by rw [hZ]; simp [hb]
  obtain ⟨n, u, h4, _, _⟩ := rsplit1_some_of_mem '!' r hbr
  simp [splitHostmask, h1, h4]

/-- what `splitHostmask` returns re-joins to the hostmask (`joinHostmask ∘ splitHostmask = id`),
the host contains no `@` and the user no `!` -/
theorem splitHostmask_join {s n u h : Str} (hs : splitHostmask s = some (n, u, h)) :
    s = n ++ '!' :: u ++ '@' :: h ∧ '@' ∉ h ∧ '!' ∉ u := by
  unfold splitHostmask at hs
  cases h1 : rsplit1 '@' s with
  | none => rw [h1] at hs; simp at hs
  | some p =>
    obtain ⟨rest, host⟩ := p
    rw [h1] at hs
    simp only at hs
    cases h2 : rsplit1 '!' rest with
    | none => rw [h2] at hs; simp at hs
    | some q =>
      obtain ⟨nick, user⟩ := q
      rw [h2] at hs
      simp only [Option.some.injEq, Prod.mk.injEq] at hs
      obtain ⟨e1, e2, e3⟩ := hs
      subst e1; subst e2; subst e3
      obtain ⟨ea, ha⟩ := rsplit1_spec h1
      obtain ⟨eb, hb⟩ := rsplit1_spec h2
      refine ⟨?_, ha, hb⟩
      rw [ea, eb]

end C05
