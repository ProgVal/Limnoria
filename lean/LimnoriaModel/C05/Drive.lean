import LimnoriaModel.C05.Model
import LimnoriaModel.C05.Full
import LimnoriaModel.C05.RoundTrip
import LimnoriaModel.Driver.Core
namespace C05
open Py Wire

def encTags (t : Tags) : String :=
  if t.isEmpty then "-" else ",".intercalate (t.map fun (k, v) => enc k ++ ":" ++ encOpt v)

def decTags (f : String) : Option Tags :=
  if f = "-" then some [] else
  (f.splitOn ",").mapM fun item =>
    match item.splitOn ":" with
    | [k, v] => do
      let k' ← dec k
      let v' ← decOpt v
      pure (k', v')
    | _ => none

def drive : List String → String
  | ["parse", l] =>
    match dec l with
    | none => "bad-op"
    | some s =>
      match parseFull (fun _ => true) s with
      | .malformed => "malformed"
      | .crash e => "crash\t" ++ e
      | .ok m str n u h =>
        "ok\t" ++ enc m.pfx ++ "\t" ++ enc m.command ++ "\t" ++ encList m.args ++ "\t" ++
          encTags m.tags ++ "\t" ++ enc str ++ "\t" ++ enc n ++ "\t" ++ enc u ++ "\t" ++ enc h ++
          "\t" ++ encOpt (parseNeedsTime s)
  | ["parsemsg", l] =>
    match dec l with
    | none => "bad-op"
    | some s =>
      match driverParseMsg (fun _ => true) s with
      | .none => "none"
      | .crash e => "crash\t" ++ e
      | .msg m str n u h =>
        "ok\t" ++ enc m.pfx ++ "\t" ++ enc m.command ++ "\t" ++ encList m.args ++ "\t" ++
          encTags m.tags ++ "\t" ++ enc str ++ "\t" ++ enc n ++ "\t" ++ enc u ++ "\t" ++ enc h ++
          "\t" ++ encOpt (parseNeedsTime (strip s))
  | ["format", p, c, a, t] =>
    match dec p, dec c, decList a, decTags t with
    | some p, some c, some a, some t => enc (format ⟨p, c, a, t⟩)
    | _, _, _, _ => "bad-op"
  | ["copy", p, c, a, t, p2, c2, a2] =>
    match dec p, dec c, decList a, decTags t, dec p2, dec c2, decList a2 with
    | some p, some c, some a, some t, some p2, some c2, some a2 =>
      let m := copyCtor ⟨p, c, a, t⟩ p2 c2 a2
      enc m.pfx ++ "\t" ++ enc m.command ++ "\t" ++ encList m.args ++ "\t" ++ encTags m.tags ++ "\t" ++ enc (format m)
    | _, _, _, _, _, _, _ => "bad-op"
  | ["wf", p, c, a, t] =>
    match dec p, dec c, decList a, decTags t with
    | some p, some c, some a, some t =>
      let m : Msg := ⟨p, c, a, t⟩
      (if decide (WFD (fun _ => true) m) then "1" else "0") ++ "\t" ++
        encOpt (match dictGet t timeKey with | some (some v) => some v | _ => none)
    | _, _, _, _ => "bad-op"
  | ["hostmask", p] =>
    (match dec p with
     | some p => (if isUserHostmask p then "1" else "0") ++ "\t" ++
        (match hostFields p with
         | some (n, u, h) => enc n ++ "\t" ++ enc u ++ "\t" ++ enc h
         | none => "crash")
     | none => "bad-op")
  | ["esc", v] => (match dec v with | some v => enc (escapeTag v) | none => "bad-op")
  | ["unesc", v] => (match dec v with | some v => enc (unescapeTag v) | none => "bad-op")
  | _ => "bad-op"

def handler : Driver.Handler := Driver.pureHandler drive
end C05
