/-
C10 — the reference server keeps its own invariant (`SrvWF`) under every action.
-/
import LimnoriaModel.C10.Step
namespace C10
open Py

theorem SrvWF.userOK {s : Srv} (h : SrvWF s) {k : Str} {u : SUser} (hu : aget s.users k = some u) :
    lower u.nick = k ∧ UserOK u :=
  let ⟨a, b, c, d⟩ := h.users k u hu
  ⟨a, nickOK_of_valid b, wordOK_of_valid c, wordOK_of_valid d⟩

/-- `ChanWF` reads the server only through its users table, and the channel through name, members and modes -/
theorem ChanWF.of_members {s s' : Srv} {k : Str} {sc sc' : SChan} (h : ChanWF s k sc) (hn : sc'.name = sc.name)
    (hmd : sc'.modes = sc.modes) (hm : ∀ p ∈ sc'.members, (aget s'.users p.1).isSome) : ChanWF s' k sc' :=
  ⟨hn ▸ h.key, hn ▸ h.name, hm, hmd ▸ h.modesNodup, hmd ▸ h.modes⟩

theorem wf_congr {s s' : Srv} (h : SrvWF s) (h1 : s'.cfg = s.cfg) (h2 : s'.users = s.users) (h3 : s'.chans = s.chans)
    (h4 : s'.bot = s.bot) : SrvWF s' where
  cfg := by rw [h1]; exact h.cfg
  users := by rw [h2]; exact h.users
  bot := by rw [h2, h4]; exact h.bot
  chansNodup := by rw [h3]; exact h.chansNodup
  chans := by
    intro k sc hsc
    rw [h3] at hsc
    have := h.chans k sc hsc
    exact this.of_members rfl rfl (by rw [h2]; exact this.members)

theorem Srv.user_eq (s : Srv) (n : Str) : s.user n = aget s.users (lower n) := rfl
theorem Srv.chan_eq (s : Srv) (n : Str) : s.chan n = aget s.chans (lower n) := rfl

theorem wf_setChan {s : Srv} (h : SrvWF s) (k : Str) (sc : SChan) (hsc : ChanWF s k sc) :
    SrvWF { s with chans := aset s.chans k sc } where
  cfg := h.cfg
  users := h.users
  bot := h.bot
  chansNodup := nodup_akeys_aset h.chansNodup k sc
  chans := by
    intro k' sc' hg
    rw [aget_aset] at hg
    by_cases hk : k = k'
    · subst hk
      simp only [↓reduceIte, Option.some.injEq] at hg
      subst hg
      exact (hsc.of_members rfl rfl hsc.members)
    · simp only [hk, ↓reduceIte] at hg
      have := h.chans k' sc' hg
      exact (this.of_members rfl rfl this.members)

theorem wf_delChan {s : Srv} (h : SrvWF s) (k : Str) : SrvWF { s with chans := adel s.chans k } where
  cfg := h.cfg
  users := h.users
  bot := h.bot
  chansNodup := nodup_akeys_adel h.chansNodup k
  chans := by
    intro k' sc' hg
    rw [aget_adel] at hg
    by_cases hk : k = k'
    · simp [hk] at hg
    · simp only [hk, ↓reduceIte] at hg
      have := h.chans k' sc' hg
      exact (this.of_members rfl rfl this.members)

theorem wf_putChan {s : Srv} (h : SrvWF s) (k : Str) (sc : SChan) (hsc : ChanWF s k sc) :
    SrvWF (s.putChan k sc) := by
  unfold Srv.putChan
  split
  · exact wf_delChan h k
  · exact wf_setChan h k sc hsc

theorem chanWF_remove {s : Srv} {k : Str} {sc : SChan} (h : ChanWF s k sc) (x : Str) : ChanWF s k (sc.remove x) where
  key := h.key
  name := h.name
  members := fun p hp => h.members p (List.mem_filter.mp hp).1
  modesNodup := h.modesNodup
  modes := h.modes

theorem wf_putUser {s : Srv} (h : SrvWF s) {k : Str} {u' : SUser} (hk : lower u'.nick = k)
    (hv : validNick u'.nick = true ∧ validWord u'.ident = true ∧ validWord u'.host = true)
    (hbot : k = lower s.bot → u'.nick = s.bot) : SrvWF { s with users := aset s.users k u' } := by
  refine ⟨h.cfg, ?_, ?_, h.chansNodup, ?_⟩
  · intro k' u hg
    have hg' : aget (aset s.users k u') k' = some u := hg
    rw [aget_aset] at hg'
    by_cases hkk : k = k'
    · rw [if_pos hkk] at hg'; cases hg'; exact ⟨hk.trans hkk, hv⟩
    · rw [if_neg hkk] at hg'; exact h.users k' u hg'
  · obtain ⟨ub, hub, hnick⟩ := h.bot
    show ∃ u, aget (aset s.users k u') (lower s.bot) = some u ∧ u.nick = s.bot
    rw [aget_aset]
    by_cases hkb : k = lower s.bot
    · rw [if_pos hkb]; exact ⟨u', rfl, hbot hkb⟩
    · rw [if_neg hkb]; exact ⟨ub, hub, hnick⟩
  · intro k' sc hg
    have := h.chans k' sc hg
    refine this.of_members rfl rfl ?_
    intro p hp
    show (aget (aset s.users k u') p.1).isSome = true
    rw [aget_aset]
    by_cases hkp : k = p.1
    · rw [if_pos hkp]; rfl
    · rw [if_neg hkp]; exact this.members p hp

theorem wf_replyWho {s : Srv} (h : SrvWF s) (c : Str) : SrvWF (s.replyWho c).1 := by
  unfold Srv.replyWho; split
  · exact wf_congr h rfl rfl rfl rfl
  · exact h

theorem wf_replyMode {s : Srv} (h : SrvWF s) (c : Str) : SrvWF (s.replyMode c).1 := by
  unfold Srv.replyMode; split
  · exact wf_congr h rfl rfl rfl rfl
  · exact h

theorem wf_replyBans {s : Srv} (h : SrvWF s) (c : Str) : SrvWF (s.replyBans c).1 := by
  unfold Srv.replyBans; split
  · exact wf_congr h rfl rfl rfl rfl
  · exact h

theorem wf_enqueue {s : Srv} (h : SrvWF s) (out : List Msg) : SrvWF (s.enqueue out) := wf_congr h rfl rfl rfl rfl

theorem wf_setHost {s : Srv} (h : SrvWF s) {k : Str} {u : SUser} (hu : aget s.users k = some u) {i ho : Str}
    (hi : validWord i = true) (hh : validWord ho = true) :
    SrvWF { s with users := aset s.users k { u with ident := i, host := ho } } := by
  have hv := h.users _ _ hu
  refine wf_putUser h hv.1 ⟨hv.2.1, hi, hh⟩ ?_
  intro hk
  obtain ⟨ub, hub, hnick⟩ := h.bot
  rw [hk, hub] at hu; cases hu; exact hnick

theorem mem_setFlag {ms : List (Str × Flags)} {k : Str} {f : Flags → Flags} {p : Str × Flags}
    (h : p ∈ setFlag ms k f) : ∃ q ∈ ms, q.1 = p.1 := by
  unfold setFlag at h
  obtain ⟨q, hq, rfl⟩ := List.mem_map.mp h
  refine ⟨q, hq, ?_⟩
  split <;> rfl

theorem chanWF_setFlag {s : Srv} {k : Str} {sc : SChan} (h : ChanWF s k sc) (a : Str) (f : Flags → Flags) :
    ChanWF s k { sc with members := setFlag sc.members a f } where
  key := h.key
  name := h.name
  members := fun p hp => by
    obtain ⟨q, hq, e⟩ := mem_setFlag hp
    rw [← e]; exact h.members q hq
  modesNodup := h.modesNodup
  modes := h.modes

theorem chanWF_bans {s : Srv} {k : Str} {sc : SChan} (h : ChanWF s k sc) (bs : List Str) :
    ChanWF s k { sc with bans := bs } :=
  (h.of_members rfl rfl h.members)

theorem chanWF_setMode {s : Srv} {k : Str} {sc : SChan} (h : ChanWF s k sc) (c : Char) (v : Option Str)
    (hv : ModeEntryOK (c, v)) : ChanWF s k { sc with modes := aset sc.modes c v } where
  key := h.key
  name := h.name
  members := h.members
  modesNodup := nodup_akeys_aset h.modesNodup c v
  modes := fun e he => by
    rcases mem_aset he with rfl | he'
    · exact hv
    · exact h.modes e he'

theorem chanWF_delMode {s : Srv} {k : Str} {sc : SChan} (h : ChanWF s k sc) (c : Char) :
    ChanWF s k { sc with modes := adel sc.modes c } where
  key := h.key
  name := h.name
  members := h.members
  modesNodup := nodup_akeys_adel h.modesNodup c
  modes := fun e he => h.modes e (mem_adel he)

theorem ModeEffect.wf {s : Srv} {k : Str} {sc sc' : SChan} {c : MChange} (he : ModeEffect sc c sc') (h : ChanWF s k sc)
    (hc : c.ok) : ChanWF s k sc' := by
  cases he with
  | status => exact chanWF_setFlag h _ _
  | ban | unban => exact chanWF_bans h _
  | otherList => exact h
  | unset => exact chanWF_delMode h _
  | set hcl hsh hadd =>
    -- the stored entry is `k` / `l` with a parameter that `int()` leaves alone (`c.ok`), or a flag without one
    refine chanWF_setMode h _ _ ?_
    rcases hsh with ⟨hm, a, harg⟩ | ⟨hm, _, a, harg⟩ | ⟨_, hf, _⟩ | ⟨hf, harg⟩
    · rcases List.mem_append.mp hm with hm | hm
      · exact absurd hm hcl
      · exact Or.inl ⟨List.mem_append_left _ hm, a, harg, hc a harg⟩
    · exact Or.inl ⟨List.mem_append_right _ hm, a, harg, hc a harg⟩
    · rw [hadd] at hf; cases hf
    · exact Or.inr ⟨hf, harg⟩

theorem applyModes_wf {s : Srv} {k : Str} (cs : List MChange) {sc : SChan} (h : ChanWF s k sc)
    (hc : ∀ c ∈ cs, c.ok) : ChanWF s k (applyModes sc cs).1 :=
  applyModes_invariant cs (fun c hc' _ _ he h => he.wf h (hc c hc')) h

theorem kickTargets_invariant {P : SChan → Prop} (hrem : ∀ sc k, P sc → P (sc.remove k)) (ts : List Str) {sc : SChan}
    (h : P sc) : P (kickTargets sc ts).1 := by
  induction ts generalizing sc with
  | nil => exact h
  | cons t ts ih =>
    unfold kickTargets
    split
    · exact ih (hrem _ _ h)
    · exact ih h

theorem kickTargets_wf {s : Srv} {k : Str} (ts : List Str) {sc : SChan} (h : ChanWF s k sc) :
    ChanWF s k (kickTargets sc ts).1 :=
  kickTargets_invariant (P := ChanWF s k) (fun _ x h => chanWF_remove h x) ts h

theorem leave_wf (k : Str) (cs : List Str) {s : Srv} (h : SrvWF s) : SrvWF (s.leave k cs).1 := by
  induction cs generalizing s with
  | nil => exact h
  | cons c cs ih =>
    unfold Srv.leave
    split
    · exact ih h
    · rename_i sc hch
      split
      · rw [Srv.chan_eq] at hch
        exact ih (wf_putChan h _ _ (chanWF_remove (h.chans _ _ hch) _))
      · exact ih h

theorem enter_wf {s s1 : Srv} {k name name' : Str} (h : SrvWF s) (hk : (aget s.users k).isSome)
    (he : s.enter k name = some (s1, name')) : SrvWF s1 := by
  obtain ⟨hv, sc1, rfl, _, ⟨_, _, rfl⟩ | ⟨sc, hch, _, rfl⟩⟩ := enter_spec he
  · exact wf_setChan h _ _ ⟨rfl, hv, by intro p hp; simp at hp; subst hp; exact hk, by simp [akeys], by simp⟩
  · have hw := h.chans _ _ hch
    refine wf_setChan h _ _ (hw.of_members rfl rfl ?_)
    intro p hp
    simp only [List.mem_append, List.mem_singleton] at hp
    rcases hp with hp | rfl
    · exact hw.members p hp
    · exact hk

theorem enter_users {s s1 : Srv} {k name name' : Str} (he : s.enter k name = some (s1, name')) :
    s1.users = s.users ∧ s1.bot = s.bot ∧ s1.cfg = s.cfg := by
  obtain ⟨_, sc1, rfl, _⟩ := enter_spec he
  exact ⟨rfl, rfl, rfl⟩

theorem joinOthers_wf (k : Str) (cs : List Str) {s : Srv} (h : SrvWF s) (hk : (aget s.users k).isSome) :
    SrvWF (s.joinOthers k cs).1 := by
  induction cs generalizing s with
  | nil => exact h
  | cons c cs ih =>
    unfold Srv.joinOthers
    split
    · exact ih h hk
    · rename_i s1 name he
      exact ih (enter_wf h hk he) (by rw [(enter_users he).1]; exact hk)

theorem joinBot_wf (u : SUser) (cs : List Str) {s : Srv} (h : SrvWF s) : SrvWF (s.joinBot u cs).1 := by
  induction cs generalizing s with
  | nil => exact h
  | cons c cs ih =>
    unfold Srv.joinBot
    split
    · exact ih h
    · rename_i s1 name he
      obtain ⟨ub, hub, _⟩ := h.bot
      have h1 : SrvWF s1 := enter_wf h (by simp [Srv.botKey, hub]) he
      split
      · exact ih h1
      · exact ih (wf_congr h1 rfl rfl rfl rfl)

theorem aget_dropEverywhere {s : Srv} (hn : (akeys s.chans).Nodup) (k k' : Str) :
    aget (s.dropEverywhere k).chans k' =
      ((aget s.chans k').map (fun sc => sc.remove k)).filter (fun sc => !sc.members.isEmpty) := by
  unfold Srv.dropEverywhere
  simp only
  have hn' : (akeys (s.chans.map (fun p => (p.1, p.2.remove k)))).Nodup := by
    rw [akeys_mapVal s.chans (fun p => p.2.remove k)]; exact hn
  rw [aget_filter_nodup hn' (fun sc => !sc.members.isEmpty)]
  rw [aget_mapVal s.chans (fun _ sc => sc.remove k)]

theorem nodup_dropEverywhere {s : Srv} (hn : (akeys s.chans).Nodup) (k : Str) :
    (akeys (s.dropEverywhere k).chans).Nodup := by
  unfold Srv.dropEverywhere
  simp only
  apply nodup_akeys_filter
  rw [akeys_mapVal s.chans (fun p => p.2.remove k)]; exact hn

theorem dropEverywhere_chan {s : Srv} (hn : (akeys s.chans).Nodup) {k k' : Str} {sc' : SChan}
    (h : aget (s.dropEverywhere k).chans k' = some sc') :
    ∃ sc, aget s.chans k' = some sc ∧ sc' = sc.remove k := by
  rw [aget_dropEverywhere hn] at h
  cases hg : aget s.chans k' with
  | none => simp [hg] at h
  | some sc =>
    simp only [hg, Option.map_some, Option.filter] at h
    split at h
    · cases h; exact ⟨sc, rfl, rfl⟩
    · cases h

theorem mem_remove {sc : SChan} {k : Str} {p : Str × Flags} (h : p ∈ (sc.remove k).members) :
    p ∈ sc.members ∧ p.1 ≠ k := by
  unfold SChan.remove at h
  simp only [List.mem_filter, bne_iff_ne, ne_eq] at h
  exact h

theorem wf_quit {s : Srv} (h : SrvWF s) {n : Str} (hnb : lower n ≠ s.botKey) :
    SrvWF { s.dropEverywhere (lower n) with users := adel s.users (lower n), told := sdel s.told (lower n) } := by
  refine ⟨h.cfg, ?_, ?_, nodup_dropEverywhere h.chansNodup _, ?_⟩
  · intro k u' hg
    have e : ({ s.dropEverywhere (lower n) with users := adel s.users (lower n) } : Srv).users = adel s.users (lower n) := rfl
    rw [e, aget_adel] at hg
    by_cases hk : lower n = k
    · simp [hk] at hg
    · simp only [hk, ↓reduceIte] at hg; exact h.users k u' hg
  · obtain ⟨ub, hub, hnick⟩ := h.bot
    refine ⟨ub, ?_, hnick⟩
    show aget (adel s.users (lower n)) (lower s.bot) = some ub
    rw [aget_adel]
    have : ¬ lower n = lower s.bot := hnb
    simp [this, hub]
  · intro k sc' hg
    obtain ⟨sc, hsc, rfl⟩ := dropEverywhere_chan h.chansNodup hg
    have hw := chanWF_remove (h.chans k sc hsc) (lower n)
    refine hw.of_members rfl rfl ?_
    intro p hp
    have hp' := mem_remove hp
    show (aget (adel s.users (lower n)) p.1).isSome
    rw [aget_adel]
    have : ¬ lower n = p.1 := fun e => hp'.2 e.symm
    simp only [this, ↓reduceIte]
    exact (h.chans k sc hsc).members p hp'.1

theorem mem_renameKey_iff {ms : List (Str × Flags)} {k k' x : Str} {f : Flags} :
    (x, f) ∈ renameKey ms k k' ↔ (x = k' ∧ (k, f) ∈ ms) ∨ ((x, f) ∈ ms ∧ x ≠ k) := by
  unfold renameKey
  simp only [List.mem_map]
  constructor
  · rintro ⟨⟨a, g⟩, hq, he⟩
    by_cases hak : a = k
    · subst hak
      simp only [↓reduceIte, Prod.mk.injEq] at he
      obtain ⟨rfl, rfl⟩ := he
      exact Or.inl ⟨rfl, hq⟩
    · simp only [hak, ↓reduceIte, Prod.mk.injEq] at he
      obtain ⟨rfl, rfl⟩ := he
      exact Or.inr ⟨hq, hak⟩
  · rintro (⟨rfl, hq⟩ | ⟨hq, hx⟩)
    · exact ⟨(k, f), hq, by simp⟩
    · exact ⟨(x, f), hq, by simp [hx]⟩

/-- somebody else's new nick is not the bot's: the bot's key is taken -/
theorem new_nick_ne_bot {s : Srv} (h : SrvWF s) {n n' : Str}
    (hfree : ¬ lower n' = lower n → aget s.users (lower n') = none) (hb : ¬ lower n = s.botKey) : ¬ lower n' = s.botKey := by
  intro e
  by_cases hsame : lower n' = lower n
  · exact hb (hsame ▸ e)
  · obtain ⟨ub, hub, _⟩ := h.bot
    have := hfree hsame
    rw [e, show aget s.users s.botKey = some ub from hub] at this; cases this

theorem wf_nick {s : Srv} (h : SrvWF s) {n n' : Str} {u : SUser} (hu : aget s.users (lower n) = some u)
    (hvn : validNick n' = true) (hfree : ¬ lower n' = lower n → aget s.users (lower n') = none) :
    SrvWF (s.renamed n n' u) := by
  unfold Srv.renamed
  have hv := h.users _ _ hu
  have husers : ∀ k, aget (aset (adel s.users (lower n)) (lower n') { u with nick := n' }) k =
      if lower n' = k then some { u with nick := n' } else if lower n = k then none else aget s.users k := by
    intro k; rw [aget_aset, aget_adel]
  refine ⟨h.cfg, ?_, ?_, ?_, ?_⟩
  · intro k u' hg
    simp only [husers] at hg
    by_cases hk : lower n' = k
    · simp only [hk, ↓reduceIte, Option.some.injEq] at hg
      subst hg
      exact ⟨hk, hvn, hv.2.2.1, hv.2.2.2⟩
    · simp only [hk, ↓reduceIte] at hg
      by_cases hk2 : lower n = k
      · simp [hk2] at hg
      · simp only [hk2, ↓reduceIte] at hg; exact h.users k u' hg
  · obtain ⟨ub, hub, hnick⟩ := h.bot
    by_cases hb : lower n = s.botKey
    · refine ⟨{ u with nick := n' }, ?_, ?_⟩
      · show aget (aset (adel s.users (lower n)) (lower n') { u with nick := n' })
            (lower (if lower n = s.botKey then n' else s.bot)) = _
        simp only [hb, ↓reduceIte, aget_aset_self]
      · show n' = if lower n = s.botKey then n' else s.bot
        simp only [hb, ↓reduceIte]
    · refine ⟨ub, ?_, ?_⟩
      · show aget (aset (adel s.users (lower n)) (lower n') { u with nick := n' })
            (lower (if lower n = s.botKey then n' else s.bot)) = _
        have h1 : ¬ lower n = lower s.bot := hb
        have h2 : ¬ lower n' = lower s.bot := new_nick_ne_bot h hfree hb
        simp only [hb, ↓reduceIte, husers, h1, h2, hub]
      · show ub.nick = if lower n = s.botKey then n' else s.bot
        simp only [hb, ↓reduceIte, hnick]
  · show (akeys (s.chans.map (fun p => (p.1, { p.2 with members := renameKey p.2.members (lower n) (lower n') })))).Nodup
    rw [akeys_mapVal s.chans (fun p => { p.2 with members := renameKey p.2.members (lower n) (lower n') })]
    exact h.chansNodup
  · intro k sc' hg
    have hg' : aget (s.chans.map (fun p => (p.1, { p.2 with members := renameKey p.2.members (lower n) (lower n') }))) k = some sc' := hg
    rw [aget_mapVal s.chans (fun _ sc => { sc with members := renameKey sc.members (lower n) (lower n') })] at hg'
    cases hsc : aget s.chans k with
    | none => simp [hsc] at hg'
    | some sc =>
      simp only [hsc, Option.map_some, Option.some.injEq] at hg'
      subst hg'
      have hw := h.chans k sc hsc
      refine hw.of_members rfl rfl ?_
      intro p hp
      simp only [husers]
      rcases mem_renameKey_iff.mp (show (p.1, p.2) ∈ _ from hp) with ⟨hp1, _⟩ | ⟨hp1, hp2⟩
      · simp [hp1]
      · by_cases hk : lower n' = p.1
        · simp [hk]
        · have : ¬ lower n = p.1 := fun e => hp2 e.symm
          simp only [hk, ↓reduceIte, this]
          exact hw.members p hp1

theorem wf_reconnect {s : Srv} (h : SrvWF s) {u : SUser} (hu : aget s.users s.botKey = some u) :
    SrvWF { s.dropEverywhere s.botKey with
      users := aset (adel (s.dropEverywhere s.botKey).users s.botKey) (lower s.cfg.botNick) { u with nick := s.cfg.botNick },
      bot := s.cfg.botNick, told := [], modesSynced := [], bansSynced := [], pending := [] } := by
  have hv := h.users _ _ hu
  have hcfg := cfgOK_of_valid h.cfg
  have hvn : validNick s.cfg.botNick = true := hcfg.nick
  have hde : (s.dropEverywhere s.botKey).users = s.users := rfl
  have husers : ∀ k, aget (aset (adel (s.dropEverywhere s.botKey).users s.botKey) (lower s.cfg.botNick) { u with nick := s.cfg.botNick }) k =
      if lower s.cfg.botNick = k then some { u with nick := s.cfg.botNick } else if s.botKey = k then none else aget s.users k := by
    intro k; rw [aget_aset, aget_adel, hde]
  refine ⟨h.cfg, ?_, ?_, nodup_dropEverywhere h.chansNodup _, ?_⟩
  · intro k u' hg
    simp only [husers] at hg
    by_cases hk : lower s.cfg.botNick = k
    · simp only [hk, ↓reduceIte, Option.some.injEq] at hg
      subst hg
      exact ⟨hk, hvn, hv.2.2.1, hv.2.2.2⟩
    · simp only [hk, ↓reduceIte] at hg
      by_cases hk2 : s.botKey = k
      · simp [hk2] at hg
      · simp only [hk2, ↓reduceIte] at hg; exact h.users k u' hg
  · exact ⟨{ u with nick := s.cfg.botNick }, by simp [husers], rfl⟩
  · intro k sc' hg
    obtain ⟨sc, hsc, rfl⟩ := dropEverywhere_chan h.chansNodup hg
    have hw := chanWF_remove (h.chans k sc hsc) s.botKey
    refine hw.of_members rfl rfl ?_
    intro p hp
    have hp' := mem_remove hp
    simp only [husers]
    by_cases hk : lower s.cfg.botNick = p.1
    · simp [hk]
    · have : ¬ s.botKey = p.1 := fun e => hp'.2 e.symm
      simp only [hk, ↓reduceIte, this]
      exact (h.chans k sc hsc).members p hp'.1

theorem StepEffect.wf {s s' : Srv} {a : Act} {evs : List Ev} (he : StepEffect s a s' evs) (h : SrvWF s) (ha : a.ok) :
    SrvWF s' := by
  cases he with
  | idle | isupport => exact h
  | connect hn hi hh hfree =>
    refine wf_congr (wf_putUser h (u' := ⟨_, _, _⟩) rfl ⟨hn, hi, hh⟩ ?_) rfl rfl rfl rfl
    intro hk
    obtain ⟨u, hu, _⟩ := h.bot
    rw [hk, hu] at hfree; cases hfree
  | joinBot => exact joinBot_wf _ _ h
  | joinUnseen hu => exact joinOthers_wf _ _ h (by simp [hu])
  | joinSeen hu => exact wf_congr (joinOthers_wf _ _ h (by simp [hu])) rfl rfl rfl rfl
  | part => exact leave_wf _ _ h
  | kick _ hch => exact wf_putChan h _ _ (kickTargets_wf _ (h.chans _ _ hch))
  | quit _ hb => exact wf_quit h hb
  | nick hu hvn _ hfree => exact wf_nick h hu hvn hfree
  | mode _ hch => exact wf_setChan h _ _ (applyModes_wf _ (h.chans _ _ hch) ha)
  | topic _ hch =>
    have hw := h.chans _ _ hch
    exact wf_setChan h _ _ (hw.of_members rfl rfl hw.members)
  | chghostSeen hu hi hh | chghostSilent hu hi hh => exact wf_congr (wf_setHost h hu hi hh) rfl rfl rfl rfl
  | say | names => exact wf_congr h rfl rfl rfl rfl
  | who => exact wf_replyWho h _
  | modeis => exact wf_replyMode h _
  | banlist => exact wf_replyBans h _
  | @serveWho c rest => exact wf_replyWho (s := { s with pending := rest }) (wf_congr h rfl rfl rfl rfl) c
  | @serveMode c rest => exact wf_replyMode (s := { s with pending := rest }) (wf_congr h rfl rfl rfl rfl) c
  | @serveBans c rest => exact wf_replyBans (s := { s with pending := rest }) (wf_congr h rfl rfl rfl rfl) c
  | reconnect hu => exact wf_reconnect h hu

/-- the reference server's invariant is preserved by every action -/
theorem wf_step {s : Srv} (h : SrvWF s) (a : Act) (ha : a.ok) : SrvWF (s.step a).1 :=
  (step_effect s a).wf h ha

theorem wf_init (cfg : Cfg) (hv : cfg.valid = true) : SrvWF (Srv.init cfg) := by
  have hcfg := cfgOK_of_valid hv
  refine ⟨hv, ?_, ?_, by simp [Srv.init, akeys], ?_⟩
  · intro k u hg
    simp only [Srv.init, aget_cons, aget_nil] at hg
    split at hg
    · rename_i hk
      cases hg
      exact ⟨hk, hcfg.nick, hcfg.ident, hcfg.host⟩
    · cases hg
  · exact ⟨⟨cfg.botNick, cfg.botIdent, cfg.botHost⟩, by simp [Srv.init, aget_cons], rfl⟩
  · intro k sc hg
    simp [Srv.init] at hg

end C10
