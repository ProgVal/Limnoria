/-
C10 — simulation: NICK (including the bot's own nick change and case-only changes).  The state after an
accepted NICK is analysed once (`renamed_spec`).
-/
import LimnoriaModel.C10.SimJoinQuit
namespace C10
open Py

theorem mem_replaceIn {S : List Str} {k k' x : Str} :
    x ∈ replaceIn S k k' ↔ (k ∈ S ∧ (x = k' ∨ (x ≠ k ∧ x ∈ S))) ∨ (k ∉ S ∧ x ∈ S) := by
  unfold replaceIn
  by_cases h : k ∈ S
  · simp [h]
  · simp [h]

theorem Tracks.rename {full : Prop} {S : List Str} {ms : List (Str × Flags)} {P : Flags → Prop}
    (h : Tracks full S ms P) (k k' : Str) : Tracks full (replaceIn S k k') (renameKey ms k k') P where
  sub := fun x hx => by
    simp only [mem_renameKey_iff]
    rcases mem_replaceIn.mp hx with ⟨hk, rfl | ⟨hxk, hxS⟩⟩ | ⟨_, hxS⟩
    · obtain ⟨f, hf, hp⟩ := h.sub k hk
      exact ⟨f, Or.inl ⟨rfl, hf⟩, hp⟩
    · obtain ⟨f, hf, hp⟩ := h.sub x hxS
      exact ⟨f, Or.inr ⟨hf, hxk⟩, hp⟩
    · obtain ⟨f, hf, hp⟩ := h.sub x hxS
      by_cases hxk : x = k
      · subst hxk; rename_i hk; exact absurd hxS hk
      · exact ⟨f, Or.inr ⟨hf, hxk⟩, hp⟩
  sup := fun hfull x ⟨f, hf, hp⟩ => by
    rw [mem_replaceIn]
    rcases mem_renameKey_iff.mp hf with ⟨hx, hf2⟩ | ⟨hf2, hxk⟩
    · exact Or.inl ⟨h.sup hfull k ⟨f, hf2, hp⟩, Or.inl hx⟩
    · by_cases hk : k ∈ S
      · exact Or.inl ⟨hk, Or.inr ⟨hxk, h.sup hfull x ⟨f, hf2, hp⟩⟩⟩
      · exact Or.inr ⟨hk, h.sup hfull x ⟨f, hf2, hp⟩⟩

theorem ChanMatches.rename {mp ms bs : Bool} {sc : SChan} {ch : Chan} (h : ChanMatches mp ms bs sc ch) (o n : Str) :
    ChanMatches mp ms bs { sc with members := renameKey sc.members (lower o) (lower n) } (ch.replaceUser o n) :=
  ⟨h.users.rename _ _, h.ops.rename _ _, h.halfops.rename _ _, h.voices.rename _ _, h.topic, h.modes, h.modesFull,
    h.bans, h.bansFull⟩

theorem has_rename {sc : SChan} {k k' x : Str} :
    ({ sc with members := renameKey sc.members k k' } : SChan).has x = true ↔
      (x = k' ∧ sc.has k = true) ∨ (x ≠ k ∧ sc.has x = true) := by
  simp only [has_iff, mem_renameKey_iff]
  constructor
  · rintro ⟨f, ⟨rfl, hf⟩ | ⟨hf, hx⟩⟩
    · exact Or.inl ⟨rfl, f, hf⟩
    · exact Or.inr ⟨hx, f, hf⟩
  · rintro (⟨rfl, f, hf⟩ | ⟨hx, f, hf⟩)
    · exact ⟨f, Or.inl ⟨rfl, hf⟩⟩
    · exact ⟨f, Or.inr ⟨hf, hx⟩⟩

/-- a nick that is not a key of the users table is on no channel -/
theorem not_has_of_free {s : Srv} (hw : SrvWF s) {kc : Str} {sc : SChan} (hsc : aget s.chans kc = some sc)
    {x : Str} (hx : aget s.users x = none) : sc.has x = false := by
  rw [has_false_iff]
  intro f hf
  have := (hw.chans kc sc hsc).members (x, f) hf
  rw [hx] at this; cases this

theorem replaceUser_absent {mp ms bs : Bool} {sc : SChan} {ch : Chan} (h : ChanMatches mp ms bs sc ch) {o n : Str}
    (ho : lower o ∉ ch.users) : ch.replaceUser o n = ch := by
  have hno : ∀ f, (lower o, f) ∉ sc.members := fun f hf => ho ((h.users_iff _).mpr ⟨f, hf⟩)
  have h1 : lower o ∉ ch.ops := fun hx => by obtain ⟨f, hf, _⟩ := h.ops.sub _ hx; exact hno f hf
  have h2 : lower o ∉ ch.halfops := fun hx => by obtain ⟨f, hf, _⟩ := h.halfops.sub _ hx; exact hno f hf
  have h3 : lower o ∉ ch.voices := fun hx => by obtain ⟨f, hf, _⟩ := h.voices.sub _ hx; exact hno f hf
  simp [Chan.replaceUser, replaceIn, ho, h1, h2, h3]

structure Renamed (s : Srv) (n n' : Str) (u : SUser) (s' : Srv) : Prop where
  chans : ∀ kc, aget s'.chans kc = (aget s.chans kc).map
    (fun sc => { sc with members := renameKey sc.members (lower n) (lower n') })
  users : ∀ x, aget s'.users x = if lower n' = x then some { u with nick := n' }
    else if lower n = x then none else aget s.users x
  botKey : s'.botKey = if lower n = s.botKey then lower n' else s.botKey
  bot : s'.bot = if lower n = s.botKey then n' else s.bot
  cfg : s'.cfg = s.cfg
  ms : s'.modesSynced = s.modesSynced
  bs : s'.bansSynced = s.bansSynced
  told : s'.told = if (decide (lower n = s.botKey) || s.visible (lower n)) = true
    then sadd (sdel s.told (lower n)) (lower n') else sdel (sdel s.told (lower n)) (lower n')
  pending : s'.pending = s.pending
  nodup : (akeys s'.chans).Nodup
  /-- the bot is on the renamed channel iff it was on the old one -/
  botin : ∀ kc sc, aget s.chans kc = some sc →
    (({ sc with members := renameKey sc.members (lower n) (lower n') } : SChan).has s'.botKey = true ↔ sc.has s.botKey = true)
  other : ∀ (sc : SChan) x, x ≠ lower n → x ≠ lower n' →
    (({ sc with members := renameKey sc.members (lower n) (lower n') } : SChan).has x = true ↔ sc.has x = true)
  newkey : ∀ kc sc, aget s.chans kc = some sc →
    (({ sc with members := renameKey sc.members (lower n) (lower n') } : SChan).has (lower n') = true ↔ sc.has (lower n) = true)
  visOther : ∀ x, x ≠ lower n → x ≠ lower n' → s'.visible x = true → s.visible x = true
  visNew : s'.visible (lower n') = true → s.visible (lower n) = true
  back : ∀ kc sc', aget s'.chans kc = some sc' → ∃ sc, aget s.chans kc = some sc ∧
    sc' = { sc with members := renameKey sc.members (lower n) (lower n') }

theorem renamed_spec {s : Srv} (hw : SrvWF s) (n n' : Str) (u : SUser)
    (hfree : ¬lower n' = lower n → aget s.users (lower n') = none) : Renamed s n n' u (s.renamed n n' u) := by
  obtain ⟨ub, hub, _⟩ := hw.bot
  have hub' : aget s.users s.botKey = some ub := hub
  generalize hs' : s.renamed n n' u = s'
  unfold Srv.renamed at hs'
  have hchans' : ∀ kc, aget s'.chans kc = (aget s.chans kc).map
      (fun sc => { sc with members := renameKey sc.members (lower n) (lower n') }) := by
    intro kc; subst hs'
    exact aget_mapVal s.chans (fun _ sc => { sc with members := renameKey sc.members (lower n) (lower n') }) kc
  have husers' : ∀ x, aget s'.users x = if lower n' = x then some { u with nick := n' }
      else if lower n = x then none else aget s.users x := by
    intro x; subst hs'; show aget (aset (adel s.users (lower n)) (lower n') _) x = _
    rw [aget_aset, aget_adel]
  have hbk' : s'.botKey = if lower n = s.botKey then lower n' else s.botKey := by
    subst hs'
    show lower (if lower n = s.botKey then n' else s.bot) = _
    by_cases h : lower n = s.botKey
    · rw [if_pos h, if_pos h]
    · rw [if_neg h, if_neg h]; rfl
  have hcfg' : s'.cfg = s.cfg := by subst hs'; rfl
  have hms' : s'.modesSynced = s.modesSynced := by subst hs'; rfl
  have hbs' : s'.bansSynced = s.bansSynced := by subst hs'; rfl
  have htold' : s'.told = if (decide (lower n = s.botKey) || s.visible (lower n)) = true
      then sadd (sdel s.told (lower n)) (lower n') else sdel (sdel s.told (lower n)) (lower n') := by subst hs'; rfl
  have hnd' : (akeys s'.chans).Nodup := by
    subst hs'
    show (akeys (s.chans.map (fun p => (p.1, { p.2 with members := renameKey p.2.members (lower n) (lower n') })))).Nodup
    rw [akeys_mapVal s.chans (fun p => { p.2 with members := renameKey p.2.members (lower n) (lower n') })]
    exact hw.chansNodup
  have hback : ∀ kc sc', aget s'.chans kc = some sc' → ∃ sc, aget s.chans kc = some sc ∧
      sc' = { sc with members := renameKey sc.members (lower n) (lower n') } := by
    intro kc sc' hsc'
    rw [hchans'] at hsc'
    cases hsc : aget s.chans kc with
    | none => rw [hsc] at hsc'; cases hsc'
    | some sc =>
      rw [hsc] at hsc'; simp only [Option.map_some, Option.some.injEq] at hsc'
      exact ⟨sc, rfl, hsc'.symm⟩
  have hbotin : ∀ kc sc, aget s.chans kc = some sc →
      (({ sc with members := renameKey sc.members (lower n) (lower n') } : SChan).has s'.botKey = true ↔ sc.has s.botKey = true) := by
    intro kc sc hsc
    rw [hbk', has_rename]
    by_cases hown : lower n = s.botKey
    · simp only [hown, ↓reduceIte, true_and]
      constructor
      · rintro (h | ⟨hx, h⟩)
        · exact h
        · have hfr := hfree (by rw [hown]; exact hx)
          rw [not_has_of_free hw hsc hfr] at h; cases h
      · intro h; exact Or.inl h
    · simp only [hown, ↓reduceIte]
      constructor
      · rintro (⟨_, _⟩ | ⟨_, h⟩)
        · rename_i e _
          by_cases hsame : lower n' = lower n
          · exact absurd (e.trans hsame).symm hown
          · have hfr := hfree hsame
            rw [← e, hub'] at hfr; cases hfr
        · exact h
      · intro h; exact Or.inr ⟨fun e => hown e.symm, h⟩
  have hother : ∀ (sc : SChan) x, x ≠ lower n → x ≠ lower n' →
      (({ sc with members := renameKey sc.members (lower n) (lower n') } : SChan).has x = true ↔ sc.has x = true) := by
    intro sc x h1 h2
    rw [has_rename]; simp [h1, h2]
  have hnewkey : ∀ kc sc, aget s.chans kc = some sc →
      (({ sc with members := renameKey sc.members (lower n) (lower n') } : SChan).has (lower n') = true ↔ sc.has (lower n) = true) := by
    intro kc sc hsc
    rw [has_rename]
    constructor
    · rintro (⟨_, h⟩ | ⟨hx, h⟩)
      · exact h
      · rw [not_has_of_free hw hsc (hfree hx)] at h; cases h
    · intro h; exact Or.inl ⟨rfl, h⟩
  have hvis_other : ∀ x, x ≠ lower n → x ≠ lower n' → s'.visible x = true → s.visible x = true := by
    intro x h1 h2 hv
    obtain ⟨kc, sc', hsc', hb1, hb2⟩ := (visible_iff hnd').mp hv
    obtain ⟨sc, hsc, rfl⟩ := hback kc sc' hsc'
    exact (visible_iff hw.chansNodup).mpr ⟨kc, sc, hsc, (hbotin kc sc hsc).mp hb1, (hother sc x h1 h2).mp hb2⟩
  have hvis_new : s'.visible (lower n') = true → s.visible (lower n) = true := by
    intro hv
    obtain ⟨kc, sc', hsc', hb1, hb2⟩ := (visible_iff hnd').mp hv
    obtain ⟨sc, hsc, rfl⟩ := hback kc sc' hsc'
    exact (visible_iff hw.chansNodup).mpr ⟨kc, sc, hsc, (hbotin kc sc hsc).mp hb1, (hnewkey kc sc hsc).mp hb2⟩
  exact ⟨hchans', husers', hbk', by subst hs'; rfl, hcfg', hms', hbs', htold', by subst hs'; rfl, hnd', hbotin, hother, hnewkey, hvis_other, hvis_new, hback⟩

theorem coupled_nick {s : Srv} {b : Bot} (hw : SrvWF s) (hc : Coupled s b) {n n' : Str} {u : SUser}
    (hu : aget s.users (lower n) = some u) (hvn : validNick n' = true)
    (hfree : ¬ lower n' = lower n → aget s.users (lower n') = none) :
    Coupled (s.renamed n n' u)
      (b.recvAll (if (decide (lower n = s.botKey) || s.visible (lower n)) = true then [emit u.mask "NICK" [n']] else [])) := by
  have hkey := (hw.userOK hu).1
  have huo := (hw.userOK hu).2
  have hno := nickOK_of_valid hvn
  have hbn : NickOK b.nick := by rw [hc.nick]; exact hw.botNickOK
  have hr := renamed_spec hw n n' u hfree
  change Coupled (s.renamed n n' u) _
  generalize s.renamed n n' u = s' at *
  have hchansrel : ∀ (b1 : Bot),
      (∀ kc, aget b1.channels kc = (aget b.channels kc).map (fun c => c.replaceUser u.nick n')) →
      ∀ kc, ChanRel s' kc (aget s'.chans kc) (aget b1.channels kc) := by
    intro b1 h6 kc
    rw [hr.chans, h6 kc]
    have hrel := hc.chans kc
    cases hsc : aget s.chans kc with
    | none =>
      rw [hsc] at hrel
      cases hbc : aget b.channels kc with
      | none => trivial
      | some ch => rw [hbc] at hrel; simp only [ChanRel] at hrel
    | some sc =>
      rw [hsc] at hrel
      cases hbc : aget b.channels kc with
      | none =>
        rw [hbc] at hrel
        simp only [ChanRel] at hrel
        simp only [Option.map_some, Option.map_none, ChanRel]
        rw [← Bool.not_eq_true, hr.botin kc sc hsc, hrel]; simp
      | some ch =>
        rw [hbc] at hrel
        simp only [ChanRel] at hrel
        simp only [Option.map_some, ChanRel]
        refine ⟨(hr.botin kc sc hsc).mpr hrel.1, ?_⟩
        have := ChanMatches.rename hrel.2 u.nick n'
        rw [hkey] at this
        simp only [Srv.mSynced, Srv.bSynced, hr.cfg, hr.ms, hr.bs]
        exact this
  by_cases hsee : (decide (lower n = s.botKey) || s.visible (lower n)) = true
  · -- the bot receives the NICK
    simp only [hsee, ↓reduceIte, recvAll_cons, recv_emit, recvAll_nil]
    have hne' : u.mask ≠ b.nick := mask_ne_nick hbn
    have hnick_ne := isEmpty_false hno.ne
    have hid_ne := isEmpty_false huo.ident.ne
    have hho_ne := isEmpty_false huo.host.ne
    have hfeed : (b.feed ⟨u.mask, "NICK".toList, [n']⟩).1 =
        { b with nick := if u.nick = b.nick then n' else b.nick,
                 pfx := if u.nick = b.nick then mkHostmask n' u.ident u.host else b.pfx,
                 n2h := aset (adel b.n2h (lower u.nick)) (lower n') (mkHostmask n' u.ident u.host),
                 channels := amapAll b.channels (fun c => c.replaceUser u.nick n') } := by
      have hirc : ((b.pfxUpd ⟨u.mask, "NICK".toList, [n']⟩).ircCmd ⟨u.mask, "NICK".toList, [n']⟩) =
          ({ b with nick := if u.nick = b.nick then n' else b.nick,
                    pfx := if u.nick = b.nick then mkHostmask n' u.ident u.host else b.pfx }, false) := by
        rw [pfxUpd_user huo]
        simp only [Bot.ircCmd, cmdOf_NICK, Bot.ircNick, msg_nick_user huo, split_mask huo]
        by_cases e : u.nick = b.nick
        · simp [e, hnick_ne, hid_ne, hho_ne]
        · simp [e]
      rw [feed_plain b _ hne' (setters_out_ok "NICK".toList (by decide +kernel)) (by rw [hirc])]
      rw [hirc]
      simp only [Bot.prelude, bne_self_eq_false, Bool.and_false, Bool.false_eq_true, ↓reduceIte,
        Bot.stateCmd, cmdOf_NICK, Bot.doNick, msg_nick_user huo, msg_user_user huo, msg_host_user huo,
        hid_ne, hho_ne, hnick_ne, Bool.not_false, Bool.and_self]
    rw [hfeed]
    refine ⟨?_, ?_, ?_, ?_, by rw [hr.cfg]; exact hc.cfgNick, by rw [hr.cfg]; exact hc.cfgIdent, hc.isup⟩
    · rw [hr.bot]
      show (if u.nick = b.nick then n' else b.nick) = if lower n = s.botKey then n' else s.bot
      by_cases hown : lower n = s.botKey
      · rw [if_pos ((own_iff hw hc hu).mpr hown), if_pos hown]
      · have : ¬ u.nick = b.nick := fun e => hown ((own_iff hw hc hu).mp e)
        rw [if_neg this, if_neg hown]; exact hc.nick
    · apply hchansrel
      intro kc
      show aget (amapAll b.channels (fun c => c.replaceUser u.nick n')) kc = _
      rw [aget_amapAll]
    · intro x ux hux hv
      rw [hr.users] at hux
      rw [hr.told, if_pos hsee] at hv
      show aget (aset (adel b.n2h (lower u.nick)) (lower n') (mkHostmask n' u.ident u.host)) x = _
      rw [aget_aset, aget_adel, hkey]
      by_cases h1 : lower n' = x
      · simp only [h1, ↓reduceIte, Option.some.injEq] at hux ⊢
        subst hux; rfl
      · simp only [h1, ↓reduceIte] at hux ⊢
        by_cases h2 : lower n = x
        · simp [h2] at hux
        · simp only [h2, ↓reduceIte] at hux ⊢
          rcases mem_sadd.mp hv with e | e
          · exact absurd e.symm h1
          · exact hc.hosts x ux hux (mem_sdel.mp e).2
    · intro kc sc' hsc' hb'
      obtain ⟨sc, hsc, rfl⟩ := hr.back kc sc' hsc'
      have hbin := (hr.botin kc sc hsc).mp hb'
      obtain ⟨ub0, hub0, hp0⟩ := hc.pfx kc sc hsc hbin
      rw [hr.botKey, hr.users]
      by_cases hown : lower n = s.botKey
      · simp only [hown, ↓reduceIte]
        refine ⟨_, rfl, ?_⟩
        show (if u.nick = b.nick then mkHostmask n' u.ident u.host else b.pfx) = _
        rw [if_pos ((own_iff hw hc hu).mpr hown)]; rfl
      · have h1 := new_nick_ne_bot hw hfree hown
        simp only [hown, ↓reduceIte, h1]
        refine ⟨ub0, hub0, ?_⟩
        show (if u.nick = b.nick then mkHostmask n' u.ident u.host else b.pfx) = _
        have : ¬ u.nick = b.nick := fun e => hown ((own_iff hw hc hu).mp e)
        rw [if_neg this]; exact hp0
  · -- nobody the bot can see changed nick
    have hsee' : (decide (lower n = s.botKey) || s.visible (lower n)) = false := by simpa using hsee
    simp only [hsee', Bool.false_eq_true, ↓reduceIte, recvAll_nil]
    simp only [Bool.or_eq_false_iff, decide_eq_false_iff_not] at hsee'
    obtain ⟨hown, hinv⟩ := hsee'
    refine ⟨?_, ?_, ?_, ?_, by rw [hr.cfg]; exact hc.cfgNick, by rw [hr.cfg]; exact hc.cfgIdent, hc.isup⟩
    · rw [hr.bot]
      show b.nick = if lower n = s.botKey then n' else s.bot
      rw [if_neg hown]; exact hc.nick
    · apply hchansrel
      intro kc
      cases hbc : aget b.channels kc with
      | none => rfl
      | some ch =>
        simp only [Option.map_some, Option.some.injEq]
        have hrel := hc.chans kc
        rw [hbc] at hrel
        cases hsc : aget s.chans kc with
        | none => rw [hsc] at hrel; simp only [ChanRel] at hrel
        | some sc =>
          rw [hsc] at hrel
          simp only [ChanRel] at hrel
          symm
          apply replaceUser_absent hrel.2
          rw [hkey]
          exact unseen_absent hw hc (Bool.eq_false_iff.mp hinv) hbc
    · intro x ux hux hv
      rw [hr.users] at hux
      have hsee2 : ¬ ((decide (lower n = s.botKey) || s.visible (lower n)) = true) := by
        simp [hown, hinv]
      rw [hr.told, if_neg hsee2] at hv
      have hx1 : x ≠ lower n' := (mem_sdel.mp hv).1
      have hx2 : x ≠ lower n := (mem_sdel.mp (mem_sdel.mp hv).2).1
      simp only [Ne.symm hx1, ↓reduceIte, Ne.symm hx2] at hux
      exact hc.hosts x ux hux (mem_sdel.mp (mem_sdel.mp hv).2).2
    · intro kc sc' hsc' hb'
      obtain ⟨sc, hsc, rfl⟩ := hr.back kc sc' hsc'
      have hbin := (hr.botin kc sc hsc).mp hb'
      obtain ⟨ub0, hub0, hp0⟩ := hc.pfx kc sc hsc hbin
      rw [hr.botKey, hr.users]
      have h1 := new_nick_ne_bot hw hfree hown
      simp only [hown, ↓reduceIte, h1]
      exact ⟨ub0, hub0, hp0⟩

end C10
