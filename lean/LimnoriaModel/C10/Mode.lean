/-
C10 — what one accepted mode change does to the server's channel.  `SChan.applyMode` is analysed here,
once: an accepted change is one of six updates (`ModeEffect`).  The server's invariant, the argument
shape `separateModes` relies on and the simulation of `ChannelState.doMode` are read off these cases.
-/
import LimnoriaModel.C10.Inv
namespace C10
open Py

/-- the argument shape of an accepted change, by mode class -/
def Shaped (c : MChange) : Prop :=
  (c.ch ∈ prefixModes ++ listModes ++ keyModes ∧ ∃ a, c.arg = some a) ∨
  (c.ch ∈ limitModes ∧ c.add = true ∧ ∃ a, c.arg = some a) ∨
  (c.ch ∈ limitModes ∧ c.add = false ∧ c.arg = none) ∨
  (isFlagMode c.ch = true ∧ c.arg = none)

/-- a status letter, the server's update of the member's flags, and the set of `ChannelState` that follows it: the
index the extractor writes into `Gen.modeSets` and `setAt` reads (0 ops, 1 halfops, 2 voices; 3 is the ban list) -/
inductive StatusMode : Char → (Bool → Flags → Flags) → Nat → Prop
  | o : StatusMode 'o' (fun b f => { f with o := b }) 0
  | h : StatusMode 'h' (fun b f => { f with h := b }) 1
  | v : StatusMode 'v' (fun b f => { f with v := b }) 2

inductive ModeEffect (sc : SChan) (c : MChange) : SChan → Prop
  | status {g : Bool → Flags → Flags} {w : Nat} {a : Str} (hs : StatusMode c.ch g w) (harg : c.arg = some a)
      (hmem : sc.has (lower a) = true) :
      ModeEffect sc c { sc with members := setFlag sc.members (lower a) (g c.add) }
  | ban {a : Str} (hb : c.ch = 'b') (hadd : c.add = true) (harg : c.arg = some a) :
      ModeEffect sc c { sc with bans := sc.bans ++ [a] }
  | unban {a : Str} (hb : c.ch = 'b') (hadd : c.add = false) (harg : c.arg = some a) :
      ModeEffect sc c { sc with bans := sc.bans.filter (fun m => lower m != lower a) }
  /-- `e`, `q`, `I`: lists that are not part of the view -/
  | otherList {a : Str} (hl : c.ch ∈ ['e', 'q', 'I']) (harg : c.arg = some a) : ModeEffect sc c sc
  | set (hcl : c.ch ∉ prefixModes ++ listModes) (hsh : Shaped c) (hadd : c.add = true) :
      ModeEffect sc c { sc with modes := aset sc.modes c.ch c.arg }
  | unset (hcl : c.ch ∉ prefixModes ++ listModes) (hsh : Shaped c) (hadd : c.add = false) :
      ModeEffect sc c { sc with modes := adel sc.modes c.ch }

theorem class_disjoint : ∀ c ∈ keyModes ++ limitModes, c ∉ prefixModes ++ listModes := by decide

theorem flag_not_class {c : Char} (h : isFlagMode c = true) : c ∉ prefixModes ++ listModes ++ keyModes ++ limitModes := by
  unfold isFlagMode at h
  simp only [Bool.and_eq_true, Bool.not_eq_eq_eq_not, Bool.not_true, Bool.or_eq_false_iff] at h
  obtain ⟨⟨⟨⟨h1, h2⟩, h3⟩, h4⟩, _⟩ := h
  simp only [List.mem_append, not_or]
  refine ⟨⟨⟨?_, ?_⟩, ?_⟩, ?_⟩
  · intro hm; rw [contains_iff.mpr hm] at h1; cases h1
  · intro hm; rw [contains_iff.mpr hm] at h2; cases h2
  · intro hm; rw [contains_iff.mpr hm] at h3; cases h3
  · intro hm; rw [contains_iff.mpr hm] at h4; cases h4

theorem applyMode_effect {sc sc' : SChan} {c : MChange} (ha : sc.applyMode c = some sc') : ModeEffect sc c sc' := by
  obtain ⟨add, l, arg⟩ := c
  unfold SChan.applyMode at ha
  -- one guard at a time, by `by_cases` and `if_pos` / `if_neg`: `split at ha` would re-simplify the whole of `ha` at each step
  dsimp only at ha
  by_cases hp : prefixModes.contains l = true
  · rw [if_pos hp] at ha
    cases arg with
    | none => cases ha
    | some a =>
      dsimp only at ha
      by_cases hcond : (!validNick a || !sc.has (lower a)) = true
      · rw [if_pos hcond] at ha; cases ha
      · rw [if_neg hcond] at ha
        simp only [Bool.or_eq_true, Bool.not_eq_eq_eq_not, Bool.not_true, not_or, Bool.not_eq_false] at hcond
        have hl : l ∈ prefixModes := contains_iff.mp hp
        simp only [prefixModes, List.mem_cons, List.not_mem_nil, or_false] at hl
        rcases hl with rfl | rfl | rfl
        · cases ha; exact .status (c := ⟨add, _, _⟩) .o rfl hcond.2
        · cases ha; exact .status (c := ⟨add, _, _⟩) .h rfl hcond.2
        · cases ha; exact .status (c := ⟨add, _, _⟩) .v rfl hcond.2
  · rw [if_neg hp] at ha
    by_cases hl : listModes.contains l = true
    · rw [if_pos hl] at ha
      cases arg with
      | none => cases ha
      | some a =>
        dsimp only at ha
        by_cases hv : (!validParam a) = true
        · rw [if_pos hv] at ha; cases ha
        · rw [if_neg hv] at ha
          by_cases hb : l = 'b'
          · rw [if_pos hb] at ha
            by_cases hin : (sc.bans.map lower).contains (lower a) = true
            · cases add
              · rw [if_neg Bool.false_ne_true, if_pos hin] at ha; cases ha; exact .unban (c := ⟨_, _, _⟩) hb rfl rfl
              · rw [if_pos rfl, if_pos hin] at ha; cases ha
            · cases add
              · rw [if_neg Bool.false_ne_true, if_neg hin] at ha; cases ha
              · rw [if_pos rfl, if_neg hin] at ha; cases ha; exact .ban (c := ⟨_, _, _⟩) hb rfl rfl
          · rw [if_neg hb] at ha; cases ha
            have hl' : l ∈ listModes := contains_iff.mp hl
            simp only [listModes, List.mem_cons, hb, false_or] at hl'
            exact .otherList (c := ⟨_, _, _⟩) (by simpa using hl') rfl
    · rw [if_neg hl] at ha
      have hcl : l ∉ prefixModes ++ listModes := fun h =>
        (List.mem_append.mp h).elim (fun h => hp (contains_iff.mpr h)) (fun h => hl (contains_iff.mpr h))
      by_cases hk : keyModes.contains l = true
      · rw [if_pos hk] at ha
        cases arg with
        | none => cases ha
        | some a =>
          dsimp only at ha
          have hsh : Shaped ⟨add, l, some a⟩ := Or.inl ⟨List.mem_append_right _ (contains_iff.mp hk), a, rfl⟩
          by_cases hv : (!validParam a) = true
          · rw [if_pos hv] at ha; cases ha
          · rw [if_neg hv] at ha
            cases add
            · rw [if_neg Bool.false_ne_true] at ha
              by_cases hs : (aget sc.modes l).isSome = true
              · rw [if_pos hs] at ha; cases ha; exact .unset hcl hsh rfl
              · rw [if_neg hs] at ha; cases ha
            · rw [if_pos rfl] at ha; cases ha; exact .set hcl hsh rfl
      · rw [if_neg hk] at ha
        by_cases hlim : limitModes.contains l = true
        · rw [if_pos hlim] at ha
          cases add
          · rw [if_neg Bool.false_ne_true] at ha
            cases arg with
            | some a => cases ha
            | none =>
              dsimp only at ha
              by_cases hs : (aget sc.modes l).isSome = true
              · rw [if_pos hs] at ha; cases ha
                exact .unset hcl (Or.inr (Or.inr (Or.inl ⟨contains_iff.mp hlim, rfl, rfl⟩))) rfl
              · rw [if_neg hs] at ha; cases ha
          · rw [if_pos rfl] at ha
            cases arg with
            | none => cases ha
            | some a =>
              dsimp only at ha
              by_cases hv : validParam a = true
              · rw [if_pos hv] at ha; cases ha
                exact .set hcl (Or.inr (Or.inl ⟨contains_iff.mp hlim, rfl, a, rfl⟩)) rfl
              · rw [if_neg hv] at ha; cases ha
        · rw [if_neg hlim] at ha
          by_cases hf : isFlagMode l = true
          · rw [if_pos hf] at ha
            cases arg with
            | some a => cases ha
            | none =>
              dsimp only at ha
              have hsh : Shaped ⟨add, l, none⟩ := Or.inr (Or.inr (Or.inr ⟨hf, rfl⟩))
              cases add
              · rw [if_neg Bool.false_ne_true] at ha
                by_cases hs : (aget sc.modes l).isSome = true
                · rw [if_pos hs] at ha; cases ha; exact .unset hcl hsh rfl
                · rw [if_neg hs] at ha; cases ha
              · rw [if_pos rfl] at ha; cases ha; exact .set hcl hsh rfl
          · rw [if_neg hf] at ha; cases ha

theorem StatusMode.mem {l : Char} {g : Bool → Flags → Flags} {w : Nat} (hs : StatusMode l g w) : l ∈ prefixModes := by
  cases hs <;> decide

theorem has_setFlag (sc : SChan) (k : Str) (g : Flags → Flags) (x : Str) :
    ({ sc with members := setFlag sc.members k g } : SChan).has x = sc.has x := by
  simp only [SChan.has, setFlag, List.any_map]
  congr 1; funext p
  simp only [Function.comp]
  split <;> rfl

theorem ModeEffect.shaped {sc sc' : SChan} {c : MChange} (h : ModeEffect sc c sc') : Shaped c := by
  cases h with
  | status hs harg => exact Or.inl ⟨List.mem_append_left _ (List.mem_append_left _ hs.mem), _, harg⟩
  | ban hb _ harg | unban hb _ harg => exact Or.inl ⟨by rw [hb]; decide, _, harg⟩
  | otherList hl harg =>
    refine Or.inl ⟨List.mem_append_left _ (List.mem_append_right _ ?_), _, harg⟩
    exact List.mem_cons_of_mem _ hl
  | set _ hsh | unset _ hsh => exact hsh

theorem ModeEffect.name {sc sc' : SChan} {c : MChange} (h : ModeEffect sc c sc') : sc'.name = sc.name := by
  cases h <;> rfl

theorem ModeEffect.has {sc sc' : SChan} {c : MChange} (h : ModeEffect sc c sc') (x : Str) : sc'.has x = sc.has x := by
  cases h with
  | status => exact has_setFlag sc _ _ x
  | _ => rfl

theorem applyModes_invariant {P : SChan → Prop} (cs : List MChange)
    (hstep : ∀ c ∈ cs, ∀ sc sc', ModeEffect sc c sc' → P sc → P sc') {sc : SChan} (h : P sc) : P (applyModes sc cs).1 := by
  induction cs generalizing sc with
  | nil => exact h
  | cons c cs ih =>
    have ih' := @ih (fun c' hc' => hstep c' (List.mem_cons_of_mem _ hc'))
    unfold applyModes
    cases ha : sc.applyMode c with
    | none => exact ih' h
    | some sc1 => exact ih' (hstep c List.mem_cons_self sc sc1 (applyMode_effect ha) h)

theorem applyModes_name (cs : List MChange) (sc : SChan) : (applyModes sc cs).1.name = sc.name :=
  applyModes_invariant (P := fun sc' => sc'.name = sc.name) cs (fun _ _ _ _ h e => h.name.trans e) rfl

theorem applyModes_has (cs : List MChange) (sc : SChan) (x : Str) : (applyModes sc cs).1.has x = sc.has x :=
  applyModes_invariant (P := fun sc' => sc'.has x = sc.has x) cs (fun _ _ _ _ h e => (h.has x).trans e) rfl

theorem applyModes_shaped (cs : List MChange) (sc : SChan) : ∀ c ∈ (applyModes sc cs).2, Shaped c ∧ c ∈ cs := by
  induction cs generalizing sc with
  | nil => intro c hc; cases hc
  | cons c0 cs ih =>
    intro c hc
    unfold applyModes at hc
    cases ha : sc.applyMode c0 with
    | none =>
      rw [ha] at hc
      exact ⟨(ih _ c hc).1, List.mem_cons_of_mem _ (ih _ c hc).2⟩
    | some sc1 =>
      rw [ha] at hc
      rcases List.mem_cons.mp hc with rfl | hc
      · exact ⟨(applyMode_effect ha).shaped, List.mem_cons_self⟩
      · exact ⟨(ih _ c hc).1, List.mem_cons_of_mem _ (ih _ c hc).2⟩

end C10
