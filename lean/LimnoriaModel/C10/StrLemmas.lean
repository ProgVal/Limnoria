/-
C10 — string lemmas: comma / blank separated lists survive `join` then `split`; hostmasks built
from valid parts are recognised and split back into their parts.
-/
import LimnoriaModel.C10.Bot
namespace C10
open Py

theorem isEmpty_false {α : Type} {l : List α} (h : l ≠ []) : l.isEmpty = false := by
  cases l with
  | nil => exact absurd rfl h
  | cons _ _ => rfl

theorem split1_append {c : Char} {a : Str} (b : Str) (h : c ∉ a) : split1 c (a ++ c :: b) = some (a, b) := by
  induction a with
  | nil => simp [split1]
  | cons x a ih =>
    have hx : x ≠ c := fun e => h (by simp [e])
    have ha : c ∉ a := fun e => h (by simp [e])
    simp [split1, hx, ih ha]

theorem split1_none {c : Char} {a : Str} (h : c ∉ a) : split1 c a = none := by
  induction a with
  | nil => rfl
  | cons x a ih =>
    have hx : x ≠ c := fun e => h (by simp [e])
    have ha : c ∉ a := fun e => h (by simp [e])
    simp [split1, hx, ih ha]

theorem rsplit1_append {c : Char} (a : Str) {b : Str} (h : c ∉ b) : rsplit1 c (a ++ c :: b) = some (a, b) := by
  unfold rsplit1
  have : (a ++ c :: b).reverse = b.reverse ++ c :: a.reverse := by simp
  rw [this, split1_append _ (by simpa using h)]
  simp

/-! ### `split(c)` after `c.join` -/

theorem splitChar_single {c : Char} {a : Str} (h : c ∉ a) : splitChar c a = [a] := by
  induction a with
  | nil => rfl
  | cons x a ih =>
    have hx : x ≠ c := fun e => h (by simp [e])
    have ha : c ∉ a := fun e => h (by simp [e])
    simp [splitChar, hx, ih ha]

theorem splitChar_append {c : Char} {a : Str} (r : Str) (h : c ∉ a) :
    splitChar c (a ++ c :: r) = a :: splitChar c r := by
  induction a with
  | nil => simp [splitChar]
  | cons x a ih =>
    have hx : x ≠ c := fun e => h (by simp [e])
    have ha : c ∉ a := fun e => h (by simp [e])
    simp [splitChar, hx, ih ha]

theorem splitChar_joinChar {c : Char} {xs : List Str} (hne : xs ≠ []) (h : ∀ x ∈ xs, c ∉ x) :
    splitChar c (joinChar c xs) = xs := by
  induction xs with
  | nil => exact absurd rfl hne
  | cons p ps ih =>
    cases ps with
    | nil => simpa [joinChar] using splitChar_single (h p (by simp))
    | cons q r =>
      have hp : c ∉ p := h p (by simp)
      simp only [joinChar]
      rw [splitChar_append _ hp, ih (by simp) (fun x hx => h x (by simp [hx]))]

/-! ### `split()` after `' '.join` -/

def NoSp (s : Str) : Prop := ∀ c ∈ s, isSpace c = false

theorem splitWs_go_word {w : Str} (rest acc : Str) (h : NoSp w) :
    splitWs.go (w ++ rest) acc = splitWs.go rest (w.reverse ++ acc) := by
  induction w generalizing acc with
  | nil => simp
  | cons x w ih =>
    have hx : isSpace x = false := h x (by simp)
    have hw : NoSp w := fun c hc => h c (by simp [hc])
    simp only [List.cons_append, splitWs.go, hx, Bool.false_eq_true, ↓reduceIte]
    rw [ih _ hw]
    simp

theorem splitWs_joinChar {items : List Str} (hne : ∀ x ∈ items, x ≠ []) (hsp : ∀ x ∈ items, NoSp x) :
    splitWs (joinChar ' ' items) = items := by
  unfold splitWs
  induction items with
  | nil => simp [joinChar, splitWs.go]
  | cons p ps ih =>
    have hp : NoSp p := hsp p (by simp)
    have hpne : p ≠ [] := hne p (by simp)
    have hrev : p.reverse.isEmpty = false := by
      cases p with
      | nil => exact absurd rfl hpne
      | cons a t => simp
    cases ps with
    | nil =>
      have := splitWs_go_word [] [] hp
      simp only [List.append_nil] at this
      simp only [joinChar, this]
      simp [splitWs.go, hrev]
    | cons q r =>
      simp only [joinChar]
      rw [splitWs_go_word _ _ hp]
      have hsp' : isSpace ' ' = true := by decide
      simp only [List.append_nil, splitWs.go, hsp', ↓reduceIte, hrev, Bool.false_eq_true, List.reverse_reverse]
      rw [ih (fun x hx => hne x (by simp [hx])) (fun x hx => hsp x (by simp [hx]))]

theorem dropWhile_all {α : Type} {p : α → Bool} {l : List α} (h : ∀ x ∈ l, p x = true) : l.dropWhile p = [] := by
  induction l with
  | nil => rfl
  | cons a t ih =>
    rw [List.dropWhile_cons_of_pos (h a (by simp))]
    exact ih (fun x hx => h x (by simp [hx]))

theorem takeWhile_all {α : Type} {p : α → Bool} {l : List α} (h : ∀ x ∈ l, p x = true) : l.takeWhile p = l := by
  induction l with
  | nil => rfl
  | cons a t ih =>
    rw [List.takeWhile_cons_of_pos (h a (by simp))]
    rw [ih (fun x hx => h x (by simp [hx]))]

/-! ### hostmasks -/

theorem contains_iff {s : Str} {c : Char} : s.contains c = true ↔ c ∈ s := by
  simp

theorem endsWith_nl_false {s : Str} (h : NoSp s) : endsWithChar '\n' s = false := by
  unfold endsWithChar
  cases hl : s.getLast? with
  | none => rfl
  | some x =>
    have hx : x ∈ s := List.mem_of_getLast? hl
    have : isSpace x = false := h x hx
    by_cases hxn : x = '\n'
    · subst hxn; exact absurd this (by decide)
    · simp [hxn]

theorem nosp_mask {n i h : Str} (hn : NoSp n) (hi : NoSp i) (hh : NoSp h) : NoSp (mkHostmask n i h) := by
  intro c hc
  simp only [mkHostmask, List.mem_append, List.mem_cons] at hc
  rcases hc with (hc | rfl | hc) | rfl | hc
  · exact hn c hc
  · decide
  · exact hi c hc
  · decide
  · exact hh c hc

theorem hmStruct_mask {n i h : Str} (hn : n ≠ []) (hbang : '!' ∉ n) (hi : i ≠ []) (hh : h ≠ []) :
    hmStruct (mkHostmask n i h) = true := by
  cases n with
  | nil => exact absurd rfl hn
  | cons n0 nt =>
    cases i with
    | nil => exact absurd rfl hi
    | cons i0 it =>
      have hnt : '!' ∉ nt := fun e => hbang (by simp [e])
      have e : mkHostmask (n0 :: nt) (i0 :: it) h = n0 :: (nt ++ '!' :: (i0 :: (it ++ '@' :: h))) := by
        simp [mkHostmask]
      rw [e]
      simp only [hmStruct, split1_append _ hnt]
      have : (it ++ '@' :: h).dropLast = it ++ '@' :: h.dropLast := by
        rw [List.dropLast_append_of_ne_nil (by simp)]
        cases h with
        | nil => exact absurd rfl hh
        | cons a t => simp [List.dropLast]
      rw [this]
      simp

theorem isUserHostmask_mask {n i h : Str} (hn : n ≠ []) (hbang : '!' ∉ n) (hi : i ≠ []) (hh : h ≠ [])
    (sn : NoSp n) (si : NoSp i) (sh : NoSp h) : isUserHostmask (mkHostmask n i h) = true := by
  have hs := nosp_mask sn si sh
  unfold isUserHostmask
  simp only [endsWith_nl_false hs, Bool.false_eq_true, ↓reduceIte, hmStruct_mask hn hbang hi hh, Bool.and_true]
  rw [List.all_eq_true]
  intro c hc
  simp [hs c hc]

theorem splitHostmask_mask {n i h : Str} (hn : n ≠ []) (hbang : '!' ∉ n) (hi : i ≠ []) (hh : h ≠ [])
    (sn : NoSp n) (si : NoSp i) (sh : NoSp h) (hbi : '!' ∉ i) (hah : '@' ∉ h) :
    splitHostmask (mkHostmask n i h) = some (n, i, h) := by
  unfold splitHostmask
  rw [isUserHostmask_mask hn hbang hi hh sn si sh]
  have e : mkHostmask n i h = (n ++ '!' :: i) ++ '@' :: h := by simp [mkHostmask]
  simp only [↓reduceIte]
  rw [e, rsplit1_append _ hah]
  simp only [rsplit1_append _ hbi]

theorem hmStruct_noBang {w : Str} (h : '!' ∉ w) : hmStruct w = false := by
  cases w with
  | nil => rfl
  | cons a r =>
    have hr : '!' ∉ r := fun e => h (by simp [e])
    simp [hmStruct, split1_none hr]

theorem isUserHostmask_noBang {w : Str} (h : '!' ∉ w) : isUserHostmask w = false := by
  unfold isUserHostmask
  by_cases hl : endsWithChar '\n' w = true
  · have : '!' ∉ w.dropLast := fun e => h (List.dropLast_subset _ e)
    simp [hl, hmStruct_noBang this]
  · simp [hl, hmStruct_noBang h]

theorem splitHostmask_noBang {w : Str} (h : '!' ∉ w) : splitHostmask w = none := by
  unfold splitHostmask
  simp [isUserHostmask_noBang h]

end C10
