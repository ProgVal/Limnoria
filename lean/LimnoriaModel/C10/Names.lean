/-
C10 — the NAMES reply: what a batch of replies about one channel leaves alone (`Frame`), the effect of one
NAMES item, of one 353 line and of the whole reply (`NamesRel`).
-/
import LimnoriaModel.C10.SimMode
namespace C10
open Py

/-- what a batch of server replies about channel `key` leaves alone -/
structure Frame (s : Srv) (key : Str) (b b' : Bot) : Prop where
  nick : b'.nick = b.nick
  pfx : b'.pfx = b.pfx
  cfgNick : b'.cfgNick = b.cfgNick
  cfgIdent : b'.cfgIdent = b.cfgIdent
  isup : b'.isup = b.isup
  others : ∀ k, k ≠ key → aget b'.channels k = aget b.channels k
  n2h : ∀ x, aget b'.n2h x = aget b.n2h x ∨ ∃ u, aget s.users x = some u ∧ aget b'.n2h x = some u.mask

theorem Frame.refl (s : Srv) (key : Str) (b : Bot) : Frame s key b b :=
  ⟨rfl, rfl, rfl, rfl, rfl, fun _ _ => rfl, fun _ => Or.inl rfl⟩

theorem Frame.trans {s : Srv} {key : Str} {b b' b'' : Bot} (h1 : Frame s key b b') (h2 : Frame s key b' b'') :
    Frame s key b b'' where
  nick := h2.nick.trans h1.nick
  pfx := h2.pfx.trans h1.pfx
  cfgNick := h2.cfgNick.trans h1.cfgNick
  cfgIdent := h2.cfgIdent.trans h1.cfgIdent
  isup := h2.isup.trans h1.isup
  others := fun k hk => (h2.others k hk).trans (h1.others k hk)
  n2h := fun x => by
    rcases h2.n2h x with e | ⟨u, hu, e⟩
    · rw [e]; exact h1.n2h x
    · exact Or.inr ⟨u, hu, e⟩

/-- the view-relevant effect of one NAMES item -/
def addMember (c : Chan) (p : Str × Flags) : Chan :=
  { c with users := sadd c.users p.1,
           ops := if p.2.o then sadd c.ops p.1 else c.ops,
           halfops := if p.2.h then sadd c.halfops p.1 else c.halfops,
           voices := if p.2.v then sadd c.voices p.1 else c.voices }

/-- `S'` is `S` together with the members among `ps` whose flags satisfy `Q` -/
def Adds (Q : Flags → Prop) (ps : List (Str × Flags)) (S S' : List Str) : Prop :=
  ∀ x, x ∈ S' ↔ x ∈ S ∨ ∃ f, (x, f) ∈ ps ∧ Q f

theorem Adds.append {Q : Flags → Prop} {ps qs : List (Str × Flags)} {A B C : List Str}
    (h1 : Adds Q ps A B) (h2 : Adds Q qs B C) : Adds Q (ps ++ qs) A C := fun x => by
  rw [h2 x, h1 x]; simp only [List.mem_append]
  constructor
  · rintro ((h | ⟨f, hf, ho⟩) | ⟨f, hf, ho⟩)
    · exact Or.inl h
    · exact Or.inr ⟨f, Or.inl hf, ho⟩
    · exact Or.inr ⟨f, Or.inr hf, ho⟩
  · rintro (h | ⟨f, hf | hf, ho⟩)
    · exact Or.inl (Or.inl h)
    · exact Or.inl (Or.inr ⟨f, hf, ho⟩)
    · exact Or.inr ⟨f, hf, ho⟩

theorem adds_foldl (Q : Flags → Bool) (ps : List (Str × Flags)) (S : List Str) :
    Adds (fun f => Q f = true) ps S (ps.foldl (fun S p => if Q p.2 then sadd S p.1 else S) S) := by
  induction ps generalizing S with
  | nil => intro x; simp
  | cons p ps ih =>
    have h1 : Adds (fun f => Q f = true) [p] S (if Q p.2 then sadd S p.1 else S) := by
      intro x
      by_cases hp : Q p.2 = true
      · simp only [hp, ↓reduceIte, mem_sadd, List.mem_singleton]
        constructor
        · rintro (rfl | h)
          · exact Or.inr ⟨p.2, rfl, hp⟩
          · exact Or.inl h
        · rintro (h | ⟨f, rfl, _⟩)
          · exact Or.inr h
          · exact Or.inl rfl
      · simp only [hp, Bool.false_eq_true, ↓reduceIte, List.mem_singleton]
        constructor
        · exact Or.inl
        · rintro (h | ⟨f, rfl, hf⟩)
          · exact h
          · exact absurd hf hp
    exact h1.append (ih _)

theorem foldl_addMember (ps : List (Str × Flags)) (c : Chan) :
    ps.foldl addMember c =
      { c with users := ps.foldl (fun S p => sadd S p.1) c.users,
               ops := ps.foldl (fun S p => if p.2.o then sadd S p.1 else S) c.ops,
               halfops := ps.foldl (fun S p => if p.2.h then sadd S p.1 else S) c.halfops,
               voices := ps.foldl (fun S p => if p.2.v then sadd S p.1 else S) c.voices } := by
  induction ps generalizing c with
  | nil => rfl
  | cons p ps ih => rw [List.foldl_cons, ih]; rfl

theorem foldl_addMember_users (ps : List (Str × Flags)) (c : Chan) (x : Str) :
    x ∈ (ps.foldl addMember c).users ↔ x ∈ c.users ∨ ∃ f, (x, f) ∈ ps := by
  rw [foldl_addMember]
  refine (mem_foldl_sadd (fun p : Str × Flags => p.1) ps c.users x).trans ?_
  constructor
  · rintro (h | h)
    · exact Or.inl h
    · obtain ⟨⟨a, f⟩, hp, rfl⟩ := List.mem_map.mp h
      exact Or.inr ⟨f, hp⟩
  · rintro (h | ⟨f, hf⟩)
    · exact Or.inl h
    · exact Or.inr (List.mem_map.mpr ⟨(x, f), hf, rfl⟩)

theorem foldl_addMember_flags (ps : List (Str × Flags)) (c : Chan) :
    Adds (·.o = true) ps c.ops (ps.foldl addMember c).ops ∧ Adds (·.h = true) ps c.halfops (ps.foldl addMember c).halfops ∧
      Adds (·.v = true) ps c.voices (ps.foldl addMember c).voices := by
  rw [foldl_addMember]
  exact ⟨adds_foldl (·.o) ps c.ops, adds_foldl (·.h) ps c.halfops, adds_foldl (·.v) ps c.voices⟩

theorem foldl_addMember_rest (ps : List (Str × Flags)) (c : Chan) :
    (ps.foldl addMember c).topic = c.topic ∧ (ps.foldl addMember c).modes = c.modes ∧
    (ps.foldl addMember c).bans = c.bans ∧ (ps.foldl addMember c).created = c.created := by
  induction ps generalizing c with
  | nil => exact ⟨rfl, rfl, rfl, rfl⟩
  | cons p ps ih => rw [List.foldl_cons]; exact ih _

/-! ### pieces of a list, concatenated, give the list -/

theorem chunks_flatten {α : Type} (n : Nat) (l : List α) : (chunks n l).flatten = l := by
  fun_induction chunks n l with
  | case1 => rfl
  | case2 x xs ih =>
    simp only [List.flatten_cons, List.cons_append, List.cons.injEq, true_and, ih]
    exact List.take_append_drop _ _

theorem chunks_nonempty {α : Type} (n : Nat) (l : List α) : ∀ c ∈ chunks n l, c ≠ [] := by
  fun_induction chunks n l with
  | case1 => intro c hc; simp at hc
  | case2 x xs ih =>
    intro c hc
    simp only [List.mem_cons] at hc
    rcases hc with rfl | hc
    · simp
    · exact ih c hc

theorem chunks_map {α β : Type} (f : α → β) (n : Nat) (l : List α) : chunks n (l.map f) = (chunks n l).map (List.map f) := by
  fun_induction chunks n l with
  | case1 => simp [chunks]
  | case2 x xs ih =>
    simp only [List.map_cons]
    rw [chunks]
    simp only [List.cons.injEq]
    refine ⟨by simp [List.map_take], ?_⟩
    rw [← List.map_drop]
    exact ih

/-- the sigils of a member with all of its statuses -/
def fullSigils (f : Flags) : Str :=
  (if f.o then ['@'] else []) ++ (if f.h then ['%'] else []) ++ (if f.v then ['+'] else [])

/-- the statuses a NAMES / WHO reply shows: all of them with multi-prefix, otherwise only the highest -/
def shown (cfg : Cfg) (f : Flags) : Flags :=
  if cfg.multiPrefix then f else { o := f.o, h := !f.o && f.h, v := !f.o && !f.h && f.v }

theorem sigils_shown (cfg : Cfg) (f : Flags) : sigils cfg f = fullSigils (shown cfg f) := by
  obtain ⟨o, h, v⟩ := f
  unfold sigils shown fullSigils
  cases cfg.multiPrefix <;> cases o <;> cases h <;> cases v <;> rfl

theorem shown_o (cfg : Cfg) (f : Flags) : (shown cfg f).o = f.o := by
  unfold shown; split <;> rfl
theorem shown_h (cfg : Cfg) (f : Flags) (h : (shown cfg f).h = true) : f.h = true := by
  unfold shown at h; split at h
  · exact h
  · simp at h; exact h.2
theorem shown_v (cfg : Cfg) (f : Flags) (h : (shown cfg f).v = true) : f.v = true := by
  unfold shown at h; split at h
  · exact h
  · simp at h; exact h.2
theorem shown_mp {cfg : Cfg} (h : cfg.multiPrefix = true) (f : Flags) : shown cfg f = f := by
  simp [shown, h]

theorem marker_at (n : Str) (c : Chan) : Chan.addMarker n c '@' = { c with ops := sadd c.ops (lower n) } := by
  have : '@' ∈ Gen.sigilsOp := sigil_table_ok.1
  simp [Chan.addMarker, this]
theorem marker_pc (n : Str) (c : Chan) : Chan.addMarker n c '%' = { c with halfops := sadd c.halfops (lower n) } := by
  have h1 : '%' ∉ Gen.sigilsOp := sigil_table_ok.2.1
  have h2 : Gen.sigilHalfop = '%' := sigil_table_ok.2.2.2.1
  simp [Chan.addMarker, h1, h2]
theorem marker_pl (n : Str) (c : Chan) : Chan.addMarker n c '+' = { c with voices := sadd c.voices (lower n) } := by
  have h1 : '+' ∉ Gen.sigilsOp := sigil_table_ok.2.2.1
  have h2 : Gen.sigilHalfop = '%' := sigil_table_ok.2.2.2.1
  have h3 : Gen.sigilVoice = '+' := sigil_table_ok.2.2.2.2.1
  simp [Chan.addMarker, h1, h2, h3]

theorem addUser_full {n : Str} (hn : NickOK n) (f : Flags) (c : Chan) :
    c.addUser (fullSigils f ++ n) = addMember c (lower n, f) := by
  cases n with
  | nil => exact absurd rfl hn.ne
  | cons a t =>
    have h1 : decide (a ∈ Gen.sigilsStrip) = false := by simpa using (nick_noSigil hn).1 a (by simp)
    have h2 : decide (a ∈ Gen.sigilsLoop) = false := by simpa using (nick_noSigil hn).2.1 a (by simp)
    obtain ⟨_, _, _, _, _, l1, l2, l3, s1, s2, s3, _⟩ := sigil_table_ok
    obtain ⟨o, h, v⟩ := f
    cases o <;> cases h <;> cases v <;>
      simp [fullSigils, Chan.addUser, lstripP, h1, h2, l1, l2, l3, s1, s2, s3, marker_at, marker_pc, marker_pl, addMember]

theorem addUser_item (cfg : Cfg) {n : Str} (hn : NickOK n) (f : Flags) (c : Chan) :
    c.addUser (sigils cfg f ++ n) = addMember c (lower n, shown cfg f) := by
  rw [sigils_shown]; exact addUser_full hn _ c

theorem sigils_noBang {cfg : Cfg} (f : Flags) : '!' ∉ sigils cfg f := by
  obtain ⟨o, h, v⟩ := f
  unfold sigils
  cases o <;> cases h <;> cases v <;> cases cfg.multiPrefix <;> decide

theorem sigils_nosp {cfg : Cfg} (f : Flags) : NoSp (sigils cfg f) := by
  obtain ⟨o, h, v⟩ := f
  unfold sigils NoSp
  cases o <;> cases h <;> cases v <;> cases cfg.multiPrefix <;> decide

theorem lstrip353_full (f : Flags) {w : Str} (hw : ∀ a t, w = a :: t → a ∉ Gen.sigils353)
    (hne : w ≠ []) : lstripP (· ∈ Gen.sigils353) (fullSigils f ++ w) = w := by
  cases w with
  | nil => exact absurd rfl hne
  | cons a t =>
    have h1 : decide (a ∈ Gen.sigils353) = false := by simpa using hw a t rfl
    obtain ⟨_, _, _, _, _, _, _, _, _, _, _, n1, n2, n3⟩ := sigil_table_ok
    obtain ⟨o, h, v⟩ := f
    cases o <;> cases h <;> cases v <;>
      simp [fullSigils, lstripP, h1, n1, n2, n3]

theorem lstrip353_item (cfg : Cfg) (f : Flags) {w : Str} (hw : ∀ a t, w = a :: t → a ∉ Gen.sigils353)
    (hne : w ≠ []) : lstripP (· ∈ Gen.sigils353) (sigils cfg f ++ w) = w := by
  rw [sigils_shown]; exact lstrip353_full _ hw hne

/-- the name `do353` extracts from an item, with or without userhost-in-names -/
theorem item353Name_item (s : Srv) {u : SUser} (hu : UserOK u) (f : Flags) :
    item353Name (sigils s.cfg f ++ (if s.cfg.uhnames then u.mask else u.nick)) = sigils s.cfg f ++ u.nick := by
  unfold item353Name
  by_cases huh : s.cfg.uhnames = true
  · simp only [huh, ↓reduceIte]
    have e : sigils s.cfg f ++ u.mask = mkHostmask (sigils s.cfg f ++ u.nick) u.ident u.host := by
      simp [SUser.mask, mkHostmask]
    have hnb : '!' ∉ sigils s.cfg f ++ u.nick := by
      simp only [List.mem_append, not_or]; exact ⟨sigils_noBang f, hu.nick.noBang⟩
    have hne : sigils s.cfg f ++ u.nick ≠ [] := by
      intro h; exact hu.nick.ne (List.append_eq_nil_iff.mp h).2
    have hsp : NoSp (sigils s.cfg f ++ u.nick) := by
      intro c hc; simp only [List.mem_append] at hc
      rcases hc with hc | hc
      · exact sigils_nosp f c hc
      · exact hu.nick.nosp c hc
    rw [e, isUserHostmask_mask hne hnb hu.ident.ne hu.host.ne hsp hu.ident.nosp hu.host.nosp,
      splitHostmask_mask hne hnb hu.ident.ne hu.host.ne hsp hu.ident.nosp hu.host.nosp hu.ident.noBang hu.host.noAt]
    simp
  · simp only [huh, Bool.false_eq_true, ↓reduceIte]
    have hnb : '!' ∉ sigils s.cfg f ++ u.nick := by
      simp only [List.mem_append, not_or]; exact ⟨sigils_noBang f, hu.nick.noBang⟩
    simp [isUserHostmask_noBang hnb]

/-- facts about the members of a well-formed channel needed to read its NAMES / WHO lines -/
structure MembersOK (s : Srv) (ps : List (Str × Flags)) : Prop where
  user : ∀ p ∈ ps, ∃ u, aget s.users p.1 = some u ∧ UserOK u ∧ lower u.nick = p.1

theorem membersOK_of_wf {s : Srv} (hw : SrvWF s) {k : Str} {sc : SChan} (hsc : aget s.chans k = some sc) :
    MembersOK s sc.members := by
  refine ⟨fun p hp => ?_⟩
  have := (hw.chans k sc hsc).members p hp
  cases hu : aget s.users p.1 with
  | none => rw [hu] at this; cases this
  | some u => exact ⟨u, rfl, (hw.userOK hu).2, (hw.userOK hu).1⟩

theorem MembersOK.sub {s : Srv} {ps qs : List (Str × Flags)} (h : MembersOK s ps) (hs : ∀ p ∈ qs, p ∈ ps) :
    MembersOK s qs := ⟨fun p hp => h.user p (hs p hp)⟩

theorem namesItem_eq {s : Srv} {p : Str × Flags} {u : SUser} (hu : aget s.users p.1 = some u) :
    s.namesItem p = sigils s.cfg p.2 ++ (if s.cfg.uhnames then u.mask else u.nick) := by
  simp [Srv.namesItem, Srv.displayUser, hu]

theorem namesItem_ne_nosp {s : Srv} {ps : List (Str × Flags)} (h : MembersOK s ps) :
    (∀ x ∈ ps.map s.namesItem, x ≠ []) ∧ (∀ x ∈ ps.map s.namesItem, NoSp x) := by
  constructor
  · intro x hx
    obtain ⟨p, hp, rfl⟩ := List.mem_map.mp hx
    obtain ⟨u, hu, huo, _⟩ := h.user p hp
    rw [namesItem_eq hu]
    intro e
    have := (List.append_eq_nil_iff.mp e).2
    split at this
    · have : u.mask ≠ [] := by simp [SUser.mask]
      contradiction
    · exact huo.nick.ne this
  · intro x hx
    obtain ⟨p, hp, rfl⟩ := List.mem_map.mp hx
    obtain ⟨u, hu, huo, _⟩ := h.user p hp
    rw [namesItem_eq hu]
    intro c hc
    simp only [List.mem_append] at hc
    rcases hc with hc | hc
    · exact sigils_nosp _ c hc
    · split at hc
      · exact nosp_mask huo.nick.nosp huo.ident.nosp huo.host.nosp c hc
      · exact huo.nick.nosp c hc

/-- the members as a NAMES reply shows them -/
def shownMembers (s : Srv) (ps : List (Str × Flags)) : List (Str × Flags) := ps.map (fun p => (p.1, shown s.cfg p.2))

theorem foldl_addUser_items {s : Srv} {ps : List (Str × Flags)} (h : MembersOK s ps) (c : Chan) :
    (ps.map s.namesItem).foldl (fun c item => c.addUser (item353Name item)) c = (shownMembers s ps).foldl addMember c := by
  induction ps generalizing c with
  | nil => rfl
  | cons p ps ih =>
    obtain ⟨u, hu, huo, hk⟩ := h.user p (by simp)
    simp only [shownMembers, List.map_cons, List.foldl_cons]
    rw [namesItem_eq hu, item353Name_item s huo, addUser_item s.cfg huo.nick, hk]
    exact ih (h.sub (fun q hq => by simp [hq])) _

/-- with userhost-in-names one item records the member's hostmask -/
theorem n2h353_item_uh {s : Srv} (huh : s.cfg.uhnames = true) {p : Str × Flags} {u : SUser}
    (hu : aget s.users p.1 = some u) (huo : UserOK u) (hk : lower u.nick = p.1) (n2h : List (Str × Str)) :
    n2h353 n2h (s.namesItem p) = aset n2h p.1 u.mask := by
  rw [namesItem_eq hu]
  unfold n2h353
  have e : sigils s.cfg p.2 ++ u.mask = mkHostmask (sigils s.cfg p.2 ++ u.nick) u.ident u.host := by
    simp [SUser.mask, mkHostmask]
  have hisu : isUserHostmask (sigils s.cfg p.2 ++ u.mask) = true := by
    rw [e]
    apply isUserHostmask_mask
    · intro h; exact huo.nick.ne (List.append_eq_nil_iff.mp h).2
    · simp only [List.mem_append, not_or]; exact ⟨sigils_noBang _, huo.nick.noBang⟩
    · exact huo.ident.ne
    · exact huo.host.ne
    · intro c hc; simp only [List.mem_append] at hc
      rcases hc with hc | hc
      · exact sigils_nosp _ c hc
      · exact huo.nick.nosp c hc
    · exact huo.ident.nosp
    · exact huo.host.nosp
  have hname := item353Name_item s huo p.2
  simp only [huh, ↓reduceIte] at hname ⊢
  rw [hisu, hname]
  simp only [↓reduceIte]
  have hn1 : lstripP (· ∈ Gen.sigils353) (sigils s.cfg p.2 ++ u.nick) = u.nick :=
    lstrip353_item s.cfg p.2 (fun a t e => (nick_noSigil huo.nick).2.2 a (by rw [e]; simp)) huo.nick.ne
  have hn2 : lstripP (· ∈ Gen.sigils353) (sigils s.cfg p.2 ++ u.mask) = u.mask := by
    apply lstrip353_item s.cfg p.2
    · intro a t e
      have : u.mask = u.nick ++ ('!' :: u.ident ++ '@' :: u.host) := by simp [SUser.mask]
      rw [this] at e
      cases hn : u.nick with
      | nil => exact absurd hn huo.nick.ne
      | cons a' t' =>
        rw [hn] at e
        simp only [List.cons_append, List.cons.injEq] at e
        rw [← e.1]
        exact (nick_noSigil huo.nick).2.2 a' (by rw [hn]; simp)
    · simp [SUser.mask]
  rw [hn1, hn2, hk]

/-- the hostmask part of one 353 line: entries are left alone or set to the right value -/
theorem foldl_n2h353_items {s : Srv} {ps : List (Str × Flags)} (h : MembersOK s ps)
    (n2h : List (Str × Str)) (x : Str) :
    aget ((ps.map s.namesItem).foldl n2h353 n2h) x = aget n2h x ∨
      ∃ u, aget s.users x = some u ∧ aget ((ps.map s.namesItem).foldl n2h353 n2h) x = some u.mask := by
  induction ps generalizing n2h with
  | nil => exact Or.inl rfl
  | cons p ps ih =>
    obtain ⟨u, hu, huo, hk⟩ := h.user p (by simp)
    simp only [List.map_cons, List.foldl_cons]
    have hstep : n2h353 n2h (s.namesItem p) = n2h ∨ n2h353 n2h (s.namesItem p) = aset n2h p.1 u.mask := by
      by_cases huh : s.cfg.uhnames = true
      · exact Or.inr (n2h353_item_uh huh hu huo hk n2h)
      · left
        rw [namesItem_eq hu]
        unfold n2h353
        have hnb : '!' ∉ sigils s.cfg p.2 ++ u.nick := by
          simp only [List.mem_append, not_or]; exact ⟨sigils_noBang _, huo.nick.noBang⟩
        simp only [huh, Bool.false_eq_true, ↓reduceIte, isUserHostmask_noBang hnb]
    have ih' := ih (h.sub (fun q hq => by simp [hq])) (n2h353 n2h (s.namesItem p))
    rcases ih' with e | ⟨u', hu', e⟩
    · rw [e]
      rcases hstep with e2 | e2
      · rw [e2]; exact Or.inl rfl
      · rw [e2, aget_aset]
        by_cases hx : p.1 = x
        · subst hx; simp only [↓reduceIte]
          right; exact ⟨u, hu, rfl⟩
        · simp [hx]
    · exact Or.inr ⟨u', hu', e⟩

/-- with userhost-in-names a 353 line leaves every listed member's hostmask recorded -/
theorem foldl_n2h353_sets {s : Srv} (huh : s.cfg.uhnames = true) {ps : List (Str × Flags)} (h : MembersOK s ps)
    (n2h : List (Str × Str)) :
    ∀ p ∈ ps, ∃ u, aget s.users p.1 = some u ∧ aget ((ps.map s.namesItem).foldl n2h353 n2h) p.1 = some u.mask := by
  induction ps generalizing n2h with
  | nil => intro p hp; cases hp
  | cons p0 ps ih =>
    intro p hp
    obtain ⟨u0, hu0, huo0, hk0⟩ := h.user p0 (by simp)
    have hrest := h.sub (qs := ps) (fun q hq => by simp [hq])
    simp only [List.map_cons, List.foldl_cons]
    rw [n2h353_item_uh huh hu0 huo0 hk0]
    rcases List.mem_cons.mp hp with rfl | hp'
    · refine ⟨u0, hu0, ?_⟩
      rcases foldl_n2h353_items hrest (aset n2h p.1 u0.mask) p.1 with e | ⟨u', hu', e⟩
      · rw [e, aget_aset_self]
      · rw [hu0] at hu'; cases hu'; exact e
    · exact ih hrest _ p hp'

/-- what NAMES lines listing the members `ps` do to the bot's record `ch` of the channel -/
structure NamesRel (ty : Str) (ps : List (Str × Flags)) (ch ch' : Chan) : Prop where
  users : ∀ x, x ∈ ch'.users ↔ x ∈ ch.users ∨ ∃ f, (x, f) ∈ ps
  ops : ∀ x, x ∈ ch'.ops ↔ x ∈ ch.ops ∨ ∃ f, (x, f) ∈ ps ∧ f.o = true
  halfops : ∀ x, x ∈ ch'.halfops ↔ x ∈ ch.halfops ∨ ∃ f, (x, f) ∈ ps ∧ f.h = true
  voices : ∀ x, x ∈ ch'.voices ↔ x ∈ ch.voices ∨ ∃ f, (x, f) ∈ ps ∧ f.v = true
  topic : ch'.topic = ch.topic
  bans : ch'.bans = ch.bans
  modes : ∀ m, aget ch'.modes m = aget ch.modes m ∨ (ty = ['@'] ∧ m = 's' ∧ aget ch'.modes m = some none)

theorem NamesRel.nil (ty : Str) (ch : Chan) : NamesRel ty [] ch ch :=
  ⟨by simp, by simp, by simp, by simp, rfl, rfl, fun _ => Or.inl rfl⟩

theorem NamesRel.append {ty : Str} {ps qs : List (Str × Flags)} {a b c : Chan}
    (h1 : NamesRel ty ps a b) (h2 : NamesRel ty qs b c) : NamesRel ty (ps ++ qs) a c where
  users := fun x => by
    rw [h2.users, h1.users]; simp only [List.mem_append]
    constructor
    · rintro ((h | ⟨f, hf⟩) | ⟨f, hf⟩)
      · exact Or.inl h
      · exact Or.inr ⟨f, Or.inl hf⟩
      · exact Or.inr ⟨f, Or.inr hf⟩
    · rintro (h | ⟨f, hf | hf⟩)
      · exact Or.inl (Or.inl h)
      · exact Or.inl (Or.inr ⟨f, hf⟩)
      · exact Or.inr ⟨f, hf⟩
  ops := Adds.append h1.ops h2.ops
  halfops := Adds.append h1.halfops h2.halfops
  voices := Adds.append h1.voices h2.voices
  topic := h2.topic.trans h1.topic
  bans := h2.bans.trans h1.bans
  modes := fun m => by
    rcases h2.modes m with e | ⟨a, b', e⟩
    · rw [e]; exact h1.modes m
    · exact Or.inr ⟨a, b', e⟩

/-- the context in which the bot reads the server's numerics -/
structure AtSrv (s : Srv) (b : Bot) : Prop where
  wf : SrvWF s
  nick : b.nick = s.bot
  isup : IsupOK b.isup

theorem AtSrv.server {s : Srv} {b : Bot} (h : AtSrv s b) : ServerOK s.cfg.server ∧ s.cfg.server ≠ b.nick := by
  have hsv := serverOK_of_cfg h.wf.cfg
  exact ⟨hsv, by rw [h.nick]; exact server_ne_nick hsv h.wf.botNickOK⟩

theorem AtSrv.frame {s : Srv} {key : Str} {b b' : Bot} (h : AtSrv s b) (hf : Frame s key b b') : AtSrv s b' :=
  ⟨h.wf, hf.nick.trans h.nick, by rw [hf.isup]; exact h.isup⟩

def secretMark (ty : Str) (c : Chan) : Chan :=
  if ty = ['@'] then { c with modes := aset c.modes 's' none } else c

theorem namesRel_line (ty : Str) (ps : List (Str × Flags)) (ch : Chan) :
    NamesRel ty ps ch (secretMark ty (ps.foldl addMember ch)) := by
  have hr := foldl_addMember_rest ps ch
  have hf := foldl_addMember_flags ps ch
  unfold secretMark
  by_cases ht : ty = ['@']
  · simp only [ht, ↓reduceIte]
    refine ⟨foldl_addMember_users ps ch, hf.1, hf.2.1, hf.2.2, hr.1, hr.2.2.1, ?_⟩
    intro m
    show aget (aset (ps.foldl addMember ch).modes 's' none) m = _ ∨ _
    rw [aget_aset, hr.2.1]
    by_cases hm : 's' = m
    · subst hm; simp
    · simp [hm]
  · simp only [ht, ↓reduceIte]
    exact ⟨foldl_addMember_users ps ch, hf.1, hf.2.1, hf.2.2, hr.1, hr.2.2.1, fun m => Or.inl (by rw [hr.2.1])⟩

theorem names_line {s : Srv} {b : Bot} (h : AtSrv s b) (name ty : Str) {ps : List (Str × Flags)}
    (hps : MembersOK s ps) {ch : Chan} (hch : aget b.channels (lower name) = some ch) :
    Frame s (lower name) b (b.feed ⟨s.cfg.server, "353".toList, [s.bot, ty, name, joinChar ' ' (ps.map s.namesItem)]⟩).1 ∧
    (∃ ch', aget (b.feed ⟨s.cfg.server, "353".toList, [s.bot, ty, name, joinChar ' ' (ps.map s.namesItem)]⟩).1.channels (lower name) = some ch' ∧
      NamesRel ty (shownMembers s ps) ch ch') ∧
    (s.cfg.uhnames = true → ∀ p ∈ ps, ∃ u, aget s.users p.1 = some u ∧
      aget (b.feed ⟨s.cfg.server, "353".toList, [s.bot, ty, name, joinChar ' ' (ps.map s.namesItem)]⟩).1.n2h p.1 = some u.mask) := by
  obtain ⟨hsv, hne⟩ := h.server
  have hfeed := feed_server (b := b) hsv hne "353".toList [ty, name, joinChar ' ' (ps.map s.namesItem)]
    (by simp only [Bot.ircCmd, cmdOf_353])
  rw [h.nick] at hfeed
  have hsplit : splitWs (joinChar ' ' (ps.map s.namesItem)) = ps.map s.namesItem :=
    splitWs_joinChar (namesItem_ne_nosp hps).1 (namesItem_ne_nosp hps).2
  have hcn : b.chanOrNew name = ch := by simp only [Bot.chanOrNew, Bot.chan, hch, Option.getD_some]
  have hres : (b.feed ⟨s.cfg.server, "353".toList, [s.bot, ty, name, joinChar ' ' (ps.map s.namesItem)]⟩).1 =
      { b with channels := aset b.channels (lower name) (secretMark ty ((shownMembers s ps).foldl addMember ch)),
               n2h := (ps.map s.namesItem).foldl n2h353 b.n2h } := by
    rw [hfeed]
    simp only [Bot.stateCmd, cmdOf_353, Bot.do353, hsplit, hcn, foldl_addUser_items hps, Bot.setChan, secretMark]
  rw [hres]
  refine ⟨⟨rfl, rfl, rfl, rfl, rfl, fun k hk => aget_aset_ne _ _ (Ne.symm hk), ?_⟩,
    ⟨_, aget_aset_self _ _ _, namesRel_line ty (shownMembers s ps) ch⟩, ?_⟩
  · intro x
    exact foldl_n2h353_items hps b.n2h x
  · intro huh p hp
    exact foldl_n2h353_sets huh hps b.n2h p hp

/-- a numeric without handler (366, 368, 333, ...) changes nothing -/
theorem noop_line {s : Srv} {b : Bot} (h : AtSrv s b) (cmd : Str) (rest : List Str) (hk : cmdOf cmd = .other) :
    (b.feed ⟨s.cfg.server, cmd, s.bot :: rest⟩).1 = b := by
  obtain ⟨hsv, hne⟩ := h.server
  have hfeed := feed_server (b := b) hsv hne cmd rest (by simp only [Bot.ircCmd, hk])
  rw [h.nick] at hfeed
  rw [hfeed]
  simp only [Bot.stateCmd, hk]

theorem shownMembers_append (s : Srv) (ps qs : List (Str × Flags)) :
    shownMembers s (ps ++ qs) = shownMembers s ps ++ shownMembers s qs := by simp [shownMembers]

/-- a recorded hostmask that is right stays right within a frame -/
theorem Frame.keeps {s : Srv} {key : Str} {b b' : Bot} (hf : Frame s key b b') {x : Str} {u : SUser}
    (hu : aget s.users x = some u) (h : aget b.n2h x = some u.mask) : aget b'.n2h x = some u.mask := by
  rcases hf.n2h x with e | ⟨u', hu', e⟩
  · rw [e]; exact h
  · rw [hu] at hu'; cases hu'; exact e

theorem names_lines {s : Srv} (name ty : Str) (pss : List (List (Str × Flags))) :
    ∀ {b : Bot} {ch : Chan}, AtSrv s b → MembersOK s pss.flatten → aget b.channels (lower name) = some ch →
      Frame s (lower name) b (b.recvAll (pss.map (fun ps => emit s.cfg.server "353" [s.bot, ty, name, joinChar ' ' (ps.map s.namesItem)]))) ∧
      (∃ ch', aget (b.recvAll (pss.map (fun ps => emit s.cfg.server "353" [s.bot, ty, name, joinChar ' ' (ps.map s.namesItem)]))).channels (lower name) = some ch' ∧
        NamesRel ty (shownMembers s pss.flatten) ch ch') ∧
      (s.cfg.uhnames = true → ∀ p ∈ pss.flatten, ∃ u, aget s.users p.1 = some u ∧
        aget (b.recvAll (pss.map (fun ps => emit s.cfg.server "353" [s.bot, ty, name, joinChar ' ' (ps.map s.namesItem)]))).n2h p.1 = some u.mask) := by
  induction pss with
  | nil => intro b ch _ _ hch; exact ⟨Frame.refl _ _ _, ⟨ch, hch, NamesRel.nil ty ch⟩, fun _ p hp => by simp at hp⟩
  | cons ps pss ih =>
    intro b ch h hm hch
    simp only [List.map_cons, recvAll_cons, recv_emit, List.flatten_cons]
    have hm1 : MembersOK s ps := hm.sub (fun p hp => by rw [List.flatten_cons]; exact List.mem_append_left _ hp)
    have hm2 : MembersOK s pss.flatten := hm.sub (fun p hp => by rw [List.flatten_cons]; exact List.mem_append_right _ hp)
    obtain ⟨hf1, ⟨ch1, hch1, hr1⟩, hn1⟩ := names_line h name ty hm1 hch
    obtain ⟨hf2, ⟨ch2, hch2, hr2⟩, hn2⟩ := ih (h.frame hf1) hm2 hch1
    refine ⟨hf1.trans hf2, ⟨ch2, hch2, by rw [shownMembers_append]; exact hr1.append hr2⟩, ?_⟩
    intro huh p hp
    rcases List.mem_append.mp hp with hp | hp
    · obtain ⟨u, hu, hn⟩ := hn1 huh p hp
      exact ⟨u, hu, hf2.keeps hu hn⟩
    · exact hn2 huh p hp

theorem names_reply {s : Srv} {b : Bot} (h : AtSrv s b) {k : Str} {sc : SChan} (hsc : aget s.chans k = some sc) {ch : Chan}
    (hch : aget b.channels k = some ch) :
    Frame s k b (b.recvAll (s.namesReply sc)) ∧
    (∃ ch', aget (b.recvAll (s.namesReply sc)).channels k = some ch' ∧
      NamesRel (if (aget sc.modes 's').isSome then ['@'] else if (aget sc.modes 'p').isSome then ['*'] else ['='])
        (shownMembers s sc.members) ch ch') ∧
    (s.cfg.uhnames = true → ∀ p ∈ sc.members, ∃ u, aget s.users p.1 = some u ∧
      aget (b.recvAll (s.namesReply sc)).n2h p.1 = some u.mask) := by
  have hkey := (h.wf.chans k sc hsc).key
  subst hkey
  unfold Srv.namesReply
  simp only [recvAll_append, chunks_map, List.map_map]
  have hm : MembersOK s (chunks s.cfg.namesPerLine sc.members).flatten := by
    rw [chunks_flatten]; exact membersOK_of_wf h.wf hsc
  obtain ⟨hf, ⟨ch', hch', hr⟩, hn⟩ := names_lines (s := s) sc.name
    (if (aget sc.modes 's').isSome then ['@'] else if (aget sc.modes 'p').isSome then ['*'] else ['='])
    (chunks s.cfg.namesPerLine sc.members) h hm hch
  rw [chunks_flatten] at hr hn
  have hnoop := noop_line (h.frame hf) "366".toList [sc.name, "End of /NAMES list.".toList] cmdOf_366
  simp only [recvAll_cons, recv_emit, recvAll_nil]
  have e : ((fun items => emit s.cfg.server "353" [s.bot, (if (aget sc.modes 's').isSome then ['@'] else if (aget sc.modes 'p').isSome then ['*'] else ['=']), sc.name, joinChar ' ' items]) ∘ List.map s.namesItem) =
      (fun ps => emit s.cfg.server "353" [s.bot, (if (aget sc.modes 's').isSome then ['@'] else if (aget sc.modes 'p').isSome then ['*'] else ['=']), sc.name, joinChar ' ' (ps.map s.namesItem)]) := rfl
  rw [e, hnoop]
  exact ⟨hf, ⟨ch', hch', hr⟩, hn⟩

end C10
