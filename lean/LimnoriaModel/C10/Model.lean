/-
C10 — the model: collections (`Coll`), the bot side (`Bot`: ChannelState / IrcState / the nick and
prefix bookkeeping of Irc.feedMsg), the reference server (`Srv`) with the runner `run`, batches (`Batch`) and
followIdentificationThroughNickChanges (`Follow`).
-/
import LimnoriaModel.C10.Coll
import LimnoriaModel.C10.Bot
import LimnoriaModel.C10.Srv
import LimnoriaModel.C10.Batch
import LimnoriaModel.C10.Follow
