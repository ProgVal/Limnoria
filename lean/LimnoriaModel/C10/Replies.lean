/-
C10 — the other replies a joining client gets or asks for: WHO, topic (332/333), channel modes (324),
creation time (329), ban list (367/368); replies arriving after the bot has left are ignored.
-/
import LimnoriaModel.C10.Names
namespace C10
open Py

theorem who_line {s : Srv} {b : Bot} (h : AtSrv s b) (sc : SChan) {p : Str × Flags} {u : SUser}
    (hu : aget s.users p.1 = some u) (hk : lower u.nick = p.1) :
    b.recv (s.whoLine sc p) = { b with n2h := aset b.n2h p.1 u.mask } := by
  obtain ⟨hsv, hne⟩ := h.server
  unfold Srv.whoLine
  simp only [Srv.displayUser, hu, Option.getD_some]
  by_cases hx : s.cfg.whox = true
  · simp only [hx, ↓reduceIte, recv_emit]
    have hfeed := feed_server (b := b) hsv hne "354".toList
      [['1'], u.ident, "255.255.255.255".toList, u.host, u.nick, 'H' :: sigils s.cfg p.2, ['0'], "real name".toList]
      (by simp only [Bot.ircCmd, cmdOf_354])
    rw [h.nick] at hfeed
    rw [hfeed]
    simp only [Bot.stateCmd, cmdOf_354, Bot.do354, ↓reduceIte, hk]
    rfl
  · simp only [hx, Bool.false_eq_true, ↓reduceIte, recv_emit]
    have hfeed := feed_server (b := b) hsv hne "352".toList
      [sc.name, u.ident, u.host, s.cfg.server, u.nick, 'H' :: sigils s.cfg p.2, "0 real name".toList]
      (by simp only [Bot.ircCmd, cmdOf_352])
    rw [h.nick] at hfeed
    rw [hfeed]
    simp only [Bot.stateCmd, cmdOf_352, Bot.do352, nth, List.getElem?_cons_succ, List.getElem?_cons_zero, hk]
    rfl

theorem who_lines {s : Srv} (sc : SChan) (key : Str) (ps : List (Str × Flags)) :
    ∀ {b : Bot}, AtSrv s b → MembersOK s ps →
      Frame s key b (b.recvAll (ps.map (s.whoLine sc))) ∧
      (b.recvAll (ps.map (s.whoLine sc))).channels = b.channels ∧
      ∀ p ∈ ps, ∃ u, aget s.users p.1 = some u ∧ aget (b.recvAll (ps.map (s.whoLine sc))).n2h p.1 = some u.mask := by
  induction ps with
  | nil => intro b _ _; exact ⟨Frame.refl _ _ _, rfl, by simp⟩
  | cons p ps ih =>
    intro b h hm
    obtain ⟨u, hu, _, hk⟩ := hm.user p (by simp)
    simp only [List.map_cons, recvAll_cons]
    rw [who_line h sc hu hk]
    have hf1 : Frame s key b { b with n2h := aset b.n2h p.1 u.mask } := by
      refine ⟨rfl, rfl, rfl, rfl, rfl, fun _ _ => rfl, fun x => ?_⟩
      show aget (aset b.n2h p.1 u.mask) x = _ ∨ _
      rw [aget_aset]
      by_cases hx : p.1 = x
      · subst hx; right; exact ⟨u, hu, by simp⟩
      · left; simp [hx]
    obtain ⟨hf2, hc2, hn2⟩ := ih (h.frame hf1) (hm.sub (fun q hq => by simp [hq]))
    refine ⟨hf1.trans hf2, hc2, ?_⟩
    intro q hq
    simp only [List.mem_cons] at hq
    rcases hq with rfl | hq
    · refine ⟨u, hu, ?_⟩
      rcases hf2.n2h q.1 with e | ⟨u', hu', e⟩
      · rw [e]; show aget (aset b.n2h q.1 u.mask) q.1 = _; rw [aget_aset_self]
      · rw [hu] at hu'; cases hu'; exact e
    · exact hn2 q hq

theorem who_reply {s : Srv} {b : Bot} (h : AtSrv s b) {k : Str} {sc : SChan} (hsc : aget s.chans k = some sc) :
    Frame s k b (b.recvAll (s.whoReply sc)) ∧ (b.recvAll (s.whoReply sc)).channels = b.channels ∧
    ∀ p ∈ sc.members, ∃ u, aget s.users p.1 = some u ∧ aget (b.recvAll (s.whoReply sc)).n2h p.1 = some u.mask := by
  unfold Srv.whoReply
  simp only [recvAll_append]
  obtain ⟨hf, hc, hn⟩ := who_lines (s := s) sc k sc.members h (membersOK_of_wf h.wf hsc)
  obtain ⟨hsv, hne⟩ := (h.frame hf).server
  have hfeed := feed_server (b := b.recvAll (sc.members.map (s.whoLine sc))) hsv hne "315".toList
    [sc.name, "End of /WHO list.".toList] (by simp only [Bot.ircCmd, cmdOf_315]; rfl)
  rw [(h.frame hf).nick] at hfeed
  simp only [recvAll_cons, recv_emit, recvAll_nil, hfeed, Bot.stateCmd, cmdOf_315]
  exact ⟨hf, hc, hn⟩

/-- replies that only touch the bot's record of channel `k` (and leave correct hostmasks correct) keep the
coupling; the server may at the same time mark channel `k` as synced and more users as told -/
theorem coupled_of_frame {s s' : Srv} {b b' : Bot} {k : Str} (hc : Coupled s b) (hf : Frame s k b b')
    (hu : s'.users = s.users) (hch : s'.chans = s.chans) (hbot : s'.bot = s.bot) (hcfg : s'.cfg = s.cfg)
    (hother : ∀ k', k' ≠ k → s'.mSynced k' = s.mSynced k' ∧ s'.bSynced k' = s.bSynced k')
    (hrel : ChanRel s' k (aget s.chans k) (aget b'.channels k))
    (htold : ∀ x u, aget s.users x = some u → x ∈ s'.told → x ∈ s.told ∨ aget b'.n2h x = some u.mask) :
    Coupled s' b' := by
  have hbk : s'.botKey = s.botKey := by simp [Srv.botKey, hbot]
  refine ⟨by rw [hbot]; exact hf.nick.trans hc.nick, ?_, ?_, ?_, by rw [hcfg]; exact hf.cfgNick.trans hc.cfgNick,
    by rw [hcfg]; exact hf.cfgIdent.trans hc.cfgIdent, by rw [hf.isup]; exact hc.isup⟩
  · intro k'
    rw [hch]
    by_cases hk : k' = k
    · subst hk; exact hrel
    · rw [hf.others k' hk]
      have := hc.chans k'
      obtain ⟨h1, h2⟩ := hother k' hk
      cases ha : aget s.chans k' <;> cases hb : aget b.channels k' <;> rw [ha, hb] at this <;>
        simp only [ChanRel, hbk, hcfg, h1, h2] at this ⊢ <;> exact this
  · intro x u hux ht
    rw [hu] at hux
    rcases htold x u hux ht with h | h
    · exact hf.keeps hux (hc.hosts x u hux h)
    · exact h
  · intro kc sc hsc hb
    rw [hch] at hsc; rw [hbk] at hb ⊢; rw [hu, hf.pfx]
    exact hc.pfx kc sc hsc hb

theorem secret_is_flag {modes : List (Char × Option Str)} (hm : ∀ e ∈ modes, ModeEntryOK e)
    (h : (aget modes 's').isSome = true) : aget modes 's' = some none := by
  cases hg : aget modes 's' with
  | none => rw [hg] at h; cases h
  | some v =>
    have := hm ('s', v) (aget_mem hg)
    rcases this with ⟨hcls, _⟩ | ⟨_, hv⟩
    · have hns : 's' ∉ keyModes ++ limitModes := by decide
      exact absurd hcls hns
    · simp only at hv; rw [hv]

theorem mem_shown {s : Srv} {ps : List (Str × Flags)} {x : Str} {f' : Flags} (h : (x, f') ∈ shownMembers s ps) :
    ∃ f, (x, f) ∈ ps ∧ f' = shown s.cfg f := by
  simp only [shownMembers, List.mem_map, Prod.mk.injEq] at h
  obtain ⟨p, hp, rfl, rfl⟩ := h
  exact ⟨p.2, hp, rfl⟩

/-- after NAMES lines for all members, a record that matched still matches -/
theorem ChanMatches.after_names {s : Srv} {ms bs : Bool} {sc : SChan} {ch ch' : Chan}
    (hm : ChanMatches s.cfg.multiPrefix ms bs sc ch) (hmodes : ∀ e ∈ sc.modes, ModeEntryOK e)
    (hr : NamesRel (if (aget sc.modes 's').isSome then ['@'] else if (aget sc.modes 'p').isSome then ['*'] else ['='])
      (shownMembers s sc.members) ch ch') :
    ChanMatches s.cfg.multiPrefix ms bs sc ch' := by
  have hsecret : ∀ m, aget ch'.modes m = aget ch.modes m ∨ (aget ch'.modes m = aget sc.modes m) := by
    intro m
    rcases hr.modes m with e | ⟨hty, rfl, e⟩
    · exact Or.inl e
    · right; rw [e]
      by_cases hs : (aget sc.modes 's').isSome = true
      · exact (secret_is_flag hmodes hs).symm
      · simp only [hs, Bool.false_eq_true, ↓reduceIte] at hty
        split at hty <;> simp at hty
  refine ⟨⟨?_, ?_⟩, ⟨?_, ?_⟩, ⟨?_, ?_⟩, ⟨?_, ?_⟩, hr.topic.trans hm.topic, ?_, ?_, ?_, ?_⟩
  · intro x hx
    rcases (hr.users x).mp hx with h | ⟨f', hf'⟩
    · exact hm.users.sub x h
    · obtain ⟨f, hf, _⟩ := mem_shown hf'; exact ⟨f, hf, trivial⟩
  · intro _ x hex; exact (hr.users x).mpr (Or.inl (hm.users.sup trivial x hex))
  · intro x hx
    rcases (hr.ops x).mp hx with h | ⟨f', hf', ho⟩
    · exact hm.ops.sub x h
    · obtain ⟨f, hf, rfl⟩ := mem_shown hf'; exact ⟨f, hf, show f.o = true from (shown_o s.cfg f).symm.trans ho⟩
  · intro _ x hex; exact (hr.ops x).mpr (Or.inl (hm.ops.sup trivial x hex))
  · intro x hx
    rcases (hr.halfops x).mp hx with h | ⟨f', hf', ho⟩
    · exact hm.halfops.sub x h
    · obtain ⟨f, hf, rfl⟩ := mem_shown hf'; exact ⟨f, hf, shown_h s.cfg f ho⟩
  · intro hmp x hex; exact (hr.halfops x).mpr (Or.inl (hm.halfops.sup hmp x hex))
  · intro x hx
    rcases (hr.voices x).mp hx with h | ⟨f', hf', ho⟩
    · exact hm.voices.sub x h
    · obtain ⟨f, hf, rfl⟩ := mem_shown hf'; exact ⟨f, hf, shown_v s.cfg f ho⟩
  · intro hmp x hex; exact (hr.voices x).mpr (Or.inl (hm.voices.sup hmp x hex))
  · intro m
    rcases hsecret m with e | e
    · rw [e]; exact hm.modes m
    · exact Or.inl e
  · intro hs m
    rcases hsecret m with e | e
    · rw [e]; exact hm.modesFull hs m
    · exact e
  · intro x hx; rw [hr.bans] at hx; exact hm.bans x hx
  · intro hs x hx; rw [hr.bans]; exact hm.bansFull hs x hx

theorem mem_addAll {l xs : List Str} {x : Str} : x ∈ addAll l xs ↔ x ∈ l ∨ x ∈ xs := by
  have h := mem_foldl_sadd id xs l x
  rwa [List.map_id] at h

theorem mem_keys {sc : SChan} {x : Str} : x ∈ sc.keys ↔ ∃ f, (x, f) ∈ sc.members := by
  simp only [SChan.keys, List.mem_map]
  constructor
  · rintro ⟨⟨a, f⟩, hp, rfl⟩; exact ⟨f, hp⟩
  · rintro ⟨f, hp⟩; exact ⟨(x, f), hp, rfl⟩

theorem coupled_names {s : Srv} {b : Bot} (hw : SrvWF s) (hc : Coupled s b) {c : Str} {sc : SChan}
    (hch : aget s.chans (lower c) = some sc) (hb : s.botIn sc = true) :
    Coupled { s with told := if s.cfg.uhnames then addAll s.told sc.keys else s.told } (b.recvAll (s.namesReply sc)) := by
  obtain ⟨ch, hbc, hm0⟩ := Coupled.chan_of_botIn hc hch hb
  obtain ⟨hf, ⟨ch', hch', hr⟩, hn⟩ := names_reply ⟨hw, hc.nick, hc.isup⟩ hch hbc
  refine coupled_of_frame hc hf rfl rfl rfl rfl (fun _ _ => ⟨rfl, rfl⟩) ?_ ?_
  · rw [hch, hch']
    exact ⟨hb, ChanMatches.after_names hm0 (hw.chans _ _ hch).modes hr⟩
  · intro x u hux ht
    by_cases huh : s.cfg.uhnames = true
    · have ht' : x ∈ addAll s.told sc.keys := by simpa [huh] using ht
      rcases mem_addAll.mp ht' with h | h
      · exact Or.inl h
      · obtain ⟨f, hf'⟩ := mem_keys.mp h
        obtain ⟨u', hu', hn'⟩ := hn huh (x, f) hf'
        rw [hux] at hu'; cases hu'
        exact Or.inr hn'
    · left; simpa [huh] using ht

/-- a WHO reply, solicited or not, whether or not the bot is still on the channel -/
theorem coupled_replyWho {s : Srv} {b : Bot} (hw : SrvWF s) (hc : Coupled s b) (c : Str) :
    Coupled (s.replyWho c).1 (b.recvAll (s.replyWho c).2) := by
  unfold Srv.replyWho
  split
  · rename_i sc hch
    rw [Srv.chan_eq] at hch
    obtain ⟨hf, hcs, hn⟩ := who_reply (b := b) ⟨hw, hc.nick, hc.isup⟩ hch
    refine coupled_of_frame hc hf rfl rfl rfl rfl (fun _ _ => ⟨rfl, rfl⟩) ?_ ?_
    · rw [hcs]; exact hc.chans (lower c)
    · intro x u hux ht
      have ht' : x ∈ addAll s.told sc.keys := ht
      rcases mem_addAll.mp ht' with h | h
      · exact Or.inl h
      · obtain ⟨f, hf'⟩ := mem_keys.mp h
        obtain ⟨u', hu', hn'⟩ := hn (x, f) hf'
        rw [hux] at hu'; cases hu'
        exact Or.inr hn'
  · simp only [recvAll_nil]; exact hc

/-- same view-relevant content -/
structure ViewEq (a b : Chan) : Prop where
  users : b.users = a.users
  ops : b.ops = a.ops
  halfops : b.halfops = a.halfops
  voices : b.voices = a.voices
  topic : b.topic = a.topic
  modes : b.modes = a.modes
  bans : b.bans = a.bans

theorem topic_lines {s : Srv} {b : Bot} (h : AtSrv s b) (sc : SChan) {ch : Chan}
    (hch : aget b.channels (lower sc.name) = some ch) :
    b.recvAll [emit s.cfg.server "332" [s.bot, sc.name, sc.topic], emit s.cfg.server "333" [s.bot, sc.name, s.cfg.server, ['0']]] =
      { b with channels := aset b.channels (lower sc.name) { ch with topic := sc.topic } } := by
  obtain ⟨hsv, hne⟩ := h.server
  have hfeed := feed_server (b := b) hsv hne "332".toList [sc.name, sc.topic] (by simp only [Bot.ircCmd, cmdOf_332])
  rw [h.nick] at hfeed
  simp only [recvAll_cons, recv_emit, recvAll_nil]
  rw [hfeed]
  have hchan : b.chan sc.name = some ch := hch
  simp only [Bot.stateCmd, cmdOf_332, Bot.do332, hchan, Bot.setChan]
  have h2 : AtSrv s { b with channels := aset b.channels (lower sc.name) { ch with topic := sc.topic } } := ⟨h.wf, h.nick, h.isup⟩
  exact noop_line h2 "333".toList [sc.name, s.cfg.server, ['0']] cmdOf_333

def as324 (modes : List (Char × Option Str)) : List MChange := modes.map (fun e => ⟨true, e.1, e.2⟩)

theorem modeString_adds (cs : List MChange) (h : ∀ c ∈ cs, c.add = true) : modeString (some true) cs = cs.map (·.ch) := by
  induction cs with
  | nil => rfl
  | cons c cs ih =>
    rw [modeString_cons]
    have hc := h c (by simp)
    simp only [hc, ↓reduceIte, List.nil_append, List.map_cons]
    rw [ih (fun c' hc' => h c' (by simp [hc']))]

theorem as324_chars (modes : List (Char × Option Str)) : (as324 modes).map (·.ch) = modes.map (·.1) := by
  simp [as324, List.map_map, Function.comp_def]

theorem as324_args (modes : List (Char × Option Str)) : modeArgs (as324 modes) = modes.filterMap (·.2) := by
  simp [as324, modeArgs, List.filterMap_map, Function.comp_def]

theorem shaped_of_entry {e : Char × Option Str} (h : ModeEntryOK e) :
    Shaped ⟨true, e.1, e.2⟩ ∧ ∀ a, e.2 = some a → modeArg a = a := by
  rcases h with ⟨hcls, a, hv, hcanon⟩ | ⟨hflag, hv⟩
  · constructor
    · simp only [List.mem_append] at hcls
      rcases hcls with hk | hl
      · exact Or.inl ⟨by simp only [List.mem_append]; exact Or.inr hk, a, hv⟩
      · exact Or.inr (Or.inl ⟨hl, rfl, a, hv⟩)
    · intro a' ha'; rw [hv] at ha'; cases ha'; exact hcanon
  · exact ⟨Or.inr (Or.inr (Or.inr ⟨hflag, hv⟩)), fun a ha => by rw [hv] at ha; cases ha⟩

/-- the mode string of a 324 reply is read back as "set every stored mode" -/
theorem separateModes_324 {modes : List (Char × Option Str)} (hm : ∀ e ∈ modes, ModeEntryOK e) :
    separateModes (('+' :: modes.map (·.1)) :: modes.filterMap (·.2)) = (as324 modes).map tr := by
  show sepGo ('+' :: modes.map (·.1)) '+' (modes.filterMap (·.2)) = _
  have h1 : sepGo ('+' :: modes.map (·.1)) '+' (modes.filterMap (·.2)) = sepGo (modes.map (·.1)) '+' (modes.filterMap (·.2)) := by
    simp [sepGo]
  rw [h1, ← as324_chars, ← as324_args, ← modeString_adds (as324 modes) (by intro c hc; simp only [as324, List.mem_map] at hc; obtain ⟨e, _, rfl⟩ := hc; rfl)]
  apply sepGo_modeString (as324 modes) _ _ (some true) '+' (fun a ha => by cases ha; rfl)
  · intro c hc
    simp only [as324, List.mem_map] at hc
    obtain ⟨e, he, rfl⟩ := hc
    exact (shaped_of_entry (hm e he)).1
  · intro c hc a ha
    simp only [as324, List.mem_map] at hc
    obtain ⟨e, he, rfl⟩ := hc
    exact (shaped_of_entry (hm e he)).2 a ha

theorem skip324_sub : ∀ c ∈ Gen.skip324, c ∈ prefixModes := by
  rw [skip324_eq]; decide

theorem entry_not_special {e : Char × Option Str} (h : ModeEntryOK e) : e.1 ∉ Gen.skip324 ∧ e.1 ∉ Gen.setModeForbidden := by
  have hnt : e.1 ∉ Gen.trackedModes := fun ht => by
    have hc := tracked_classes.1 _ ht
    rcases h with ⟨hcls, _⟩ | ⟨hflag, _⟩
    · exact class_disjoint _ hcls hc
    · exact flag_not_class hflag (List.mem_append_left _ (List.mem_append_left _ hc))
  refine ⟨?_, fun hs => hnt (setModeForbidden_tracked _ hs)⟩
  intro hs
  have hp := skip324_sub _ hs
  rcases h with ⟨hcls, _⟩ | ⟨hflag, _⟩
  · have : ∀ c ∈ keyModes ++ limitModes, c ∉ prefixModes := by decide
    exact this _ hcls hp
  · exact flag_not_class hflag (by simp only [List.mem_append]; exact Or.inl (Or.inl (Or.inl hp)))

theorem run324 (modes : List (Char × Option Str)) (hm : ∀ e ∈ modes, ModeEntryOK e) (ch : Chan) :
    runSteps Chan.step324 ch ((as324 modes).map tr) =
      ({ ch with modes := modes.foldl (fun acc e => aset acc e.1 e.2) ch.modes }, false) := by
  induction modes generalizing ch with
  | nil => rfl
  | cons e es ih =>
    obtain ⟨h1, h2⟩ := entry_not_special (hm e (by simp))
    simp only [as324, List.map_cons, tr, runSteps, Chan.step324, sign, ↓reduceIte, h1, h2, List.foldl_cons]
    have := ih (fun e' he' => hm e' (by simp [he'])) { ch with modes := aset ch.modes e.1 e.2 }
    simp only [as324] at this
    rw [this]

theorem foldl_aset_get {κ α : Type} [DecidableEq κ] (l init : List (κ × α)) (hn : (akeys l).Nodup) (m : κ) :
    aget (l.foldl (fun acc e => aset acc e.1 e.2) init) m = match aget l m with
      | some v => some v
      | none => aget init m := by
  induction l generalizing init with
  | nil => rfl
  | cons e r ih =>
    obtain ⟨k, v⟩ := e
    simp only [akeys, List.map_cons, List.nodup_cons] at hn
    rw [List.foldl_cons, ih _ hn.2, aget_cons]
    by_cases hk : k = m
    · subst hk
      have : aget r k = none := by
        cases hg : aget r k with
        | none => rfl
        | some w => exact absurd (List.mem_map.mpr ⟨(k, w), aget_mem hg, rfl⟩) hn.1
      simp [this]
    · simp only [hk, ↓reduceIte]
      cases aget r m with
      | none => simp [aget_aset, hk]
      | some w => rfl

theorem mode_line {s : Srv} {b : Bot} (h : AtSrv s b) {k : Str} {sc : SChan} (hsc : aget s.chans k = some sc) {ch : Chan}
    (hch : aget b.channels k = some ch) :
    b.recv (s.modeIs sc) =
      { b with channels := aset b.channels k { ch with modes := sc.modes.foldl (fun acc e => aset acc e.1 e.2) ch.modes } } := by
  obtain ⟨hsv, hne⟩ := h.server
  have hcw := h.wf.chans k sc hsc
  have hkey := hcw.key
  subst hkey
  unfold Srv.modeIs
  simp only [recv_emit, List.cons_append, List.nil_append]
  have hfeed := feed_server (b := b) hsv hne "324".toList
    (sc.name :: ('+' :: sc.modes.map (·.1)) :: sc.modes.filterMap (·.2)) (by simp only [Bot.ircCmd, cmdOf_324])
  rw [h.nick] at hfeed
  rw [hfeed]
  have hcn : b.chan sc.name = some ch := hch
  simp only [Bot.stateCmd, cmdOf_324, Bot.do324, separateModes_324 hcw.modes, hcn, run324 sc.modes hcw.modes, Bot.setChan]

theorem created_line {s : Srv} {b : Bot} (h : AtSrv s b) (sc : SChan) {ch : Chan}
    (hch : aget b.channels (lower sc.name) = some ch) :
    ∃ ch', b.recv (emit s.cfg.server "329" [s.bot, sc.name, sc.created]) =
      { b with channels := aset b.channels (lower sc.name) ch' } ∧ ViewEq ch ch' := by
  obtain ⟨hsv, hne⟩ := h.server
  have hfeed := feed_server (b := b) hsv hne "329".toList [sc.name, sc.created] (by simp only [Bot.ircCmd, cmdOf_329])
  rw [h.nick] at hfeed
  have hcn : b.chan sc.name = some ch := hch
  simp only [recv_emit]
  rw [hfeed]
  simp only [Bot.stateCmd, cmdOf_329, Bot.do329, hcn, Bot.setChan]
  cases pyInt sc.created with
  | none =>
    refine ⟨ch, ?_, ⟨rfl, rfl, rfl, rfl, rfl, rfl, rfl⟩⟩
    simp only [aset_same _ _ _ hch]
  | some n => exact ⟨{ ch with created := n }, rfl, ⟨rfl, rfl, rfl, rfl, rfl, rfl, rfl⟩⟩

theorem ban_lines {s : Srv} (sc : SChan) (bans : List Str) :
    ∀ {b : Bot} {ch : Chan}, AtSrv s b → aget b.channels (lower sc.name) = some ch →
      b.recvAll (bans.map (fun m => emit s.cfg.server "367" [s.bot, sc.name, m, s.cfg.server, ['0']])) =
        { b with channels := (aset b.channels (lower sc.name)
            { ch with bans := bans.foldl (fun acc m => sadd acc (lower m)) ch.bans }) } := by
  induction bans with
  | nil =>
    intro b ch _ hch
    simp only [List.map_nil, recvAll_nil, List.foldl_nil]
    have : ({ ch with bans := ch.bans } : Chan) = ch := rfl
    rw [this, aset_same _ _ _ hch]
  | cons m ms ih =>
    intro b ch h hch
    obtain ⟨hsv, hne⟩ := h.server
    have hfeed := feed_server (b := b) hsv hne "367".toList [sc.name, m, s.cfg.server, ['0']] (by simp only [Bot.ircCmd, cmdOf_367])
    rw [h.nick] at hfeed
    have hchan : b.chan sc.name = some ch := hch
    simp only [List.map_cons, recvAll_cons, recv_emit, List.foldl_cons]
    rw [hfeed]
    simp only [Bot.stateCmd, cmdOf_367, Bot.do367, hchan, Bot.setChan]
    rw [ih (b := { b with channels := aset b.channels (lower sc.name) { ch with bans := sadd ch.bans (lower m) } })
      (ch := { ch with bans := sadd ch.bans (lower m) }) ⟨h.wf, h.nick, h.isup⟩ (aget_aset_self _ _ _)]
    simp only [aset_aset]

/-- replies about a channel the bot is not on are ignored -/
theorem late_replies_ignored {s : Srv} {b : Bot} (h : AtSrv s b) (name : Str) (hnone : aget b.channels (lower name) = none)
    (rest : List Str) :
    (b.feed ⟨s.cfg.server, "324".toList, s.bot :: name :: rest⟩).1 = b ∧
    (b.feed ⟨s.cfg.server, "329".toList, s.bot :: name :: rest⟩).1 = b ∧
    (b.feed ⟨s.cfg.server, "367".toList, s.bot :: name :: rest⟩).1 = b := by
  obtain ⟨hsv, hne⟩ := h.server
  have hchan : b.chan name = none := hnone
  refine ⟨?_, ?_, ?_⟩
  · have hfeed := feed_server (b := b) hsv hne "324".toList (name :: rest) (by simp only [Bot.ircCmd, cmdOf_324])
    rw [h.nick] at hfeed
    rw [hfeed]; simp only [Bot.stateCmd, cmdOf_324, Bot.do324, hchan]
  · have hfeed := feed_server (b := b) hsv hne "329".toList (name :: rest) (by simp only [Bot.ircCmd, cmdOf_329])
    rw [h.nick] at hfeed
    rw [hfeed]; simp only [Bot.stateCmd, cmdOf_329, Bot.do329, hchan]
  · have hfeed := feed_server (b := b) hsv hne "367".toList (name :: rest) (by simp only [Bot.ircCmd, cmdOf_367])
    rw [h.nick] at hfeed
    rw [hfeed]; simp only [Bot.stateCmd, cmdOf_367, Bot.do367, hchan]

end C10
