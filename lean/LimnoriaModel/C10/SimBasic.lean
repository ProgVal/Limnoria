/-
C10 — simulation, basics: how the bot sees the prefix of a message from a user or from the server, the
"one channel changed" coupling lemma (`coupled_update`), the command table (`cmdOf_…`), messages from a
conformant source (`feed_from_source`), and the actions TOPIC, connect, CHGHOST.
-/
import LimnoriaModel.C10.WF
namespace C10
open Py

theorem split_mask {u : SUser} (h : UserOK u) : splitHostmask u.mask = some (u.nick, u.ident, u.host) :=
  splitHostmask_mask h.nick.ne h.nick.noBang h.ident.ne h.host.ne h.nick.nosp h.ident.nosp h.host.nosp
    h.ident.noBang h.host.noAt

theorem isu_mask {u : SUser} (h : UserOK u) : isUserHostmask u.mask = true :=
  isUserHostmask_mask h.nick.ne h.nick.noBang h.ident.ne h.host.ne h.nick.nosp h.ident.nosp h.host.nosp

theorem msg_nick_user {u : SUser} (h : UserOK u) (cmd : Str) (args : List Str) :
    (⟨u.mask, cmd, args⟩ : Msg).nick = u.nick := by simp [Msg.nick, Msg.nuh, split_mask h]
theorem msg_user_user {u : SUser} (h : UserOK u) (cmd : Str) (args : List Str) :
    (⟨u.mask, cmd, args⟩ : Msg).user = u.ident := by simp [Msg.user, Msg.nuh, split_mask h]
theorem msg_host_user {u : SUser} (h : UserOK u) (cmd : Str) (args : List Str) :
    (⟨u.mask, cmd, args⟩ : Msg).host = u.host := by simp [Msg.host, Msg.nuh, split_mask h]

theorem msg_nick_server {p : Str} (h : '!' ∉ p) (cmd : Str) (args : List Str) :
    (⟨p, cmd, args⟩ : Msg).nick = p := by simp [Msg.nick, Msg.nuh, splitHostmask_noBang h]

theorem mask_ne_nick {u : SUser} {n : Str} (hn : NickOK n) : u.mask ≠ n := by
  intro e
  have : '!' ∈ u.mask := by simp [SUser.mask]
  rw [e] at this
  exact hn.noBang this

/-- the server's own name: no `!`, and different from every nick -/
structure ServerOK (p : Str) : Prop where
  noBang : '!' ∉ p
  dot : '.' ∈ p

theorem serverOK_of_cfg {c : Cfg} (h : c.valid = true) : ServerOK c.server := by
  have hc := cfgOK_of_valid h
  exact ⟨(wordOK_of_valid hc.server).noBang, hc.dot⟩

theorem server_ne_nick {p n : Str} (hp : ServerOK p) (hn : NickOK n) : p ≠ n := by
  intro e; subst e; exact hn.noDot hp.dot

/-- what the bot records about the sender of a message that is not a NICK -/
def Bot.seen (b : Bot) (u : SUser) : Bot :=
  { b with pfx := if u.nick = b.nick then u.mask else b.pfx, n2h := aset b.n2h (lower u.nick) u.mask }

theorem pfxUpd_user {b : Bot} {u : SUser} (h : UserOK u) (cmd : Str) (args : List Str) :
    b.pfxUpd ⟨u.mask, cmd, args⟩ = { b with pfx := if u.nick = b.nick then u.mask else b.pfx } := by
  unfold Bot.pfxUpd
  rw [msg_nick_user h]
  by_cases hn : u.nick = b.nick
  · by_cases hp : b.pfx = u.mask
    · -- nothing to update: `{ b with pfx := b.pfx }` is `b`
      simp only [hn, hp, bne_self_eq_false, Bool.and_false, Bool.false_eq_true, ↓reduceIte]
      rw [← hp]
    · simp [hn, hp]
  · simp [hn]

theorem pfxUpd_server {b : Bot} {p : Str} (hp : '!' ∉ p) (hne : p ≠ b.nick) (cmd : Str) (args : List Str) :
    b.pfxUpd ⟨p, cmd, args⟩ = b := by
  unfold Bot.pfxUpd
  rw [msg_nick_server hp]
  simp [hne]

theorem prelude_user {b : Bot} {u : SUser} (h : UserOK u) (cmd : Str) (args : List Str)
    (hc : cmd ≠ "NICK".toList) :
    b.prelude ⟨u.mask, cmd, args⟩ = { b with n2h := aset b.n2h (lower u.nick) u.mask } := by
  unfold Bot.prelude
  rw [msg_nick_user h]
  have hc' : (cmd != "NICK".toList) = true := by simpa using hc
  simp only [isu_mask h, hc', Bool.and_self, ↓reduceIte]

theorem prelude_server {b : Bot} {p : Str} (hp : '!' ∉ p) (cmd : Str) (args : List Str) :
    b.prelude ⟨p, cmd, args⟩ = b := by
  unfold Bot.prelude
  simp [isUserHostmask_noBang hp]

/-! ### `Coupled` under changes that do not touch the server state -/

theorem coupled_seen {s : Srv} {b : Bot} (hc : Coupled s b) {k : Str} {u : SUser}
    (hu : aget s.users k = some u) (hk : lower u.nick = k) :
    Coupled s (b.seen u) := by
  refine ⟨hc.nick, hc.chans, ?_, ?_, hc.cfgNick, hc.cfgIdent, hc.isup⟩
  · intro k' u' hu' hv
    show aget (aset b.n2h (lower u.nick) u.mask) k' = some u'.mask
    rw [aget_aset]
    by_cases e : lower u.nick = k'
    · rw [hk] at e; subst e; rw [hu] at hu'; cases hu'; simp [hk]
    · simp only [e, ↓reduceIte]; exact hc.hosts k' u' hu' hv
  · intro kc sc hsc hb
    obtain ⟨ub, hub, hp⟩ := hc.pfx kc sc hsc hb
    refine ⟨ub, hub, ?_⟩
    show (if u.nick = b.nick then u.mask else b.pfx) = ub.mask
    by_cases e : u.nick = b.nick
    · simp only [e, ↓reduceIte]
      have : k = s.botKey := by rw [← hk, e, hc.nick]; rfl
      subst this; rw [hu] at hub; cases hub; rfl
    · simp only [e, ↓reduceIte]; exact hp

theorem seen_n2h (b : Bot) (u : SUser) : aget (b.seen u).n2h (lower u.nick) = some u.mask := by
  show aget (aset b.n2h (lower u.nick) u.mask) (lower u.nick) = _
  rw [aget_aset_self]

theorem chanRel_congr {s s' : Srv} (h : s'.bot = s.bot) (hcfg : s'.cfg = s.cfg) (k : Str)
    (hms : s'.mSynced k = s.mSynced k) (hbs : s'.bSynced k = s.bSynced k) (a : Option SChan) (c : Option Chan) :
    ChanRel s' k a c = ChanRel s k a c := by
  cases a <;> cases c <;> simp [ChanRel, Srv.botKey, h, hcfg, hms, hbs]

/-- one channel of the server state and the bot's record of it change; everything else stays -/
theorem coupled_update {s s' : Srv} {b b' : Bot} (hc : Coupled s b) (kc : Str)
    (hu : s'.users = s.users) (hbot : s'.bot = s.bot) (hcfg : s'.cfg = s.cfg)
    (hsy : ∀ k, k ≠ kc → s'.mSynced k = s.mSynced k ∧ s'.bSynced k = s.bSynced k)
    (hchans : ∀ k, k ≠ kc → aget s'.chans k = aget s.chans k)
    (hbch : ∀ k, k ≠ kc → aget b'.channels k = aget b.channels k)
    (hrel : ChanRel s' kc (aget s'.chans kc) (aget b'.channels kc))
    (hnick : b'.nick = b.nick) (hcn : b'.cfgNick = b.cfgNick) (hci : b'.cfgIdent = b.cfgIdent) (hsup : b'.isup = b.isup)
    (hn2h : ∀ k u, aget s.users k = some u → k ∈ s'.told → aget b'.n2h k = some u.mask)
    (hpfx : ∀ u, aget s.users s.botKey = some u → b.pfx = u.mask → b'.pfx = u.mask)
    (hpfxnew : ∀ sc', aget s'.chans kc = some sc' → sc'.has s.botKey = true →
      ∃ u, aget s.users s.botKey = some u ∧ b'.pfx = u.mask) :
    Coupled s' b' := by
  have hbk : s'.botKey = s.botKey := by simp [Srv.botKey, hbot]
  refine ⟨by rw [hnick, hbot]; exact hc.nick, ?_, ?_, ?_, by rw [hcn, hcfg]; exact hc.cfgNick,
    by rw [hci, hcfg]; exact hc.cfgIdent, by rw [hsup]; exact hc.isup⟩
  · intro k
    by_cases hk : k = kc
    · subst hk; exact hrel
    · rw [hchans k hk, hbch k hk, chanRel_congr hbot hcfg k (hsy k hk).1 (hsy k hk).2]; exact hc.chans k
  · intro k u huk hv
    rw [hu] at huk
    exact hn2h k u huk hv
  · intro k sc hsc hb
    rw [hbk] at hb ⊢
    rw [hu]
    by_cases hk : k = kc
    · subst hk; exact hpfxnew sc hsc hb
    · rw [hchans k hk] at hsc
      obtain ⟨ub, hub, hp⟩ := hc.pfx k sc hsc hb
      exact ⟨ub, hub, hpfx ub hub hp⟩

/-- the same, when the bot's hostmask map and prefix and what the server has told are untouched -/
theorem coupled_update' {s s' : Srv} {b b' : Bot} (hc : Coupled s b) (kc : Str)
    (hu : s'.users = s.users) (hbot : s'.bot = s.bot) (hcfg : s'.cfg = s.cfg)
    (hms : s'.modesSynced = s.modesSynced) (hbs : s'.bansSynced = s.bansSynced) (htold : s'.told = s.told)
    (hchans : ∀ k, k ≠ kc → aget s'.chans k = aget s.chans k)
    (hbch : ∀ k, k ≠ kc → aget b'.channels k = aget b.channels k)
    (hrel : ChanRel s' kc (aget s'.chans kc) (aget b'.channels kc))
    (hnick : b'.nick = b.nick) (hcn : b'.cfgNick = b.cfgNick) (hci : b'.cfgIdent = b.cfgIdent) (hsup : b'.isup = b.isup)
    (hn2h : b'.n2h = b.n2h) (hp : b'.pfx = b.pfx)
    (hsub : ∀ sc sc', aget s.chans kc = some sc → aget s'.chans kc = some sc' →
       sc'.has s.botKey = true → sc.has s.botKey = true)
    (hnew : ∀ sc', aget s.chans kc = none → aget s'.chans kc = some sc' → sc'.has s.botKey = false) :
    Coupled s' b' := by
  refine coupled_update hc kc hu hbot hcfg (fun k _ => ⟨by simp [Srv.mSynced, hms], by simp [Srv.bSynced, hbs]⟩) hchans hbch hrel hnick hcn hci hsup ?_ ?_ ?_
  · intro k u hk ht; rw [hn2h]; rw [htold] at ht; exact hc.hosts k u hk ht
  · intro u _ h; rw [hp]; exact h
  · intro sc' hsc' h1
    rw [hp]
    cases hsc : aget s.chans kc with
    | none => rw [hnew sc' hsc hsc'] at h1; cases h1
    | some sc => exact hc.pfx kc sc hsc (hsub sc sc' hsc hsc' h1)

theorem Coupled.chan_of_botIn {s : Srv} {b : Bot} (hc : Coupled s b) {k : Str} {sc : SChan} (hs : aget s.chans k = some sc)
    (hb : sc.has s.botKey = true) :
    ∃ ch, aget b.channels k = some ch ∧ ChanMatches s.cfg.multiPrefix (s.mSynced k) (s.bSynced k) sc ch := by
  have h := hc.chans k
  rw [hs] at h
  cases hbc : aget b.channels k with
  | none => rw [hbc] at h; simp only [ChanRel] at h; rw [hb] at h; cases h
  | some ch => rw [hbc] at h; exact ⟨ch, rfl, h.2⟩

theorem bot_chan_none {s : Srv} {b : Bot} (hc : Coupled s b) {k : Str} {sc : SChan} (hsc : aget s.chans k = some sc)
    (hb : sc.has s.botKey = false) : aget b.channels k = none := by
  have hrel := hc.chans k
  rw [hsc] at hrel
  cases hbc : aget b.channels k with
  | none => rfl
  | some ch => rw [hbc] at hrel; simp only [ChanRel] at hrel; rw [hb] at hrel; exact absurd hrel.1 (by simp)

/-- the channel stored under `kc` is replaced by `sc1`: what remains to be shown is how the bot's record of it follows -/
theorem coupled_setChan {s : Srv} {b b' : Bot} (hc : Coupled s b) {kc : Str} {sc : SChan} (hch : aget s.chans kc = some sc)
    (sc1 : SChan) (hbot : sc1.has s.botKey = true → sc.has s.botKey = true)
    (hbch : ∀ k, k ≠ kc → aget b'.channels k = aget b.channels k)
    (hrel : ChanRel { s with chans := aset s.chans kc sc1 } kc (some sc1) (aget b'.channels kc))
    (hnick : b'.nick = b.nick) (hcn : b'.cfgNick = b.cfgNick) (hci : b'.cfgIdent = b.cfgIdent) (hsup : b'.isup = b.isup)
    (hn2h : b'.n2h = b.n2h) (hp : b'.pfx = b.pfx) : Coupled { s with chans := aset s.chans kc sc1 } b' := by
  refine coupled_update' hc kc rfl rfl rfl rfl rfl rfl (fun k hk => aget_aset_ne _ _ (Ne.symm hk)) hbch
    (by rw [aget_aset_self]; exact hrel) hnick hcn hci hsup hn2h hp ?_ ?_
  · intro sc0 sc' h0 h' hb'
    rw [hch] at h0; cases h0
    rw [aget_aset_self] at h'; cases h'
    exact hbot hb'
  · intro sc' h0; rw [hch] at h0; cases h0

theorem coupled_setChan_unseen {s : Srv} {b : Bot} (hc : Coupled s b) {kc : Str} {sc : SChan} (hch : aget s.chans kc = some sc)
    (hb : sc.has s.botKey = false) (sc1 : SChan) (h1 : sc1.has s.botKey = false) :
    Coupled { s with chans := aset s.chans kc sc1 } b := by
  refine coupled_setChan hc hch sc1 (fun h => by rw [h1] at h; cases h) (fun _ _ => rfl) ?_ rfl rfl rfl rfl rfl rfl
  rw [bot_chan_none hc hch hb]
  exact h1

@[simp] theorem recvAll_nil (b : Bot) : b.recvAll [] = b := rfl
@[simp] theorem recvAll_cons (b : Bot) (e : Ev) (es : List Ev) : b.recvAll (e :: es) = (b.recv e).recvAll es := rfl
theorem recvAll_append (b : Bot) (xs ys : List Ev) : b.recvAll (xs ++ ys) = (b.recvAll xs).recvAll ys := by
  simp [Bot.recvAll, List.foldl_append]
@[simp] theorem recv_msg (b : Bot) (m : Msg) : b.recv (.msg m) = (b.feed m).1 := rfl
@[simp] theorem recv_emit (b : Bot) (p : Str) (c : String) (a : List Str) :
    b.recv (emit p c a) = (b.feed ⟨p, c.toList, a⟩).1 := rfl

/-- `cmdOf` with the command names spelled out as character lists: the kernel decodes a string literal each time it
meets `"…".toList`, so the command table below is evaluated on this form. -/
def cmdOfChars (cmd : Str) : Cmd :=
  let key := cmd.map asciiUpperChar
  if key = ['J', 'O', 'I', 'N'] then .join
  else if key = ['P', 'A', 'R', 'T'] then .part
  else if key = ['K', 'I', 'C', 'K'] then .kick
  else if key = ['Q', 'U', 'I', 'T'] then .quit
  else if key = ['T', 'O', 'P', 'I', 'C'] then .topic
  else if key = ['3', '3', '2'] then .n332
  else if key = ['N', 'I', 'C', 'K'] then .nick
  else if key = ['M', 'O', 'D', 'E'] then .mode
  else if key = ['3', '2', '4'] then .n324
  else if key = ['3', '2', '9'] then .n329
  else if key = ['3', '5', '3'] then .n353
  else if key = ['3', '5', '2'] then .n352
  else if key = ['3', '5', '4'] then .n354
  else if key = ['3', '6', '7'] then .n367
  else if key = ['C', 'H', 'G', 'H', 'O', 'S', 'T'] then .chghost
  else if key = ['3', '1', '5'] then .n315
  else if key = ['0', '0', '5'] then .n005
  else if key = ['B', 'A', 'T', 'C', 'H'] then .batch
  else .other

theorem cmdOf_eq (cmd : Str) : cmdOf cmd = cmdOfChars cmd := by
  have e : "JOIN".toList = ['J', 'O', 'I', 'N'] ∧ "PART".toList = ['P', 'A', 'R', 'T'] ∧ "KICK".toList = ['K', 'I', 'C', 'K'] ∧
      "QUIT".toList = ['Q', 'U', 'I', 'T'] ∧ "TOPIC".toList = ['T', 'O', 'P', 'I', 'C'] ∧ "332".toList = ['3', '3', '2'] ∧
      "NICK".toList = ['N', 'I', 'C', 'K'] ∧ "MODE".toList = ['M', 'O', 'D', 'E'] ∧ "324".toList = ['3', '2', '4'] ∧
      "329".toList = ['3', '2', '9'] ∧ "353".toList = ['3', '5', '3'] ∧ "352".toList = ['3', '5', '2'] ∧
      "354".toList = ['3', '5', '4'] ∧ "367".toList = ['3', '6', '7'] ∧
      "CHGHOST".toList = ['C', 'H', 'G', 'H', 'O', 'S', 'T'] ∧ "315".toList = ['3', '1', '5'] ∧
      "005".toList = ['0', '0', '5'] ∧ "BATCH".toList = ['B', 'A', 'T', 'C', 'H'] := by decide +kernel
  obtain ⟨e1, e2, e3, e4, e5, e6, e7, e8, e9, e10, e11, e12, e13, e14, e15, e16, e17, e18⟩ := e
  unfold cmdOf cmdOfChars
  rw [e1, e2, e3, e4, e5, e6, e7, e8, e9, e10, e11, e12, e13, e14, e15, e16, e17, e18]

theorem cmdOf_TOPIC : cmdOf "TOPIC".toList = .topic := by rw [cmdOf_eq]; decide +kernel
theorem cmdOf_JOIN : cmdOf "JOIN".toList = .join := by rw [cmdOf_eq]; decide +kernel
theorem cmdOf_PART : cmdOf "PART".toList = .part := by rw [cmdOf_eq]; decide +kernel
theorem cmdOf_KICK : cmdOf "KICK".toList = .kick := by rw [cmdOf_eq]; decide +kernel
theorem cmdOf_QUIT : cmdOf "QUIT".toList = .quit := by rw [cmdOf_eq]; decide +kernel
theorem cmdOf_NICK : cmdOf "NICK".toList = .nick := by rw [cmdOf_eq]; decide +kernel
theorem cmdOf_MODE : cmdOf "MODE".toList = .mode := by rw [cmdOf_eq]; decide +kernel
theorem cmdOf_CHGHOST : cmdOf "CHGHOST".toList = .chghost := by rw [cmdOf_eq]; decide +kernel
theorem cmdOf_332 : cmdOf "332".toList = .n332 := by rw [cmdOf_eq]; decide +kernel
theorem cmdOf_333 : cmdOf "333".toList = .other := by rw [cmdOf_eq]; decide +kernel
theorem cmdOf_353 : cmdOf "353".toList = .n353 := by rw [cmdOf_eq]; decide +kernel
theorem cmdOf_366 : cmdOf "366".toList = .other := by rw [cmdOf_eq]; decide +kernel
theorem cmdOf_352 : cmdOf "352".toList = .n352 := by rw [cmdOf_eq]; decide +kernel
theorem cmdOf_354 : cmdOf "354".toList = .n354 := by rw [cmdOf_eq]; decide +kernel
theorem cmdOf_315 : cmdOf "315".toList = .n315 := by rw [cmdOf_eq]; decide +kernel
theorem cmdOf_324 : cmdOf "324".toList = .n324 := by rw [cmdOf_eq]; decide +kernel
theorem cmdOf_329 : cmdOf "329".toList = .n329 := by rw [cmdOf_eq]; decide +kernel
theorem cmdOf_367 : cmdOf "367".toList = .n367 := by rw [cmdOf_eq]; decide +kernel
theorem cmdOf_368 : cmdOf "368".toList = .other := by rw [cmdOf_eq]; decide +kernel
theorem cmdOf_001 : cmdOf "001".toList = .other := by rw [cmdOf_eq]; decide +kernel
theorem cmdOf_005 : cmdOf "005".toList = .n005 := by rw [cmdOf_eq]; decide +kernel
theorem cmdOf_PRIVMSG : cmdOf "PRIVMSG".toList = .other := by rw [cmdOf_eq]; decide +kernel
theorem cmdOf_BATCH : cmdOf "BATCH".toList = .batch := by rw [cmdOf_eq]; decide +kernel

theorem source_cases {s : Srv} {src pfx : Str} (h : s.source src = some pfx) :
    (pfx = s.cfg.server) ∨ (∃ u, aget s.users (lower src) = some u ∧ pfx = u.mask) := by
  unfold Srv.source at h
  split at h
  · cases h; exact Or.inl rfl
  · rw [Srv.user_eq] at h
    cases hu : aget s.users (lower src) with
    | none => simp [hu] at h
    | some u => simp [hu] at h; exact Or.inr ⟨u, rfl, h.symm⟩

theorem SrvWF.botNickOK {s : Srv} (h : SrvWF s) : NickOK s.bot := by
  obtain ⟨u, hu, hn⟩ := h.bot
  rw [← hn]; exact ((h.userOK hu).2).nick

/-- a message of a command without `Irc`-level handler from a known user -/
theorem feed_from_user {s : Srv} {b : Bot} (hw : SrvWF s) (hc : Coupled s b) {k : Str} {u : SUser}
    (hu : aget s.users k = some u) (cmd : Str) (args : List Str)
    (hns : cmd ∉ Gen.nickSetters) (hnn : cmd ≠ "NICK".toList)
    (hirc : ∀ b0 : Bot, b0.ircCmd ⟨u.mask, cmd, args⟩ = (b0, false)) :
    Coupled s (b.seen u) ∧ (b.feed ⟨u.mask, cmd, args⟩).1 = ((b.seen u).stateCmd ⟨u.mask, cmd, args⟩).1 := by
  have hbn : NickOK b.nick := by rw [hc.nick]; exact hw.botNickOK
  have huo := (hw.userOK hu).2
  have hne : u.mask ≠ b.nick := mask_ne_nick hbn
  refine ⟨coupled_seen hc hu (hw.userOK hu).1, ?_⟩
  rw [feed_plain b _ hne hns (by rw [hirc])]
  rw [hirc, pfxUpd_user huo, prelude_user huo _ _ hnn]
  rfl

/-- a message of a command without `Irc`-level handler, from the server or from a known user:
the bot runs the `IrcState` handler on a state that is still coupled -/
theorem feed_from_source {s : Srv} {b : Bot} (hw : SrvWF s) (hc : Coupled s b) {src pfx : Str}
    (hs : s.source src = some pfx) (cmd : Str) (args : List Str)
    (hns : cmd ∉ Gen.nickSetters) (hnn : cmd ≠ "NICK".toList)
    (hirc : ∀ b0 : Bot, b0.ircCmd ⟨pfx, cmd, args⟩ = (b0, false)) :
    ∃ b0, Coupled s b0 ∧ b0.channels = b.channels ∧ b0.nick = b.nick ∧
      (b.feed ⟨pfx, cmd, args⟩).1 = (b0.stateCmd ⟨pfx, cmd, args⟩).1 := by
  have hbn : NickOK b.nick := by rw [hc.nick]; exact hw.botNickOK
  rcases source_cases hs with rfl | ⟨u, hu, rfl⟩
  · have hsv := serverOK_of_cfg hw.cfg
    have hne : s.cfg.server ≠ b.nick := server_ne_nick hsv hbn
    refine ⟨b, hc, rfl, rfl, ?_⟩
    rw [feed_plain b _ hne hns (by rw [hirc])]
    rw [hirc, pfxUpd_server hsv.noBang hne, prelude_server hsv.noBang]
  · obtain ⟨h1, h2⟩ := feed_from_user hw hc hu cmd args hns hnn hirc
    exact ⟨b.seen u, h1, rfl, rfl, h2⟩

theorem coupled_topic {s : Srv} {b : Bot} (hw : SrvWF s) (hc : Coupled s b) {src c t pfx : Str} {sc : SChan}
    (hsrc : s.source src = some pfx) (hch : aget s.chans (lower c) = some sc) :
    Coupled { s with chans := aset s.chans (lower c) { sc with topic := t } }
      (b.recvAll (if s.botIn sc then [emit pfx "TOPIC" [sc.name, t]] else [])) := by
  have hcw := hw.chans _ _ hch
  have hrel := hc.chans (lower c)
  rw [hch] at hrel
  by_cases hb : s.botIn sc = true
  · -- the bot sees the TOPIC
    simp only [hb, ↓reduceIte, recvAll_cons, recv_emit, recvAll_nil]
    obtain ⟨b0, hc0, hch0, hn0, hfeed⟩ := feed_from_source hw hc hsrc "TOPIC".toList [sc.name, t]
      (setters_out_ok _ (by decide +kernel)) (by decide +kernel) (fun b0 => by simp only [Bot.ircCmd, cmdOf_TOPIC])
    rw [hfeed]
    obtain ⟨ch, hbc, hm0⟩ := Coupled.chan_of_botIn hc0 hch hb
    have hchan : b0.chan sc.name = some ch := by rw [Bot.chan, hcw.key]; exact hbc
    simp only [Bot.stateCmd, cmdOf_TOPIC, Bot.doTopic, hchan]
    refine coupled_setChan hc0 hch _ (fun h => h) ?_ ?_ rfl rfl rfl rfl rfl rfl
    · intro k hk; simp only [Bot.setChan, hcw.key]; exact aget_aset_ne _ _ (Ne.symm hk)
    · simp only [Bot.setChan, hcw.key, aget_aset_self, ChanRel]
      exact ⟨hb, { hm0 with topic := rfl }⟩
  · -- not on the channel: nothing is sent
    simp only [hb, Bool.false_eq_true, ↓reduceIte, recvAll_nil]
    have hb' : sc.has s.botKey = false := by simpa [Srv.botIn] using hb
    exact coupled_setChan_unseen hc hch hb' _ hb'

/-! ### connect, CHGHOST: only the users table (and what the bot has been told) changes -/

theorem coupled_users_update {s : Srv} {b b' : Bot} (hc : Coupled s b) (k : Str) (u' : SUser) (told' : List Str)
    (hnick : b'.nick = b.nick) (hch : b'.channels = b.channels)
    (hcn : b'.cfgNick = b.cfgNick) (hci : b'.cfgIdent = b.cfgIdent) (hsup : b'.isup = b.isup)
    (hn2h : ∀ k', k' ≠ k → aget b'.n2h k' = aget b.n2h k')
    (hsub : ∀ x, x ∈ told' → x ≠ k → x ∈ s.told)
    (hk : k ∈ told' → aget b'.n2h k = some u'.mask)
    (hpfx : k ≠ s.botKey → b'.pfx = b.pfx)
    (hpfx' : k = s.botKey → ∀ kc sc, aget s.chans kc = some sc → sc.has s.botKey = true → b'.pfx = u'.mask) :
    Coupled { s with users := aset s.users k u', told := told' } b' := by
  refine ⟨by rw [hnick]; exact hc.nick, ?_, ?_, ?_, by rw [hcn]; exact hc.cfgNick, by rw [hci]; exact hc.cfgIdent,
    by rw [hsup]; exact hc.isup⟩
  · intro kc; rw [hch]; exact hc.chans kc
  · intro k' u hu hv
    have hv' : k' ∈ told' := hv
    have hu' : aget (aset s.users k u') k' = some u := hu
    rw [aget_aset] at hu'
    by_cases e : k = k'
    · subst e
      simp only [↓reduceIte, Option.some.injEq] at hu'
      subst hu'; exact hk hv'
    · simp only [e, ↓reduceIte] at hu'
      rw [hn2h k' (Ne.symm e)]
      exact hc.hosts k' u hu' (hsub k' hv' (Ne.symm e))
  · intro kc sc hsc hb
    have hsc' : aget s.chans kc = some sc := hsc
    have hb' : sc.has s.botKey = true := hb
    show ∃ u, aget (aset s.users k u') s.botKey = some u ∧ b'.pfx = u.mask
    rw [aget_aset]
    by_cases e : k = s.botKey
    · simp only [e, ↓reduceIte]
      exact ⟨u', rfl, hpfx' e kc sc hsc' hb'⟩
    · simp only [e, ↓reduceIte]
      rw [hpfx e]
      exact hc.pfx kc sc hsc' hb'

theorem coupled_connect {s : Srv} {b : Bot} (hw : SrvWF s) (hc : Coupled s b) {n i ho : Str}
    (hfree : aget s.users (lower n) = none) :
    Coupled { s with users := aset s.users (lower n) ⟨n, i, ho⟩, told := sdel s.told (lower n) } b := by
  refine coupled_users_update hc (lower n) ⟨n, i, ho⟩ _ rfl rfl rfl rfl rfl (fun _ _ => rfl) ?_ ?_ (fun _ => rfl) ?_
  · intro x hx _; exact (mem_sdel.mp hx).2
  · intro hx; exact absurd rfl (mem_sdel.mp hx).1
  · intro e
    obtain ⟨ub, hub, _⟩ := hw.bot
    rw [e] at hfree
    have hub' : aget s.users s.botKey = some ub := hub
    rw [hub'] at hfree; cases hfree

theorem SrvWF.bot_user {s : Srv} (hw : SrvWF s) {u : SUser} (hu : aget s.users s.botKey = some u) : u.nick = s.bot := by
  obtain ⟨ub, hub, hn⟩ := hw.bot
  have hub' : aget s.users s.botKey = some ub := hub
  rw [hub'] at hu; cases hu; exact hn

theorem own_iff {s : Srv} {b : Bot} (hw : SrvWF s) (hc : Coupled s b) {k : Str} {u : SUser}
    (hu : aget s.users k = some u) : u.nick = b.nick ↔ k = s.botKey := by
  have hk := (hw.userOK hu).1
  constructor
  · intro e; rw [← hk, e, hc.nick]; rfl
  · intro e; subst e; rw [hc.nick]; exact hw.bot_user hu

theorem coupled_chghost {s : Srv} {b : Bot} (hw : SrvWF s) (hc : Coupled s b) {n i ho : Str} {u : SUser}
    (hu : aget s.users (lower n) = some u) (hi : validWord i = true) (hh : validWord ho = true) :
    Coupled { s with users := aset s.users (lower n) { u with ident := i, host := ho }, told := sadd s.told (lower n) }
      (b.recvAll [emit u.mask "CHGHOST" [i, ho]]) := by
  have huo := (hw.userOK hu).2
  have hio := wordOK_of_valid hi
  have hho := wordOK_of_valid hh
  have hkey := (hw.userOK hu).1
  have hbn : NickOK b.nick := by rw [hc.nick]; exact hw.botNickOK
  simp only [recvAll_cons, recv_emit, recvAll_nil]
  have hne : u.mask ≠ b.nick := mask_ne_nick hbn
  have hfeed : (b.feed ⟨u.mask, "CHGHOST".toList, [i, ho]⟩).1 =
      { b with pfx := if u.nick = b.nick then mkHostmask u.nick i ho else b.pfx,
               n2h := aset (aset b.n2h (lower u.nick) u.mask) (lower u.nick) (mkHostmask u.nick i ho) } := by
    have hirc : ((b.pfxUpd ⟨u.mask, "CHGHOST".toList, [i, ho]⟩).ircCmd ⟨u.mask, "CHGHOST".toList, [i, ho]⟩) =
        ({ b with pfx := if u.nick = b.nick then mkHostmask u.nick i ho else b.pfx }, false) := by
      rw [pfxUpd_user huo]
      simp only [Bot.ircCmd, cmdOf_CHGHOST, Bot.ircChghost, msg_nick_user huo]
      by_cases e : u.nick = b.nick
      · simp [e, isEmpty_false hbn.ne, isEmpty_false hio.ne, isEmpty_false hho.ne]
      · simp [e]
    rw [feed_plain b _ hne (setters_out_ok "CHGHOST".toList (by decide +kernel)) (by rw [hirc])]
    rw [hirc, prelude_user huo _ _ (by decide)]
    simp only [Bot.stateCmd, cmdOf_CHGHOST, Bot.doChghost, msg_nick_user huo]
  rw [hfeed]
  have hmask : mkHostmask u.nick i ho = ({ u with ident := i, host := ho } : SUser).mask := rfl
  refine coupled_users_update hc (lower n) { u with ident := i, host := ho } _ rfl rfl rfl rfl rfl ?_ ?_ ?_ ?_ ?_
  · intro k' hk'
    show aget (aset (aset b.n2h (lower u.nick) u.mask) (lower u.nick) (mkHostmask u.nick i ho)) k' = _
    rw [hkey, aget_aset_ne _ _ (Ne.symm hk'), aget_aset_ne _ _ (Ne.symm hk')]
  · intro x hx hne'
    rcases mem_sadd.mp hx with e | e
    · exact absurd e hne'
    · exact e
  · intro _
    show aget (aset (aset b.n2h (lower u.nick) u.mask) (lower u.nick) (mkHostmask u.nick i ho)) (lower n) = _
    rw [hkey, aget_aset_self, hmask]
  · intro hk
    show (if u.nick = b.nick then mkHostmask u.nick i ho else b.pfx) = b.pfx
    have : ¬ u.nick = b.nick := fun e => hk ((own_iff hw hc hu).mp e)
    simp [this]
  · intro hk _ _ _ _
    show (if u.nick = b.nick then mkHostmask u.nick i ho else b.pfx) = _
    have : u.nick = b.nick := (own_iff hw hc hu).mpr hk
    rw [if_pos this]; exact hmask

theorem coupled_chghostSilent {s : Srv} {b : Bot} (hc : Coupled s b) {n i ho : Str} {u : SUser} (hnb : ¬ lower n = s.botKey) :
    Coupled { s with users := aset s.users (lower n) { u with ident := i, host := ho }, told := sdel s.told (lower n) } b := by
  refine coupled_users_update hc (lower n) { u with ident := i, host := ho } _ rfl rfl rfl rfl rfl (fun _ _ => rfl) ?_ ?_ (fun _ => rfl) ?_
  · intro x hx _; exact (mem_sdel.mp hx).2
  · intro hx; exact absurd rfl (mem_sdel.mp hx).1
  · intro e; exact absurd e hnb

end C10
