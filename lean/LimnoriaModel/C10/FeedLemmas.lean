/-
C10 — what `Bot.feed` does with the messages a reference server emits: the generic decomposition
(`feed_plain`, `feed_setter`).
-/
import LimnoriaModel.C10.StrLemmas
import LimnoriaModel.C10.CollLemmas
import LimnoriaModel.C10.Srv
namespace C10
open Py

/-- `feedMsg`: "we know our nick but not yet our prefix" -/
def Bot.pfxUpd (b : Bot) (m : Msg) : Bot :=
  if m.nick = b.nick && b.pfx != m.pfx then { b with pfx := m.pfx } else b

/-- `addMsg`: hostmask bookkeeping -/
def Bot.prelude (b : Bot) (m : Msg) : Bot :=
  if isUserHostmask m.pfx && m.cmd != "NICK".toList
  then { b with n2h := aset b.n2h (lower m.nick) m.pfx } else b

/-- `Irc.isChannel` never raises -/
theorem isChannel_isSome (b : Bot) (a : Str) : (b.isChannel a).isNone = false := by
  unfold Bot.isChannel isChannelWith
  cases a with
  | nil => rfl
  | cons c0 t =>
    simp only
    split
    · rfl
    · split <;> rfl

/-- hence neither does `_tagMsg` -/
theorem tagRaises_false (b : Bot) (m : Msg) : b.tagRaises m = false := by
  unfold Bot.tagRaises
  split
  · exact isChannel_isSome b _
  · rfl

theorem pfxUpd_nick (b : Bot) (m : Msg) : (b.pfxUpd m).nick = b.nick := by
  unfold Bot.pfxUpd; split <;> rfl

theorem addMsg_eq (b : Bot) (m : Msg) : b.addMsgT false m = (b.prelude m).stateCmd m := rfl

theorem feed_plain (b : Bot) (m : Msg) (h1 : m.pfx ≠ b.nick) (h2 : m.cmd ∉ Gen.nickSetters)
    (h3 : ((b.pfxUpd m).ircCmd m).2 = false) :
    (b.feed m).1 = ((((b.pfxUpd m).ircCmd m).1.prelude m).stateCmd m).1 := by
  unfold Bot.feed Bot.feedT
  simp only [tagRaises_false, Bool.false_eq_true, h1, ↓reduceIte, h2]
  have e : (if (m.nick = b.nick && b.pfx != m.pfx) = true then { b with pfx := m.pfx } else b) = b.pfxUpd m := rfl
  rw [e]
  simp only [Bool.false_eq_true, ↓reduceIte, h3, addMsg_eq]

theorem feed_setter (b : Bot) (m : Msg) (h1 : m.pfx ≠ b.nick) (h2 : m.cmd ∈ Gen.nickSetters)
    (rest : List Str) (ha : m.args = b.nick :: rest) (h3 : ((b.pfxUpd m).ircCmd m).2 = false) :
    (b.feed m).1 = ((((b.pfxUpd m).ircCmd m).1.prelude m).stateCmd m).1 := by
  unfold Bot.feed Bot.feedT
  simp only [tagRaises_false, Bool.false_eq_true, h1, ↓reduceIte, h2, ha]
  have e : (if (m.nick = b.nick && b.pfx != m.pfx) = true then { b with pfx := m.pfx } else b) = b.pfxUpd m := rfl
  rw [e]
  have hn' : (b.nick != (b.pfxUpd m).nick) = false := by simp [pfxUpd_nick]
  simp only [hn', Bool.false_eq_true, ↓reduceIte, h3, addMsg_eq]

end C10
