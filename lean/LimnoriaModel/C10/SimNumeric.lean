/-
C10 — simulation: numerics from the server (RPL_ISUPPORT) and reconnect.
-/
import LimnoriaModel.C10.SimNick
namespace C10
open Py

/-- a numeric reply (first parameter = the bot's nick) from the server: only the `IrcState` handler acts -/
theorem feed_server {b : Bot} {p : Str} (hp : ServerOK p) (hne : p ≠ b.nick) (cmd : Str) (rest : List Str)
    (hirc : b.ircCmd ⟨p, cmd, b.nick :: rest⟩ = (b, false)) :
    (b.feed ⟨p, cmd, b.nick :: rest⟩).1 = (b.stateCmd ⟨p, cmd, b.nick :: rest⟩).1 := by
  have hpu : b.pfxUpd ⟨p, cmd, b.nick :: rest⟩ = b := pfxUpd_server hp.noBang hne _ _
  by_cases hs : cmd ∈ Gen.nickSetters
  · rw [feed_setter b _ hne hs rest rfl (by rw [hpu, hirc])]
    rw [hpu, hirc, prelude_server hp.noBang]
  · rw [feed_plain b _ hne hs (by rw [hpu, hirc])]
    rw [hpu, hirc, prelude_server hp.noBang]

theorem token005_other (b : Bot) {arg : Str} (name value : Str)
    (h : arg = name ++ '=' :: value ∧ '=' ∉ name ∧ asciiLower name ≠ "chantypes".toList ∧ asciiLower name ≠ "channellen".toList) :
    b.token005 arg = b := by
  unfold Bot.token005
  rw [h.1, split1_append _ h.2.1]
  dsimp only
  rw [if_neg h.2.2.1, if_neg h.2.2.2]

theorem token005_chantypes (b : Bot) (value : Str) :
    b.token005 ("CHANTYPES=".toList ++ value) = { b with isup := { b.isup with chantypes := some (some value) } } := by
  have e : "CHANTYPES=".toList = "CHANTYPES".toList ++ ['='] ∧ '=' ∉ "CHANTYPES".toList ∧
      asciiLower "CHANTYPES".toList = "chantypes".toList := by decide +kernel
  unfold Bot.token005
  rw [e.1, List.append_assoc, List.singleton_append, split1_append _ e.2.1]
  dsimp only
  rw [if_pos e.2.2]

theorem token005_channellen (b : Bot) (value : Str) (n : Int) (hv : pyInt value = some n) :
    b.token005 ("CHANNELLEN=".toList ++ value) = { b with isup := { b.isup with channellen := some (some n) } } := by
  have e : "CHANNELLEN=".toList = "CHANNELLEN".toList ++ ['='] ∧ '=' ∉ "CHANNELLEN".toList ∧
      asciiLower "CHANNELLEN".toList ≠ "chantypes".toList ∧ asciiLower "CHANNELLEN".toList = "channellen".toList := by
    decide +kernel
  unfold Bot.token005
  rw [e.1, List.append_assoc, List.singleton_append, split1_append _ e.2.1]
  dsimp only
  rw [if_neg e.2.2.1, if_pos e.2.2.2, hv]

theorem isupOK_announced {s : Srv} (hw : SrvWF s) {n : Int} (hn : 50 ≤ n) :
    IsupOK { chantypes := some (some s.cfg.chantypes), channellen := some (some n) } := by
  have hcfg := cfgOK_of_valid hw.cfg
  exact ⟨Or.inr ⟨_, rfl, hcfg.hash, hcfg.amp⟩, Or.inr ⟨n, rfl, hn⟩⟩

/-- the server's RPL_ISUPPORT tells the bot CHANTYPES and CHANNELLEN (the other tokens are not read) -/
theorem recv_isupportEv {cfg : Cfg} {b : Bot} (hv : cfg.valid = true) (hbn : NickOK b.nick) (hi : IsupOK b.isup) :
    ∃ n, pyInt cfg.channellen = some n ∧ 50 ≤ n ∧
      b.recv (isupportEv cfg b.nick) = { b with isup := { chantypes := some (some cfg.chantypes), channellen := some (some n) } } := by
  have hcfg := cfgOK_of_valid hv
  obtain ⟨n, hpn, hn50⟩ := hcfg.len
  refine ⟨n, hpn, hn50, ?_⟩
  have hsv := serverOK_of_cfg hv
  have hne : cfg.server ≠ b.nick := server_ne_nick hsv hbn
  unfold isupportEv
  simp only [recv_emit]
  have hfeed := feed_server (b := b) hsv hne "005".toList
    ["CHANTYPES=".toList ++ cfg.chantypes, "CHANNELLEN=".toList ++ cfg.channellen,
     "PREFIX=(ohv)@%+".toList, "CHANMODES=beIq,k,l,imnpstrCR".toList, "CASEMAPPING=rfc1459".toList, "NICKLEN=30".toList,
     "are supported by this server".toList] (by simp only [Bot.ircCmd, cmdOf_005])
  rw [hfeed]
  simp only [Bot.stateCmd, cmdOf_005, Bot.do005, List.drop_succ_cons, List.drop_zero, List.dropLast, List.foldl_cons, List.foldl_nil]
  rw [token005_chantypes, token005_channellen _ _ n hpn]
  rw [token005_other _ "NICKLEN".toList "30".toList (by decide +kernel),
    token005_other _ "CASEMAPPING".toList "rfc1459".toList (by decide +kernel),
    token005_other _ "CHANMODES".toList "beIq,k,l,imnpstrCR".toList (by decide +kernel),
    token005_other _ "PREFIX".toList "(ohv)@%+".toList (by decide +kernel)]

theorem recv_isupport {s : Srv} {b : Bot} (hw : SrvWF s) (hn : b.nick = s.bot) (hi : IsupOK b.isup) :
    ∃ n, pyInt s.cfg.channellen = some n ∧ 50 ≤ n ∧
      b.recv s.isupport = { b with isup := { chantypes := some (some s.cfg.chantypes), channellen := some (some n) } } := by
  have hbn : NickOK b.nick := by rw [hn]; exact hw.botNickOK
  obtain ⟨n, h1, h2, h3⟩ := recv_isupportEv hw.cfg hbn hi
  exact ⟨n, h1, h2, by unfold Srv.isupport; rw [← hn]; exact h3⟩

theorem coupled_isup {s : Srv} {b : Bot} (hc : Coupled s b) (i : Isup) (hi : IsupOK i) : Coupled s { b with isup := i } :=
  ⟨hc.nick, hc.chans, hc.hosts, hc.pfx, hc.cfgNick, hc.cfgIdent, hi⟩

theorem coupled_isupport {s : Srv} {b : Bot} (hw : SrvWF s) (hc : Coupled s b) :
    Coupled s (b.recvAll [s.isupport]) := by
  simp only [recvAll_cons, recvAll_nil]
  obtain ⟨n, _, hn50, hr⟩ := recv_isupport hw hc.nick hc.isup
  rw [hr]
  exact coupled_isup hc _ (isupOK_announced hw hn50)

theorem coupled_reconnect {s : Srv} {b : Bot} (hw : SrvWF s) (hc : Coupled s b) {u : SUser}
    (hcond : ¬ lower s.cfg.botNick = s.botKey → aget s.users (lower s.cfg.botNick) = none) :
    Coupled
      { s.dropEverywhere s.botKey with
          users := aset (adel (s.dropEverywhere s.botKey).users s.botKey) (lower s.cfg.botNick) { u with nick := s.cfg.botNick },
          bot := s.cfg.botNick, told := [], modesSynced := [], bansSynced := [], pending := [] }
      (b.recvAll [.reset, emit s.cfg.server "001" [s.cfg.botNick, "Welcome".toList], isupportEv s.cfg s.cfg.botNick]) := by
  have hsv := serverOK_of_cfg hw.cfg
  have hcfg := cfgOK_of_valid hw.cfg
  have hbn : NickOK s.cfg.botNick := nickOK_of_valid hcfg.nick
  -- the bot after the reset and the welcome
  have hreset : b.reset = Bot.init s.cfg.botNick s.cfg.botIdent := by
    unfold Bot.reset; rw [hc.cfgNick, hc.cfgIdent]
  have hne : s.cfg.server ≠ (Bot.init s.cfg.botNick s.cfg.botIdent).nick := server_ne_nick hsv hbn
  have hi0 : IsupOK (Bot.init s.cfg.botNick s.cfg.botIdent).isup := ⟨Or.inl rfl, Or.inl rfl⟩
  have hfeed := feed_server (b := Bot.init s.cfg.botNick s.cfg.botIdent) hsv hne "001".toList ["Welcome".toList]
    (by simp only [Bot.ircCmd, cmdOf_001])
  have hrr : b.recv Ev.reset = b.reset := rfl
  simp only [recvAll_cons, recvAll_nil, hrr, hreset]
  have e : (Bot.init s.cfg.botNick s.cfg.botIdent).nick = s.cfg.botNick := rfl
  rw [e] at hfeed
  have e1 : ((Bot.init s.cfg.botNick s.cfg.botIdent).recv (emit s.cfg.server "001" [s.cfg.botNick, "Welcome".toList])) =
      Bot.init s.cfg.botNick s.cfg.botIdent := by
    simp only [recv_emit]
    rw [hfeed]
    simp only [Bot.stateCmd, cmdOf_001]
  rw [e1]
  obtain ⟨n5, _, hn50, hr⟩ := recv_isupportEv (cfg := s.cfg) (b := Bot.init s.cfg.botNick s.cfg.botIdent) hw.cfg hbn hi0
  rw [e] at hr
  rw [hr]
  refine ⟨rfl, ?_, ?_, ?_, rfl, rfl, isupOK_announced hw hn50⟩
  · intro kc
    show ChanRel _ kc (aget (s.dropEverywhere s.botKey).chans kc) none
    cases hsc' : aget (s.dropEverywhere s.botKey).chans kc with
    | none => trivial
    | some sc' =>
      obtain ⟨sc, hsc, rfl⟩ := dropEverywhere_chan hw.chansNodup hsc'
      simp only [ChanRel]
      show (sc.remove s.botKey).has (lower s.cfg.botNick) = false
      by_cases hsame : lower s.cfg.botNick = s.botKey
      · rw [hsame]; exact has_remove_self sc s.botKey
      · rw [← Bool.not_eq_true]; intro hcon
        have a := has_remove_of hcon
        rw [not_has_of_free hw hsc (hcond hsame)] at a; cases a
  · intro x ux _ hv
    have hv' : x ∈ ([] : List Str) := hv
    cases hv'
  · intro kc sc' hsc' hb'
    exfalso
    have hsc'' : aget (s.dropEverywhere s.botKey).chans kc = some sc' := hsc'
    obtain ⟨sc, hsc, rfl⟩ := dropEverywhere_chan hw.chansNodup hsc''
    have h1' : (sc.remove s.botKey).has (lower s.cfg.botNick) = true := hb'
    by_cases hsame : lower s.cfg.botNick = s.botKey
    · rw [hsame, has_remove_self] at h1'; cases h1'
    · have a := has_remove_of h1'
      rw [not_has_of_free hw hsc (hcond hsame)] at a; cases a

end C10
