/-
C10 — the bot's own JOIN (JOIN echo + topic + NAMES per channel), the replies to its WHO / MODE / MODE +b
queries (served in order, or unsolicited), the coupling under every action (`coupled_step`) and the
invariant of `run`.
-/
import LimnoriaModel.C10.Replies
namespace C10
open Py

theorem frame_setChan (s : Srv) (key : Str) (b : Bot) (ch : Chan) :
    Frame s key b { b with channels := aset b.channels key ch } :=
  ⟨rfl, rfl, rfl, rfl, rfl, fun _ hk => aget_aset_ne _ _ (Ne.symm hk), fun _ => Or.inl rfl⟩

theorem shown_mem {s : Srv} {ps : List (Str × Flags)} {x : Str} {f : Flags} (h : (x, f) ∈ ps) :
    (x, shown s.cfg f) ∈ shownMembers s ps := by
  simp only [shownMembers, List.mem_map, Prod.mk.injEq]
  exact ⟨(x, f), h, rfl, rfl⟩

/-- what the bot gets unasked after its own JOIN (topic, NAMES) brings its fresh record of the channel in
line with the server's, as far as those replies go: modes and bans still have to be asked for -/
theorem burst_effect {s : Srv} {b : Bot} (h : AtSrv s b) {k : Str} {sc : SChan} (hsc : aget s.chans k = some sc)
    (hbot : sc.has s.botKey = true)
    (hch : aget b.channels k = some { Chan.empty with users := [s.botKey] }) :
    Frame s k b (b.recvAll (s.joinBurst sc)) ∧
    (∃ ch', aget (b.recvAll (s.joinBurst sc)).channels k = some ch' ∧ ChanMatches s.cfg.multiPrefix false false sc ch') ∧
    (s.cfg.uhnames = true → ∀ p ∈ sc.members, ∃ u, aget s.users p.1 = some u ∧
      aget (b.recvAll (s.joinBurst sc)).n2h p.1 = some u.mask) := by
  have hcw := h.wf.chans k sc hsc
  have hkey := hcw.key
  subst hkey
  unfold Srv.joinBurst
  simp only [recvAll_append]
  obtain ⟨b1, ch1, hb1, hf1, hch1, ht1, hv1⟩ : ∃ b1 ch1,
      b.recvAll (if sc.topic.isEmpty then [] else
        [emit s.cfg.server "332" [s.bot, sc.name, sc.topic], emit s.cfg.server "333" [s.bot, sc.name, s.cfg.server, ['0']]]) = b1 ∧
      Frame s (lower sc.name) b b1 ∧ aget b1.channels (lower sc.name) = some ch1 ∧ ch1.topic = sc.topic ∧
      (ch1.users = [s.botKey] ∧ ch1.ops = [] ∧ ch1.halfops = [] ∧ ch1.voices = [] ∧ ch1.modes = [] ∧ ch1.bans = []) := by
    by_cases ht : sc.topic.isEmpty = true
    · simp only [ht, ↓reduceIte, recvAll_nil]
      refine ⟨b, _, rfl, Frame.refl _ _ _, hch, ?_, rfl, rfl, rfl, rfl, rfl, rfl⟩
      have : sc.topic = [] := by simpa using ht
      rw [this]; rfl
    · simp only [ht, Bool.false_eq_true, ↓reduceIte]
      rw [topic_lines h sc hch]
      exact ⟨_, _, rfl, frame_setChan _ _ _ _, aget_aset_self _ _ _, rfl, rfl, rfl, rfl, rfl, rfl, rfl⟩
  rw [hb1]
  have h1 := h.frame hf1
  obtain ⟨hf2, ⟨ch2, hch2, hr2⟩, hn2⟩ := names_reply h1 hsc hch1
  refine ⟨hf1.trans hf2, ⟨ch2, hch2, ?_⟩, hn2⟩
  refine ⟨⟨?_, ?_⟩, ⟨?_, ?_⟩, ⟨?_, ?_⟩, ⟨?_, ?_⟩, ?_, ?_, ?_, ?_, ?_⟩
  · intro x hx
    rcases (hr2.users x).mp hx with hx | ⟨f', hf'⟩
    · rw [hv1.1] at hx
      simp only [List.mem_singleton] at hx
      subst hx
      obtain ⟨f, hf⟩ := has_iff.mp hbot
      exact ⟨f, hf, trivial⟩
    · obtain ⟨f, hf, _⟩ := mem_shown hf'; exact ⟨f, hf, trivial⟩
  · intro _ x ⟨f, hf, _⟩; exact (hr2.users x).mpr (Or.inr ⟨_, shown_mem hf⟩)
  · intro x hx
    rcases (hr2.ops x).mp hx with hx | ⟨f', hf', ho⟩
    · rw [hv1.2.1] at hx; cases hx
    · obtain ⟨f, hf, rfl⟩ := mem_shown hf'; exact ⟨f, hf, show f.o = true from (shown_o s.cfg f).symm.trans ho⟩
  · intro _ x ⟨f, hf, ho⟩
    exact (hr2.ops x).mpr (Or.inr ⟨_, shown_mem hf, (shown_o s.cfg f).trans ho⟩)
  · intro x hx
    rcases (hr2.halfops x).mp hx with hx | ⟨f', hf', ho⟩
    · rw [hv1.2.2.1] at hx; cases hx
    · obtain ⟨f, hf, rfl⟩ := mem_shown hf'; exact ⟨f, hf, shown_h s.cfg f ho⟩
  · intro hmp x ⟨f, hf, ho⟩
    exact (hr2.halfops x).mpr (Or.inr ⟨_, shown_mem hf, by rw [shown_mp hmp]; exact ho⟩)
  · intro x hx
    rcases (hr2.voices x).mp hx with hx | ⟨f', hf', ho⟩
    · rw [hv1.2.2.2.1] at hx; cases hx
    · obtain ⟨f, hf, rfl⟩ := mem_shown hf'; exact ⟨f, hf, shown_v s.cfg f ho⟩
  · intro hmp x ⟨f, hf, ho⟩
    exact (hr2.voices x).mpr (Or.inr ⟨_, shown_mem hf, by rw [shown_mp hmp]; exact ho⟩)
  · rw [hr2.topic, ht1]
  · intro m
    rcases hr2.modes m with e | ⟨hty, rfl, e⟩
    · right; rw [e, hv1.2.2.2.2.1]; rfl
    · left; rw [e]
      by_cases hs : (aget sc.modes 's').isSome = true
      · exact (secret_is_flag hcw.modes hs).symm
      · simp only [hs, Bool.false_eq_true, ↓reduceIte] at hty
        split at hty <;> simp at hty
  · intro hf; cases hf
  · intro x hx; rw [hr2.bans, hv1.2.2.2.2.2] at hx; cases hx
  · intro hf; cases hf

theorem decide_mem_sdel (l : List Str) (k k' : Str) (h : k' ≠ k) :
    decide (k' ∈ sdel l k) = decide (k' ∈ l) := by simp [mem_sdel, h]
theorem decide_mem_sadd (l : List Str) (k k' : Str) (h : k' ≠ k) :
    decide (k' ∈ sadd l k) = decide (k' ∈ l) := by simp [mem_sadd, h]

/-- the bot enters one channel: JOIN echo, then topic and NAMES; the channel counts as not yet synced -/
theorem own_join_one {s s1 : Srv} {b : Bot} (hw : SrvWF s) (hc : Coupled s b) {ub : SUser}
    (hub : aget s.users s.botKey = some ub) {c name : Str} (he : s.enter s.botKey c = some (s1, name)) {sc1 : SChan}
    (hsc1 : s1.chan c = some sc1) :
    Coupled { s1 with modesSynced := sdel s1.modesSynced (lower c), bansSynced := sdel s1.bansSynced (lower c),
                      told := if s1.cfg.uhnames then addAll (sadd s1.told s1.botKey) sc1.keys else sadd s1.told s1.botKey }
      (b.recvAll (emit ub.mask "JOIN" (joinArgs s.cfg name) :: s1.joinBurst sc1)) := by
  have hw1 : SrvWF s1 := enter_wf hw (by simp [hub]) he
  obtain ⟨hvalid, sc1', hs1, hname, hcase⟩ := enter_spec he
  subst hs1
  have hsc1' : aget (aset s.chans (lower c) sc1') (lower c) = some sc1 := hsc1
  rw [aget_aset_self] at hsc1'
  cases hsc1'
  have huo := (hw.userOK hub).2
  have hubn : ub.nick = s.bot := hw.bot_user hub
  have hcw1 := hw1.chans (lower c) sc1 (aget_aset_self _ _ _)
  have hkey : lower name = lower c := by rw [← hname]; exact hcw1.key
  have hcomma : ',' ∉ name := by rw [← hname]; exact chan_noComma_of_valid hcw1.name
  have hrel := hc.chans (lower c)
  have hbn : aget b.channels (lower c) = none ∧ sc1.has s.botKey = true := by
    rcases hcase with ⟨hnone, _, hsc⟩ | ⟨sc, hsome, hnot, hsc⟩
    · rw [hnone] at hrel
      constructor
      · cases hbc : aget b.channels (lower c) with
        | none => rfl
        | some ch => rw [hbc] at hrel; simp only [ChanRel] at hrel
      · rw [hsc, has_iff]; exact ⟨{ o := true }, by simp⟩
    · rw [hsome] at hrel
      constructor
      · exact bot_chan_none hc hsome hnot
      · rw [hsc, has_iff]; exact ⟨{}, by simp⟩
  obtain ⟨hbnone, hbot1⟩ := hbn
  simp only [recvAll_cons, recv_emit]
  obtain ⟨rest, hargs⟩ := joinArgs_cons s.cfg name
  obtain ⟨hc0, hfeed⟩ := feed_from_user hw hc hub "JOIN".toList (joinArgs s.cfg name)
    (setters_out_ok "JOIN".toList (by decide +kernel)) (by decide +kernel)
    (fun b0 => by simp only [Bot.ircCmd, cmdOf_JOIN, hargs]; split <;> rfl)
  rw [hfeed]
  have hj : ((b.seen ub).stateCmd ⟨ub.mask, "JOIN".toList, joinArgs s.cfg name⟩).1 =
      { b.seen ub with channels := aset b.channels (lower c) { Chan.empty with users := [s.botKey] } } := by
    simp only [Bot.stateCmd, cmdOf_JOIN, Bot.doJoin, hargs, splitChar_single hcomma, List.foldl_cons, List.foldl_nil,
      msg_nick_user huo]
    have hchan : (b.seen ub).chan name = none := by
      show aget b.channels (lower name) = none
      rw [hkey]; exact hbnone
    have hne := isEmpty_false huo.nick.ne
    simp only [Bot.joinOne, hchan, hne, Bool.false_eq_true, ↓reduceIte, Bot.setChan, hkey, addUser_plain huo.nick]
    have : lower ub.nick = s.botKey := by rw [hubn]; rfl
    simp [this, Chan.empty, sadd, Bot.seen]
  rw [hj]
  obtain ⟨b1, hb1⟩ : ∃ b1, b1 = ({ b.seen ub with channels := aset b.channels (lower c) { Chan.empty with users := [s.botKey] } } : Bot) := ⟨_, rfl⟩
  rw [← hb1]
  have hat : AtSrv { s with chans := aset s.chans (lower c) sc1 } b1 := by
    refine ⟨hw1, ?_, ?_⟩
    · rw [hb1]; exact hc.nick
    · rw [hb1]; exact hc.isup
  have hch1 : aget b1.channels (lower c) = some { Chan.empty with users := [s.botKey] } := by
    rw [hb1]; exact aget_aset_self _ _ _
  obtain ⟨hf, ⟨ch', hch', hm'⟩, hn'⟩ := burst_effect hat (aget_aset_self _ _ _) hbot1 hch1
  have hb1n2h : aget b1.n2h s.botKey = some ub.mask := by
    rw [hb1]
    show aget (aset b.n2h (lower ub.nick) ub.mask) s.botKey = _
    have : lower ub.nick = s.botKey := by rw [hubn]; rfl
    rw [this, aget_aset_self]
  have hkeep : ∀ k u, aget s.users k = some u → aget b.n2h k = some u.mask →
      aget (b1.recvAll (Srv.joinBurst { s with chans := aset s.chans (lower c) sc1 } sc1)).n2h k = some u.mask := by
    intro k u hu hcorrect
    have h1 : aget b1.n2h k = some u.mask := by
      rw [hb1]
      show aget (aset b.n2h (lower ub.nick) ub.mask) k = _
      rw [aget_aset]
      by_cases hk : lower ub.nick = k
      · have : k = s.botKey := by rw [← hk, hubn]; rfl
        subst this; rw [hub] at hu; cases hu; simp [hk]
      · simp only [hk, ↓reduceIte]; exact hcorrect
    exact hf.keeps hu h1
  refine coupled_update hc (lower c) rfl rfl rfl ?_ (fun k hk => aget_aset_ne _ _ (Ne.symm hk)) ?_ ?_ ?_ ?_ ?_ ?_ ?_ ?_ ?_
  · intro k hk
    exact ⟨decide_mem_sdel _ _ _ hk, decide_mem_sdel _ _ _ hk⟩
  · intro k hk
    rw [hf.others k hk, hb1]
    exact aget_aset_ne _ _ (Ne.symm hk)
  · show ChanRel _ (lower c) (aget (aset s.chans (lower c) sc1) (lower c)) _
    rw [aget_aset_self, hch']
    refine ⟨hbot1, ?_⟩
    show ChanMatches s.cfg.multiPrefix (decide (lower c ∈ sdel s.modesSynced (lower c)))
      (decide (lower c ∈ sdel s.bansSynced (lower c))) sc1 ch'
    have e1 : decide (lower c ∈ sdel s.modesSynced (lower c)) = false := by simp [mem_sdel]
    have e2 : decide (lower c ∈ sdel s.bansSynced (lower c)) = false := by simp [mem_sdel]
    rw [e1, e2]
    exact hm'
  · rw [hf.nick, hb1]; rfl
  · rw [hf.cfgNick, hb1]; rfl
  · rw [hf.cfgIdent, hb1]; rfl
  · rw [hf.isup, hb1]; rfl
  · intro k u hu ht
    have ht' : k ∈ (if s.cfg.uhnames then addAll (sadd s.told s.botKey) sc1.keys else sadd s.told s.botKey) := ht
    have hbase : k ∈ sadd s.told s.botKey → aget (b1.recvAll (Srv.joinBurst { s with chans := aset s.chans (lower c) sc1 } sc1)).n2h k = some u.mask := by
      intro hk
      rcases mem_sadd.mp hk with rfl | hk
      · rw [hub] at hu; cases hu
        exact hf.keeps hub hb1n2h
      · exact hkeep k u hu (hc.hosts k u hu hk)
    by_cases huh : s.cfg.uhnames = true
    · simp only [huh, ↓reduceIte] at ht'
      rcases mem_addAll.mp ht' with h | h
      · exact hbase h
      · obtain ⟨f, hf'⟩ := mem_keys.mp h
        obtain ⟨u', hu', hn⟩ := hn' huh (k, f) hf'
        have hu'' : aget s.users k = some u' := hu'
        rw [hu] at hu''; cases hu''; exact hn
    · simp only [huh, Bool.false_eq_true, ↓reduceIte] at ht'
      exact hbase ht'
  · intro u hu _
    rw [hf.pfx, hb1]
    show (if ub.nick = b.nick then ub.mask else b.pfx) = _
    rw [hub] at hu; cases hu
    rw [if_pos (by rw [hubn, hc.nick])]
  · intro sc' _ _
    refine ⟨ub, hub, ?_⟩
    rw [hf.pfx, hb1]
    show (if ub.nick = b.nick then ub.mask else b.pfx) = _
    rw [if_pos (by rw [hubn, hc.nick])]

theorem joinBot_sim (ub : SUser) (cs : List Str) :
    ∀ (s : Srv) (b : Bot), SrvWF s → Coupled s b → aget s.users s.botKey = some ub →
      Coupled (s.joinBot ub cs).1 (b.recvAll (s.joinBot ub cs).2) := by
  induction cs with
  | nil => intro s b _ hc _; exact hc
  | cons c cs ih =>
    intro s b hw hc hub
    unfold Srv.joinBot
    cases he : s.enter s.botKey c with
    | none => dsimp only; exact ih s b hw hc hub
    | some r =>
      obtain ⟨s1, name⟩ := r
      dsimp only
      have hw1 : SrvWF s1 := enter_wf hw (by simp [hub]) he
      have hus := enter_users he
      obtain ⟨_, sc1, hs1, _, _⟩ := enter_spec he
      have hsc1 : s1.chan c = some sc1 := by
        rw [hs1]; show aget (aset s.chans (lower c) sc1) (lower c) = _; exact aget_aset_self _ _ _
      rw [hsc1]
      dsimp only
      have hone := own_join_one hw hc hub he hsc1
      rw [recvAll_append]
      refine ih _ _ (wf_congr hw1 rfl rfl rfl rfl) hone ?_
      show aget s1.users s1.botKey = some ub
      simp only [Srv.botKey, hus.1, hus.2.1]; exact hub

/-! ### replies to the MODE / MODE +b queries, solicited or not -/

theorem coupled_replyMode {s : Srv} {b : Bot} (hw : SrvWF s) (hc : Coupled s b) (c : Str) :
    Coupled (s.replyMode c).1 (b.recvAll (s.replyMode c).2) := by
  unfold Srv.replyMode
  split
  · rename_i sc hch
    rw [Srv.chan_eq] at hch
    have hcw := hw.chans _ _ hch
    have hat : AtSrv s b := ⟨hw, hc.nick, hc.isup⟩
    have hkey := hcw.key
    by_cases hb : sc.has s.botKey = true
    · have hbi : s.botIn sc = true := hb
      obtain ⟨ch, hbc, hm⟩ := Coupled.chan_of_botIn hc hch hb
      simp only [hbi, ↓reduceIte, recvAll_cons, recvAll_nil]
      rw [mode_line hat hch hbc]
      obtain ⟨ch4, hb4, hv4⟩ := created_line (s := s)
        (b := { b with channels := aset b.channels (lower c) { ch with modes := sc.modes.foldl (fun acc e => aset acc e.1 e.2) ch.modes } })
        ⟨hw, hc.nick, hc.isup⟩ sc (by rw [hkey]; exact aget_aset_self _ _ _)
      rw [hb4]
      simp only [hkey, aset_aset]
      refine coupled_of_frame hc (frame_setChan s (lower c) b ch4) rfl rfl rfl rfl ?_ ?_ (fun _ _ _ h => Or.inl h)
      · intro k' hk'
        exact ⟨decide_mem_sadd _ _ _ hk', rfl⟩
      · rw [hch]
        show ChanRel _ (lower c) (some sc) (aget (aset b.channels (lower c) ch4) (lower c))
        rw [aget_aset_self]
        refine ⟨hb, ?_⟩
        have hlook : ∀ m, aget ch4.modes m = aget sc.modes m := by
          intro m
          rw [hv4.modes]
          show aget (sc.modes.foldl (fun acc e => aset acc e.1 e.2) ch.modes) m = _
          rw [foldl_aset_get _ _ hcw.modesNodup]
          cases hg : aget sc.modes m with
          | some v => rfl
          | none =>
            simp only
            rcases hm.modes m with e | e
            · rw [e, hg]
            · exact e
        refine ⟨?_, ?_, ?_, ?_, ?_, fun m => Or.inl (hlook m), fun _ => hlook, ?_, ?_⟩
        · rw [hv4.users]; exact hm.users
        · rw [hv4.ops]; exact hm.ops
        · rw [hv4.halfops]; exact hm.halfops
        · rw [hv4.voices]; exact hm.voices
        · rw [hv4.topic]; exact hm.topic
        · rw [hv4.bans]; exact hm.bans
        · rw [hv4.bans]; exact hm.bansFull
    · have hb' : sc.has s.botKey = false := by simpa using hb
      have hbi : s.botIn sc = false := hb'
      have hnone := bot_chan_none hc hch hb'
      rw [← hkey] at hnone
      unfold Srv.modeIs
      simp only [hbi, Bool.false_eq_true, ↓reduceIte, recvAll_cons, recvAll_nil, recv_emit, List.cons_append, List.nil_append]
      rw [(late_replies_ignored hat sc.name hnone _).1, (late_replies_ignored hat sc.name hnone _).2.1]
      exact hc
  · exact hc

theorem ban_lines_ignored {s : Srv} {b : Bot} (h : AtSrv s b) (sc : SChan) (hnone : aget b.channels (lower sc.name) = none)
    (bans : List Str) :
    b.recvAll (bans.map (fun m => emit s.cfg.server "367" [s.bot, sc.name, m, s.cfg.server, ['0']])) = b := by
  induction bans with
  | nil => rfl
  | cons m ms ih =>
    simp only [List.map_cons, recvAll_cons, recv_emit]
    rw [(late_replies_ignored h sc.name hnone _).2.2]
    exact ih

theorem coupled_replyBans {s : Srv} {b : Bot} (hw : SrvWF s) (hc : Coupled s b) (c : Str) :
    Coupled (s.replyBans c).1 (b.recvAll (s.replyBans c).2) := by
  unfold Srv.replyBans
  split
  · rename_i sc hch
    rw [Srv.chan_eq] at hch
    have hcw := hw.chans _ _ hch
    have hat : AtSrv s b := ⟨hw, hc.nick, hc.isup⟩
    have hkey := hcw.key
    unfold Srv.banList
    simp only [recvAll_append]
    by_cases hb : sc.has s.botKey = true
    · have hbi : s.botIn sc = true := hb
      obtain ⟨ch, hbc, hm⟩ := Coupled.chan_of_botIn hc hch hb
      rw [ban_lines sc sc.bans hat (by rw [hkey]; exact hbc)]
      generalize hb1 : ({ b with channels := (aset b.channels (lower sc.name)
          { ch with bans := sc.bans.foldl (fun acc m => sadd acc (lower m)) ch.bans }) } : Bot) = b1
      have h1 : AtSrv s b1 := by rw [← hb1]; exact ⟨hw, hc.nick, hc.isup⟩
      simp only [recvAll_cons, recvAll_nil, recv_emit]
      rw [noop_line h1 "368".toList [sc.name, "End of channel ban list".toList] cmdOf_368]
      subst hb1
      rw [hkey]
      simp only [hbi, ↓reduceIte]
      refine coupled_of_frame hc (frame_setChan s (lower c) b _) rfl rfl rfl rfl ?_ ?_ (fun _ _ _ h => Or.inl h)
      · intro k' hk'
        exact ⟨rfl, decide_mem_sadd _ _ _ hk'⟩
      · rw [hch]
        show ChanRel _ (lower c) (some sc) (aget (aset b.channels (lower c) _) (lower c))
        rw [aget_aset_self]
        refine ⟨hb, ⟨hm.users, hm.ops, hm.halfops, hm.voices, hm.topic, hm.modes, hm.modesFull, ?_, ?_⟩⟩
        · intro x hx
          have hx' : x ∈ sc.bans.foldl (fun acc m => sadd acc (lower m)) ch.bans := hx
          rcases (mem_foldl_sadd lower _ _ _).mp hx' with h | h
          · exact hm.bans x h
          · exact h
        · intro _ x hx
          show x ∈ sc.bans.foldl (fun acc m => sadd acc (lower m)) ch.bans
          exact (mem_foldl_sadd lower _ _ _).mpr (Or.inr hx)
    · have hb' : sc.has s.botKey = false := by simpa using hb
      have hbi : s.botIn sc = false := hb'
      have hnone := bot_chan_none hc hch hb'
      rw [← hkey] at hnone
      rw [ban_lines_ignored hat sc hnone]
      simp only [recvAll_cons, recvAll_nil, recv_emit]
      rw [noop_line hat "368".toList [sc.name, "End of channel ban list".toList] cmdOf_368]
      simp only [hbi, Bool.false_eq_true, ↓reduceIte]
      exact hc
  · exact hc

/-- dropping or adding pending queries does not touch the coupling -/
theorem coupled_pending {s : Srv} {b : Bot} (hc : Coupled s b) (p : List Req) : Coupled { s with pending := p } b :=
  ⟨hc.nick, hc.chans, hc.hosts, hc.pfx, hc.cfgNick, hc.cfgIdent, hc.isup⟩

theorem StepEffect.coupled {s s' : Srv} {a : Act} {evs : List Ev} (he : StepEffect s a s' evs) {b : Bot} (hw : SrvWF s)
    (hc : Coupled s b) (ha : a.ok) : Coupled s' (b.recvAll evs) := by
  cases he with
  | idle => exact hc
  | connect _ _ _ hfree => exact coupled_connect hw hc hfree
  | joinBot hu hb => rw [hb] at hu; exact joinBot_sim _ _ s b hw hc hu
  | joinUnseen hu hb hemp => exact coupled_joinUnseen hw hc hu hb hemp
  | joinSeen hu hb hemp => exact coupled_joinSeen hw hc hu hb hemp
  | part hu => exact coupled_part hw hc hu
  | kick hsrc hch _ hts hne => exact coupled_kick hw hc hsrc hch hts hne
  | quit hu hb => exact coupled_quit hw hc hu hb
  | nick hu hvn _ hfree => exact coupled_nick hw hc hu hvn hfree
  | mode hsrc hch => exact coupled_mode hw hc ha hsrc hch
  | topic hsrc hch => exact coupled_topic hw hc hsrc hch
  | chghostSeen hu hi hh => exact coupled_chghost hw hc hu hi hh
  | chghostSilent _ _ _ _ hb => exact coupled_chghostSilent hc hb
  | say hu => exact coupled_say hw hc hu
  | isupport => exact coupled_isupport hw hc
  | names hch hb => exact coupled_names hw hc hch hb
  | who => exact coupled_replyWho hw hc _
  | modeis => exact coupled_replyMode hw hc _
  | banlist => exact coupled_replyBans hw hc _
  | @serveWho c rest =>
    exact coupled_replyWho (s := { s with pending := rest }) (wf_congr hw rfl rfl rfl rfl) (coupled_pending hc rest) c
  | @serveMode c rest =>
    exact coupled_replyMode (s := { s with pending := rest }) (wf_congr hw rfl rfl rfl rfl) (coupled_pending hc rest) c
  | @serveBans c rest =>
    exact coupled_replyBans (s := { s with pending := rest }) (wf_congr hw rfl rfl rfl rfl) (coupled_pending hc rest) c
  | reconnect _ hfree => exact coupled_reconnect hw hc hfree

/-- every action of the reference server keeps the bot's view coupled to the server state -/
theorem coupled_step {s : Srv} {b : Bot} (hw : SrvWF s) (hc : Coupled s b) (a : Act) (ha : a.ok) :
    Coupled (s.step a).1 (b.recvAll (s.step a).2) :=
  (step_effect s a).coupled hw hc ha

theorem coupled_init (cfg : Cfg) : Coupled (Srv.init cfg) (Bot.init cfg.botNick cfg.botIdent) := by
  refine ⟨rfl, ?_, ?_, ?_, rfl, rfl, ⟨Or.inl rfl, Or.inl rfl⟩⟩
  · intro k; simp [Srv.init, Bot.init, ChanRel]
  · intro k u _ hv'; simp [Srv.init] at hv'
  · intro k sc hsc; simp [Srv.init] at hsc

theorem run_inv (acts : List Act) : ∀ (s : Srv) (b : Bot), SrvWF s → Coupled s b → (∀ a ∈ acts, a.ok) →
    SrvWF (run s b acts).1 ∧ Coupled (run s b acts).1 (run s b acts).2 := by
  induction acts with
  | nil => intro s b hw hc _; exact ⟨hw, hc⟩
  | cons a as ih =>
    intro s b hw hc hok
    unfold run
    have h1 := wf_step hw a (hok a (by simp))
    have h2 := coupled_step hw hc a (hok a (by simp))
    exact ih _ _ (wf_enqueue h1 _) (coupled_pending h2 _) (fun a' ha' => hok a' (by simp [ha']))

end C10
