/-
C10 — helper lemmas (umbrella).  The development is split over
  CollLemmas, StrLemmas, FeedLemmas   collections, strings / hostmasks, decomposition of `Bot.feed`
  Inv, Mode, Step, WF                 the invariants; what a mode change / an action does; the server keeps its invariant
  SimBasic, SimLeave, SimJoinQuit,    simulation of connect, TOPIC, CHGHOST, KICK, PART, JOIN (others), PRIVMSG, QUIT,
  SimNick, SimNumeric, SimMode        NICK, RPL_ISUPPORT, reconnect, MODE
  Names, Replies, OwnJoin             NAMES / WHO / 324 / 329 / 367 replies, the bot's own JOIN, `run_inv`
  BatchSim                            what the server emits, classified; batches; `runB_inv`
  Complete                            every query of the bot is answered or still queued; `run_complete`
  FollowSim                           followIdentificationThroughNickChanges loses no NICK; `runF_eq_runB`
-/
import LimnoriaModel.C10.OwnJoin
import LimnoriaModel.C10.BatchSim
import LimnoriaModel.C10.Complete
import LimnoriaModel.C10.FollowSim
