/-
C10 — simulation: members leave (KICK, PART).
-/
import LimnoriaModel.C10.SimBasic
namespace C10
open Py

theorem Tracks.remove {full : Prop} {S : List Str} {ms : List (Str × Flags)} {P : Flags → Prop}
    (h : Tracks full S ms P) (k : Str) : Tracks full (sdel S k) (ms.filter (fun p => p.1 != k)) P where
  sub := fun x hx => by
    obtain ⟨hne, hxS⟩ := mem_sdel.mp hx
    obtain ⟨f, hf, hp⟩ := h.sub x hxS
    exact ⟨f, List.mem_filter.mpr ⟨hf, by simpa using hne⟩, hp⟩
  sup := fun hfull x ⟨f, hf, hp⟩ => by
    obtain ⟨hf', hne⟩ := List.mem_filter.mp hf
    exact mem_sdel.mpr ⟨by simpa using hne, h.sup hfull x ⟨f, hf', hp⟩⟩

theorem ChanMatches.remove {mp ms bs : Bool} {sc : SChan} {ch : Chan} (h : ChanMatches mp ms bs sc ch) (n : Str) :
    ChanMatches mp ms bs (sc.remove (lower n)) (ch.removeUser n) where
  users := h.users.remove _
  ops := h.ops.remove _
  halfops := h.halfops.remove _
  voices := h.voices.remove _
  topic := h.topic
  modes := h.modes
  modesFull := h.modesFull
  bans := h.bans
  bansFull := h.bansFull

theorem has_remove {sc : SChan} {k x : Str} : (sc.remove k).has x = true ↔ x ≠ k ∧ sc.has x = true := by
  simp only [has_iff, SChan.remove, List.mem_filter, bne_iff_ne, ne_eq]
  constructor
  · rintro ⟨f, hf, hx⟩; exact ⟨hx, f, hf⟩
  · rintro ⟨hx, f, hf⟩; exact ⟨f, hf, hx⟩

theorem has_remove_of {sc : SChan} {k x : Str} (h : (sc.remove k).has x = true) : sc.has x = true :=
  (has_remove.mp h).2

theorem has_remove_self (sc : SChan) (k : Str) : (sc.remove k).has k = false := by
  rw [← Bool.not_eq_true, has_remove]; simp

theorem kickTargets_has {ts : List Str} {sc : SChan} {x : Str} (h : (kickTargets sc ts).1.has x = true) :
    sc.has x = true :=
  kickTargets_invariant (P := fun sc' => sc'.has x = true → sc.has x = true) (fun _ _ h hx => h (has_remove_of hx)) ts id h

theorem kickTargets_name (ts : List Str) (sc : SChan) : (kickTargets sc ts).1.name = sc.name :=
  kickTargets_invariant (P := fun sc' => sc'.name = sc.name) (fun _ _ h => h) ts rfl

theorem kickTargets_sub (ts : List Str) (sc : SChan) : ∀ t ∈ (kickTargets sc ts).2, t ∈ ts := by
  induction ts generalizing sc with
  | nil => intro t ht; simp [kickTargets] at ht
  | cons t0 ts ih =>
    intro t ht
    unfold kickTargets at ht
    split at ht
    · simp only [List.mem_cons] at ht ⊢
      rcases ht with rfl | ht
      · exact Or.inl rfl
      · exact Or.inr (ih _ t ht)
    · exact List.mem_cons_of_mem _ (ih _ t ht)

theorem kickTargets_removed (ts : List Str) (sc : SChan) {t : Str} (ht : t ∈ ts) :
    (kickTargets sc ts).1.has (lower t) = false := by
  induction ts generalizing sc with
  | nil => cases ht
  | cons t0 ts ih =>
    unfold kickTargets
    rcases List.mem_cons.mp ht with rfl | ht'
    · by_cases hm : sc.has (lower t) = true
      · simp only [hm, ↓reduceIte]
        rw [← Bool.not_eq_true]; intro hcon
        have := kickTargets_has hcon
        rw [has_remove_self] at this; cases this
      · simp only [hm, Bool.false_eq_true, ↓reduceIte]
        rw [← Bool.not_eq_true]; intro hcon
        exact hm (kickTargets_has hcon)
    · split
      · exact ih _ ht'
      · exact ih _ ht'

theorem kickTargets_kicked (ts : List Str) (sc : SChan) {t : Str} (ht : t ∈ ts) (hm : sc.has (lower t) = true) :
    (kickTargets sc ts).2 ≠ [] := by
  induction ts generalizing sc with
  | nil => cases ht
  | cons t0 ts ih =>
    unfold kickTargets
    by_cases hm0 : sc.has (lower t0) = true
    · simp [hm0]
    · simp only [hm0, Bool.false_eq_true, ↓reduceIte]
      rcases List.mem_cons.mp ht with rfl | ht'
      · exact absurd hm hm0
      · exact ih sc ht' hm

/-- the bot's loop over the kicked nicks against the server's removal, member by member -/
theorem kick_sim {mp ms bs : Bool} (botKey key : Str) (ts : List Str) :
    ∀ (sc : SChan) (ch : Chan) (b : Bot), lower b.nick = botKey → aget b.channels key = some ch →
      ChanMatches mp ms bs sc ch → sc.has botKey = true →
      let b' := b.kickLoop key (kickTargets sc ts).2
      b'.nick = b.nick ∧ b'.pfx = b.pfx ∧ b'.n2h = b.n2h ∧ b'.cfgNick = b.cfgNick ∧ b'.cfgIdent = b.cfgIdent ∧ b'.isup = b.isup ∧
      (∀ k, k ≠ key → aget b'.channels k = aget b.channels k) ∧
      (match aget b'.channels key with
        | none => (kickTargets sc ts).1.has botKey = false
        | some ch' => (kickTargets sc ts).1.has botKey = true ∧ ChanMatches mp ms bs (kickTargets sc ts).1 ch') := by
  induction ts with
  | nil =>
    intro sc ch b _ hch hm hb
    simp only [kickTargets, Bot.kickLoop, hch]
    exact ⟨trivial, trivial, trivial, trivial, trivial, trivial, fun _ _ => trivial, hb, hm⟩
  | cons t ts ih =>
    intro sc ch b hbk hch hm hb
    unfold kickTargets
    by_cases ht : sc.has (lower t) = true
    · simp only [ht, ↓reduceIte, Bot.kickLoop]
      by_cases hself : strEqual t b.nick = true
      · have hk : lower t = botKey := by
          simp only [strEqual, decide_eq_true_eq] at hself; rw [hself, hbk]
        simp only [hself, ↓reduceIte, aget_adel_self]
        refine ⟨trivial, trivial, trivial, trivial, trivial, trivial, fun k hk' => by rw [aget_adel]; simp [Ne.symm hk'], ?_⟩
        rw [← Bool.not_eq_true]
        intro hcon
        have := kickTargets_has hcon
        rw [hk, has_remove_self] at this; cases this
      · have hk : lower t ≠ botKey := by
          intro e; apply hself
          simp only [strEqual, decide_eq_true_eq]; rw [e, hbk]
        simp only [hself, Bool.false_eq_true, ↓reduceIte]
        have hch1 : aget (amod b.channels key (fun c => c.removeUser t)) key = some (ch.removeUser t) := by
          rw [aget_amod]; simp [hch]
        have hb1 : (sc.remove (lower t)).has botKey = true := has_remove.mpr ⟨fun e => hk e.symm, hb⟩
        obtain ⟨h1, h2, h3, h4, h5, hs, h6, h7⟩ := ih (sc.remove (lower t)) (ch.removeUser t)
          { b with channels := amod b.channels key (fun c => c.removeUser t) } hbk hch1 (ChanMatches.remove hm t) hb1
        refine ⟨h1, h2, h3, h4, h5, hs, ?_, h7⟩
        intro k hk'
        rw [h6 k hk']
        show aget (amod b.channels key (fun c => c.removeUser t)) k = _
        rw [aget_amod]; simp [Ne.symm hk']
    · simp only [ht, Bool.false_eq_true, ↓reduceIte]
      exact ih sc ch b hbk hch hm hb

theorem nick_noComma_of_valid {t : Str} (h : validNick t = true) : ',' ∉ t := (nickOK_of_valid h).noComma

theorem putChan_get (s : Srv) (key : Str) (sc : SChan) (k : Str) :
    aget (s.putChan key sc).chans k =
      if key = k then (if sc.members.isEmpty then none else some sc) else aget s.chans k := by
  unfold Srv.putChan
  by_cases he : sc.members.isEmpty = true
  · simp only [he, ↓reduceIte, aget_adel]
  · simp only [he, Bool.false_eq_true, ↓reduceIte, aget_aset]

theorem putChan_users (s : Srv) (key : Str) (sc : SChan) : (s.putChan key sc).users = s.users := by
  unfold Srv.putChan; split <;> rfl
theorem putChan_bot (s : Srv) (key : Str) (sc : SChan) : (s.putChan key sc).bot = s.bot := by
  unfold Srv.putChan; split <;> rfl
theorem putChan_botKey (s : Srv) (key : Str) (sc : SChan) : (s.putChan key sc).botKey = s.botKey := by
  simp [Srv.botKey, putChan_bot]
theorem putChan_told (s : Srv) (key : Str) (sc : SChan) : (s.putChan key sc).told = s.told := by
  unfold Srv.putChan; split <;> rfl
theorem putChan_ms (s : Srv) (key : Str) (sc : SChan) : (s.putChan key sc).modesSynced = s.modesSynced := by
  unfold Srv.putChan; split <;> rfl
theorem putChan_bs (s : Srv) (key : Str) (sc : SChan) : (s.putChan key sc).bansSynced = s.bansSynced := by
  unfold Srv.putChan; split <;> rfl
theorem putChan_mSynced (s : Srv) (key : Str) (sc : SChan) (k : Str) : (s.putChan key sc).mSynced k = s.mSynced k := by
  simp [Srv.mSynced, putChan_ms]
theorem putChan_bSynced (s : Srv) (key : Str) (sc : SChan) (k : Str) : (s.putChan key sc).bSynced k = s.bSynced k := by
  simp [Srv.bSynced, putChan_bs]
theorem putChan_cfg (s : Srv) (key : Str) (sc : SChan) : (s.putChan key sc).cfg = s.cfg := by
  unfold Srv.putChan; split <;> rfl

theorem putChan_pending (s : Srv) (key : Str) (sc : SChan) : (s.putChan key sc).pending = s.pending := by
  unfold Srv.putChan; split <;> rfl

theorem has_of_isEmpty {sc : SChan} (h : sc.members.isEmpty = true) (k : Str) : sc.has k = false := by
  unfold SChan.has
  cases hm : sc.members with
  | nil => rfl
  | cons a t => rw [hm] at h; cases h

theorem isEmpty_of_has {sc : SChan} {k : Str} (h : sc.has k = true) : sc.members.isEmpty = false := by
  cases he : sc.members.isEmpty with
  | false => rfl
  | true => rw [has_of_isEmpty he] at h; cases h

/-- the channel stored under `kc` loses members (or goes): what remains to be shown is how the bot's record of it follows -/
theorem coupled_putChan {s : Srv} {b b' : Bot} (hc : Coupled s b) {kc : Str} {sc : SChan} (hch : aget s.chans kc = some sc)
    (sc1 : SChan) (hsub : ∀ x, sc1.has x = true → sc.has x = true)
    (hbch : ∀ k, k ≠ kc → aget b'.channels k = aget b.channels k)
    (hrel : ChanRel (s.putChan kc sc1) kc (aget (s.putChan kc sc1).chans kc) (aget b'.channels kc))
    (hnick : b'.nick = b.nick) (hcn : b'.cfgNick = b.cfgNick) (hci : b'.cfgIdent = b.cfgIdent) (hsup : b'.isup = b.isup)
    (hn2h : b'.n2h = b.n2h) (hp : b'.pfx = b.pfx) : Coupled (s.putChan kc sc1) b' := by
  refine coupled_update' hc kc (putChan_users _ _ _) (putChan_bot _ _ _) (putChan_cfg _ _ _) (putChan_ms _ _ _)
    (putChan_bs _ _ _) (putChan_told _ _ _) ?_ hbch hrel hnick hcn hci hsup hn2h hp ?_ ?_
  · intro k hk; rw [putChan_get]; simp [Ne.symm hk]
  · intro sc0 sc' h0 h' hb'
    rw [hch] at h0; cases h0
    rw [putChan_get] at h'
    simp only [↓reduceIte] at h'
    split at h'
    · cases h'
    · cases h'; exact hsub _ hb'
  · intro sc' h0; rw [hch] at h0; cases h0

theorem coupled_putChan_unseen {s : Srv} {b : Bot} (hc : Coupled s b) {kc : Str} {sc : SChan} (hch : aget s.chans kc = some sc)
    (hb : sc.has s.botKey = false) (sc1 : SChan) (hsub : ∀ x, sc1.has x = true → sc.has x = true) :
    Coupled (s.putChan kc sc1) b := by
  refine coupled_putChan hc hch sc1 hsub (fun _ _ => rfl) ?_ rfl rfl rfl rfl rfl rfl
  rw [bot_chan_none hc hch hb, putChan_get]
  simp only [↓reduceIte]
  split
  · trivial
  · show sc1.has (s.putChan kc sc1).botKey = false
    rw [putChan_botKey, ← Bool.not_eq_true]; intro hcon
    rw [hsub _ hcon] at hb; cases hb

theorem coupled_kick {s : Srv} {b : Bot} (hw : SrvWF s) (hc : Coupled s b) {src c : Str} {ts : List Str} {r pfx : Str}
    {sc : SChan} (hsrc : s.source src = some pfx) (hch : aget s.chans (lower c) = some sc) (hts : ts.all validNick = true)
    (hne : ¬ (kickTargets sc ts).2.isEmpty = true) :
    Coupled (s.putChan (lower c) (kickTargets sc ts).1)
      (b.recvAll (if s.botIn sc then [emit pfx "KICK" [sc.name, commaJoin (kickTargets sc ts).2, r]] else [])) := by
  have hvalid : ∀ x ∈ ts, validNick x = true := by simpa using hts
  have hcw := hw.chans _ _ hch
  by_cases hb : s.botIn sc = true
  · simp only [hb, ↓reduceIte, recvAll_cons, recv_emit, recvAll_nil]
    obtain ⟨b0, hc0, hch0, hn0, hfeed⟩ := feed_from_source hw hc hsrc "KICK".toList
      [sc.name, commaJoin (kickTargets sc ts).2, r]
      (setters_out_ok "KICK".toList (by decide +kernel)) (by decide +kernel) (fun b0 => by simp only [Bot.ircCmd, cmdOf_KICK])
    rw [hfeed]
    obtain ⟨ch, hbc, hm0⟩ := Coupled.chan_of_botIn hc0 hch hb
    have hchan : b0.chan sc.name = some ch := by rw [Bot.chan, hcw.key]; exact hbc
    have hsplit : splitChar ',' (commaJoin (kickTargets sc ts).2) = (kickTargets sc ts).2 := by
      apply splitChar_joinChar
      · intro e; apply hne; simp [e]
      · intro t ht; exact nick_noComma_of_valid (hvalid t (kickTargets_sub ts sc t ht))
    simp only [Bot.stateCmd, cmdOf_KICK, Bot.doKick, hchan, hcw.key, hsplit]
    have hbk : lower b0.nick = s.botKey := by rw [hc0.nick]; rfl
    obtain ⟨h1, h2, h3, h4, h5, hs, h6, h7⟩ := kick_sim s.botKey (lower c) ts sc ch b0 hbk hbc hm0 hb
    refine coupled_putChan hc0 hch _ (fun x hx => kickTargets_has hx) h6 ?_ h1 h4 h5 hs h3 h2
    rw [putChan_get]
    simp only [↓reduceIte]
    by_cases hemp : (kickTargets sc ts).1.members.isEmpty = true
    · simp only [hemp, ↓reduceIte]
      cases hb' : aget (b0.kickLoop (lower c) (kickTargets sc ts).2).channels (lower c) with
      | none => trivial
      | some ch' =>
        rw [hb'] at h7
        rw [has_of_isEmpty hemp] at h7; exact absurd h7.1 (by simp)
    · simp only [hemp, Bool.false_eq_true, ↓reduceIte]
      cases hb' : aget (b0.kickLoop (lower c) (kickTargets sc ts).2).channels (lower c) with
      | none => rw [hb'] at h7; simp only [ChanRel, putChan_botKey]; exact h7
      | some ch' => rw [hb'] at h7; simp only [ChanRel, putChan_botKey, putChan_cfg, putChan_mSynced, putChan_bSynced]; exact h7
  · simp only [hb, Bool.false_eq_true, ↓reduceIte, recvAll_nil]
    have hb' : sc.has s.botKey = false := by simpa [Srv.botIn] using hb
    exact coupled_putChan_unseen hc hch hb' _ (fun x hx => kickTargets_has hx)

theorem partOne_fields (nick : Str) (b : Bot) (name : Str) :
    (Bot.partOne nick b name).nick = b.nick ∧ (Bot.partOne nick b name).pfx = b.pfx ∧
    (Bot.partOne nick b name).n2h = b.n2h ∧ (Bot.partOne nick b name).cfgNick = b.cfgNick ∧
    (Bot.partOne nick b name).cfgIdent = b.cfgIdent ∧ (Bot.partOne nick b name).isup = b.isup := by
  unfold Bot.partOne
  split
  · exact ⟨rfl, rfl, rfl, rfl, rfl, rfl⟩
  · split <;> exact ⟨rfl, rfl, rfl, rfl, rfl, rfl⟩

theorem chan_noComma_of_valid {c : Str} (h : validChan c = true) : ',' ∉ c := (chanOK_of_valid h).noComma

/-- PART of user `k`, channel by channel, against the bot executing the PART for the channels it sees -/
theorem leave_sim (k nick : Str) (hk : lower nick = k) (cs : List Str) :
    ∀ (s : Srv) (b : Bot), SrvWF s → Coupled s b →
      Coupled (s.leave k cs).1 ((s.leave k cs).2.foldl (Bot.partOne nick) b) ∧
      (∀ n ∈ (s.leave k cs).2, ',' ∉ n) := by
  induction cs with
  | nil => intro s b _ hc; exact ⟨hc, by simp [Srv.leave]⟩
  | cons c cs ih =>
    intro s b hw hc
    unfold Srv.leave
    split
    · exact ih s b hw hc
    · rename_i sc hch
      rw [Srv.chan_eq] at hch
      have hcw := hw.chans _ _ hch
      by_cases hmem : sc.has k = true
      · simp only [hmem, ↓reduceIte]
        have hw1 : SrvWF (s.putChan (lower c) (sc.remove k)) := wf_putChan hw _ _ (chanWF_remove hcw _)
        by_cases hb : s.botIn sc = true
        · simp only [hb, ↓reduceIte, List.foldl_cons]
          have hb' : sc.has s.botKey = true := hb
          obtain ⟨ch, hbc, hm0⟩ := Coupled.chan_of_botIn hc hch hb'
          have hchan : b.chan sc.name = some ch := by rw [Bot.chan, hcw.key]; exact hbc
          have hcoup : Coupled (s.putChan (lower c) (sc.remove k)) (Bot.partOne nick b sc.name) := by
            unfold Bot.partOne
            simp only [hchan]
            by_cases hself : strEqual nick b.nick = true
            · have hkb : k = s.botKey := by
                simp only [strEqual, decide_eq_true_eq] at hself
                rw [← hk, hself, hc.nick]; rfl
              simp only [hself, ↓reduceIte, hcw.key]
              apply coupled_putChan hc hch _ (fun x hx => has_remove_of hx)
              · intro k' hk'; show aget (adel b.channels (lower c)) k' = _; rw [aget_adel]; simp [Ne.symm hk']
              · show ChanRel _ _ _ (aget (adel b.channels (lower c)) (lower c))
                rw [aget_adel_self, putChan_get]
                simp only [↓reduceIte]
                split
                · trivial
                · simp only [ChanRel, putChan_botKey, hkb]; exact has_remove_self sc s.botKey
              all_goals rfl
            · have hkb : k ≠ s.botKey := by
                intro e; apply hself
                simp only [strEqual, decide_eq_true_eq]
                rw [hk, e, hc.nick]; rfl
              simp only [hself, Bool.false_eq_true, ↓reduceIte, Bot.setChan, hcw.key]
              apply coupled_putChan hc hch _ (fun x hx => has_remove_of hx)
              · intro k' hk'; show aget (aset b.channels (lower c) _) k' = _; exact aget_aset_ne _ _ (Ne.symm hk')
              · show ChanRel _ _ _ (aget (aset b.channels (lower c) (ch.removeUser nick)) (lower c))
                rw [aget_aset_self, putChan_get]
                simp only [↓reduceIte]
                have hbin : (sc.remove k).has s.botKey = true := has_remove.mpr ⟨fun e => hkb e.symm, hb'⟩
                have hne := isEmpty_of_has hbin
                simp only [hne, Bool.false_eq_true, ↓reduceIte, ChanRel, putChan_botKey, putChan_cfg, putChan_mSynced, putChan_bSynced]
                exact ⟨hbin, hk ▸ ChanMatches.remove hm0 nick⟩
              all_goals rfl
          obtain ⟨ih1, ih2⟩ := ih _ _ hw1 hcoup
          refine ⟨ih1, ?_⟩
          intro n hn
          simp only [List.mem_cons] at hn
          rcases hn with rfl | hn
          · exact chan_noComma_of_valid hcw.name
          · exact ih2 n hn
        · simp only [hb, Bool.false_eq_true, ↓reduceIte]
          have hb' : sc.has s.botKey = false := by simpa [Srv.botIn] using hb
          have hcoup := coupled_putChan_unseen hc hch hb' (sc.remove k) (fun x hx => has_remove_of hx)
          exact ih _ _ hw1 hcoup
      · simp only [hmem, Bool.false_eq_true, ↓reduceIte]
        exact ih s b hw hc

theorem coupled_part {s : Srv} {b : Bot} (hw : SrvWF s) (hc : Coupled s b) {n : Str} {cs : List Str} {r : Option Str}
    {u : SUser} (hu : aget s.users (lower n) = some u) :
    Coupled (s.leave (lower n) cs).1 (b.recvAll
      (if (s.leave (lower n) cs).2.isEmpty then [] else [emit u.mask "PART" ([commaJoin (s.leave (lower n) cs).2] ++ r.toList)])) := by
  have hkey := (hw.userOK hu).1
  by_cases hemp : (s.leave (lower n) cs).2.isEmpty = true
  · simp only [hemp, ↓reduceIte, recvAll_nil]
    have := (leave_sim (lower n) u.nick hkey cs s b hw hc).1
    have he : (s.leave (lower n) cs).2 = [] := by simpa using hemp
    rw [he] at this; exact this
  · simp only [hemp, Bool.false_eq_true, ↓reduceIte, recvAll_cons, recv_emit, recvAll_nil]
    obtain ⟨hc0, hfeed⟩ := feed_from_user hw hc hu "PART".toList ([commaJoin (s.leave (lower n) cs).2] ++ r.toList)
      (setters_out_ok "PART".toList (by decide +kernel)) (by decide +kernel) (fun b0 => by simp only [Bot.ircCmd, cmdOf_PART])
    rw [hfeed]
    obtain ⟨h1, h2⟩ := leave_sim (lower n) u.nick hkey cs s (b.seen u) hw hc0
    have hsplit : splitChar ',' (commaJoin (s.leave (lower n) cs).2) = (s.leave (lower n) cs).2 := by
      apply splitChar_joinChar
      · intro e; apply hemp; simp [e]
      · exact h2
    simp only [Bot.stateCmd, cmdOf_PART, Bot.doPart, List.cons_append, List.nil_append, hsplit,
      msg_nick_user ((hw.userOK hu).2)]
    exact h1

end C10
