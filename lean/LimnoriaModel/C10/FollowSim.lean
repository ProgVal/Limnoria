/-
C10 — `followIdentificationThroughNickChanges`: the login-following branch of `Irc.doNick` never loses a NICK
the reference server sends, so the view of the bot with the switch on (whatever the user database holds) is the
view of the bot without it: `runF_eq_runB`.
-/
import LimnoriaModel.C10.BatchSim
import LimnoriaModel.C10.Follow
namespace C10
open Py

def Ev.nickFree : Ev → Prop
  | .msg m => cmdOf m.cmd ≠ .nick
  | .reset => True

theorem emit_nf (p : Str) (c : String) (a : List Str) (h : cmdOf c.toList ≠ .nick) : (emit p c a).nickFree := h

/-- only the `nick` action makes the server send a NICK -/
theorem step_nf (s : Srv) (a : Act) (ha : ∀ n n', a ≠ .nick n n') : ∀ e ∈ (s.step a).2, e.nickFree := by
  intro e he
  rcases step_ordinary s a e he with h | ⟨rfl, _⟩ | ⟨_, n, n', h⟩
  · cases e with
    | msg m => exact h.2
    | reset => trivial
  · trivial
  · exact absurd h (ha n n')

theorem followApplies_nick {fb : FBot} {m : Msg} (h : fb.followApplies m = true) : cmdOf m.cmd = .nick := by
  unfold FBot.followApplies at h
  simp only [Bool.and_eq_true, beq_iff_eq] at h
  exact h.1.2

/-- unless the branch raises, the bot proper (and the exception level) is that of the bot without the switch -/
theorem feed_transparent (fb : FBot) (tag : Option Str) (m : Msg)
    (h : fb.followApplies m = true → (followNick fb.db (fb.bb.bot.normMsg m)).2 = false) :
    (fb.feed tag m).1.bb = (fb.bb.feed tag m).1 ∧ (fb.feed tag m).2 = (fb.bb.feed tag m).2 ∧
      (fb.feed tag m).1.follow = fb.follow := by
  unfold FBot.feed
  by_cases ha : fb.followApplies m = true
  · simp only [ha, ↓reduceIte, h ha, Bool.false_eq_true, and_self]
  · simp only [ha, Bool.false_eq_true, ↓reduceIte, and_self]

theorem feed_other (fb : FBot) (tag : Option Str) (m : Msg) (hm : cmdOf m.cmd ≠ .nick) :
    (fb.feed tag m).1.bb = (fb.bb.feed tag m).1 ∧ (fb.feed tag m).2 = (fb.bb.feed tag m).2 ∧
      (fb.feed tag m).1.follow = fb.follow :=
  feed_transparent fb tag m (fun h => absurd (followApplies_nick h) hm)

/-- the branch does not raise on a NICK as a server sends it: prefix the hostmask of a user, one non-empty argument;
whoever is or is not registered, identified once or several times -/
theorem followNick_user (db : List DbUser) {u : SUser} (hu : UserOK u) (cmd : Str) {n' : Str} (hn : n' ≠ []) (rest : List Str) :
    (followNick db ⟨u.mask, cmd, n' :: rest⟩).2 = false := by
  unfold followNick
  simp only [isu_mask hu, Bool.not_true, Bool.false_eq_true, ↓reduceIte, split_mask hu]
  split
  · simp only [isEmpty_false hn, isEmpty_false hu.ident.ne, isEmpty_false hu.host.ne, Bool.or_self, Bool.false_eq_true, ↓reduceIte]
  · rfl

/-- … so such a NICK reaches `IrcState.addMsg` exactly as without the switch -/
theorem feed_user_nick (fb : FBot) (tag : Option Str) {u : SUser} (hu : UserOK u) (hb : NickOK fb.bb.bot.nick)
    {n' : Str} (hn : n' ≠ []) :
    (fb.feed tag ⟨u.mask, "NICK".toList, [n']⟩).1.bb = (fb.bb.feed tag ⟨u.mask, "NICK".toList, [n']⟩).1 ∧
      (fb.feed tag ⟨u.mask, "NICK".toList, [n']⟩).2 = (fb.bb.feed tag ⟨u.mask, "NICK".toList, [n']⟩).2 ∧
      (fb.feed tag ⟨u.mask, "NICK".toList, [n']⟩).1.follow = fb.follow := by
  apply feed_transparent
  intro _
  have hne : u.mask ≠ fb.bb.bot.nick := mask_ne_nick hb
  have hnorm : fb.bb.bot.normMsg ⟨u.mask, "NICK".toList, [n']⟩ = ⟨u.mask, "NICK".toList, [n']⟩ := by
    unfold Bot.normMsg; simp only [hne, ↓reduceIte]
  rw [hnorm]
  exact followNick_user fb.db hu _ hn []

def BEv.nickFree : BEv → Prop
  | .plain e => e.nickFree
  | .tagged _ m => cmdOf m.cmd ≠ .nick

theorem tagWith_nf (ob : Option Str) {e : Ev} (h : e.nickFree) : (tagWith ob e).nickFree := by
  cases ob with
  | none => exact h
  | some ref =>
    cases e with
    | msg m => exact h
    | reset => exact h

theorem recv_nf (fb : FBot) {e : BEv} (h : e.nickFree) :
    (fb.recv e).bb = fb.bb.recv e ∧ (fb.recv e).follow = fb.follow := by
  cases e with
  | plain e =>
    cases e with
    | msg m => have := feed_other fb none m h; exact ⟨this.1, this.2.2⟩
    | reset => exact ⟨rfl, rfl⟩
  | tagged ref m => have := feed_other fb (some ref) m h; exact ⟨this.1, this.2.2⟩

theorem recvAll_nf (evs : List BEv) : ∀ fb : FBot, (∀ e ∈ evs, e.nickFree) →
    (fb.recvAll evs).bb = fb.bb.recvAll evs ∧ (fb.recvAll evs).follow = fb.follow := by
  induction evs with
  | nil => intro fb _; exact ⟨rfl, rfl⟩
  | cons e es ih =>
    intro fb h
    have h1 := recv_nf fb (h e (by simp))
    have h2 := ih (fb.recv e) (fun e' he' => h e' (by simp [he']))
    simp only [FBot.recvAll, BBot.recvAll, List.foldl_cons] at h2 ⊢
    rw [h1.1] at h2
    exact ⟨h2.1, h2.2.trans h1.2⟩

/-- what one (possibly batched) action makes the bot with the switch see: as without the switch -/
theorem bstep_follow {s : Srv} {fb : FBot} {ob : Option Str} (h : BInv s fb.bb ob) (a : BAct) :
    (fb.recvAll (bstep s ob a).2.2).bb = fb.bb.recvAll (bstep s ob a).2.2 ∧
      (fb.recvAll (bstep s ob a).2.2).follow = fb.follow := by
  cases a with
  | act a =>
    by_cases hn : ∃ n n', a = .nick n n'
    · obtain ⟨n, n', rfl⟩ := hn
      have hr : (Act.nick n n' = Act.reconnect) = False := by simp
      simp only [bstep, hr, ↓reduceIte, Srv.step]
      split
      · exact ⟨rfl, rfl⟩
      · rename_i u hu
        rw [Srv.user_eq] at hu
        split
        · exact ⟨rfl, rfl⟩
        · rename_i hcond
          simp only [Bool.or_eq_true, Bool.not_eq_eq_eq_not, Bool.not_true, not_or, Bool.not_eq_false] at hcond
          have hn' : n' ≠ [] := (nickOK_of_valid hcond.1.1).ne
          have huo := (h.wf.userOK hu).2
          have hb : NickOK fb.bb.bot.nick := by rw [h.coupled.nick]; exact h.wf.botNickOK
          by_cases hsee : (decide (lower n = s.botKey) || s.visible (lower n)) = true
          · simp only [hsee, ↓reduceIte, List.map_cons, List.map_nil, FBot.recvAll, BBot.recvAll, List.foldl_cons, List.foldl_nil]
            cases ob with
            | none =>
              have := feed_user_nick fb none huo hb hn'
              exact ⟨this.1, this.2.2⟩
            | some ref =>
              have := feed_user_nick fb (some ref) huo hb hn'
              exact ⟨this.1, this.2.2⟩
          · simp only [hsee, Bool.false_eq_true, ↓reduceIte, List.map_nil]
            exact ⟨rfl, rfl⟩
    · have hn2 : ∀ n n', a ≠ .nick n n' := fun n n' e => hn ⟨n, n', e⟩
      apply recvAll_nf
      intro e he
      simp only [bstep] at he
      split at he
      · simp only [List.mem_map] at he
        obtain ⟨e0, he0, rfl⟩ := he
        exact step_nf s a hn2 e0 he0
      · simp only [List.mem_map] at he
        obtain ⟨e0, he0, rfl⟩ := he
        exact tagWith_nf ob (step_nf s a hn2 e0 he0)
  | batchOpen ref ty args =>
    apply recvAll_nf
    intro e he
    simp only [bstep] at he
    split at he
    · simp only [List.mem_singleton] at he; subst he
      exact emit_nf _ _ _ (by rw [cmdOf_BATCH]; decide)
    · cases he
  | batchClose =>
    apply recvAll_nf
    intro e he
    simp only [bstep] at he
    split at he
    · simp only [List.mem_singleton] at he; subst he
      exact emit_nf _ _ _ (by rw [cmdOf_BATCH]; decide)
    · cases he

/-- the run of a batching server against the bot with the switch (it sends what the bot proper sends) -/
def runF (s : Srv) (fb : FBot) (ob : Option Str) : List BAct → Srv × FBot × Option Str
  | [] => (s, fb, ob)
  | a :: as =>
    let r := bstep s ob a
    runF (r.1.enqueue (fb.bb.outAll r.2.2)) (fb.recvAll r.2.2) r.2.1 as

theorem runF_eq_runB (acts : List BAct) : ∀ (s : Srv) (fb : FBot) (ob : Option Str), BInv s fb.bb ob → (∀ a ∈ acts, a.ok) →
    (runF s fb ob acts).1 = (runB s fb.bb ob acts).1 ∧ (runF s fb ob acts).2.1.bb = (runB s fb.bb ob acts).2.1 ∧
      (runF s fb ob acts).2.2 = (runB s fb.bb ob acts).2.2 ∧ (runF s fb ob acts).2.1.follow = fb.follow := by
  induction acts with
  | nil => intro s fb ob _ _; exact ⟨rfl, rfl, rfl, rfl⟩
  | cons a as ih =>
    intro s fb ob h hok
    unfold runF runB
    have hf := bstep_follow h a
    have hinv := bstep_inv h a (hok a (by simp))
    rw [← hf.1] at hinv
    have := ih _ _ _ hinv (fun a' ha' => hok a' (by simp [ha']))
    dsimp only
    refine ⟨this.1.trans ?_, this.2.1.trans ?_, this.2.2.1.trans ?_, this.2.2.2.trans hf.2⟩ <;> rw [hf.1]

end C10
