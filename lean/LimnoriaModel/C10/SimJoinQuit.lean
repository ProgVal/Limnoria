/-
C10 — simulation: JOIN of another user (multi-target), PRIVMSG, QUIT.
-/
import LimnoriaModel.C10.SimLeave
namespace C10
open Py

theorem nick_noSigil {n : Str} (h : NickOK n) : (∀ c ∈ n, c ∉ Gen.sigilsStrip) ∧ (∀ c ∈ n, c ∉ Gen.sigilsLoop) ∧
    (∀ c ∈ n, c ∉ Gen.sigils353) :=
  ⟨fun c hc hs => h.nobad c hc (sigils_not_in_nicks.1 c hs),
   fun c hc hs => h.nobad c hc (sigils_not_in_nicks.2.1 c hs),
   fun c hc hs => h.nobad c hc (sigils_not_in_nicks.2.2 c hs)⟩

theorem addUser_plain {n : Str} (h : NickOK n) (c : Chan) : c.addUser n = { c with users := sadd c.users (lower n) } := by
  cases n with
  | nil => exact absurd rfl h.ne
  | cons a t =>
    have h1 : decide (a ∈ Gen.sigilsStrip) = false := by simpa using (nick_noSigil h).1 a (by simp)
    have h2 : decide (a ∈ Gen.sigilsLoop) = false := by simpa using (nick_noSigil h).2.1 a (by simp)
    unfold Chan.addUser
    simp only [lstripP, List.dropWhile_cons, h1, Bool.false_eq_true, ↓reduceIte, List.isEmpty_cons,
      List.takeWhile_cons, h2, List.foldl_nil]

theorem joinOne_fields (nick : Str) (b : Bot) (name : Str) :
    (Bot.joinOne nick b name).nick = b.nick ∧ (Bot.joinOne nick b name).pfx = b.pfx ∧
    (Bot.joinOne nick b name).n2h = b.n2h ∧ (Bot.joinOne nick b name).cfgNick = b.cfgNick ∧
    (Bot.joinOne nick b name).cfgIdent = b.cfgIdent ∧ (Bot.joinOne nick b name).isup = b.isup := by
  unfold Bot.joinOne
  split
  · exact ⟨rfl, rfl, rfl, rfl, rfl, rfl⟩
  · split <;> exact ⟨rfl, rfl, rfl, rfl, rfl, rfl⟩

theorem foldl_joinOne_n2h (nick : Str) (names : List Str) (b : Bot) :
    (names.foldl (Bot.joinOne nick) b).n2h = b.n2h := by
  induction names generalizing b with
  | nil => rfl
  | cons n ns ih => rw [List.foldl_cons, ih, (joinOne_fields nick b n).2.2.1]

theorem Tracks.append_true {full : Prop} {S : List Str} {ms : List (Str × Flags)} {P : Flags → Prop}
    (h : Tracks full S ms P) (k : Str) (f0 : Flags) (hp : P f0) : Tracks full (sadd S k) (ms ++ [(k, f0)]) P where
  sub := fun x hx => by
    rcases mem_sadd.mp hx with rfl | hx
    · exact ⟨f0, by simp, hp⟩
    · obtain ⟨f, hf, hpf⟩ := h.sub x hx
      exact ⟨f, List.mem_append_left _ hf, hpf⟩
  sup := fun hfull x ⟨f, hf, hpf⟩ => by
    rcases List.mem_append.mp hf with hf | hf
    · exact mem_sadd.mpr (Or.inr (h.sup hfull x ⟨f, hf, hpf⟩))
    · simp only [List.mem_singleton, Prod.mk.injEq] at hf
      exact mem_sadd.mpr (Or.inl hf.1)

theorem Tracks.append_false {full : Prop} {S : List Str} {ms : List (Str × Flags)} {P : Flags → Prop}
    (h : Tracks full S ms P) (k : Str) (f0 : Flags) (hp : ¬ P f0) : Tracks full S (ms ++ [(k, f0)]) P where
  sub := fun x hx => by
    obtain ⟨f, hf, hpf⟩ := h.sub x hx
    exact ⟨f, List.mem_append_left _ hf, hpf⟩
  sup := fun hfull x ⟨f, hf, hpf⟩ => by
    rcases List.mem_append.mp hf with hf | hf
    · exact h.sup hfull x ⟨f, hf, hpf⟩
    · simp only [List.mem_singleton, Prod.mk.injEq] at hf
      rw [hf.2] at hpf; exact absurd hpf hp

/-- what the bot knows about users the server has shown it stays right when one more is shown -/
theorem coupled_told_add {s : Srv} {b : Bot} (hc : Coupled s b) {k : Str}
    (hk : ∀ u, aget s.users k = some u → aget b.n2h k = some u.mask) :
    Coupled { s with told := sadd s.told k } b := by
  refine ⟨hc.nick, hc.chans, ?_, hc.pfx, hc.cfgNick, hc.cfgIdent, hc.isup⟩
  intro k' u hu ht
  have ht' : k' ∈ sadd s.told k := ht
  rcases mem_sadd.mp ht' with rfl | h
  · exact hk u hu
  · exact hc.hosts k' u hu h

/-- JOIN of user `k` (not the bot), channel by channel, against the bot executing the JOIN for the
channels it is on -/
theorem joinOthers_sim (k : Str) (u : SUser) (hk : lower u.nick = k) (cs : List Str) :
    ∀ (s : Srv) (b : Bot), SrvWF s → Coupled s b → aget s.users k = some u → k ≠ s.botKey →
      Coupled (s.joinOthers k cs).1 ((s.joinOthers k cs).2.foldl (Bot.joinOne u.nick) b) ∧
      (∀ n ∈ (s.joinOthers k cs).2, ',' ∉ n) ∧ (s.joinOthers k cs).1.users = s.users := by
  induction cs with
  | nil => intro s b _ hc _ _; exact ⟨hc, by simp [Srv.joinOthers], rfl⟩
  | cons c cs ih =>
    intro s b hw hc hu hkb
    unfold Srv.joinOthers
    have huo := (hw.userOK hu).2
    cases he : s.enter k c with
    | none =>
      dsimp only
      exact ih s b hw hc hu hkb
    | some r =>
      obtain ⟨s1, name⟩ := r
      dsimp only
      have hw1 : SrvWF s1 := enter_wf hw (by simp [hu]) he
      have hus1 := enter_users he
      have hu1 : aget s1.users k = some u := by rw [hus1.1]; exact hu
      have hkb1 : k ≠ s1.botKey := by simp only [Srv.botKey, hus1.2.1]; exact hkb
      obtain ⟨_, sc1, hs1, hname, hcase⟩ := enter_spec he
      subst hs1
      have hrel := hc.chans (lower c)
      rcases hcase with ⟨hch, _, hsc1⟩ | ⟨sc, hch, hnot, hsc1⟩
      · -- a new channel: the bot is not on it
        subst hsc1
        have hch' : s.chan c = none := hch
        simp only [hch', Option.any_none, Bool.false_eq_true, ↓reduceIte]
        rw [hch] at hrel
        have hbn : aget b.channels (lower c) = none := by
          cases hbc : aget b.channels (lower c) with
          | none => rfl
          | some ch => rw [hbc] at hrel; simp only [ChanRel] at hrel
        have hcoup : Coupled { s with chans := aset s.chans (lower c) { name := c, members := [(k, { o := true })] } } b := by
          refine coupled_update' hc (lower c) rfl rfl rfl rfl rfl rfl
            (fun k' hk' => aget_aset_ne _ _ (Ne.symm hk')) (fun _ _ => rfl) ?_ rfl rfl rfl rfl rfl rfl ?_ ?_
          · rw [aget_aset_self, hbn]
            simp only [ChanRel]
            rw [has_false_iff]
            intro f hf
            simp only [List.mem_singleton, Prod.mk.injEq] at hf
            exact hkb hf.1.symm
          · intro sc0 _ h0; rw [hch] at h0; cases h0
          · intro sc' _ h'
            rw [aget_aset_self] at h'; cases h'
            rw [has_false_iff]
            intro f hf
            simp only [List.mem_singleton, Prod.mk.injEq] at hf
            exact hkb hf.1.symm
        obtain ⟨i1, i2, i3⟩ := ih _ b hw1 hcoup hu1 hkb1
        exact ⟨i1, i2, i3⟩
      · subst hsc1
        have hname' : name = sc.name := hname.symm
        subst hname'
        have hch' : s.chan c = some sc := hch
        have hcw := hw.chans _ _ hch
        simp only [hch', Option.any_some]
        by_cases hb : s.botIn sc = true
        · -- the bot is on the channel and sees the JOIN
          simp only [hb, ↓reduceIte, List.foldl_cons]
          have hb' : sc.has s.botKey = true := hb
          obtain ⟨ch, hbc, hm0⟩ := Coupled.chan_of_botIn hc hch hb'
          have hchan : b.chan sc.name = some ch := by rw [Bot.chan, hcw.key]; exact hbc
          have hcoup : Coupled { s with chans := aset s.chans (lower c) { sc with members := sc.members ++ [(k, {})] } }
              (Bot.joinOne u.nick b sc.name) := by
            unfold Bot.joinOne
            simp only [hchan, Bot.setChan, hcw.key, addUser_plain huo.nick, hk]
            refine coupled_setChan hc hch _ (fun _ => hb') (fun k' hk' => aget_aset_ne _ _ (Ne.symm hk')) ?_
              rfl rfl rfl rfl rfl rfl
            simp only [aget_aset_self, ChanRel]
            refine ⟨?_, ?_⟩
            · rw [has_iff] at hb' ⊢
              obtain ⟨f, hf⟩ := hb'
              exact ⟨f, List.mem_append_left _ hf⟩
            · exact ⟨hm0.users.append_true k {} trivial, hm0.ops.append_false k {} (by simp),
                hm0.halfops.append_false k {} (by simp), hm0.voices.append_false k {} (by simp),
                hm0.topic, hm0.modes, hm0.modesFull, hm0.bans, hm0.bansFull⟩
          obtain ⟨ih1, ih2, ih3⟩ := ih _ _ hw1 hcoup hu1 hkb1
          refine ⟨ih1, ?_, ih3⟩
          intro n hn'
          simp only [List.mem_cons] at hn'
          rcases hn' with rfl | hn'
          · exact chan_noComma_of_valid hcw.name
          · exact ih2 n hn'
        · -- the bot is not on that channel
          simp only [hb, Bool.false_eq_true, ↓reduceIte]
          have hb' : sc.has s.botKey = false := by simpa [Srv.botIn] using hb
          have hnb : ({ sc with members := sc.members ++ [(k, {})] } : SChan).has s.botKey = false := by
            rw [has_false_iff] at hb' ⊢
            intro f hf
            simp only [List.mem_append, List.mem_singleton, Prod.mk.injEq] at hf
            rcases hf with hf | ⟨e, _⟩
            · exact hb' f hf
            · exact hkb e.symm
          have hcoup := coupled_setChan_unseen hc hch hb' _ hnb
          obtain ⟨i1, i2, i3⟩ := ih _ b hw1 hcoup hu1 hkb1
          exact ⟨i1, i2, i3⟩

theorem joinArgs_cons (cfg : Cfg) (names : Str) : ∃ rest, joinArgs cfg names = names :: rest := by
  unfold joinArgs; split <;> exact ⟨_, rfl⟩

theorem coupled_joinUnseen {s : Srv} {b : Bot} (hw : SrvWF s) (hc : Coupled s b) {n : Str} {cs : List Str}
    {u : SUser} (hu : aget s.users (lower n) = some u) (hnb : lower n ≠ s.botKey)
    (hemp : (s.joinOthers (lower n) cs).2.isEmpty = true) : Coupled (s.joinOthers (lower n) cs).1 b := by
  have he : (s.joinOthers (lower n) cs).2 = [] := by simpa using hemp
  have := (joinOthers_sim (lower n) u (hw.userOK hu).1 cs s b hw hc hu hnb).1
  rw [he] at this; exact this

theorem coupled_joinSeen {s : Srv} {b : Bot} (hw : SrvWF s) (hc : Coupled s b) {n : Str} {cs : List Str}
    {u : SUser} (hu : aget s.users (lower n) = some u) (hnb : lower n ≠ s.botKey)
    (hemp : ¬ (s.joinOthers (lower n) cs).2.isEmpty = true) :
    Coupled { (s.joinOthers (lower n) cs).1 with told := sadd (s.joinOthers (lower n) cs).1.told (lower n) }
      (b.recvAll [emit u.mask "JOIN" (joinArgs s.cfg (commaJoin (s.joinOthers (lower n) cs).2))]) := by
  have hkey := (hw.userOK hu).1
  simp only [recvAll_cons, recv_emit, recvAll_nil]
  obtain ⟨rest, hargs⟩ := joinArgs_cons s.cfg (commaJoin (s.joinOthers (lower n) cs).2)
  obtain ⟨hc0, hfeed⟩ := feed_from_user hw hc hu "JOIN".toList (joinArgs s.cfg (commaJoin (s.joinOthers (lower n) cs).2))
    (setters_out_ok "JOIN".toList (by decide +kernel)) (by decide +kernel)
    (fun b0 => by simp only [Bot.ircCmd, cmdOf_JOIN, hargs]; split <;> rfl)
  rw [hfeed]
  obtain ⟨h1, h2, h3⟩ := joinOthers_sim (lower n) u hkey cs s (b.seen u) hw hc0 hu hnb
  have hsplit : splitChar ',' (commaJoin (s.joinOthers (lower n) cs).2) = (s.joinOthers (lower n) cs).2 := by
    apply splitChar_joinChar
    · intro e; apply hemp; simp [e]
    · exact h2
  simp only [Bot.stateCmd, cmdOf_JOIN, Bot.doJoin, hargs, hsplit, msg_nick_user ((hw.userOK hu).2)]
  apply coupled_told_add h1
  intro u' hu'
  rw [h3, hu] at hu'; cases hu'
  rw [foldl_joinOne_n2h, ← hkey]
  exact seen_n2h b u

/-! ### PRIVMSG: nothing changes but the sender's hostmask is recorded -/

theorem coupled_say {s : Srv} {b : Bot} (hw : SrvWF s) (hc : Coupled s b) {n t x : Str} {u : SUser}
    (hu : aget s.users (lower n) = some u) :
    Coupled { s with told := sadd s.told (lower n) }
      (b.recvAll [emit u.mask "PRIVMSG" [if lower t = s.botKey then s.bot else ((s.chan t).map (·.name)).getD t, x]]) := by
  simp only [recvAll_cons, recv_emit, recvAll_nil]
  obtain ⟨hc0, hfeed⟩ := feed_from_user hw hc hu "PRIVMSG".toList
    [if lower t = s.botKey then s.bot else ((s.chan t).map (·.name)).getD t, x]
    (setters_out_ok "PRIVMSG".toList (by decide +kernel)) (by decide +kernel) (fun b0 => by simp only [Bot.ircCmd, cmdOf_PRIVMSG])
  rw [hfeed]
  simp only [Bot.stateCmd, cmdOf_PRIVMSG]
  apply coupled_told_add hc0
  intro u' hu'
  rw [hu] at hu'; cases hu'
  rw [← (hw.userOK hu).1]
  exact seen_n2h b u

theorem Tracks.remove_absent {full : Prop} {S : List Str} {ms : List (Str × Flags)} {P : Flags → Prop}
    (h : Tracks full S ms P) {k : Str} (hk : ∀ f, (k, f) ∉ ms) : Tracks full S (ms.filter (fun p => p.1 != k)) P where
  sub := fun x hx => by
    obtain ⟨f, hf, hp⟩ := h.sub x hx
    refine ⟨f, List.mem_filter.mpr ⟨hf, ?_⟩, hp⟩
    simp only [bne_iff_ne, ne_eq]
    intro e; subst e; exact hk f hf
  sup := fun hfull x ⟨f, hf, hp⟩ => h.sup hfull x ⟨f, (List.mem_filter.mp hf).1, hp⟩

/-- removing a nick that is not on the channel changes nothing the view can see -/
theorem ChanMatches.remove_absent {mp ms bs : Bool} {sc : SChan} {ch : Chan} (h : ChanMatches mp ms bs sc ch) {k : Str}
    (hk : sc.has k = false) : ChanMatches mp ms bs (sc.remove k) ch := by
  rw [has_false_iff] at hk
  exact ⟨h.users.remove_absent hk, h.ops.remove_absent hk, h.halfops.remove_absent hk, h.voices.remove_absent hk,
    h.topic, h.modes, h.modesFull, h.bans, h.bansFull⟩

/-- a user the bot cannot see is in none of the bot's channel records -/
theorem unseen_absent {s : Srv} {b : Bot} (hw : SrvWF s) (hc : Coupled s b) {x : Str} (hv : ¬ s.visible x = true)
    {kc : Str} {ch : Chan} (hbc : aget b.channels kc = some ch) : x ∉ ch.users := by
  intro hin
  have hrel := hc.chans kc
  rw [hbc] at hrel
  cases hsc : aget s.chans kc with
  | none => rw [hsc] at hrel; simp only [ChanRel] at hrel
  | some sc =>
    rw [hsc] at hrel
    simp only [ChanRel] at hrel
    exact hv ((visible_iff hw.chansNodup).mpr ⟨kc, sc, hsc, hrel.1, has_iff.mpr ((hrel.2.users_iff _).mp hin)⟩)

theorem coupled_quit {s : Srv} {b : Bot} (hw : SrvWF s) (hc : Coupled s b) {n r : Str} {u : SUser}
    (hu : aget s.users (lower n) = some u) (hnb : lower n ≠ s.botKey) :
    Coupled { s.dropEverywhere (lower n) with users := adel s.users (lower n), told := sdel s.told (lower n) }
      (b.recvAll (if s.visible (lower n) then [emit u.mask "QUIT" [r]] else [])) := by
  have hkey := (hw.userOK hu).1
  have huo := (hw.userOK hu).2
  have hnown : ¬ u.nick = b.nick := fun e => hnb ((own_iff hw hc hu).mp e)
  -- the generic argument: any bot state `b1` that is `b` with the quitter removed where the bot saw him
  have hgen : ∀ (b1 : Bot), b1.nick = b.nick → b1.pfx = b.pfx → b1.cfgNick = b.cfgNick → b1.cfgIdent = b.cfgIdent → b1.isup = b.isup →
      (∀ x, x ≠ lower n → aget b1.n2h x = aget b.n2h x) →
      (∀ kc, aget b1.channels kc = (aget b.channels kc).map (fun c => if lower n ∈ c.users then c.removeUser u.nick else c)) →
      Coupled { s.dropEverywhere (lower n) with users := adel s.users (lower n), told := sdel s.told (lower n) } b1 := by
    intro b1 h1 h2 h3 h4 hs h5 h6
    refine ⟨by rw [h1]; exact hc.nick, ?_, ?_, ?_, by rw [h3]; exact hc.cfgNick, by rw [h4]; exact hc.cfgIdent, by rw [hs]; exact hc.isup⟩
    · intro kc
      show ChanRel _ kc (aget (s.dropEverywhere (lower n)).chans kc) _
      rw [aget_dropEverywhere hw.chansNodup, h6 kc]
      have hrel := hc.chans kc
      have hbk : ({ s.dropEverywhere (lower n) with users := adel s.users (lower n), told := sdel s.told (lower n) } : Srv).botKey = s.botKey := rfl
      cases hsc : aget s.chans kc with
      | none =>
        rw [hsc] at hrel
        cases hbc : aget b.channels kc with
        | none => simp [ChanRel, Option.filter]
        | some ch => rw [hbc] at hrel; simp only [ChanRel] at hrel
      | some sc =>
        rw [hsc] at hrel
        cases hbc : aget b.channels kc with
        | none =>
          rw [hbc] at hrel
          simp only [ChanRel] at hrel
          simp only [Option.map_some, Option.filter, Option.map_none]
          split
          · simp only [ChanRel, hbk]
            rw [← Bool.not_eq_true]; intro hcon
            rw [has_remove_of hcon] at hrel; cases hrel
          · trivial
        | some ch =>
          rw [hbc] at hrel
          simp only [ChanRel] at hrel
          have hbin : (sc.remove (lower n)).has s.botKey = true := has_remove.mpr ⟨fun e => hnb e.symm, hrel.1⟩
          have hne := isEmpty_of_has hbin
          simp only [Option.map_some, Option.filter, hne, Bool.not_false, ↓reduceIte, ChanRel, hbk]
          refine ⟨hbin, ?_⟩
          by_cases hin : lower n ∈ ch.users
          · simp only [hin, ↓reduceIte]
            rw [← hkey]; exact ChanMatches.remove hrel.2 u.nick
          · simp only [hin, ↓reduceIte]
            apply ChanMatches.remove_absent hrel.2
            rw [← Bool.not_eq_true, has_iff]
            intro hcon; exact hin ((hrel.2.users_iff _).mpr hcon)
    · intro x ux hux hv
      have hux' : aget (adel s.users (lower n)) x = some ux := hux
      have hv' : x ∈ sdel s.told (lower n) := hv
      rw [aget_adel] at hux'
      by_cases e : lower n = x
      · simp [e] at hux'
      · simp only [e, ↓reduceIte] at hux'
        rw [h5 x (Ne.symm e)]
        exact hc.hosts x ux hux' (mem_sdel.mp hv').2
    · intro kc sc' hsc' hb'
      obtain ⟨sc, hsc, rfl⟩ := dropEverywhere_chan hw.chansNodup hsc'
      obtain ⟨ub, hub, hp⟩ := hc.pfx kc sc hsc (has_remove_of hb')
      refine ⟨ub, ?_, by rw [h2]; exact hp⟩
      show aget (adel s.users (lower n)) s.botKey = some ub
      rw [aget_adel]; simp [hnb, hub]
  by_cases hv : s.visible (lower n) = true
  · simp only [hv, ↓reduceIte, recvAll_cons, recv_emit, recvAll_nil]
    obtain ⟨_, hfeed⟩ := feed_from_user hw hc hu "QUIT".toList [r]
      (setters_out_ok "QUIT".toList (by decide +kernel)) (by decide +kernel) (fun b0 => by simp only [Bot.ircCmd, cmdOf_QUIT])
    rw [hfeed]
    simp only [Bot.stateCmd, cmdOf_QUIT, Bot.doQuit, msg_nick_user huo]
    apply hgen
    · rfl
    · show (if u.nick = b.nick then u.mask else b.pfx) = b.pfx
      simp [hnown]
    · rfl
    · rfl
    · rfl
    · intro x hx
      show aget (adel (aset b.n2h (lower u.nick) u.mask) (lower u.nick)) x = _
      rw [hkey, aget_adel, aget_aset]
      simp [Ne.symm hx]
    · intro kc
      show aget (amapAll b.channels (fun c => if lower u.nick ∈ c.users then c.removeUser u.nick else c)) kc = _
      rw [aget_amapAll, hkey]
  · simp only [hv, Bool.false_eq_true, ↓reduceIte, recvAll_nil]
    apply hgen b rfl rfl rfl rfl rfl (fun _ _ => rfl)
    intro kc
    cases hbc : aget b.channels kc with
    | none => rfl
    | some ch =>
      simp only [Option.map_some, Option.some.injEq]
      simp [unseen_absent hw hc hv hbc]

end C10
