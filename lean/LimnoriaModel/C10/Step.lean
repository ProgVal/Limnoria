/-
C10 — what one action does to the reference server.  `Srv.step` is analysed here for all the invariants: the
action is ignored (`StepEffect.idle`) or, under the guards a real server checks, leads to the state and the
events listed per case.  The server's invariant, the simulation, completeness and the classification of what
is sent are each proved per case.
-/
import LimnoriaModel.C10.Mode
namespace C10
open Py

/-- the server state after an accepted NICK of `u` (stored under `lower n`) to `n'` -/
def Srv.renamed (s : Srv) (n n' : Str) (u : SUser) : Srv :=
  { s with users := aset (adel s.users (lower n)) (lower n') { u with nick := n' },
           chans := s.chans.map (fun p => (p.1, { p.2 with members := renameKey p.2.members (lower n) (lower n') })),
           bot := if lower n = s.botKey then n' else s.bot,
           told := if (decide (lower n = s.botKey) || s.visible (lower n)) = true then sadd (sdel s.told (lower n)) (lower n')
                   else sdel (sdel s.told (lower n)) (lower n') }

/-- `Srv.enter` accepts: a valid name, and a new channel with `k` as its operator or one more plain member -/
theorem enter_spec {s s1 : Srv} {k c name : Str} (he : s.enter k c = some (s1, name)) :
    validChan c = true ∧ ∃ sc1, s1 = { s with chans := aset s.chans (lower c) sc1 } ∧ sc1.name = name ∧
      ((aget s.chans (lower c) = none ∧ name = c ∧ sc1 = { name := c, members := [(k, { o := true })] }) ∨
       (∃ sc, aget s.chans (lower c) = some sc ∧ sc.has k = false ∧ sc1 = { sc with members := sc.members ++ [(k, {})] })) := by
  unfold Srv.enter at he
  split at he
  · cases he
  · rename_i hv
    simp only [Bool.not_eq_eq_eq_not, Bool.not_true, Bool.not_eq_false] at hv
    refine ⟨hv, ?_⟩
    split at he
    · rename_i hch
      cases he
      exact ⟨_, rfl, rfl, Or.inl ⟨hch, rfl, rfl⟩⟩
    · rename_i sc hch
      split at he
      · cases he
      · rename_i hnot
        cases he
        exact ⟨_, rfl, rfl, Or.inr ⟨sc, hch, by simpa using hnot, rfl⟩⟩

inductive StepEffect (s : Srv) : Act → Srv → List Ev → Prop
  | idle (a : Act) : StepEffect s a s []
  | connect {n i h : Str} (hn : validNick n = true) (hi : validWord i = true) (hh : validWord h = true)
      (hfree : aget s.users (lower n) = none) :
      StepEffect s (.connect n i h) { s with users := aset s.users (lower n) ⟨n, i, h⟩, told := sdel s.told (lower n) } []
  | joinBot {n : Str} {cs : List Str} {u : SUser} (hu : aget s.users (lower n) = some u) (hb : lower n = s.botKey) :
      StepEffect s (.join n cs) (s.joinBot u cs).1 (s.joinBot u cs).2
  | joinUnseen {n : Str} {cs : List Str} {u : SUser} (hu : aget s.users (lower n) = some u) (hb : lower n ≠ s.botKey)
      (he : (s.joinOthers (lower n) cs).2.isEmpty = true) : StepEffect s (.join n cs) (s.joinOthers (lower n) cs).1 []
  | joinSeen {n : Str} {cs : List Str} {u : SUser} (hu : aget s.users (lower n) = some u) (hb : lower n ≠ s.botKey)
      (he : ¬ (s.joinOthers (lower n) cs).2.isEmpty = true) :
      StepEffect s (.join n cs)
        { (s.joinOthers (lower n) cs).1 with told := sadd (s.joinOthers (lower n) cs).1.told (lower n) }
        [emit u.mask "JOIN" (joinArgs s.cfg (commaJoin (s.joinOthers (lower n) cs).2))]
  | part {n : Str} {cs : List Str} {reason : Option Str} {u : SUser} (hu : aget s.users (lower n) = some u)
      (hr : reason.all validText = true) :
      StepEffect s (.part n cs reason) (s.leave (lower n) cs).1
        (if (s.leave (lower n) cs).2.isEmpty then [] else [emit u.mask "PART" ([commaJoin (s.leave (lower n) cs).2] ++ reason.toList)])
  | kick {src c : Str} {ts : List Str} {reason pfx : Str} {sc : SChan} (hsrc : s.source src = some pfx)
      (hch : aget s.chans (lower c) = some sc) (hr : validText reason = true) (hts : ts.all validNick = true)
      (hne : ¬ (kickTargets sc ts).2.isEmpty = true) :
      StepEffect s (.kick src c ts reason) (s.putChan (lower c) (kickTargets sc ts).1)
        (if s.botIn sc then [emit pfx "KICK" [sc.name, commaJoin (kickTargets sc ts).2, reason]] else [])
  | quit {n reason : Str} {u : SUser} (hu : aget s.users (lower n) = some u) (hb : lower n ≠ s.botKey)
      (hr : validText reason = true) :
      StepEffect s (.quit n reason)
        { s.dropEverywhere (lower n) with users := adel s.users (lower n), told := sdel s.told (lower n) }
        (if s.visible (lower n) then [emit u.mask "QUIT" [reason]] else [])
  | nick {n n' : Str} {u : SUser} (hu : aget s.users (lower n) = some u) (hvn : validNick n' = true) (hne : n' ≠ u.nick)
      (hfree : ¬ lower n' = lower n → aget s.users (lower n') = none) :
      StepEffect s (.nick n n') (s.renamed n n' u)
        (if (decide (lower n = s.botKey) || s.visible (lower n)) = true then [emit u.mask "NICK" [n']] else [])
  | mode {src c : Str} {cs : List MChange} {pfx : Str} {sc : SChan} (hsrc : s.source src = some pfx)
      (hch : aget s.chans (lower c) = some sc) (hne : ¬ (applyModes sc cs).2.isEmpty = true) :
      StepEffect s (.mode src c cs) { s with chans := aset s.chans (lower c) (applyModes sc cs).1 }
        (if s.botIn sc then
          [emit pfx "MODE" (sc.name :: modeString none (applyModes sc cs).2 :: modeArgs (applyModes sc cs).2)] else [])
  | topic {src c t pfx : Str} {sc : SChan} (hsrc : s.source src = some pfx) (hch : aget s.chans (lower c) = some sc)
      (ht : validText t = true) :
      StepEffect s (.topic src c t) { s with chans := aset s.chans (lower c) { sc with topic := t } }
        (if s.botIn sc then [emit pfx "TOPIC" [sc.name, t]] else [])
  /-- the bot is told: the capability was negotiated and the user is the bot or in its sight -/
  | chghostSeen {n i h : Str} {u : SUser} (hu : aget s.users (lower n) = some u) (hi : validWord i = true)
      (hh : validWord h = true)
      (hsee : (s.cfg.chghost && (decide (lower n = s.botKey) || s.visible (lower n))) = true) :
      StepEffect s (.chghost n i h)
        { s with users := aset s.users (lower n) { u with ident := i, host := h }, told := sadd s.told (lower n) }
        [emit u.mask "CHGHOST" [i, h]]
  | chghostSilent {n i h : Str} {u : SUser} (hu : aget s.users (lower n) = some u) (hi : validWord i = true)
      (hh : validWord h = true)
      (hsee : ¬ (s.cfg.chghost && (decide (lower n = s.botKey) || s.visible (lower n))) = true)
      (hb : ¬ lower n = s.botKey) :
      StepEffect s (.chghost n i h)
        { s with users := aset s.users (lower n) { u with ident := i, host := h }, told := sdel s.told (lower n) } []
  | say {n target text : Str} {u : SUser} (hu : aget s.users (lower n) = some u)
      (hsee : (decide (lower target = s.botKey) || (s.chan target).any s.botIn) = true) :
      StepEffect s (.say n target text) { s with told := sadd s.told (lower n) }
        [emit u.mask "PRIVMSG" [if lower target = s.botKey then s.bot else ((s.chan target).map (·.name)).getD target, text]]
  | isupport : StepEffect s .isupport s [s.isupport]
  | names {c : Str} {sc : SChan} (hch : aget s.chans (lower c) = some sc) (hb : s.botIn sc = true) :
      StepEffect s (.names c) { s with told := if s.cfg.uhnames then addAll s.told sc.keys else s.told } (s.namesReply sc)
  | who (c : Str) : StepEffect s (.who c) (s.replyWho c).1 (s.replyWho c).2
  | modeis (c : Str) : StepEffect s (.modeis c) (s.replyMode c).1 (s.replyMode c).2
  | banlist (c : Str) : StepEffect s (.banlist c) (s.replyBans c).1 (s.replyBans c).2
  | serveWho {c : Str} {rest : List Req} (hp : s.pending = .who c :: rest) :
      StepEffect s .serve (({ s with pending := rest } : Srv).replyWho c).1 (({ s with pending := rest } : Srv).replyWho c).2
  | serveMode {c : Str} {rest : List Req} (hp : s.pending = .mode c :: rest) :
      StepEffect s .serve (({ s with pending := rest } : Srv).replyMode c).1 (({ s with pending := rest } : Srv).replyMode c).2
  | serveBans {c : Str} {rest : List Req} (hp : s.pending = .bans c :: rest) :
      StepEffect s .serve (({ s with pending := rest } : Srv).replyBans c).1 (({ s with pending := rest } : Srv).replyBans c).2
  | reconnect {u : SUser} (hu : aget s.users s.botKey = some u)
      (hfree : ¬ lower s.cfg.botNick = s.botKey → aget s.users (lower s.cfg.botNick) = none) :
      StepEffect s .reconnect
        { s.dropEverywhere s.botKey with
            users := aset (adel (s.dropEverywhere s.botKey).users s.botKey) (lower s.cfg.botNick) { u with nick := s.cfg.botNick },
            bot := s.cfg.botNick, told := [], modesSynced := [], bansSynced := [], pending := [] }
        [.reset, emit s.cfg.server "001" [s.cfg.botNick, "Welcome".toList], isupportEv s.cfg s.cfg.botNick]

theorem step_effect (s : Srv) (a : Act) : StepEffect s a (s.step a).1 (s.step a).2 := by
  cases a with
  | connect n i h =>
    simp only [Srv.step]
    split
    · rename_i hc
      simp only [Bool.and_eq_true, Option.isNone_iff_eq_none] at hc
      exact .connect hc.1.1.1 hc.1.1.2 hc.1.2 hc.2
    · exact .idle _
  | join n cs =>
    simp only [Srv.step]
    split
    · exact .idle _
    · rename_i u hu
      split
      · rename_i hb; exact .joinBot hu hb
      · rename_i hb
        split
        · rename_i he; exact .joinUnseen hu hb he
        · rename_i he; exact .joinSeen hu hb he
  | part n cs r =>
    simp only [Srv.step]
    split
    · exact .idle _
    · rename_i u hu
      split
      · exact .idle _
      · rename_i hr; exact .part hu (by simpa using hr)
  | kick src c ts r =>
    simp only [Srv.step]
    split
    · rename_i pfx sc hsrc hch
      split
      · exact .idle _
      · rename_i hc
        simp only [Bool.or_eq_true, Bool.not_eq_eq_eq_not, Bool.not_true, not_or, Bool.not_eq_false] at hc
        split
        · exact .idle _
        · rename_i hne; exact .kick hsrc hch hc.1 hc.2 hne
    · exact .idle _
  | quit n r =>
    simp only [Srv.step]
    split
    · exact .idle _
    · rename_i u hu
      split
      · exact .idle _
      · rename_i hc
        simp only [Bool.or_eq_true, decide_eq_true_eq, Bool.not_eq_eq_eq_not, Bool.not_true, not_or, Bool.not_eq_false] at hc
        exact .quit hu hc.1 hc.2
  | nick n n' =>
    simp only [Srv.step]
    split
    · exact .idle _
    · rename_i u hu
      split
      · exact .idle _
      · rename_i hc
        simp only [Bool.or_eq_true, Bool.not_eq_eq_eq_not, Bool.not_true, decide_eq_true_eq, Bool.and_eq_true,
          bne_iff_ne, ne_eq, not_or, Bool.not_eq_false, not_and, Bool.not_eq_true, Option.isSome_eq_false_iff,
          Option.isNone_iff_eq_none] at hc
        exact .nick hu hc.1.1 hc.1.2 hc.2
  | mode src c cs =>
    simp only [Srv.step]
    split
    · rename_i pfx sc hsrc hch
      split
      · exact .idle _
      · rename_i hne; exact .mode hsrc hch hne
    · exact .idle _
  | topic src c t =>
    simp only [Srv.step]
    split
    · rename_i pfx sc hsrc hch
      split
      · exact .idle _
      · rename_i ht; exact .topic hsrc hch (by simpa using ht)
    · exact .idle _
  | chghost n i h =>
    simp only [Srv.step]
    split
    · exact .idle _
    · rename_i u hu
      split
      · exact .idle _
      · rename_i hc
        simp only [Bool.or_eq_true, Bool.not_eq_eq_eq_not, Bool.not_true, not_or, Bool.not_eq_false] at hc
        split
        · rename_i hsee; exact .chghostSeen hu hc.1 hc.2 hsee
        · rename_i hsee
          split
          · exact .idle _
          · rename_i hb; exact .chghostSilent hu hc.1 hc.2 hsee hb
  | say n t x =>
    simp only [Srv.step]
    split
    · exact .idle _
    · rename_i u hu
      split
      · exact .idle _
      · split
        · rename_i hsee; exact .say hu hsee
        · exact .idle _
  | isupport => exact .isupport
  | names c =>
    simp only [Srv.step]
    split
    · rename_i sc hch
      split
      · rename_i hb; exact .names hch hb
      · exact .idle _
    · exact .idle _
  | who c => exact .who c
  | modeis c => exact .modeis c
  | banlist c => exact .banlist c
  | serve =>
    simp only [Srv.step]
    split
    · exact .idle _
    · rename_i c rest hp; exact .serveWho hp
    · rename_i c rest hp; exact .serveMode hp
    · rename_i c rest hp; exact .serveBans hp
  | reconnect =>
    simp only [Srv.step]
    split
    · exact .idle _
    · rename_i u hu
      split
      · exact .idle _
      · rename_i hc
        simp only [Bool.and_eq_true, bne_iff_ne, ne_eq, not_and, Bool.not_eq_true, Option.isSome_eq_false_iff,
          Option.isNone_iff_eq_none] at hc
        exact .reconnect hu hc

end C10
