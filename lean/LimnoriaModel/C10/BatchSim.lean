/-
C10 — batches.  What an action makes the reference server send is classified once (`step_ordinary`); in particular
it is never a BATCH command, so wrapping it in an open batch changes nothing for the bot; the invariant of `runB`.
-/
import LimnoriaModel.C10.OwnJoin
import LimnoriaModel.C10.Batch
namespace C10
open Py

/-- a message that is neither a BATCH nor a NICK command: what the server sends apart from relaying a NICK and
resetting the connection -/
def Ev.ordinary : Ev → Prop
  | .msg m => cmdOf m.cmd ≠ .batch ∧ cmdOf m.cmd ≠ .nick
  | .reset => False

theorem emit_ordinary {p : Str} {c : String} {a : List Str} {k : Cmd} (h : cmdOf c.toList = k)
    (hk : k ≠ .batch ∧ k ≠ .nick) : (emit p c a).ordinary := by
  rw [← h] at hk; exact hk

theorem namesReply_ordinary (s : Srv) (sc : SChan) : ∀ e ∈ s.namesReply sc, e.ordinary := by
  intro e he
  simp only [Srv.namesReply, List.mem_append, List.mem_map, List.mem_singleton] at he
  rcases he with ⟨_, _, rfl⟩ | rfl
  · exact emit_ordinary cmdOf_353 (by decide)
  · exact emit_ordinary cmdOf_366 (by decide)

theorem whoReply_ordinary (s : Srv) (sc : SChan) : ∀ e ∈ s.whoReply sc, e.ordinary := by
  intro e he
  simp only [Srv.whoReply, List.mem_append, List.mem_map, List.mem_singleton] at he
  rcases he with ⟨p, _, rfl⟩ | rfl
  · unfold Srv.whoLine
    split
    · exact emit_ordinary cmdOf_354 (by decide)
    · exact emit_ordinary cmdOf_352 (by decide)
  · exact emit_ordinary cmdOf_315 (by decide)

theorem banList_ordinary (s : Srv) (sc : SChan) : ∀ e ∈ s.banList sc, e.ordinary := by
  intro e he
  simp only [Srv.banList, List.mem_append, List.mem_map, List.mem_singleton] at he
  rcases he with ⟨_, _, rfl⟩ | rfl
  · exact emit_ordinary cmdOf_367 (by decide)
  · exact emit_ordinary cmdOf_368 (by decide)

theorem joinBurst_ordinary (s : Srv) (sc : SChan) : ∀ e ∈ s.joinBurst sc, e.ordinary := by
  intro e he
  simp only [Srv.joinBurst, List.mem_append] at he
  rcases he with he | he
  · split at he
    · cases he
    · simp only [List.mem_cons, List.not_mem_nil, or_false] at he
      rcases he with rfl | rfl
      · exact emit_ordinary cmdOf_332 (by decide)
      · exact emit_ordinary cmdOf_333 (by decide)
  · exact namesReply_ordinary s sc e he

theorem joinBot_ordinary (u : SUser) (cs : List Str) : ∀ (s : Srv), ∀ e ∈ (s.joinBot u cs).2, e.ordinary := by
  induction cs with
  | nil => intro s e he; cases he
  | cons c cs ih =>
    intro s e he
    unfold Srv.joinBot at he
    split at he
    · exact ih s e he
    · split at he
      · exact ih _ e he
      · simp only [List.mem_cons, List.mem_append] at he
        rcases he with (rfl | he) | he
        · exact emit_ordinary cmdOf_JOIN (by decide)
        · exact joinBurst_ordinary _ _ e he
        · exact ih _ e he

theorem replyWho_ordinary (s : Srv) (c : Str) : ∀ e ∈ (s.replyWho c).2, e.ordinary := by
  intro e he
  unfold Srv.replyWho at he
  split at he
  · exact whoReply_ordinary s _ e he
  · cases he

theorem replyMode_ordinary (s : Srv) (c : Str) : ∀ e ∈ (s.replyMode c).2, e.ordinary := by
  intro e he
  unfold Srv.replyMode at he
  split at he
  · simp only [List.mem_cons, List.not_mem_nil, or_false] at he
    rcases he with rfl | rfl
    · exact emit_ordinary cmdOf_324 (by decide)
    · exact emit_ordinary cmdOf_329 (by decide)
  · cases he

theorem replyBans_ordinary (s : Srv) (c : Str) : ∀ e ∈ (s.replyBans c).2, e.ordinary := by
  intro e he
  unfold Srv.replyBans at he
  split at he
  · exact banList_ordinary s _ e he
  · cases he

theorem single_ordinary {cond : Bool} {p : Str} {c : String} {a : List Str} {k : Cmd} (h : cmdOf c.toList = k)
    (hk : k ≠ .batch ∧ k ≠ .nick) : ∀ e ∈ (if cond then [emit p c a] else ([] : List Ev)), e.ordinary := by
  intro e he
  split at he
  · rw [List.mem_singleton.mp he]; exact emit_ordinary h hk
  · cases he

theorem StepEffect.ordinary {s s' : Srv} {a : Act} {evs : List Ev} (h : StepEffect s a s' evs) : ∀ e ∈ evs,
    e.ordinary ∨ (e = .reset ∧ a = .reconnect) ∨ ((∃ p args, e = emit p "NICK" args) ∧ ∃ n n', a = .nick n n') := by
  intro e he
  cases h with
  | idle | connect | joinUnseen | chghostSilent => cases he
  | joinBot => exact Or.inl (joinBot_ordinary _ _ _ e he)
  | joinSeen => rw [List.mem_singleton.mp he]; exact Or.inl (emit_ordinary cmdOf_JOIN (by decide))
  | part =>
    split at he
    · cases he
    · rw [List.mem_singleton.mp he]; exact Or.inl (emit_ordinary cmdOf_PART (by decide))
  | kick => exact Or.inl (single_ordinary cmdOf_KICK (by decide) e he)
  | quit => exact Or.inl (single_ordinary cmdOf_QUIT (by decide) e he)
  | nick =>
    refine Or.inr (Or.inr ⟨?_, _, _, rfl⟩)
    split at he
    · exact ⟨_, _, List.mem_singleton.mp he⟩
    · cases he
  | mode => exact Or.inl (single_ordinary cmdOf_MODE (by decide) e he)
  | topic => exact Or.inl (single_ordinary cmdOf_TOPIC (by decide) e he)
  | chghostSeen => rw [List.mem_singleton.mp he]; exact Or.inl (emit_ordinary cmdOf_CHGHOST (by decide))
  | say => rw [List.mem_singleton.mp he]; exact Or.inl (emit_ordinary cmdOf_PRIVMSG (by decide))
  | isupport => rw [List.mem_singleton.mp he]; exact Or.inl (emit_ordinary cmdOf_005 (by decide))
  | names => exact Or.inl (namesReply_ordinary s _ e he)
  | who | serveWho => exact Or.inl (replyWho_ordinary _ _ e he)
  | modeis | serveMode => exact Or.inl (replyMode_ordinary _ _ e he)
  | banlist | serveBans => exact Or.inl (replyBans_ordinary _ _ e he)
  | reconnect =>
    simp only [List.mem_cons, List.not_mem_nil, or_false] at he
    rcases he with rfl | rfl | rfl
    · exact Or.inr (Or.inl ⟨rfl, rfl⟩)
    · exact Or.inl (emit_ordinary cmdOf_001 (by decide))
    · exact Or.inl (emit_ordinary cmdOf_005 (by decide))

theorem step_ordinary (s : Srv) (a : Act) : ∀ e ∈ (s.step a).2,
    e.ordinary ∨ (e = .reset ∧ a = .reconnect) ∨ ((∃ p args, e = emit p "NICK" args) ∧ ∃ n n', a = .nick n n') :=
  (step_effect s a).ordinary

def Ev.isPlain : Ev → Prop
  | .msg m => cmdOf m.cmd ≠ .batch
  | .reset => False

theorem Ev.ordinary.isPlain {e : Ev} (h : e.ordinary) : e.isPlain := by
  cases e with
  | msg m => exact h.1
  | reset => exact h

/-- everything an action other than a reconnect makes the server send is a message and not a BATCH -/
theorem step_plain (s : Srv) (a : Act) (ha : a ≠ .reconnect) : ∀ e ∈ (s.step a).2, e.isPlain := by
  intro e he
  rcases step_ordinary s a e he with h | ⟨_, h⟩ | ⟨⟨p, args, rfl⟩, _⟩
  · exact h.isPlain
  · exact absurd h ha
  · show cmdOf "NICK".toList ≠ .batch
    rw [cmdOf_NICK]; decide

theorem bbfeed_plain (bb : BBot) (tag : Option Str) (m : Msg) (hd : ∀ t, tag = some t → t ∈ bb.batches)
    (hm : cmdOf m.cmd ≠ .batch) : (bb.feed tag m).1 = ⟨(bb.bot.feed m).1, bb.batches⟩ := by
  unfold BBot.feed
  have hu : undeclaredTag bb.batches tag = false := by
    cases tag with
    | none => rfl
    | some t => simp [undeclaredTag, hd t rfl]
  rw [hu]
  have e : bb.bot.feedT false m = bb.bot.feed m := rfl
  rw [e]
  simp only [hm, ↓reduceIte]
  cases hx : (bb.bot.feed m).2 <;> rfl

theorem recvAll_tagged (ob : Option Str) (evs : List Ev) : ∀ (bb : BBot), (∀ ref, ob = some ref → ref ∈ bb.batches) →
    (∀ e ∈ evs, e.isPlain) → bb.recvAll (evs.map (tagWith ob)) = ⟨bb.bot.recvAll evs, bb.batches⟩ := by
  induction evs with
  | nil => intro bb _ _; rfl
  | cons e es ih =>
    intro bb hob hp
    have he := hp e (by simp)
    cases e with
    | reset => exact absurd he (by simp [Ev.isPlain])
    | msg m =>
      have hstep : bb.recv (tagWith ob (.msg m)) = ⟨(bb.bot.feed m).1, bb.batches⟩ := by
        cases ob with
        | none => exact bbfeed_plain bb none m (fun _ h => by cases h) he
        | some ref => exact bbfeed_plain bb (some ref) m (fun t h => by cases h; exact hob ref rfl) he
      simp only [List.map_cons, BBot.recvAll, List.foldl_cons] at ih ⊢
      rw [hstep]
      exact ih ⟨(bb.bot.feed m).1, bb.batches⟩ hob (fun e' he' => hp e' (by simp [he']))

theorem recv_plain_msg (bb : BBot) (m : Msg) : bb.recv (.plain (.msg m)) = (bb.feed none m).1 := rfl
theorem recv_plain_reset (bb : BBot) : bb.recv (.plain .reset) = bb.reset := rfl

/-- a BATCH command from the server leaves the bot proper untouched and raises nothing -/
theorem feed_batch_cmd {b : Bot} {p : Str} (hp : ServerOK p) (hne : p ≠ b.nick) (args : List Str) :
    b.feed ⟨p, "BATCH".toList, args⟩ = (b, .none) := by
  have h0 := tagRaises_false b ⟨p, "BATCH".toList, args⟩
  have hns : "BATCH".toList ∉ Gen.nickSetters := by decide +kernel
  have hpu : b.pfxUpd ⟨p, "BATCH".toList, args⟩ = b := pfxUpd_server hp.noBang hne _ _
  have e : (if ((⟨p, "BATCH".toList, args⟩ : Msg).nick = b.nick && b.pfx != (⟨p, "BATCH".toList, args⟩ : Msg).pfx) = true
      then { b with pfx := (⟨p, "BATCH".toList, args⟩ : Msg).pfx } else b) = b.pfxUpd ⟨p, "BATCH".toList, args⟩ := rfl
  unfold Bot.feed Bot.feedT
  simp only [h0, Bool.false_eq_true, ↓reduceIte, hne, hns]
  rw [e, hpu]
  simp only [Bot.ircCmd, cmdOf_BATCH, Bool.false_eq_true, ↓reduceIte, addMsg_eq, prelude_server hp.noBang, Bot.stateCmd]

/-- the invariant of a run with batches: the server's invariant, the coupling, and the batch the server is
sending is one the bot has open -/
structure BInv (s : Srv) (bb : BBot) (ob : Option Str) : Prop where
  wf : SrvWF s
  coupled : Coupled s bb.bot
  isOpen : ∀ ref, ob = some ref → ref ∈ bb.batches

def BAct.ok : BAct → Prop
  | .act a => a.ok
  | _ => True

theorem bstep_inv {s : Srv} {bb : BBot} {ob : Option Str} (h : BInv s bb ob) (a : BAct) (ha : a.ok) :
    BInv ((bstep s ob a).1.enqueue (bb.outAll (bstep s ob a).2.2)) (bb.recvAll (bstep s ob a).2.2) (bstep s ob a).2.1 := by
  have hsv := serverOK_of_cfg h.wf.cfg
  have hne : s.cfg.server ≠ bb.bot.nick := by rw [h.coupled.nick]; exact server_ne_nick hsv h.wf.botNickOK
  cases a with
  | act a =>
    by_cases hr : a = .reconnect
    · subst hr
      simp only [bstep, ↓reduceIte]
      have hstep := And.intro (wf_step h.wf .reconnect trivial) (coupled_step h.wf h.coupled .reconnect trivial)
      -- the welcome after a reconnect is not batched
      have hshape : (s.step .reconnect).2 = [] ∨
          ∃ m1 m2, (s.step .reconnect).2 = [.reset, .msg m1, .msg m2] ∧ cmdOf m1.cmd ≠ .batch ∧ cmdOf m2.cmd ≠ .batch := by
        obtain ⟨s1, evs, he, e2⟩ : ∃ s1 evs, StepEffect s .reconnect s1 evs ∧ (s.step .reconnect).2 = evs :=
          ⟨_, _, step_effect s .reconnect, rfl⟩
        rw [e2]
        cases he with
        | idle => exact Or.inl rfl
        | reconnect => exact Or.inr ⟨_, _, rfl, by rw [cmdOf_001]; decide, by rw [cmdOf_005]; decide⟩
      rcases hshape with he | ⟨m1, m2, he, h1, h2⟩
      · rw [he] at hstep ⊢
        simp only [List.map_nil, List.isEmpty_nil, ↓reduceIte]
        exact ⟨wf_enqueue hstep.1 _, coupled_pending hstep.2 _, h.isOpen⟩
      · rw [he] at hstep ⊢
        simp only [List.map_cons, List.map_nil, List.isEmpty_cons, Bool.false_eq_true, ↓reduceIte]
        refine ⟨wf_enqueue hstep.1 _, ?_, fun _ h' => by cases h'⟩
        have hb : (bb.recvAll [.plain .reset, .plain (.msg m1), .plain (.msg m2)]).bot =
            bb.bot.recvAll [.reset, .msg m1, .msg m2] := by
          simp only [BBot.recvAll, List.foldl_cons, List.foldl_nil, recv_plain_reset, recv_plain_msg, Bot.recvAll, Bot.recv]
          rw [bbfeed_plain _ none m1 (fun _ h' => by cases h') h1]
          rw [bbfeed_plain _ none m2 (fun _ h' => by cases h') h2]
          rfl
        rw [hb]
        exact coupled_pending hstep.2 _
    · simp only [bstep, hr, ↓reduceIte]
      have hstep := And.intro (wf_step h.wf a ha) (coupled_step h.wf h.coupled a ha)
      rw [recvAll_tagged ob _ bb h.isOpen (step_plain s a hr)]
      exact ⟨wf_enqueue hstep.1 _, coupled_pending hstep.2 _, h.isOpen⟩
  | batchOpen ref ty args =>
    simp only [bstep]
    split
    · have hem : emit s.cfg.server "BATCH" (('+' :: ref) :: ty :: args) = .msg ⟨s.cfg.server, "BATCH".toList, ('+' :: ref) :: ty :: args⟩ := rfl
      simp only [BBot.recvAll, List.foldl_cons, List.foldl_nil, hem, recv_plain_msg]
      have hfeed := feed_batch_cmd (b := bb.bot) hsv hne (('+' :: ref) :: ty :: args)
      have hres : (bb.feed none ⟨s.cfg.server, "BATCH".toList, ('+' :: ref) :: ty :: args⟩).1 =
          ⟨bb.bot, if ref ∈ bb.batches then bb.batches else ref :: bb.batches⟩ := by
        unfold BBot.feed
        have e : bb.bot.feedT false ⟨s.cfg.server, "BATCH".toList, ('+' :: ref) :: ty :: args⟩ =
            bb.bot.feed ⟨s.cfg.server, "BATCH".toList, ('+' :: ref) :: ty :: args⟩ := rfl
        have hu : undeclaredTag bb.batches none = false := rfl
        rw [hu, e, hfeed]
        simp only [cmdOf_BATCH, ↓reduceIte, doBatch, List.head?_cons, List.drop_succ_cons, List.drop_zero]
      rw [hres]
      refine ⟨wf_enqueue h.wf _, coupled_pending h.coupled _, ?_⟩
      intro r hr'
      cases hr'
      show ref ∈ (if ref ∈ bb.batches then bb.batches else ref :: bb.batches)
      split
      · assumption
      · simp
    · simp only [BBot.recvAll, List.foldl_nil]
      exact ⟨wf_enqueue h.wf _, coupled_pending h.coupled _, h.isOpen⟩
  | batchClose =>
    simp only [bstep]
    split
    · rename_i ref
      have hem : emit s.cfg.server "BATCH" [('-' :: ref)] = .msg ⟨s.cfg.server, "BATCH".toList, [('-' :: ref)]⟩ := rfl
      simp only [BBot.recvAll, List.foldl_cons, List.foldl_nil, hem, recv_plain_msg]
      have hfeed := feed_batch_cmd (b := bb.bot) hsv hne [('-' :: ref)]
      have hin : ref ∈ bb.batches := h.isOpen ref rfl
      have hres : (bb.feed none ⟨s.cfg.server, "BATCH".toList, [('-' :: ref)]⟩).1.bot = bb.bot := by
        unfold BBot.feed
        have e : bb.bot.feedT false ⟨s.cfg.server, "BATCH".toList, [('-' :: ref)]⟩ =
            bb.bot.feed ⟨s.cfg.server, "BATCH".toList, [('-' :: ref)]⟩ := rfl
        have hu : undeclaredTag bb.batches none = false := rfl
        rw [hu, e, hfeed]
        have hd : ¬ ('-' = '+') := by decide
        simp only [cmdOf_BATCH, ↓reduceIte, doBatch, List.head?_cons, Option.some.injEq, hd, List.drop_succ_cons, List.drop_zero, hin]
      refine ⟨wf_enqueue h.wf _, ?_, fun _ h' => by cases h'⟩
      rw [hres]
      exact coupled_pending h.coupled _
    · simp only [BBot.recvAll, List.foldl_nil]
      exact ⟨wf_enqueue h.wf _, coupled_pending h.coupled _, h.isOpen⟩

theorem runB_inv (acts : List BAct) : ∀ (s : Srv) (bb : BBot) (ob : Option Str), BInv s bb ob → (∀ a ∈ acts, a.ok) →
    BInv (runB s bb ob acts).1 (runB s bb ob acts).2.1 (runB s bb ob acts).2.2 := by
  induction acts with
  | nil => intro s bb ob h _; exact h
  | cons a as ih =>
    intro s bb ob h hok
    unfold runB
    exact ih _ _ _ (bstep_inv h a (hok a (by simp))) (fun a' ha' => hok a' (by simp [ha']))

end C10
