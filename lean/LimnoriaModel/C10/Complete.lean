/-
C10 — completeness of what the server tells the bot: once every query of the bot has been answered, every
channel the bot is on has had its modes and ban list sent, and (with chghost negotiated, so that no host
change is silent for a visible user) the hostmask of every visible user has been shown.
Together with `Coupled` this gives back the plain reading of the property at quiescent moments.
-/
import LimnoriaModel.C10.BatchSim
namespace C10
open Py

/-- a query of kind `mk` for the channel with key `k` is among the unanswered ones `P` -/
def Pend (P : List Req) (mk : Str → Req) (k : Str) : Prop := ∃ c, lower c = k ∧ mk c ∈ P

/-- completeness relative to a list `P` of unanswered queries -/
structure CompleteP (s : Srv) (P : List Req) : Prop where
  modes : ∀ k sc, aget s.chans k = some sc → sc.has s.botKey = true → k ∈ s.modesSynced ∨ Pend P .mode k
  bans : ∀ k sc, aget s.chans k = some sc → sc.has s.botKey = true → k ∈ s.bansSynced ∨ Pend P .bans k
  hosts : s.cfg.chghost = true → ∀ x, s.visible x = true → x ∈ s.told ∨
    ∀ kc sc, aget s.chans kc = some sc → sc.has s.botKey = true → sc.has x = true → Pend P .who kc

/-- every channel the bot is on has had its modes and its ban list sent or the bot's query for them is still
in the server's queue; likewise (where no host change is silent) for the hostmask of every user the bot sees -/
abbrev Complete (s : Srv) : Prop := CompleteP s s.pending

/-- how an action that neither adds the bot to a channel nor renames anybody relates the states -/
structure CFrame0 (s s' : Srv) : Prop where
  cfg : s'.cfg = s.cfg
  bot : s'.bot = s.bot
  /-- what carries the proof: every member of a channel the bot is on after the step was a member before, or his
  hostmask has just been told -/
  chans : ∀ k sc', aget s'.chans k = some sc' → sc'.has s.botKey = true →
    ∃ sc, aget s.chans k = some sc ∧ sc.has s.botKey = true ∧ ∀ x, sc'.has x = true → sc.has x = true ∨ x ∈ s'.told
  ms : ∀ k, k ∈ s.modesSynced → k ∈ s'.modesSynced
  bs : ∀ k, k ∈ s.bansSynced → k ∈ s'.bansSynced
  told : s.cfg.chghost = true → ∀ x, x ∈ s.told → s'.visible x = true → x ∈ s'.told

structure CFrame (s s' : Srv) : Prop extends CFrame0 s s' where
  pend : ∀ r, r ∈ s.pending → r ∈ s'.pending

theorem Pend.mono {P P' : List Req} {mk : Str → Req} {k : Str} (h : Pend P mk k) (hp : ∀ r, r ∈ P → r ∈ P') :
    Pend P' mk k := by
  obtain ⟨c, hc, hm⟩ := h; exact ⟨c, hc, hp _ hm⟩

theorem CompleteP.mono {s : Srv} {P P' : List Req} (hc : CompleteP s P) (hp : ∀ r, r ∈ P → r ∈ P') : CompleteP s P' :=
  ⟨fun k sc h1 h2 => (hc.modes k sc h1 h2).imp id (fun h => h.mono hp),
    fun k sc h1 h2 => (hc.bans k sc h1 h2).imp id (fun h => h.mono hp),
    fun hcg x hv => (hc.hosts hcg x hv).imp id (fun h kc sc a b c => (h kc sc a b c).mono hp)⟩

theorem completeP_of_frame {s s' : Srv} {P : List Req} (hc : CompleteP s P) (hn : (akeys s.chans).Nodup)
    (hn' : (akeys s'.chans).Nodup) (hf : CFrame0 s s') : CompleteP s' P := by
  have hbk : s'.botKey = s.botKey := by simp [Srv.botKey, hf.bot]
  refine ⟨?_, ?_, ?_⟩
  · intro k sc' hsc' hb
    rw [hbk] at hb
    obtain ⟨sc, hsc, hb0, _⟩ := hf.chans k sc' hsc' hb
    exact (hc.modes k sc hsc hb0).imp (hf.ms k) id
  · intro k sc' hsc' hb
    rw [hbk] at hb
    obtain ⟨sc, hsc, hb0, _⟩ := hf.chans k sc' hsc' hb
    exact (hc.bans k sc hsc hb0).imp (hf.bs k) id
  · intro hcg x hv
    rw [hf.cfg] at hcg
    obtain ⟨kc, sc', hsc', hb, hx⟩ := (visible_iff hn').mp hv
    rw [hbk] at hb
    obtain ⟨sc, hsc, hb0, hmem⟩ := hf.chans kc sc' hsc' hb
    rcases hmem x hx with hx0 | ht
    · have hv0 : s.visible x = true := (visible_iff hn).mpr ⟨kc, sc, hsc, hb0, hx0⟩
      rcases hc.hosts hcg x hv0 with ht | hall
      · exact Or.inl (hf.told hcg x ht hv)
      · by_cases hxt : x ∈ s'.told
        · exact Or.inl hxt
        · right
          intro kc2 sc2' hsc2' hb2 hx2
          rw [hbk] at hb2
          obtain ⟨sc2, hsc2, hb02, hmem2⟩ := hf.chans kc2 sc2' hsc2' hb2
          rcases hmem2 x hx2 with h | h
          · exact hall kc2 sc2 hsc2 hb02 h
          · exact absurd h hxt
    · exact Or.inl ht

theorem complete_enqueue {s : Srv} (hc : Complete s) (out : List Msg) : Complete (s.enqueue out) := by
  have h : CompleteP s (s.enqueue out).pending := CompleteP.mono (s := s) hc (fun r hr => List.mem_append_left _ hr)
  exact ⟨h.modes, h.bans, h.hosts⟩

theorem visible_user {s : Srv} (hw : SrvWF s) {k : Str} (hv : s.visible k = true) : (aget s.users k).isSome := by
  obtain ⟨kc, sc, hsc, _, h2⟩ := (visible_iff hw.chansNodup).mp hv
  obtain ⟨f, hf⟩ := has_iff.mp h2
  exact (hw.chans kc sc hsc).members (k, f) hf

theorem cframe_same {s s' : Srv} (hcfg : s'.cfg = s.cfg) (hbot : s'.bot = s.bot) (hch : s'.chans = s.chans)
    (hms : ∀ k, k ∈ s.modesSynced → k ∈ s'.modesSynced) (hbs : ∀ k, k ∈ s.bansSynced → k ∈ s'.bansSynced)
    (hp : ∀ r, r ∈ s.pending → r ∈ s'.pending)
    (ht : s.cfg.chghost = true → ∀ x, x ∈ s.told → s.visible x = true → x ∈ s'.told) : CFrame s s' where
  cfg := hcfg
  bot := hbot
  chans := fun k sc' hsc' hb => by rw [hch] at hsc'; exact ⟨sc', hsc', hb, fun x hx => Or.inl hx⟩
  ms := hms
  bs := hbs
  pend := hp
  told := fun hcg x hx hv => by
    apply ht hcg x hx
    have : s'.visible x = s.visible x := by simp [Srv.visible, hch, Srv.botKey, hbot]
    rw [← this]; exact hv

theorem CFrame.refl (s : Srv) : CFrame s s :=
  cframe_same rfl rfl rfl (fun _ h => h) (fun _ h => h) (fun _ h => h) (fun _ _ h _ => h)

theorem cframe_setChan {s : Srv} (k0 : Str) (sc0 sc1 : SChan) (h0 : aget s.chans k0 = some sc0)
    (hhas : ∀ x, sc1.has x = sc0.has x) : CFrame s { s with chans := aset s.chans k0 sc1 } where
  cfg := rfl
  bot := rfl
  chans := fun k sc' hsc' hb => by
    have hsc'' : aget (aset s.chans k0 sc1) k = some sc' := hsc'
    rw [aget_aset] at hsc''
    by_cases hk : k0 = k
    · subst hk
      simp only [↓reduceIte, Option.some.injEq] at hsc''
      subst hsc''
      exact ⟨sc0, h0, by rw [← hhas]; exact hb, fun x hx => Or.inl (by rw [← hhas]; exact hx)⟩
    · simp only [hk, ↓reduceIte] at hsc''
      exact ⟨sc', hsc'', hb, fun x hx => Or.inl hx⟩
  ms := fun _ h => h
  bs := fun _ h => h
  pend := fun _ h => h
  told := fun _ x hx _ => hx

theorem cframe_replyWho (s : Srv) (c : Str) : CFrame s (s.replyWho c).1 := by
  unfold Srv.replyWho
  split
  · exact cframe_same rfl rfl rfl (fun _ h => h) (fun _ h => h) (fun _ h => h)
      (fun _ y hy _ => mem_addAll.mpr (Or.inl hy))
  · exact CFrame.refl _

theorem cframe_replyMode (s : Srv) (c : Str) : CFrame s (s.replyMode c).1 := by
  unfold Srv.replyMode
  split
  · refine cframe_same rfl rfl rfl ?_ (fun _ h => h) (fun _ h => h) (fun _ _ h _ => h)
    intro k hk
    show k ∈ (if s.botIn _ then sadd s.modesSynced (lower c) else s.modesSynced)
    split
    · exact mem_sadd.mpr (Or.inr hk)
    · exact hk
  · exact CFrame.refl _

theorem cframe_replyBans (s : Srv) (c : Str) : CFrame s (s.replyBans c).1 := by
  unfold Srv.replyBans
  split
  · refine cframe_same rfl rfl rfl (fun _ h => h) ?_ (fun _ h => h) (fun _ _ h _ => h)
    intro k hk
    show k ∈ (if s.botIn _ then sadd s.bansSynced (lower c) else s.bansSynced)
    split
    · exact mem_sadd.mpr (Or.inr hk)
    · exact hk
  · exact CFrame.refl _

/-! ### `serve`: the oldest query is answered and leaves the queue -/

theorem Pend.of_cons {r : Req} {rest : List Req} {mk : Str → Req} {k : Str} (h : Pend (r :: rest) mk k) :
    (∃ c, lower c = k ∧ mk c = r) ∨ Pend rest mk k := by
  obtain ⟨c, hk, hm⟩ := h
  rcases List.mem_cons.mp hm with e | hm
  · exact Or.inl ⟨c, hk, e⟩
  · exact Or.inr ⟨c, hk, hm⟩

theorem CompleteP.pop {s : Srv} {r : Req} {rest : List Req} (hc : CompleteP s (r :: rest))
    (hm : ∀ c, .mode c = r → ∀ sc, aget s.chans (lower c) = some sc → sc.has s.botKey = true → lower c ∈ s.modesSynced)
    (hb : ∀ c, .bans c = r → ∀ sc, aget s.chans (lower c) = some sc → sc.has s.botKey = true → lower c ∈ s.bansSynced)
    (hwho : ∀ c, .who c = r → ∀ sc, aget s.chans (lower c) = some sc → ∀ x, sc.has x = true → x ∈ s.told) :
    CompleteP s rest := by
  refine ⟨fun k sc h1 h2 => ?_, fun k sc h1 h2 => ?_, fun hcg x hv => ?_⟩
  · rcases hc.modes k sc h1 h2 with h | h
    · exact Or.inl h
    · rcases h.of_cons with ⟨c, rfl, e⟩ | h
      · exact Or.inl (hm c e sc h1 h2)
      · exact Or.inr h
  · rcases hc.bans k sc h1 h2 with h | h
    · exact Or.inl h
    · rcases h.of_cons with ⟨c, rfl, e⟩ | h
      · exact Or.inl (hb c e sc h1 h2)
      · exact Or.inr h
  · by_cases hxt : x ∈ s.told
    · exact Or.inl hxt
    · refine (hc.hosts hcg x hv).imp id (fun h kc sc h1 h2 h3 => ?_)
      rcases (h kc sc h1 h2 h3).of_cons with ⟨c, rfl, e⟩ | h'
      · exact absurd (hwho c e sc h1 x h3) hxt
      · exact h'

theorem complete_answer {s s' : Srv} (hw : SrvWF s) (hc : Complete s) {r : Req} {rest : List Req} (hp : s.pending = r :: rest)
    (hf : CFrame0 { s with pending := rest } s') (hn' : (akeys s'.chans).Nodup) (hpe : s'.pending = rest)
    (hm : ∀ c, .mode c = r → ∀ sc, aget s'.chans (lower c) = some sc → sc.has s'.botKey = true → lower c ∈ s'.modesSynced)
    (hb : ∀ c, .bans c = r → ∀ sc, aget s'.chans (lower c) = some sc → sc.has s'.botKey = true → lower c ∈ s'.bansSynced)
    (hwho : ∀ c, .who c = r → ∀ sc, aget s'.chans (lower c) = some sc → ∀ x, sc.has x = true → x ∈ s'.told) :
    Complete s' := by
  have hc0 : CompleteP ({ s with pending := rest } : Srv) (r :: rest) := by
    have h : CompleteP s (r :: rest) := by rw [← hp]; exact hc
    exact ⟨h.modes, h.bans, h.hosts⟩
  show CompleteP s' s'.pending
  rw [hpe]
  exact (completeP_of_frame hc0 hw.chansNodup hn' hf).pop hm hb hwho

theorem complete_serveWho {s : Srv} (hw : SrvWF s) (hc : Complete s) {c : Str} {rest : List Req} (hp : s.pending = .who c :: rest) :
    Complete (({ s with pending := rest } : Srv).replyWho c).1 := by
  have hw0 : SrvWF ({ s with pending := rest } : Srv) := wf_congr hw rfl rfl rfl rfl
  refine complete_answer hw hc hp (cframe_replyWho _ c).toCFrame0 (wf_replyWho hw0 c).chansNodup
    (by unfold Srv.replyWho; split <;> rfl) nofun nofun ?_
  intro c' e sc hsc x hx
  cases e
  unfold Srv.replyWho at hsc ⊢
  have hch : ({ s with pending := rest } : Srv).chan c = aget s.chans (lower c) := rfl
  cases hg : aget s.chans (lower c) with
  | none => rw [hch, hg] at hsc; dsimp only at hsc; rw [hg] at hsc; cases hsc
  | some sc0 =>
    rw [hch, hg] at hsc ⊢
    dsimp only at hsc ⊢
    rw [hg] at hsc; cases hsc
    exact mem_addAll.mpr (Or.inr (mem_keys.mpr (has_iff.mp hx)))

theorem complete_serveMode {s : Srv} (hw : SrvWF s) (hc : Complete s) {c : Str} {rest : List Req} (hp : s.pending = .mode c :: rest) :
    Complete (({ s with pending := rest } : Srv).replyMode c).1 := by
  have hw0 : SrvWF ({ s with pending := rest } : Srv) := wf_congr hw rfl rfl rfl rfl
  refine complete_answer hw hc hp (cframe_replyMode _ c).toCFrame0 (wf_replyMode hw0 c).chansNodup
    (by unfold Srv.replyMode; split <;> rfl) ?_ nofun nofun
  intro c' e sc hsc hb
  cases e
  unfold Srv.replyMode at hsc hb ⊢
  have hch : ({ s with pending := rest } : Srv).chan c = aget s.chans (lower c) := rfl
  cases hg : aget s.chans (lower c) with
  | none => rw [hch, hg] at hsc; dsimp only at hsc; rw [hg] at hsc; cases hsc
  | some sc0 =>
    rw [hch, hg] at hsc hb ⊢
    dsimp only at hsc hb ⊢
    rw [hg] at hsc; cases hsc
    have hb' : ({ s with pending := rest } : Srv).botIn sc = true := hb
    rw [hb']; exact mem_sadd.mpr (Or.inl rfl)

theorem complete_serveBans {s : Srv} (hw : SrvWF s) (hc : Complete s) {c : Str} {rest : List Req} (hp : s.pending = .bans c :: rest) :
    Complete (({ s with pending := rest } : Srv).replyBans c).1 := by
  have hw0 : SrvWF ({ s with pending := rest } : Srv) := wf_congr hw rfl rfl rfl rfl
  refine complete_answer hw hc hp (cframe_replyBans _ c).toCFrame0 (wf_replyBans hw0 c).chansNodup
    (by unfold Srv.replyBans; split <;> rfl) nofun ?_ nofun
  intro c' e sc hsc hb
  cases e
  unfold Srv.replyBans at hsc hb ⊢
  have hch : ({ s with pending := rest } : Srv).chan c = aget s.chans (lower c) := rfl
  cases hg : aget s.chans (lower c) with
  | none => rw [hch, hg] at hsc; dsimp only at hsc; rw [hg] at hsc; cases hsc
  | some sc0 =>
    rw [hch, hg] at hsc hb ⊢
    dsimp only at hsc hb ⊢
    rw [hg] at hsc; cases hsc
    have hb' : ({ s with pending := rest } : Srv).botIn sc = true := hb
    rw [hb']; exact mem_sadd.mpr (Or.inl rfl)

/-! ### PART, KICK, QUIT: channels only lose members -/

/-- every channel of the table `c'` is a channel of `c` with (some of) the same members -/
def Shrinks (c c' : List (Str × SChan)) : Prop :=
  ∀ k sc', aget c' k = some sc' → ∃ sc, aget c k = some sc ∧ ∀ x, sc'.has x = true → sc.has x = true

theorem Shrinks.refl (c : List (Str × SChan)) : Shrinks c c := fun _ sc' h => ⟨sc', h, fun _ hx => hx⟩

theorem Shrinks.trans {a b c : List (Str × SChan)} (h1 : Shrinks a b) (h2 : Shrinks b c) : Shrinks a c := by
  intro k sc'' h
  obtain ⟨sc', hsc', hm'⟩ := h2 k sc'' h
  obtain ⟨sc, hsc, hm⟩ := h1 k sc' hsc'
  exact ⟨sc, hsc, fun x hx => hm x (hm' x hx)⟩

theorem putChan_shrinks {s : Srv} {k : Str} {sc sc1 : SChan} (h0 : aget s.chans k = some sc)
    (hm : ∀ x, sc1.has x = true → sc.has x = true) : Shrinks s.chans (s.putChan k sc1).chans := by
  intro k' sc' h
  unfold Srv.putChan at h
  split at h
  · have h' : aget (adel s.chans k) k' = some sc' := h
    rw [aget_adel] at h'
    split at h'
    · cases h'
    · exact ⟨sc', h', fun _ hx => hx⟩
  · have h' : aget (aset s.chans k sc1) k' = some sc' := h
    rw [aget_aset] at h'
    split at h'
    · rename_i hk; subst hk; cases h'; exact ⟨sc, h0, hm⟩
    · exact ⟨sc', h', fun _ hx => hx⟩

theorem cframe_shrink {s s' : Srv} (hcfg : s'.cfg = s.cfg) (hbot : s'.bot = s.bot) (hsh : Shrinks s.chans s'.chans)
    (hms : s'.modesSynced = s.modesSynced) (hbs : s'.bansSynced = s.bansSynced) (hp : s'.pending = s.pending)
    (ht : ∀ x, x ∈ s.told → s'.visible x = true → x ∈ s'.told) : CFrame s s' where
  cfg := hcfg
  bot := hbot
  chans := fun k sc' hsc' hb => by
    obtain ⟨sc, hsc, hm⟩ := hsh k sc' hsc'
    exact ⟨sc, hsc, hm _ hb, fun x hx => Or.inl (hm x hx)⟩
  ms := fun _ h => by rw [hms]; exact h
  bs := fun _ h => by rw [hbs]; exact h
  pend := fun _ h => by rw [hp]; exact h
  told := fun _ => ht

theorem leave_frame (k : Str) (cs : List Str) : ∀ s : Srv,
    (s.leave k cs).1.cfg = s.cfg ∧ (s.leave k cs).1.bot = s.bot ∧ (s.leave k cs).1.modesSynced = s.modesSynced ∧
    (s.leave k cs).1.bansSynced = s.bansSynced ∧ (s.leave k cs).1.pending = s.pending ∧ (s.leave k cs).1.told = s.told ∧
    Shrinks s.chans (s.leave k cs).1.chans := by
  induction cs with
  | nil => intro s; exact ⟨rfl, rfl, rfl, rfl, rfl, rfl, Shrinks.refl _⟩
  | cons c cs ih =>
    intro s
    unfold Srv.leave
    split
    · exact ih s
    · rename_i sc hch
      rw [Srv.chan_eq] at hch
      split
      · dsimp only
        obtain ⟨a1, a2, a3, a4, a5, a6, a7⟩ := ih (s.putChan (lower c) (sc.remove k))
        exact ⟨a1.trans (putChan_cfg ..), a2.trans (putChan_bot ..), a3.trans (putChan_ms ..), a4.trans (putChan_bs ..),
          a5.trans (putChan_pending ..), a6.trans (putChan_told ..),
          (putChan_shrinks hch (fun x hx => has_remove_of hx)).trans a7⟩
      · exact ih s

theorem cframe_quit {s : Srv} (hw : SrvWF s) (n : Str) :
    CFrame s { s.dropEverywhere (lower n) with users := adel s.users (lower n), told := sdel s.told (lower n) } := by
  have hn' : (akeys (s.dropEverywhere (lower n)).chans).Nodup := nodup_dropEverywhere hw.chansNodup _
  refine cframe_shrink rfl rfl ?_ rfl rfl rfl ?_
  · intro k sc' hsc'
    obtain ⟨sc, hsc, rfl⟩ := dropEverywhere_chan hw.chansNodup hsc'
    exact ⟨sc, hsc, fun x hx => has_remove_of hx⟩
  · intro x hx hv
    show x ∈ sdel s.told (lower n)
    refine mem_sdel.mpr ⟨?_, hx⟩
    rintro rfl
    have hv' : (s.dropEverywhere (lower n)).visible (lower n) = true := hv
    obtain ⟨kc, sc', hsc', _, hx'⟩ := (visible_iff hn').mp hv'
    obtain ⟨sc, _, rfl⟩ := dropEverywhere_chan hw.chansNodup hsc'
    rw [has_remove_self] at hx'; cases hx'

/-! ### NICK: the keys change, nothing else -/

theorem complete_nick {s : Srv} (hw : SrvWF s) (hc0 : Complete s) (n n' : Str) (u : SUser)
    (hfree : ¬ lower n' = lower n → aget s.users (lower n') = none) : Complete (s.renamed n n' u) := by
  have hr := renamed_spec hw n n' u hfree
  generalize s.renamed n n' u = s' at *
  show CompleteP s' s'.pending
  rw [hr.pending]
  refine ⟨?_, ?_, ?_⟩
  · intro k sc' hsc' hb
    obtain ⟨sc, hsc, rfl⟩ := hr.back k sc' hsc'
    rw [hr.ms]; exact hc0.modes k sc hsc ((hr.botin k sc hsc).mp hb)
  · intro k sc' hsc' hb
    obtain ⟨sc, hsc, rfl⟩ := hr.back k sc' hsc'
    rw [hr.bs]; exact hc0.bans k sc hsc ((hr.botin k sc hsc).mp hb)
  · intro hcg x hv
    rw [hr.cfg] at hcg
    by_cases h2 : x = lower n'
    · subst h2
      have hv0 := hr.visNew hv
      left
      rw [hr.told, if_pos (by simp [hv0])]
      exact mem_sadd.mpr (Or.inl rfl)
    · by_cases h1 : x = lower n
      · subst h1
        exfalso
        obtain ⟨kc, sc', hsc', _, hx⟩ := (visible_iff hr.nodup).mp hv
        obtain ⟨sc, _, rfl⟩ := hr.back kc sc' hsc'
        rw [has_rename] at hx
        rcases hx with ⟨e, _⟩ | ⟨e, _⟩
        · exact h2 e
        · exact e rfl
      · have hv0 := hr.visOther x h1 h2 hv
        rcases hc0.hosts hcg x hv0 with ht | hall
        · left
          rw [hr.told]
          split
          · exact mem_sadd.mpr (Or.inr (mem_sdel.mpr ⟨h1, ht⟩))
          · exact mem_sdel.mpr ⟨h2, mem_sdel.mpr ⟨h1, ht⟩⟩
        · right
          intro kc sc' hsc' hb hx
          obtain ⟨sc, hsc, rfl⟩ := hr.back kc sc' hsc'
          exact hall kc sc hsc ((hr.botin kc sc hsc).mp hb) ((hr.other sc x h1 h2).mp hx)

/-! ### reconnect: the bot is on no channel -/

theorem completeP_of_nowhere {s : Srv} (hn : (akeys s.chans).Nodup) (P : List Req)
    (h : ∀ k sc, aget s.chans k = some sc → sc.has s.botKey = false) : CompleteP s P := by
  refine ⟨?_, ?_, ?_⟩
  · intro k sc h1 h2; rw [h k sc h1] at h2; cases h2
  · intro k sc h1 h2; rw [h k sc h1] at h2; cases h2
  · intro _ x hv
    obtain ⟨kc, sc, h1, h2, _⟩ := (visible_iff hn).mp hv
    rw [h kc sc h1] at h2; cases h2

theorem complete_reconnect {s s' : Srv} (hw : SrvWF s) (hn' : (akeys s'.chans).Nodup)
    (hch : s'.chans = (s.dropEverywhere s.botKey).chans) (hbot : s'.bot = s.cfg.botNick)
    (hfree : ¬ lower s.cfg.botNick = s.botKey → aget s.users (lower s.cfg.botNick) = none) : Complete s' := by
  refine completeP_of_nowhere hn' _ ?_
  intro kc sc' hsc'
  rw [hch] at hsc'
  obtain ⟨sc, hsc, rfl⟩ := dropEverywhere_chan hw.chansNodup hsc'
  show (sc.remove s.botKey).has (lower s'.bot) = false
  rw [hbot]
  by_cases hsame : lower s.cfg.botNick = s.botKey
  · rw [hsame]; exact has_remove_self sc s.botKey
  · rw [← Bool.not_eq_true]; intro hcon
    have a := has_remove_of hcon
    rw [not_has_of_free hw hsc (hfree hsame)] at a; cases a

theorem complete_init (cfg : Cfg) : Complete (Srv.init cfg) :=
  completeP_of_nowhere (by simp [Srv.init, akeys]) _ (fun k sc h => by simp [Srv.init] at h)

/-! ### JOIN of somebody else -/

theorem has_append_new {sc : SChan} {k x : Str} {f : Flags} :
    ({ sc with members := sc.members ++ [(k, f)] } : SChan).has x = true ↔ sc.has x = true ∨ x = k := by
  simp only [has_iff, List.mem_append, List.mem_singleton, Prod.mk.injEq]
  constructor
  · rintro ⟨g, h | ⟨h, _⟩⟩
    · exact Or.inl ⟨g, h⟩
    · exact Or.inr h
  · rintro (⟨g, h⟩ | h)
    · exact ⟨g, Or.inl h⟩
    · exact ⟨f, Or.inr ⟨h, rfl⟩⟩

theorem joinOthers_frame (k : Str) (cs : List Str) : ∀ s : Srv, k ≠ s.botKey →
    (s.joinOthers k cs).1.cfg = s.cfg ∧ (s.joinOthers k cs).1.bot = s.bot ∧
    (s.joinOthers k cs).1.modesSynced = s.modesSynced ∧ (s.joinOthers k cs).1.bansSynced = s.bansSynced ∧
    (s.joinOthers k cs).1.pending = s.pending ∧ (s.joinOthers k cs).1.told = s.told ∧
    ∀ kc sc', aget (s.joinOthers k cs).1.chans kc = some sc' → sc'.has s.botKey = true →
      ∃ sc, aget s.chans kc = some sc ∧ sc.has s.botKey = true ∧
        ∀ x, sc'.has x = true → sc.has x = true ∨ (x = k ∧ (s.joinOthers k cs).2 ≠ []) := by
  induction cs with
  | nil => intro s _; exact ⟨rfl, rfl, rfl, rfl, rfl, rfl, fun kc sc' h hb => ⟨sc', h, hb, fun _ hx => Or.inl hx⟩⟩
  | cons c cs ih =>
    intro s hkb
    unfold Srv.joinOthers
    cases he : s.enter k c with
    | none => dsimp only; exact ih s hkb
    | some r =>
      obtain ⟨s1, name⟩ := r
      dsimp only
      obtain ⟨_, sc1, hs1, _, hcase⟩ := enter_spec he
      have hkb1 : k ≠ s1.botKey := by rw [hs1]; exact hkb
      obtain ⟨a1, a2, a3, a4, a5, a6, a7⟩ := ih s1 hkb1
      have e1 : s1.cfg = s.cfg := by rw [hs1]
      have e2 : s1.bot = s.bot := by rw [hs1]
      have e3 : s1.modesSynced = s.modesSynced := by rw [hs1]
      have e4 : s1.bansSynced = s.bansSynced := by rw [hs1]
      have e5 : s1.pending = s.pending := by rw [hs1]
      have e6 : s1.told = s.told := by rw [hs1]
      have ebk : s1.botKey = s.botKey := by rw [hs1]; rfl
      refine ⟨a1.trans e1, a2.trans e2, a3.trans e3, a4.trans e4, a5.trans e5, a6.trans e6, ?_⟩
      intro kc sc' hsc' hb
      rw [← ebk] at hb
      obtain ⟨scm, hscm, hbm, hmem⟩ := a7 kc sc' hsc' hb
      rw [ebk] at hbm
      have hscm' : aget (aset s.chans (lower c) sc1) kc = some scm := by rw [hs1] at hscm; exact hscm
      rw [aget_aset] at hscm'
      by_cases hk : lower c = kc
      · subst hk
        simp only [↓reduceIte, Option.some.injEq] at hscm'
        subst hscm'
        rcases hcase with ⟨_, _, hnew⟩ | ⟨sc, hsc, _, hext⟩
        · exfalso
          rw [hnew, has_iff] at hbm
          obtain ⟨f, hf⟩ := hbm
          simp only [List.mem_singleton, Prod.mk.injEq] at hf
          exact hkb hf.1.symm
        · have hb0 : sc.has s.botKey = true := by
            rw [hext, has_append_new] at hbm
            rcases hbm with h | h
            · exact h
            · exact absurd h.symm hkb
          have hany : (s.chan c).any s.botIn = true := by
            rw [Srv.chan_eq, hsc]; exact hb0
          refine ⟨sc, hsc, hb0, ?_⟩
          intro x hx
          rcases hmem x hx with h | ⟨h, _⟩
          · rw [hext, has_append_new] at h
            rcases h with h | h
            · exact Or.inl h
            · exact Or.inr ⟨h, by rw [hany]; simp⟩
          · exact Or.inr ⟨h, by rw [hany]; simp⟩
      · simp only [hk, ↓reduceIte] at hscm'
        refine ⟨scm, hscm', hbm, ?_⟩
        intro x hx
        rcases hmem x hx with h | ⟨h, hne⟩
        · exact Or.inl h
        · refine Or.inr ⟨h, ?_⟩
          split
          · simp
          · exact hne

theorem cframe_joinUnseen {s : Srv} {k : Str} {cs : List Str} (hnb : k ≠ s.botKey)
    (hemp : (s.joinOthers k cs).2.isEmpty = true) : CFrame s (s.joinOthers k cs).1 := by
  obtain ⟨a1, a2, a3, a4, a5, a6, a7⟩ := joinOthers_frame k cs s hnb
  refine ⟨⟨a1, a2, ?_, fun _ h => by rw [a3]; exact h, fun _ h => by rw [a4]; exact h,
    fun _ x hx _ => by rw [a6]; exact hx⟩, fun _ h => by rw [a5]; exact h⟩
  intro kc sc' hsc' hb
  obtain ⟨sc, hsc, hb0, hmem⟩ := a7 kc sc' hsc' hb
  refine ⟨sc, hsc, hb0, fun x hx => ?_⟩
  rcases hmem x hx with h | ⟨_, hne⟩
  · exact Or.inl h
  · exfalso; apply hne
    cases hl : (s.joinOthers k cs).2 with
    | nil => rfl
    | cons _ _ => rw [hl] at hemp; cases hemp

theorem cframe_joinSeen {s : Srv} {k : Str} {cs : List Str} (hnb : k ≠ s.botKey) :
    CFrame s { (s.joinOthers k cs).1 with told := sadd (s.joinOthers k cs).1.told k } := by
  obtain ⟨a1, a2, a3, a4, a5, a6, a7⟩ := joinOthers_frame k cs s hnb
  refine ⟨⟨a1, a2, ?_, fun _ h => by show _ ∈ (s.joinOthers k cs).1.modesSynced; rw [a3]; exact h,
    fun _ h => by show _ ∈ (s.joinOthers k cs).1.bansSynced; rw [a4]; exact h,
    fun _ x hx _ => mem_sadd.mpr (Or.inr (by rw [a6]; exact hx))⟩,
    fun _ h => by show _ ∈ (s.joinOthers k cs).1.pending; rw [a5]; exact h⟩
  intro kc sc' hsc' hb
  obtain ⟨sc, hsc, hb0, hmem⟩ := a7 kc sc' hsc' hb
  refine ⟨sc, hsc, hb0, fun x hx => ?_⟩
  rcases hmem x hx with h | ⟨h, _⟩
  · exact Or.inl h
  · exact Or.inr (mem_sadd.mpr (Or.inl h))

/-! ### the bot's own JOIN: it asks, the server queues -/

theorem outAll_append (xs ys : List Ev) : ∀ b : Bot, b.outAll (xs ++ ys) = b.outAll xs ++ (b.recvAll xs).outAll ys := by
  induction xs with
  | nil => intro b; rfl
  | cons e xs ih =>
    intro b
    cases e with
    | msg m =>
      show b.out m ++ (b.recv (.msg m)).outAll (xs ++ ys) = (b.out m ++ (b.recv (.msg m)).outAll xs) ++ _
      rw [ih, List.append_assoc]; rfl
    | reset =>
      show b.reset.outAll (xs ++ ys) = b.reset.outAll xs ++ _
      rw [ih]; rfl

/-- what the bot sends on seeing its own JOIN, as the server reads it -/
theorem out_own_join {s : Srv} {b : Bot} (hw : SrvWF s) (hc : Coupled s b) {ub : SUser}
    (hub : aget s.users s.botKey = some ub) (name : Str) (hcomma : ',' ∉ name) :
    (b.out ⟨ub.mask, "JOIN".toList, joinArgs s.cfg name⟩).filterMap reqOf = [Req.mode name, Req.bans name, Req.who name] := by
  have huo := (hw.userOK hub).2
  have hbn : NickOK b.nick := by rw [hc.nick]; exact hw.botNickOK
  have hne : ub.mask ≠ b.nick := mask_ne_nick hbn
  have hown : ub.nick = b.nick := by rw [hc.nick]; exact hw.bot_user hub
  obtain ⟨rest, hargs⟩ := joinArgs_cons s.cfg name
  have htag : b.tagRaises ⟨ub.mask, "JOIN".toList, name :: rest⟩ = false := tagRaises_false b _
  have hns : "JOIN".toList ∉ Gen.nickSetters := setters_out_ok _ (by decide +kernel)
  unfold Bot.out
  simp only [htag, Bool.false_eq_true, ↓reduceIte, hne, hns, cmdOf_JOIN, hargs, msg_nick_user huo, hown]
  simp only [joinRequests, splitChar_single hcomma, List.map_cons, List.map_nil, List.cons_append, List.nil_append]
  simp [reqOf]

theorem joinBot_pending (u : SUser) (cs : List Str) : ∀ s : Srv, (s.joinBot u cs).1.pending = s.pending := by
  induction cs with
  | nil => intro s; rfl
  | cons c cs ih =>
    intro s
    unfold Srv.joinBot
    cases he : s.enter s.botKey c with
    | none => dsimp only; exact ih s
    | some r =>
      obtain ⟨s1, name⟩ := r
      dsimp only
      obtain ⟨_, sc1, hs1, _, _⟩ := enter_spec he
      have e5 : s1.pending = s.pending := by rw [hs1]
      split
      · rw [ih]; exact e5
      · dsimp only; rw [ih]; exact e5

theorem complete_enter_aux {s s2 : Srv} {P P' : List Req} (hw : SrvWF s) (hc : CompleteP s P) {c name : Str} {sc1 : SChan}
    (hkey : lower name = lower c) (hch2 : s2.chans = aset s.chans (lower c) sc1) (hbot2 : s2.bot = s.bot)
    (hcfg2 : s2.cfg = s.cfg) (hms2 : s2.modesSynced = sdel s.modesSynced (lower c))
    (hbs2 : s2.bansSynced = sdel s.bansSynced (lower c)) (htold2 : ∀ x, x ∈ s.told → x ∈ s2.told)
    (hP : ∀ r, r ∈ P → r ∈ P') (h1 : Req.mode name ∈ P') (h2 : Req.bans name ∈ P') (h3 : Req.who name ∈ P') :
    CompleteP s2 P' := by
  have hbk2 : s2.botKey = s.botKey := by simp [Srv.botKey, hbot2]
  have hget : ∀ k, lower c ≠ k → aget s2.chans k = aget s.chans k := by
    intro k hk; rw [hch2, aget_aset_ne _ _ hk]
  refine ⟨?_, ?_, ?_⟩
  · intro k sc' hsc' hb
    by_cases hk : lower c = k
    · exact Or.inr ⟨name, hkey.trans hk, h1⟩
    · rw [hget k hk] at hsc'
      rw [hbk2] at hb
      rcases hc.modes k sc' hsc' hb with h | h
      · left; rw [hms2]; exact mem_sdel.mpr ⟨fun e => hk e.symm, h⟩
      · exact Or.inr (h.mono hP)
  · intro k sc' hsc' hb
    by_cases hk : lower c = k
    · exact Or.inr ⟨name, hkey.trans hk, h2⟩
    · rw [hget k hk] at hsc'
      rw [hbk2] at hb
      rcases hc.bans k sc' hsc' hb with h | h
      · left; rw [hbs2]; exact mem_sdel.mpr ⟨fun e => hk e.symm, h⟩
      · exact Or.inr (h.mono hP)
  · intro hcg x hv
    rw [hcfg2] at hcg
    by_cases hxt : x ∈ s2.told
    · exact Or.inl hxt
    · right
      intro kc sc' hsc' hb hx
      by_cases hk : lower c = kc
      · exact ⟨name, hkey.trans hk, h3⟩
      · rw [hget kc hk] at hsc'
        rw [hbk2] at hb
        have hv0 : s.visible x = true := (visible_iff hw.chansNodup).mpr ⟨kc, sc', hsc', hb, hx⟩
        rcases hc.hosts hcg x hv0 with h | h
        · exact absurd (htold2 x h) hxt
        · exact (h kc sc' hsc' hb hx).mono hP

/-- the bot enters one channel: whatever is told at once is told; the rest is covered by the three queries -/
theorem complete_enter {s s1 : Srv} {P P' : List Req} (hw : SrvWF s) {ub : SUser} (hub : aget s.users s.botKey = some ub)
    (hc : CompleteP s P) {c name : Str} (he : s.enter s.botKey c = some (s1, name)) {sc1 : SChan}
    (hsc1 : s1.chan c = some sc1) (hP : ∀ r, r ∈ P → r ∈ P') (h1 : Req.mode name ∈ P') (h2 : Req.bans name ∈ P')
    (h3 : Req.who name ∈ P') :
    CompleteP { s1 with modesSynced := sdel s1.modesSynced (lower c), bansSynced := sdel s1.bansSynced (lower c),
                        told := if s1.cfg.uhnames then addAll (sadd s1.told s1.botKey) sc1.keys else sadd s1.told s1.botKey } P' := by
  have hw1 : SrvWF s1 := enter_wf hw (by simp [hub]) he
  obtain ⟨_, sc1', hs1, hname, _⟩ := enter_spec he
  subst hs1
  have hsc1' : aget (aset s.chans (lower c) sc1') (lower c) = some sc1 := hsc1
  rw [aget_aset_self] at hsc1'
  cases hsc1'
  have hcw1 := hw1.chans (lower c) sc1 (aget_aset_self _ _ _)
  have hkey : lower name = lower c := by rw [← hname]; exact hcw1.key
  refine complete_enter_aux hw hc hkey rfl rfl rfl rfl rfl ?_ hP h1 h2 h3
  intro x hx
  show x ∈ (if s.cfg.uhnames then addAll (sadd s.told s.botKey) sc1.keys else sadd s.told s.botKey)
  split
  · exact mem_addAll.mpr (Or.inl (mem_sadd.mpr (Or.inr hx)))
  · exact mem_sadd.mpr (Or.inr hx)

theorem outAll_emit_cons (b : Bot) (p : Str) (c : String) (a : List Str) (xs : List Ev) :
    b.outAll (emit p c a :: xs) = b.out ⟨p, c.toList, a⟩ ++ (b.recv (emit p c a)).outAll xs := rfl

theorem joinBot_complete (ub : SUser) (cs : List Str) :
    ∀ (s : Srv) (b : Bot) (P : List Req), SrvWF s → Coupled s b → aget s.users s.botKey = some ub → CompleteP s P →
      CompleteP (s.joinBot ub cs).1 (P ++ (b.outAll (s.joinBot ub cs).2).filterMap reqOf) := by
  induction cs with
  | nil => intro s b P _ _ _ hc; exact hc.mono (fun r hr => List.mem_append_left _ hr)
  | cons c cs ih =>
    intro s b P hw hcpl hub hc
    unfold Srv.joinBot
    cases he : s.enter s.botKey c with
    | none => dsimp only; exact ih s b P hw hcpl hub hc
    | some r =>
      obtain ⟨s1, name⟩ := r
      dsimp only
      have hw1 : SrvWF s1 := enter_wf hw (by simp [hub]) he
      have hus := enter_users he
      obtain ⟨_, sc1, hs1, hname, _⟩ := enter_spec he
      have hsc1 : s1.chan c = some sc1 := by
        rw [hs1]; show aget (aset s.chans (lower c) sc1) (lower c) = _; exact aget_aset_self _ _ _
      rw [hsc1]
      dsimp only
      have hone := own_join_one hw hcpl hub he hsc1
      have hcw1 := hw1.chans (lower c) sc1 (by rw [hs1]; exact aget_aset_self _ _ _)
      have hcomma : ',' ∉ name := by rw [← hname]; exact chan_noComma_of_valid hcw1.name
      have hq := out_own_join hw hcpl hub name hcomma
      have hub2 : aget s1.users s1.botKey = some ub := by
        simp only [Srv.botKey, hus.1, hus.2.1]; exact hub
      rw [outAll_append, outAll_emit_cons]
      simp only [List.filterMap_append, hq]
      generalize List.filterMap reqOf ((b.recv (emit ub.mask "JOIN" (joinArgs s.cfg name))).outAll (s1.joinBurst sc1)) = Q2
      have hen := complete_enter (P' := P ++ ([Req.mode name, Req.bans name, Req.who name] ++ Q2)) hw hub hc he hsc1
        (fun r hr => List.mem_append_left _ hr) (by simp) (by simp) (by simp)
      refine (ih _ _ _ ?_ hone hub2 hen).mono ?_
      · exact wf_congr hw1 rfl rfl rfl rfl
      · intro r hr
        simpa [List.append_assoc] using hr

/-- completeness is kept by every action together with the bot's reaction to it -/
theorem StepEffect.complete {s s' : Srv} {a : Act} {evs : List Ev} (he : StepEffect s a s' evs) {b : Bot} (hw : SrvWF s)
    (hcpl : Coupled s b) (hc : Complete s) (ha : a.ok) : Complete (s'.enqueue (b.outAll evs)) := by
  have hw' := he.wf hw ha
  have key : CFrame s s' → Complete (s'.enqueue (b.outAll evs)) := fun hf =>
    complete_enqueue ((completeP_of_frame hc hw.chansNodup hw'.chansNodup hf.toCFrame0).mono hf.pend) _
  cases he with
  | idle | isupport => exact key (CFrame.refl _)
  | connect _ _ _ hfree =>
    refine key (cframe_same rfl rfl rfl (fun _ h => h) (fun _ h => h) (fun _ h => h) ?_)
    intro _ x hx hv
    refine mem_sdel.mpr ⟨?_, hx⟩
    intro e; subst e
    have := visible_user hw hv
    rw [hfree] at this; cases this
  | @joinBot n cs u hu hb =>
    rw [hb] at hu
    have h := joinBot_complete u cs s b s.pending hw hcpl hu hc
    show CompleteP _ ((s.joinBot u cs).1.pending ++ _)
    rw [joinBot_pending]
    exact ⟨h.modes, h.bans, h.hosts⟩
  | joinUnseen _ hb hemp => exact key (cframe_joinUnseen hb hemp)
  | joinSeen _ hb => exact key (cframe_joinSeen hb)
  | part =>
    obtain ⟨a1, a2, a3, a4, a5, a6, a7⟩ := leave_frame _ _ s
    exact key (cframe_shrink a1 a2 a7 a3 a4 a5 (fun x hx _ => by rw [a6]; exact hx))
  | kick _ hch =>
    exact key (cframe_shrink (putChan_cfg ..) (putChan_bot ..) (putChan_shrinks hch (fun x hx => kickTargets_has hx))
      (putChan_ms ..) (putChan_bs ..) (putChan_pending ..) (fun x hx _ => by rw [putChan_told]; exact hx))
  | quit => exact key (cframe_quit hw _)
  | nick _ _ _ hfree => exact complete_enqueue (complete_nick hw hc _ _ _ hfree) _
  | mode _ hch => exact key (cframe_setChan _ _ _ hch (fun x => applyModes_has _ _ x))
  | topic _ hch => exact key (cframe_setChan _ _ _ hch (fun _ => rfl))
  | chghostSeen =>
    exact key (cframe_same rfl rfl rfl (fun _ h => h) (fun _ h => h) (fun _ h => h) (fun _ x hx _ => mem_sadd.mpr (Or.inr hx)))
  | chghostSilent _ _ _ hsil =>
    refine key (cframe_same rfl rfl rfl (fun _ h => h) (fun _ h => h) (fun _ h => h) ?_)
    intro hcg x hx hv
    refine mem_sdel.mpr ⟨?_, hx⟩
    intro e; subst e
    apply hsil
    simp [hcg, hv]
  | say =>
    exact key (cframe_same rfl rfl rfl (fun _ h => h) (fun _ h => h) (fun _ h => h) (fun _ y hy _ => mem_sadd.mpr (Or.inr hy)))
  | names =>
    refine key (cframe_same rfl rfl rfl (fun _ h => h) (fun _ h => h) (fun _ h => h) ?_)
    intro _ y hy _
    show y ∈ (if s.cfg.uhnames then addAll s.told _ else s.told)
    split
    · exact mem_addAll.mpr (Or.inl hy)
    · exact hy
  | who => exact key (cframe_replyWho s _)
  | modeis => exact key (cframe_replyMode s _)
  | banlist => exact key (cframe_replyBans s _)
  | serveWho hp => exact complete_enqueue (complete_serveWho hw hc hp) _
  | serveMode hp => exact complete_enqueue (complete_serveMode hw hc hp) _
  | serveBans hp => exact complete_enqueue (complete_serveBans hw hc hp) _
  | reconnect _ hfree => exact complete_enqueue (complete_reconnect hw hw'.chansNodup rfl rfl hfree) _

theorem complete_step {s : Srv} {b : Bot} (hw : SrvWF s) (hcpl : Coupled s b) (hc : Complete s) (a : Act) (ha : a.ok) :
    Complete ((s.step a).1.enqueue (b.outAll (s.step a).2)) :=
  (step_effect s a).complete hw hcpl hc ha

theorem run_complete (acts : List Act) : ∀ (s : Srv) (b : Bot), SrvWF s → Coupled s b → Complete s → (∀ a ∈ acts, a.ok) →
    Complete (run s b acts).1 := by
  induction acts with
  | nil => intro s b _ _ hc _; exact hc
  | cons a as ih =>
    intro s b hw hcpl hc hok
    unfold run
    have h1 := wf_step hw a (hok a (by simp))
    have h2 := coupled_step hw hcpl a (hok a (by simp))
    exact ih _ _ (wf_enqueue h1 _) (coupled_pending h2 _) (complete_step hw hcpl hc a (hok a (by simp)))
      (fun a' ha' => hok a' (by simp [ha']))

end C10
