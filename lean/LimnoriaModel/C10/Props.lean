/-
C10 — property theorems: the bot's view of channels and users equals the reference server's.
(Helper lemmas: `Lemmas.lean` and the files it lists.)
-/
import LimnoriaModel.C10.Lemmas
namespace C10
open Py

/-! ### table obligations on the extracted tables
`sigils_not_in_nicks`, `sigil_table_ok`, `mode_tables_ok`, `tracked_table_ok`, `chan_table_ok`,
`setters_in_ok`, `setters_out_ok` are stated and proved (by `decide`) in `Inv.lean`; the theorems below
rest on them and never unfold a generated table. -/

/-- RFC 1459 case mapping: A–Z ↦ a–z and `\ [ ] ~` ↦ `| { } ^` -/
def rfc1459Pairs : List (Char × Char) :=
  (List.range 26).map (fun i => (Char.ofNat (65 + i), Char.ofNat (97 + i))) ++
    [('\\', '|'), ('[', '{'), (']', '}'), ('~', '^')]

/-- the extracted `_rfc1459trans` table is the RFC 1459 case mapping (as a set of pairs: same keys, same images) -/
theorem rfc1459_table_ok :
    (∀ p ∈ Gen.rfc1459Trans, p ∈ rfc1459Pairs) ∧ (∀ p ∈ rfc1459Pairs, p ∈ Gen.rfc1459Trans) ∧
    (Gen.rfc1459Trans.map (·.1)).Nodup := by decide +kernel

/-! ### the simulation theorem -/

/-- **view_refines** — for every finite run of the reference server from the state where the bot has just
registered — the server acting, the bot receiving what the server emits, the server queueing the WHO / MODE /
MODE +b queries the bot sends and answering them later, in order (`serve`), or sending such replies
unsolicited — the bot's view is coupled to the server state (`Coupled`):
own nick; the set of joined channels; per channel users, ops and topic exactly; halfops and voices exactly
with multi-prefix and otherwise never wrong; modes a sub-map of the server's and bans a subset, both exact
once the corresponding reply has reached the bot since it joined; the hostmask of every user whose current
hostmask the server has shown to the bot; the bot's own prefix once it is on a channel.
No assumption on the negotiated capabilities.  Hypothesis: `Act.ok` for every action, i.e. no mode argument
that `int()` rewrites (`+k 0123`, `+l 007`) — the known finding C10-mode-arg-int, see `view_refines_fails_intarg`.

Full statement (false on the pinned tree, kept visible):
  `∀ cfg acts, cfg.valid → let r := run (Srv.init cfg) (Bot.init cfg.botNick cfg.botIdent) acts; Coupled r.1 r.2`
What is missing in the proved statement is exactly the hypothesis `∀ a ∈ acts, a.ok`. -/
theorem view_refines_partial (cfg : Cfg) (hv : cfg.valid = true) (acts : List Act) (hok : ∀ a ∈ acts, a.ok) :
    SrvWF (run (Srv.init cfg) (Bot.init cfg.botNick cfg.botIdent) acts).1 ∧
    Coupled (run (Srv.init cfg) (Bot.init cfg.botNick cfg.botIdent) acts).1
      (run (Srv.init cfg) (Bot.init cfg.botNick cfg.botIdent) acts).2 :=
  run_inv acts _ _ (wf_init cfg hv) (coupled_init cfg) hok

/-- **view_refines with batches** — the same for a server that negotiated `batch` and wraps what it sends
into IRCv3 batches (`BATCH +ref type …`, every following message tagged `batch=ref`, `BATCH -ref`; a netsplit or
netjoin is such a run of QUITs / JOINs): the bot (in this layer with `irc.state.batches`) stays coupled, and the batch
the server is sending is always one the bot has open, so no tagged message is dropped. -/
theorem view_refines_batched_partial (cfg : Cfg) (hv : cfg.valid = true) (acts : List BAct) (hok : ∀ a ∈ acts, a.ok) :
    BInv (runB (Srv.init cfg) ⟨Bot.init cfg.botNick cfg.botIdent, []⟩ none acts).1
      (runB (Srv.init cfg) ⟨Bot.init cfg.botNick cfg.botIdent, []⟩ none acts).2.1
      (runB (Srv.init cfg) ⟨Bot.init cfg.botNick cfg.botIdent, []⟩ none acts).2.2 :=
  runB_inv acts _ _ _ ⟨wf_init cfg hv, coupled_init cfg, fun _ h => by cases h⟩ hok

/-- on seeing its own JOIN the bot sends `MODE <chan>`, `MODE <chan> +b` and `WHO <chan> %tuhnairf,1`, which the
server queues, in that order, as the queries it will answer (`serve`) -/
theorem bot_queries_on_join {s : Srv} {b : Bot} (hw : SrvWF s) (hc : Coupled s b) {ub : SUser}
    (hub : aget s.users s.botKey = some ub) (name : Str) (hcomma : ',' ∉ name) :
    (b.out ⟨ub.mask, "JOIN".toList, joinArgs s.cfg name⟩).filterMap reqOf = [Req.mode name, Req.bans name, Req.who name] :=
  out_own_join hw hc hub name hcomma

/-- one more step from any reachable pair of states (the inductive step, usable on its own) -/
theorem view_step (s : Srv) (b : Bot) (hw : SrvWF s) (hc : Coupled s b) (a : Act) (ha : a.ok) :
    SrvWF (s.step a).1 ∧ Coupled (s.step a).1 (b.recvAll (s.step a).2) :=
  ⟨wf_step hw a ha, coupled_step hw hc a ha⟩

/-! ### what `Coupled` says, spelled out -/

/-- the bot has a record of a channel exactly when the server has it on that channel -/
theorem view_channels {s : Srv} {b : Bot} (hc : Coupled s b) (k : Str) :
    (aget b.channels k).isSome ↔ ∃ sc, aget s.chans k = some sc ∧ sc.has s.botKey = true := by
  have h := hc.chans k
  cases hs : aget s.chans k with
  | none =>
    rw [hs] at h
    cases hb : aget b.channels k with
    | none => simp
    | some ch => rw [hb] at h; simp only [ChanRel] at h
  | some sc =>
    rw [hs] at h
    cases hb : aget b.channels k with
    | none => rw [hb] at h; simp only [ChanRel] at h; simp [h]
    | some ch => rw [hb] at h; simp only [ChanRel] at h; simp [h.1]

/-- the record of every channel the bot is on (see `ChanMatches`) -/
theorem view_channel {s : Srv} {b : Bot} (hc : Coupled s b) {k : Str} {sc : SChan} (hs : aget s.chans k = some sc)
    (hb : sc.has s.botKey = true) :
    ∃ ch, aget b.channels k = some ch ∧ ChanMatches s.cfg.multiPrefix (s.mSynced k) (s.bSynced k) sc ch :=
  Coupled.chan_of_botIn hc hs hb

/-- with multi-prefix, and once the MODE and MODE +b queries for the channel were answered, the bot's record
is the server's: members, ops, halfops, voices, topic, modes, bans -/
theorem view_channel_full {s : Srv} {b : Bot} (hc : Coupled s b) {k : Str} {sc : SChan} (hs : aget s.chans k = some sc)
    (hb : sc.has s.botKey = true) (hmp : s.cfg.multiPrefix = true) (hms : k ∈ s.modesSynced) (hbs : k ∈ s.bansSynced) :
    ∃ ch, aget b.channels k = some ch ∧
      (∀ x, x ∈ ch.users ↔ ∃ f, (x, f) ∈ sc.members) ∧
      (∀ x, x ∈ ch.ops ↔ ∃ f, (x, f) ∈ sc.members ∧ f.o = true) ∧
      (∀ x, x ∈ ch.halfops ↔ ∃ f, (x, f) ∈ sc.members ∧ f.h = true) ∧
      (∀ x, x ∈ ch.voices ↔ ∃ f, (x, f) ∈ sc.members ∧ f.v = true) ∧
      ch.topic = sc.topic ∧ (∀ m, aget ch.modes m = aget sc.modes m) ∧ (∀ x, x ∈ ch.bans ↔ x ∈ sc.bans.map lower) := by
  obtain ⟨ch, hch, hm⟩ := Coupled.chan_of_botIn hc hs hb
  refine ⟨ch, hch, hm.users_iff, hm.ops.iff, ?_, ?_, hm.topic, ?_, ?_⟩
  · intro x; exact ⟨hm.halfops.sub x, hm.halfops.sup hmp x⟩
  · intro x; exact ⟨hm.voices.sub x, hm.voices.sup hmp x⟩
  · exact hm.modesFull (by simp [Srv.mSynced, hms])
  · intro x; exact ⟨hm.bans x, hm.bansFull (by simp [Srv.bSynced, hbs]) x⟩

/-- when the bot is no longer on a channel (left, kicked, reconnected) its record of it is gone -/
theorem view_channel_gone {s : Srv} {b : Bot} (hc : Coupled s b) (k : Str)
    (h : ∀ sc, aget s.chans k = some sc → sc.has s.botKey = false) : aget b.channels k = none := by
  cases hb : aget b.channels k with
  | none => rfl
  | some ch =>
    have := (view_channels hc k).mp (by simp [hb])
    obtain ⟨sc, hs, hbot⟩ := this
    rw [h sc hs] at hbot; cases hbot



/-! ### supybot.followIdentificationThroughNickChanges -/

/-- **follow_switch_transparent** — with the switch on, `Irc.doNick` looks the sender of every foreign NICK up in
the user database before `IrcState.addMsg` sees the message (an exception there would lose the NICK).  For every
run as in `view_refines_batched_partial`, every setting of the switch and every user database (nobody registered,
the renamed user identified, several users identified from the same hostmask) the bot proper goes through
exactly the states it goes through without the switch — so `BInv` (server invariant, `Coupled`, batches) holds. -/
theorem follow_switch_transparent (cfg : Cfg) (hv : cfg.valid = true) (follow : Bool) (db : List DbUser) (acts : List BAct)
    (hok : ∀ a ∈ acts, a.ok) :
    BInv (runF (Srv.init cfg) ⟨⟨Bot.init cfg.botNick cfg.botIdent, []⟩, follow, db⟩ none acts).1
      (runF (Srv.init cfg) ⟨⟨Bot.init cfg.botNick cfg.botIdent, []⟩, follow, db⟩ none acts).2.1.bb
      (runF (Srv.init cfg) ⟨⟨Bot.init cfg.botNick cfg.botIdent, []⟩, follow, db⟩ none acts).2.2 := by
  have h0 : BInv (Srv.init cfg) (⟨⟨Bot.init cfg.botNick cfg.botIdent, []⟩, follow, db⟩ : FBot).bb none :=
    ⟨wf_init cfg hv, coupled_init cfg, fun _ h => by cases h⟩
  obtain ⟨e1, e2, e3, _⟩ := runF_eq_runB acts _ ⟨⟨Bot.init cfg.botNick cfg.botIdent, []⟩, follow, db⟩ none h0 hok
  rw [e1, e2, e3]
  exact runB_inv acts _ _ _ h0 hok

/-- the branch itself: a NICK with a user's hostmask as prefix and a non-empty new nick never raises -/
theorem follow_never_loses_nick (db : List DbUser) {u : SUser} (hu : UserOK u) {n' : Str} (hn : n' ≠ []) :
    (followNick db ⟨u.mask, "NICK".toList, [n']⟩).2 = false :=
  followNick_user db hu _ hn []

/-- non-vacuity: the branch does something — the identification follows the renamed user (and only him) -/
example :
    followNick [⟨"acct0".toList, ["Bob!b@host.one".toList]⟩, ⟨"acct1".toList, ["carl!c@h2".toList]⟩]
        ⟨"Bob!b@host.one".toList, "NICK".toList, ["Robert".toList]⟩ =
      ([⟨"acct0".toList, ["Robert!b@host.one".toList]⟩, ⟨"acct1".toList, ["carl!c@h2".toList]⟩], false) ∧
    followNick [⟨"acct0".toList, ["Bob!b@host.one".toList]⟩] ⟨"alice!a@ah".toList, "NICK".toList, ["alicia".toList]⟩ =
      ([⟨"acct0".toList, ["Bob!b@host.one".toList]⟩], false) ∧
    (followNick [⟨"acct0".toList, ["Bob!b@host.one".toList]⟩] ⟨"Bob!b@host.one".toList, "NICK".toList, []⟩).2 = true := by
  decide +kernel

/-! ### every query is answered or pending; at quiescence the view is exact -/

/-- **queries_cover** — along every such run: each channel the bot is on has had its modes sent since the bot
joined, or the bot's `MODE <chan>` query is still in the server's queue; the same for the ban list and
`MODE <chan> +b`; and, on a connection with chghost (no host change of a visible user goes unannounced), every
user the bot can see has had his current hostmask shown, or a `WHO` for every channel he shares with the bot
is still queued.  (What `Coupled` leaves open — "exact once the reply has arrived" — is therefore only ever
open while a query is in flight.) -/
theorem queries_cover (cfg : Cfg) (hv : cfg.valid = true) (acts : List Act) (hok : ∀ a ∈ acts, a.ok) :
    Complete (run (Srv.init cfg) (Bot.init cfg.botNick cfg.botIdent) acts).1 :=
  run_complete acts _ _ (wf_init cfg hv) (coupled_init cfg) (complete_init cfg) hok

/-- when the server's queue is empty (every query answered) and multi-prefix is negotiated, the bot's record
of every channel it is on **equals** the server's: members, ops, halfops, voices, topic, modes, bans -/
theorem view_exact_when_quiescent {s : Srv} {b : Bot} (hc : Coupled s b) (hcm : Complete s) (hq : s.pending = [])
    (hmp : s.cfg.multiPrefix = true) {k : Str} {sc : SChan} (hs : aget s.chans k = some sc) (hb : sc.has s.botKey = true) :
    ∃ ch, aget b.channels k = some ch ∧
      (∀ x, x ∈ ch.users ↔ ∃ f, (x, f) ∈ sc.members) ∧
      (∀ x, x ∈ ch.ops ↔ ∃ f, (x, f) ∈ sc.members ∧ f.o = true) ∧
      (∀ x, x ∈ ch.halfops ↔ ∃ f, (x, f) ∈ sc.members ∧ f.h = true) ∧
      (∀ x, x ∈ ch.voices ↔ ∃ f, (x, f) ∈ sc.members ∧ f.v = true) ∧
      ch.topic = sc.topic ∧ (∀ m, aget ch.modes m = aget sc.modes m) ∧ (∀ x, x ∈ ch.bans ↔ x ∈ sc.bans.map lower) := by
  have nopend : ∀ mk kk, ¬ Pend s.pending mk kk := by
    rintro mk kk ⟨c, _, hm⟩; rw [hq] at hm; cases hm
  have hms : k ∈ s.modesSynced := (hcm.modes k sc hs hb).resolve_right (nopend _ _)
  have hbs : k ∈ s.bansSynced := (hcm.bans k sc hs hb).resolve_right (nopend _ _)
  exact view_channel_full hc hs hb hmp hms hbs

/-- … and (with chghost) `nicksToHostmasks` has the current hostmask of every user the bot can see -/
theorem hostmasks_exact_when_quiescent {s : Srv} {b : Bot} (hw : SrvWF s) (hc : Coupled s b) (hcm : Complete s)
    (hq : s.pending = []) (hcg : s.cfg.chghost = true) {x : Str} {u : SUser} (hu : aget s.users x = some u)
    (hv : s.visible x = true) : aget b.n2h x = some u.mask := by
  rcases hcm.hosts hcg x hv with ht | hall
  · exact hc.hosts x u hu ht
  · exfalso
    obtain ⟨kc, sc, hsc, h1, h2⟩ := (visible_iff hw.chansNodup).mp hv
    obtain ⟨c, _, hmem⟩ := hall kc sc hsc h1 h2
    rw [hq] at hmem; cases hmem

/-! ### the bot leaves, is kicked, reconnects: the channel disappears from its view -/

/-- own PART -/
theorem own_part_removes {s : Srv} {b : Bot} (hw : SrvWF s) (hc : Coupled s b) (c : Str) (r : Option Str)
    (hr : r.all validText = true) {sc : SChan} (hsc : s.chan c = some sc) (hin : sc.has s.botKey = true) :
    aget (b.recvAll (s.step (.part s.bot [c] r)).2).channels (lower c) = none := by
  have hcoup := (view_step s b hw hc (.part s.bot [c] r) trivial).2
  apply view_channel_gone hcoup
  obtain ⟨ub, hub, _⟩ := hw.bot
  have hu : s.user s.bot = some ub := hub
  intro sc' hsc'
  simp only [Srv.step, hu, hr, Bool.not_true, Bool.false_eq_true, ↓reduceIte, Srv.leave, hsc] at hsc' ⊢
  have hin' : sc.has (lower s.bot) = true := hin
  simp only [hin', ↓reduceIte] at hsc' ⊢
  rw [putChan_get] at hsc'
  simp only [↓reduceIte] at hsc'
  split at hsc'
  · cases hsc'
  · cases hsc'
    rw [putChan_botKey]
    exact has_remove_self sc s.botKey

/-- the bot is among the targets of a KICK -/
theorem own_kick_removes {s : Srv} {b : Bot} (hw : SrvWF s) (hc : Coupled s b) (src c : Str) (ts : List Str) (r : Str)
    {pfx : Str} (hsrc : s.source src = some pfx) (hr : validText r = true) (hts : ts.all validNick = true)
    {sc : SChan} (hsc : s.chan c = some sc) (hin : sc.has s.botKey = true) {t : Str} (ht : t ∈ ts) (hbot : lower t = s.botKey) :
    aget (b.recvAll (s.step (.kick src c ts r)).2).channels (lower c) = none := by
  have hcoup := (view_step s b hw hc (.kick src c ts r) trivial).2
  apply view_channel_gone hcoup
  have hne := isEmpty_false (kickTargets_kicked ts sc ht (by rw [hbot]; exact hin))
  intro sc' hsc'
  simp only [Srv.step, hsrc, hsc, hr, hts, Bool.not_true, Bool.or_self, Bool.false_eq_true, ↓reduceIte, hne] at hsc' ⊢
  rw [putChan_get] at hsc'
  simp only [↓reduceIte] at hsc'
  split at hsc'
  · cases hsc'
  · cases hsc'
    rw [putChan_botKey, ← hbot]
    exact kickTargets_removed ts sc ht

/-- reconnect: every channel is gone -/
theorem reconnect_clears {s : Srv} {b : Bot} (hw : SrvWF s) (hc : Coupled s b)
    (hen : lower s.cfg.botNick = s.botKey ∨ s.user s.cfg.botNick = none) (k : Str) :
    aget (b.recvAll (s.step .reconnect).2).channels k = none := by
  have hcoup := (view_step s b hw hc .reconnect trivial).2
  apply view_channel_gone hcoup
  obtain ⟨ub, hub, _⟩ := hw.bot
  have hub' : aget s.users s.botKey = some ub := hub
  have hcond : (lower s.cfg.botNick != s.botKey && (s.user s.cfg.botNick).isSome) = false := by
    rcases hen with h | h
    · simp [h]
    · simp [h]
  intro sc' hsc'
  simp only [Srv.step, hub', hcond, Bool.false_eq_true, ↓reduceIte] at hsc' ⊢
  have hsc'' : aget (s.dropEverywhere s.botKey).chans k = some sc' := hsc'
  obtain ⟨sc, hsc, rfl⟩ := dropEverywhere_chan hw.chansNodup hsc''
  show (sc.remove s.botKey).has (lower s.cfg.botNick) = false
  rcases hen with h | h
  · rw [h]; exact has_remove_self sc s.botKey
  · rw [← Bool.not_eq_true]; intro hcon
    have a := has_remove_of hcon
    rw [not_has_of_free hw hsc h] at a; cases a

/-! ### the known finding: the full statement fails on this witness -/

def cfg0 : Cfg :=
  { server := "irc.srv".toList, multiPrefix := true, uhnames := false, extJoin := false, chghost := true, whox := true, batch := true,
    botNick := "test".toList, botIdent := "limnoria".toList, botHost := "bot.host".toList, namesPerLine := 3,
    chantypes := "#&".toList, channellen := "50".toList }

/-- is the bot's idea of mode letter `m` of channel `k` compatible with the server's (equal, or not known yet)? -/
def modesAgreeAt (s : Srv) (b : Bot) (k : Str) (m : Char) : Bool :=
  match aget s.chans k, aget b.channels k with
  | some sc, some ch => decide (aget ch.modes m = aget sc.modes m) || decide (aget ch.modes m = none)
  | _, _ => true

theorem modesAgree_of_coupled {s : Srv} {b : Bot} (hc : Coupled s b) (k : Str) (m : Char) : modesAgreeAt s b k m = true := by
  unfold modesAgreeAt
  have h := hc.chans k
  cases hs : aget s.chans k with
  | none => rfl
  | some sc =>
    cases hb : aget b.channels k with
    | none => rfl
    | some ch =>
      rw [hs, hb] at h
      simp only [ChanRel] at h
      rcases h.2.modes m with e | e <;> simp [e]

/-- finding C10-mode-arg-int: `MODE #c +k 0123` stores the key as the number 123 -/
def intargWitness : List Act :=
  [.join "test".toList ["#c".toList], .mode [] "#c".toList [⟨true, 'k', some "0123".toList⟩]]

theorem view_refines_fails_intarg :
    ¬ Coupled (run (Srv.init cfg0) (Bot.init cfg0.botNick cfg0.botIdent) intargWitness).1
        (run (Srv.init cfg0) (Bot.init cfg0.botNick cfg0.botIdent) intargWitness).2 := by
  intro hc
  have h := modesAgree_of_coupled hc "#c".toList 'k'
  revert h
  decide +kernel

/-- finding C10-param-modes-not-from-isupport: the reference server's mode classes are those of the bot's
tables (`mode_tables_ok`); a server whose CHANMODES has a further parameter mode (`+f 5:10` on many networks) is
outside the theorem, and the bot really mis-pairs its arguments: the letter tables are fixed, what the server
announced in 005 is not consulted. -/
theorem separateModes_ignores_isupport :
    separateModes ["+fo".toList, "5:10".toList, "bob".toList] =
      [('+', 'f', none), ('+', 'o', some "5:10".toList)] := by decide +kernel

/-- … on the bot model: after `:irc.srv MODE #c +fo 5:10 bob` the "op" is `5:10`, not bob -/
theorem param_mode_mispaired :
    (aget ((Bot.init "test".toList "limnoria".toList).feedAll
        [⟨"test!limnoria@bot.host".toList, "JOIN".toList, ["#c".toList]⟩,
         ⟨"bob!b@bh".toList, "JOIN".toList, ["#c".toList]⟩,
         ⟨"irc.srv".toList, "MODE".toList, ["#c".toList, "+fo".toList, "5:10".toList, "bob".toList]⟩]).channels
      "#c".toList).map (fun ch => (ch.ops, ch.modes)) = some (["5:10".toList], [('f', none)]) := by
  decide +kernel

/-! ### RPL_ISUPPORT: what is read, what is hard-coded
`recv_isupportEv` (SimNumeric): the server's 005 sets exactly CHANTYPES and CHANNELLEN in the modelled part of
`state.supported`, and `Irc.isChannel` uses them (`Bot.isChannel`); the simulation theorem holds for every
server whose CHANTYPES contains `#` and `&` and whose CHANNELLEN is at least 50 (`Cfg.valid`).  PREFIX, CHANMODES
and CASEMAPPING are stored by the real code but never consulted: `separateModes_ignores_isupport` above and the two facts below hold whatever a 005 said. -/

/-- CASEMAPPING is not consulted: nicks are always folded with the rfc1459 table, so on a server announcing
`CASEMAPPING=ascii` the distinct nicks `a[` and `a{` are one nick to the bot -/
theorem casemapping_hardcoded : strEqual "Nick[A]~".toList "nICK{a}^".toList = true := by decide +kernel

/-- PREFIX is not consulted: `&` (admin with `PREFIX=(qaohv)~&@%+`) and `~` (owner) in a NAMES item count as op -/
theorem prefix_hardcoded :
    (Chan.empty.addUser "&x".toList).ops = ["x".toList] ∧ (Chan.empty.addUser "~y".toList).ops = ["y".toList] := by
  decide +kernel

/-! ### non-vacuity -/

/-- a history that meets every hypothesis of `view_refines_partial` and exercises JOIN with burst, a case-only
nick change, MODE with mixed signs and parameters, a multi-target KICK that includes the bot -/
def sampleRun : List Act :=
  [.connect "Bob".toList "b".toList "host.one".toList,
   .join "bob".toList ["#Chan".toList],
   .join "test".toList ["#chan".toList, "&loc".toList],
   .nick "BOB".toList "bOB".toList,
   .mode [] "#CHAN".toList [⟨true, 'v', some "bob".toList⟩, ⟨false, 'o', some "Bob".toList⟩, ⟨true, 'k', some "key".toList⟩, ⟨true, 'l', some "10".toList⟩, ⟨true, 's', none⟩],
   .topic "bob".toList "#chan".toList "hello world".toList,
   .nick "test".toList "Test2".toList,
   .kick [] "#chan".toList ["bob".toList, "TEST2".toList] "bye".toList]

example : cfg0.valid = true ∧ cfg0.multiPrefix = true := by decide +kernel
example : ∀ a ∈ sampleRun, a.ok := by
  intro a ha
  simp only [sampleRun, List.mem_cons, List.not_mem_nil, or_false] at ha
  rcases ha with rfl | rfl | rfl | rfl | rfl | rfl | rfl | rfl <;> try trivial
  intro c hc
  simp only [List.mem_cons, List.not_mem_nil, or_false] at hc
  rcases hc with rfl | rfl | rfl | rfl | rfl <;> intro a ha <;>
    first | (cases ha; decide +kernel) | cases ha

def sampleBefore : Srv × Bot := run (Srv.init cfg0) (Bot.init cfg0.botNick cfg0.botIdent) sampleRun.dropLast

set_option maxRecDepth 100000 in
/-- … and the run is not trivial: before the KICK the bot sees the renamed, voiced, de-opped user; after it
the bot (kicked under a case variant of its new nick) has only the other channel left -/
example :
    (aget sampleBefore.2.channels "#chan".toList).map (·.users) = some ["bob".toList, "test2".toList] ∧
    (aget sampleBefore.2.channels "#chan".toList).map (·.ops) = some [] ∧
    (aget sampleBefore.2.channels "#chan".toList).map (·.voices) = some ["bob".toList] ∧
    (aget sampleBefore.2.channels "#chan".toList).map (·.topic) = some "hello world".toList ∧
    (aget sampleBefore.2.channels "#chan".toList).map (·.modes) =
      some [('k', some "key".toList), ('l', some "10".toList), ('s', none)] ∧
    sampleBefore.2.nick = "Test2".toList ∧ aget sampleBefore.2.n2h "bob".toList = some "bOB!b@host.one".toList := by
  decide +kernel

set_option maxRecDepth 100000 in
example :
    (run (Srv.init cfg0) (Bot.init cfg0.botNick cfg0.botIdent) sampleRun).2.channels.map (·.1) = ["&loc".toList] := by
  decide +kernel

/-- a run that ends quiescent with the bot on a channel it shares with somebody: first the three queries are
queued in the order the bot sent them, then `serve` answers them -/
def quietRun : List Act :=
  [.connect "Bob".toList "b".toList "host.one".toList, .join "bob".toList ["#Chan".toList],
   .join "test".toList ["#chan".toList], .mode [] "#chan".toList [⟨true, 'b', some "*!*@bad".toList⟩]]

set_option maxRecDepth 100000 in
example :
    (run (Srv.init cfg0) (Bot.init cfg0.botNick cfg0.botIdent) quietRun).1.pending =
      [.mode "#Chan".toList, .bans "#Chan".toList, .who "#Chan".toList] ∧
    (run (Srv.init cfg0) (Bot.init cfg0.botNick cfg0.botIdent) (quietRun ++ [.serve, .serve, .serve])).1.pending = [] ∧
    (run (Srv.init cfg0) (Bot.init cfg0.botNick cfg0.botIdent) (quietRun ++ [.serve, .serve, .serve])).1.visible "bob".toList = true ∧
    (aget (run (Srv.init cfg0) (Bot.init cfg0.botNick cfg0.botIdent) (quietRun ++ [.serve, .serve, .serve])).2.channels
      "#chan".toList).map (·.bans) = some ["*!*@bad".toList] := by
  decide +kernel

end C10
