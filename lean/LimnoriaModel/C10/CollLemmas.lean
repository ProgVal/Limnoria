/-
C10 — lemmas about the collections of `Coll.lean`.
-/
import LimnoriaModel.C10.Coll
namespace C10

@[simp] theorem mem_sadd {s : List Str} {x y : Str} : y ∈ sadd s x ↔ y = x ∨ y ∈ s := by
  unfold sadd
  split <;> rename_i h
  · constructor
    · intro hy; exact Or.inr hy
    · rintro (rfl | hy)
      · exact h
      · exact hy
  · simp [List.mem_append, or_comm]

@[simp] theorem mem_sdel {s : List Str} {x y : Str} : y ∈ sdel s x ↔ y ≠ x ∧ y ∈ s := by
  unfold sdel
  simp [List.mem_filter, and_comm]

theorem mem_foldl_sadd {β : Type} (f : β → Str) (xs : List β) (l : List Str) (x : Str) :
    x ∈ xs.foldl (fun acc a => sadd acc (f a)) l ↔ x ∈ l ∨ x ∈ xs.map f := by
  induction xs generalizing l with
  | nil => simp
  | cons a as ih =>
    rw [List.foldl_cons, ih]
    simp only [mem_sadd, List.map_cons, List.mem_cons]
    constructor
    · rintro ((rfl | h) | h)
      · exact Or.inr (Or.inl rfl)
      · exact Or.inl h
      · exact Or.inr (Or.inr h)
    · rintro (h | rfl | h)
      · exact Or.inl (Or.inr h)
      · exact Or.inl (Or.inl rfl)
      · exact Or.inr h

variable {κ : Type} [DecidableEq κ] {α : Type}

@[simp] theorem aget_nil (x : κ) : aget ([] : List (κ × α)) x = none := rfl

theorem aget_cons (k : κ) (v : α) (r : List (κ × α)) (x : κ) :
    aget ((k, v) :: r) x = if k = x then some v else aget r x := rfl

theorem aget_aset (m : List (κ × α)) (x : κ) (v : α) (y : κ) :
    aget (aset m x v) y = if x = y then some v else aget m y := by
  induction m with
  | nil => simp [aset, aget_cons]
  | cons p r ih =>
    obtain ⟨k, w⟩ := p
    unfold aset
    by_cases hk : k = x
    · subst hk
      simp only [↓reduceIte, aget_cons]
      by_cases hky : k = y <;> simp [hky]
    · simp only [hk, ↓reduceIte, aget_cons, ih]
      by_cases hky : k = y
      · subst hky
        have : ¬ x = k := fun h => hk h.symm
        simp [this]
      · simp [hky]

@[simp] theorem aget_aset_self (m : List (κ × α)) (x : κ) (v : α) : aget (aset m x v) x = some v := by
  simp [aget_aset]

theorem aget_aset_ne (m : List (κ × α)) {x y : κ} (v : α) (h : x ≠ y) : aget (aset m x v) y = aget m y := by
  simp [aget_aset, h]

theorem aget_adel (m : List (κ × α)) (x y : κ) :
    aget (adel m x) y = if x = y then none else aget m y := by
  induction m with
  | nil => simp [adel]
  | cons p r ih =>
    obtain ⟨k, w⟩ := p
    unfold adel at ih ⊢
    by_cases hk : k = x
    · subst hk
      simp only [List.filter_cons, bne_self_eq_false, Bool.false_eq_true, ↓reduceIte, ih, aget_cons]
      by_cases hky : k = y <;> simp [hky]
    · have hb : ((k, w).1 != x) = true := by simp [hk]
      simp only [List.filter_cons, hb, ↓reduceIte, aget_cons, ih]
      by_cases hky : k = y
      · subst hky
        have : ¬ x = k := fun h => hk h.symm
        simp [this]
      · simp [hky]

@[simp] theorem aget_adel_self (m : List (κ × α)) (x : κ) : aget (adel m x) x = none := by
  simp [aget_adel]

theorem aget_amod (m : List (κ × α)) (x : κ) (f : α → α) (y : κ) :
    aget (amod m x f) y = if x = y then (aget m y).map f else aget m y := by
  induction m with
  | nil => simp [amod]
  | cons p r ih =>
    obtain ⟨k, w⟩ := p
    unfold amod at ih ⊢
    simp only [List.map_cons]
    by_cases hk : k = x
    · subst hk
      simp only [↓reduceIte, aget_cons, ih]
      by_cases hky : k = y <;> simp [hky]
    · simp only [hk, ↓reduceIte, aget_cons, ih]
      by_cases hky : k = y
      · subst hky
        have : ¬ x = k := fun h => hk h.symm
        simp [this]
      · simp [hky]

theorem aget_amapAll (m : List (κ × α)) (f : α → α) (y : κ) :
    aget (amapAll m f) y = (aget m y).map f := by
  induction m with
  | nil => simp [amapAll]
  | cons p r ih =>
    obtain ⟨k, w⟩ := p
    unfold amapAll at ih ⊢
    simp only [List.map_cons, aget_cons, ih]
    by_cases hky : k = y <;> simp [hky]

theorem aget_isSome_iff (m : List (κ × α)) (x : κ) : (aget m x).isSome ↔ x ∈ akeys m := by
  induction m with
  | nil => simp [akeys]
  | cons p r ih =>
    obtain ⟨k, w⟩ := p
    simp only [aget_cons, akeys, List.map_cons, List.mem_cons]
    by_cases hk : k = x
    · simp [hk]
    · have : ¬ x = k := fun h => hk h.symm
      simp [hk, this]
      simpa [akeys] using ih

theorem aget_mem {m : List (κ × α)} {x : κ} {v : α} (h : aget m x = some v) : (x, v) ∈ m := by
  induction m with
  | nil => simp at h
  | cons p r ih =>
    obtain ⟨k, w⟩ := p
    rw [aget_cons] at h
    by_cases hk : k = x
    · simp [hk] at h; subst hk; subst h; simp
    · simp [hk] at h; exact List.mem_cons_of_mem _ (ih h)

theorem aget_of_mem_nodup {m : List (κ × α)} (hn : (akeys m).Nodup) {x : κ} {v : α} (h : (x, v) ∈ m) :
    aget m x = some v := by
  induction m with
  | nil => simp at h
  | cons p r ih =>
    obtain ⟨k, w⟩ := p
    simp only [akeys, List.map_cons, List.nodup_cons] at hn
    rw [aget_cons]
    rcases List.mem_cons.mp h with heq | hr
    · injection heq with h1 h2; subst h1; subst h2; simp
    · have hkx : k ≠ x := by
        intro hkx; subst hkx
        exact hn.1 (List.mem_map.mpr ⟨(k, v), hr, rfl⟩)
      simp [hkx]
      exact ih hn.2 hr

theorem akeys_aset (m : List (κ × α)) (x : κ) (v : α) :
    akeys (aset m x v) = if x ∈ akeys m then akeys m else akeys m ++ [x] := by
  induction m with
  | nil => simp [aset, akeys]
  | cons p r ih =>
    obtain ⟨k, w⟩ := p
    unfold aset
    by_cases hk : k = x
    · subst hk; simp [akeys]
    · have hne : ¬ x = k := fun h => hk h.symm
      have e1 : akeys ((k, w) :: aset r x v) = k :: akeys (aset r x v) := rfl
      have e2 : akeys ((k, w) :: r) = k :: akeys r := rfl
      simp only [hk, ↓reduceIte, e1, e2, ih, List.mem_cons, hne, false_or]
      by_cases hx : x ∈ akeys r <;> simp [hx]

theorem nodup_akeys_aset {m : List (κ × α)} (h : (akeys m).Nodup) (x : κ) (v : α) :
    (akeys (aset m x v)).Nodup := by
  rw [akeys_aset]
  split
  · exact h
  · rename_i hx
    exact List.nodup_append.mpr ⟨h, by simp, by intro a ha b hb; simp at hb; subst hb; intro hab; subst hab; exact hx ha⟩

theorem nodup_akeys_adel {m : List (κ × α)} (h : (akeys m).Nodup) (x : κ) : (akeys (adel m x)).Nodup := by
  unfold akeys adel at *
  exact (List.Sublist.map _ (List.filter_sublist)).nodup h

omit [DecidableEq κ] in
theorem nodup_akeys_filter {m : List (κ × α)} (h : (akeys m).Nodup) (p : κ × α → Bool) :
    (akeys (m.filter p)).Nodup := by
  unfold akeys at *
  exact (List.Sublist.map _ (List.filter_sublist)).nodup h

omit [DecidableEq κ] in
theorem akeys_mapVal (m : List (κ × α)) (f : κ × α → α) :
    akeys (m.map (fun p => (p.1, f p))) = akeys m := by
  unfold akeys; simp [List.map_map, Function.comp_def]

theorem aget_filter_nodup {m : List (κ × α)} (hn : (akeys m).Nodup) (p : α → Bool) (x : κ) :
    aget (m.filter (fun e => p e.2)) x = (aget m x).filter p := by
  induction m with
  | nil => simp
  | cons e r ih =>
    obtain ⟨k, w⟩ := e
    simp only [akeys, List.map_cons, List.nodup_cons] at hn
    by_cases hk : k = x
    · subst hk
      have hnone : aget r k = none := by
        cases h : aget r k with
        | none => rfl
        | some v => exact absurd (List.mem_map.mpr ⟨(k, v), aget_mem h, rfl⟩) hn.1
      have hnone' : aget (r.filter (fun e => p e.2)) k = none := by
        rw [ih hn.2, hnone]; rfl
      by_cases hp : p w = true
      · simp [hp, aget_cons, Option.filter]
      · simp [hp, aget_cons, hnone', Option.filter]
    · by_cases hp : p w = true
      · simp [hp, aget_cons, hk, ih hn.2]
      · simp [hp, aget_cons, hk, ih hn.2]

theorem aget_mapVal (m : List (κ × α)) (f : κ → α → α) (x : κ) :
    aget (m.map (fun p => (p.1, f p.1 p.2))) x = (aget m x).map (f x) := by
  induction m with
  | nil => simp
  | cons e r ih =>
    obtain ⟨k, w⟩ := e
    simp only [List.map_cons, aget_cons, ih]
    by_cases hk : k = x
    · subst hk; simp
    · simp [hk]

theorem aset_same (m : List (κ × α)) (x : κ) (v : α) (h : aget m x = some v) : aset m x v = m := by
  induction m with
  | nil => simp at h
  | cons p r ih =>
    obtain ⟨k, w⟩ := p
    rw [aget_cons] at h
    unfold aset
    by_cases hk : k = x
    · simp only [hk, ↓reduceIte, Option.some.injEq] at h ⊢
      subst h; subst hk; rfl
    · simp only [hk, ↓reduceIte] at h ⊢
      rw [ih h]

theorem aset_aset (m : List (κ × α)) (x : κ) (v w : α) : aset (aset m x v) x w = aset m x w := by
  induction m with
  | nil => simp [aset]
  | cons p r ih =>
    obtain ⟨k, u⟩ := p
    by_cases hk : k = x
    · simp [aset, hk]
    · simp [aset, hk, ih]

theorem mem_aset {κ α : Type} [DecidableEq κ] {m : List (κ × α)} {x : κ} {v : α} {e : κ × α}
    (h : e ∈ aset m x v) : e = (x, v) ∨ e ∈ m := by
  induction m with
  | nil => simp [aset] at h; exact Or.inl h
  | cons p r ih =>
    obtain ⟨k, w⟩ := p
    unfold aset at h
    by_cases hk : k = x
    · simp only [hk, ↓reduceIte, List.mem_cons] at h
      rcases h with h | h
      · exact Or.inl h
      · exact Or.inr (List.mem_cons_of_mem _ h)
    · simp only [hk, ↓reduceIte, List.mem_cons] at h
      rcases h with h | h
      · exact Or.inr (by simp [h])
      · rcases ih h with h' | h'
        · exact Or.inl h'
        · exact Or.inr (List.mem_cons_of_mem _ h')

theorem mem_adel {κ α : Type} [DecidableEq κ] {m : List (κ × α)} {x : κ} {e : κ × α}
    (h : e ∈ adel m x) : e ∈ m := (List.mem_filter.mp h).1

end C10
