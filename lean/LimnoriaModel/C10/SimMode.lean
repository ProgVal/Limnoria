/-
C10 — simulation: MODE.  The mode string the server sends is split back into the accepted changes by
`separateModes` (table obligations), every accepted change (`ModeEffect`) has the same effect on the bot's
`ChannelState` as on the server's channel, and so has the MODE action.
-/
import LimnoriaModel.C10.SimNumeric
namespace C10
open Py

def sign (a : Bool) : Char := if a then '+' else '-'

/-- what `separateModes` should return for one accepted change -/
def tr (c : MChange) : Char × Char × Option Str := (sign c.add, c.ch, c.arg)

theorem class_ne_sign : ∀ c ∈ prefixModes ++ listModes ++ keyModes ++ limitModes, c ≠ '+' ∧ c ≠ '-' := by decide

theorem flag_ne_sign {c : Char} (h : isFlagMode c = true) : c ≠ '+' ∧ c ≠ '-' := by
  unfold isFlagMode at h
  simp only [Bool.and_eq_true, Bool.or_eq_true, decide_eq_true_eq] at h
  constructor
  · intro e; subst e; revert h; decide
  · intro e; subst e; revert h; decide

theorem shaped_ne_sign {c : MChange} (h : Shaped c) : c.ch ≠ '+' ∧ c.ch ≠ '-' := by
  rcases h with ⟨h, _⟩ | ⟨h, _⟩ | ⟨h, _⟩ | ⟨h, _⟩
  · exact class_ne_sign _ (by simp only [List.mem_append] at h ⊢; exact Or.inl h)
  · exact class_ne_sign _ (by simp only [List.mem_append]; exact Or.inr h)
  · exact class_ne_sign _ (by simp only [List.mem_append]; exact Or.inr h)
  · exact flag_ne_sign h

/-! ### `separateModes` inverts the server's rendering -/

theorem sign_pm (a : Bool) : sign a = '+' ∨ sign a = '-' := by cases a <;> simp [sign]

theorem sepGo_sign (a : Bool) (cs : Str) (lc : Char) (args : List Str) :
    sepGo (sign a :: cs) lc args = sepGo cs (sign a) args := by
  rcases sign_pm a with h | h <;> simp [sepGo, h]

theorem table_of_sign (a : Bool) :
    (if sign a = '+' then Gen.plusRequireArguments else Gen.minusRequireArguments) =
      if a then Gen.plusRequireArguments else Gen.minusRequireArguments := by
  cases a <;> simp [sign]

theorem modeString_cons (last : Option Bool) (c : MChange) (cs : List MChange) :
    modeString last (c :: cs) = (if last = some c.add then [] else [sign c.add]) ++ c.ch :: modeString (some c.add) cs := rfl

theorem sepGo_modeString (cs : List MChange) (hs : ∀ c ∈ cs, Shaped c)
    (hcanon : ∀ c ∈ cs, ∀ a, c.arg = some a → modeArg a = a) :
    ∀ (last : Option Bool) (lc : Char), (∀ a, last = some a → lc = sign a) →
      sepGo (modeString last cs) lc (modeArgs cs) = cs.map tr := by
  induction cs with
  | nil => intro last lc _; simp [modeString, sepGo]
  | cons c cs ih =>
    intro last lc hl
    have hsh := hs c (by simp)
    have hlet := shaped_ne_sign hsh
    have ih' := ih (fun c' hc' => hs c' (by simp [hc'])) (fun c' hc' => hcanon c' (by simp [hc'])) (some c.add) (sign c.add)
      (fun a ha => by cases ha; rfl)
    -- both renderings reduce to the letter with the right sign in force
    have hstep : sepGo (modeString last (c :: cs)) lc (modeArgs (c :: cs)) =
        sepGo (c.ch :: modeString (some c.add) cs) (sign c.add) (modeArgs (c :: cs)) := by
      rw [modeString_cons]
      by_cases hla : last = some c.add
      · simp only [hla, ↓reduceIte, List.nil_append]
        rw [hl c.add hla]
      · simp only [hla, ↓reduceIte, List.cons_append, List.nil_append]
        rw [sepGo_sign]
    rw [hstep]
    have hnpm : (c.ch = '+' || c.ch = '-') = false := by simp [hlet.1, hlet.2]
    unfold sepGo
    simp only [hnpm, Bool.false_eq_true, ↓reduceIte, table_of_sign]
    rcases hsh with ⟨hcls, a, harg⟩ | ⟨hcls, hadd, a, harg⟩ | ⟨hcls, hadd, harg⟩ | ⟨hflag, harg⟩
    · have ht := mode_tables_ok.1 c.ch hcls
      have hin : c.ch ∈ (if c.add = true then Gen.plusRequireArguments else Gen.minusRequireArguments) := by
        split
        · exact ht.1
        · exact ht.2
      have hargs : modeArgs (c :: cs) = a :: modeArgs cs := by simp [modeArgs, harg]
      simp only [hin, ↓reduceIte, hargs, List.map_cons, tr, harg, hcanon c (by simp) a harg]
      rw [ih']
    · have ht := mode_tables_ok.2.1 c.ch hcls
      have hin : c.ch ∈ (if c.add = true then Gen.plusRequireArguments else Gen.minusRequireArguments) := by
        simp only [hadd, ↓reduceIte]; exact ht.1
      have hargs : modeArgs (c :: cs) = a :: modeArgs cs := by simp [modeArgs, harg]
      simp only [hin, ↓reduceIte, hargs, List.map_cons, tr, harg, hcanon c (by simp) a harg]
      rw [ih']
    · have ht := mode_tables_ok.2.1 c.ch hcls
      have hin : c.ch ∉ (if c.add = true then Gen.plusRequireArguments else Gen.minusRequireArguments) := by
        simp only [hadd, Bool.false_eq_true, ↓reduceIte]; exact ht.2
      have hargs : modeArgs (c :: cs) = modeArgs cs := by simp [modeArgs, harg]
      simp only [hin, ↓reduceIte, hargs, List.map_cons, tr, harg]
      rw [ih']
    · have hnc := flag_not_class hflag
      have hin : c.ch ∉ (if c.add = true then Gen.plusRequireArguments else Gen.minusRequireArguments) := by
        split
        · intro hm; exact hnc (mode_tables_ok.2.2.1 c.ch hm)
        · intro hm; exact hnc (mode_tables_ok.2.2.2 c.ch hm)
      have hargs : modeArgs (c :: cs) = modeArgs cs := by simp [modeArgs, harg]
      simp only [hin, ↓reduceIte, hargs, List.map_cons, tr, harg]
      rw [ih']

theorem separateModes_render (cs : List MChange) (hs : ∀ c ∈ cs, Shaped c)
    (hcanon : ∀ c ∈ cs, ∀ a, c.arg = some a → modeArg a = a) :
    separateModes (modeString none cs :: modeArgs cs) = cs.map tr := by
  unfold separateModes
  exact sepGo_modeString cs hs hcanon none '+' (fun a ha => by cases ha)

theorem setFlag_get (ms : List (Str × Flags)) (k : Str) (g : Flags → Flags) (P : Flags → Prop) (x : Str) :
    (∃ f, (x, f) ∈ setFlag ms k g ∧ P f) ↔
      (x = k ∧ ∃ f, (k, f) ∈ ms ∧ P (g f)) ∨ (x ≠ k ∧ ∃ f, (x, f) ∈ ms ∧ P f) := by
  unfold setFlag
  simp only [List.mem_map]
  constructor
  · rintro ⟨f, ⟨⟨a, f0⟩, hq, he⟩, hp⟩
    by_cases hak : a = k
    · subst hak
      simp only [↓reduceIte, Prod.mk.injEq] at he
      obtain ⟨rfl, rfl⟩ := he
      exact Or.inl ⟨rfl, f0, hq, hp⟩
    · simp only [hak, ↓reduceIte, Prod.mk.injEq] at he
      obtain ⟨rfl, rfl⟩ := he
      exact Or.inr ⟨hak, f0, hq, hp⟩
  · rintro (⟨rfl, f, hf, hp⟩ | ⟨hx, f, hf, hp⟩)
    · exact ⟨g f, ⟨(x, f), hf, by simp⟩, hp⟩
    · exact ⟨f, ⟨(x, f), hf, by simp [hx]⟩, hp⟩

theorem setFlag_keep (ms : List (Str × Flags)) (k : Str) (g : Flags → Flags) (P : Flags → Prop)
    (hg : ∀ f, P (g f) ↔ P f) (x : Str) :
    (∃ f, (x, f) ∈ setFlag ms k g ∧ P f) ↔ ∃ f, (x, f) ∈ ms ∧ P f := by
  rw [setFlag_get]
  constructor
  · rintro (⟨rfl, f, hf, hp⟩ | ⟨_, f, hf, hp⟩)
    · exact ⟨f, hf, (hg f).mp hp⟩
    · exact ⟨f, hf, hp⟩
  · rintro ⟨f, hf, hp⟩
    by_cases hx : x = k
    · subst hx; exact Or.inl ⟨rfl, f, hf, (hg f).mpr hp⟩
    · exact Or.inr ⟨hx, f, hf, hp⟩

theorem Tracks.setFlag_keep {full : Prop} {S : List Str} {ms : List (Str × Flags)} {P : Flags → Prop}
    (h : Tracks full S ms P) (k : Str) (g : Flags → Flags) (hg : ∀ f, P (g f) ↔ P f) : Tracks full S (setFlag ms k g) P where
  sub := fun x hx => (C10.setFlag_keep ms k g P hg x).mpr (h.sub x hx)
  sup := fun hfull x hex => h.sup hfull x ((C10.setFlag_keep ms k g P hg x).mp hex)

/-- the getter the update sets to `add`, as a set operation on the nicks having it -/
theorem Tracks.setFlag_set {full : Prop} {S : List Str} {ms : List (Str × Flags)} {P : Flags → Prop}
    (h : Tracks full S ms P) (k : Str) (g : Flags → Flags) (add : Bool) (hg : ∀ f, P (g f) ↔ add = true)
    (hk : ∃ f, (k, f) ∈ ms) : Tracks full (if add then sadd S k else sdel S k) (setFlag ms k g) P where
  sub := fun x hx => by
    rw [setFlag_get]
    obtain ⟨f0, hf0⟩ := hk
    cases add with
    | true =>
      simp only [↓reduceIte, mem_sadd] at hx
      rcases hx with rfl | hx
      · exact Or.inl ⟨rfl, f0, hf0, (hg f0).mpr rfl⟩
      · obtain ⟨f, hf, hp⟩ := h.sub x hx
        by_cases hxk : x = k
        · subst hxk; exact Or.inl ⟨rfl, f, hf, (hg f).mpr rfl⟩
        · exact Or.inr ⟨hxk, f, hf, hp⟩
    | false =>
      simp only [Bool.false_eq_true, ↓reduceIte, mem_sdel] at hx
      obtain ⟨f, hf, hp⟩ := h.sub x hx.2
      exact Or.inr ⟨hx.1, f, hf, hp⟩
  sup := fun hfull x hex => by
    rcases (setFlag_get ms k g P x).mp hex with ⟨rfl, f, _, hp⟩ | ⟨hxk, f, hf, hp⟩
    · have := (hg f).mp hp
      subst this
      simp
    · have hxS := h.sup hfull x ⟨f, hf, hp⟩
      cases add with
      | true => simp only [↓reduceIte, mem_sadd]; exact Or.inr hxS
      | false => simp only [Bool.false_eq_true, ↓reduceIte, mem_sdel]; exact ⟨hxk, hxS⟩

/-! ### `ChannelState.doMode`, one change, by class -/

theorem modeStep_set (ch : Chan) (a : Bool) (c : Char) (w : Nat) (v : Option Str) (hc : c ∈ Gen.trackedModes)
    (hw : aget Gen.modeSets c = some w) :
    ch.modeStep (sign a, c, v) =
      some (setAt ch w (fun s => if a then sadd s (lower (valStr v)) else sdel s (lower (valStr v)))) := by
  cases a <;> simp [Chan.modeStep, hc, hw, sign]

theorem modeStep_ignored (ch : Chan) (a : Bool) (c : Char) (v : Option Str) (hc : c ∈ Gen.trackedModes)
    (hw : aget Gen.modeSets c = none) : ch.modeStep (sign a, c, v) = some ch := by
  simp [Chan.modeStep, hc, hw]

theorem modeStep_plain (ch : Chan) (a : Bool) (c : Char) (v : Option Str) (hc : c ∉ Gen.trackedModes) :
    ch.modeStep (sign a, c, v) =
      some { ch with modes := if a then aset ch.modes c v else adel ch.modes c } := by
  have h1 : c ∉ Gen.setModeForbidden := fun h => hc (setModeForbidden_tracked c h)
  have h2 : c ∉ Gen.unsetModeForbidden := fun h => hc (unsetModeForbidden_tracked c h)
  cases a <;> simp [Chan.modeStep, hc, h1, h2, sign]

/-- the letters `doMode` keeps in sets are the server's status and list letters; each status letter has its set, the
lists `e` `q` `I` a throw-away one -/
theorem tracked_classes :
    (∀ l ∈ Gen.trackedModes, l ∈ prefixModes ++ listModes) ∧
    (∀ l ∈ ['e', 'q', 'I'], l ∈ Gen.trackedModes ∧ aget Gen.modeSets l = none) ∧
    'b' ∈ Gen.trackedModes ∧ aget Gen.modeSets 'b' = some 3 := by decide

theorem StatusMode.tracked {l : Char} {g : Bool → Flags → Flags} {w : Nat} (hs : StatusMode l g w) :
    l ∈ Gen.trackedModes ∧ aget Gen.modeSets l = some w := by
  cases hs <;> decide

theorem ChanMatches.status {mp ms bs : Bool} {sc : SChan} {ch : Chan} (hm : ChanMatches mp ms bs sc ch) {l : Char}
    {g : Bool → Flags → Flags} {w : Nat} (hs : StatusMode l g w) (k : Str) (hk : sc.has k = true) (add : Bool) :
    ChanMatches mp ms bs { sc with members := setFlag sc.members k (g add) }
      (setAt ch w (fun s => if add then sadd s k else sdel s k)) := by
  have hk' := has_iff.mp hk
  cases hs with
  | o =>
    let upd : Flags → Flags := fun f => { f with o := add }
    exact ⟨hm.users.setFlag_keep k upd (fun _ => Iff.rfl), hm.ops.setFlag_set k upd add (fun f => by simp [upd]) hk',
      hm.halfops.setFlag_keep k upd (fun _ => Iff.rfl), hm.voices.setFlag_keep k upd (fun _ => Iff.rfl),
      hm.topic, hm.modes, hm.modesFull, hm.bans, hm.bansFull⟩
  | h =>
    let upd : Flags → Flags := fun f => { f with h := add }
    exact ⟨hm.users.setFlag_keep k upd (fun _ => Iff.rfl), hm.ops.setFlag_keep k upd (fun _ => Iff.rfl),
      hm.halfops.setFlag_set k upd add (fun f => by simp [upd]) hk', hm.voices.setFlag_keep k upd (fun _ => Iff.rfl),
      hm.topic, hm.modes, hm.modesFull, hm.bans, hm.bansFull⟩
  | v =>
    let upd : Flags → Flags := fun f => { f with v := add }
    exact ⟨hm.users.setFlag_keep k upd (fun _ => Iff.rfl), hm.ops.setFlag_keep k upd (fun _ => Iff.rfl),
      hm.halfops.setFlag_keep k upd (fun _ => Iff.rfl), hm.voices.setFlag_set k upd add (fun f => by simp [upd]) hk',
      hm.topic, hm.modes, hm.modesFull, hm.bans, hm.bansFull⟩

theorem ChanMatches.modes_set {mp ms bs : Bool} {sc : SChan} {ch : Chan} (hm : ChanMatches mp ms bs sc ch) (c : Char) (v : Option Str) :
    ChanMatches mp ms bs { sc with modes := aset sc.modes c v } { ch with modes := aset ch.modes c v } :=
  ⟨hm.users, hm.ops, hm.halfops, hm.voices, hm.topic,
   fun m => by
     simp only [aget_aset]
     by_cases h : c = m
     · simp [h]
     · simp only [h, ↓reduceIte]; exact hm.modes m,
   fun hs m => by simp only [aget_aset, hm.modesFull hs], hm.bans, hm.bansFull⟩

theorem ChanMatches.modes_del {mp ms bs : Bool} {sc : SChan} {ch : Chan} (hm : ChanMatches mp ms bs sc ch) (c : Char) :
    ChanMatches mp ms bs { sc with modes := adel sc.modes c } { ch with modes := adel ch.modes c } :=
  ⟨hm.users, hm.ops, hm.halfops, hm.voices, hm.topic,
   fun m => by
     simp only [aget_adel]
     by_cases h : c = m
     · simp [h]
     · simp only [h, ↓reduceIte]; exact hm.modes m,
   fun hs m => by simp only [aget_adel, hm.modesFull hs], hm.bans, hm.bansFull⟩

theorem ChanMatches.ban_add {mp ms bs : Bool} {sc : SChan} {ch : Chan} (hm : ChanMatches mp ms bs sc ch) (a : Str) :
    ChanMatches mp ms bs { sc with bans := sc.bans ++ [a] } (setAt ch 3 (fun s => sadd s (lower a))) := by
  refine ⟨hm.users, hm.ops, hm.halfops, hm.voices, hm.topic, hm.modes, hm.modesFull, ?_, ?_⟩
  · intro x hx
    simp only [setAt, mem_sadd] at hx
    simp only [List.map_append, List.map_cons, List.map_nil, List.mem_append, List.mem_singleton]
    rcases hx with rfl | hx
    · exact Or.inr rfl
    · exact Or.inl (hm.bans x hx)
  · intro hs x hx
    simp only [List.map_append, List.map_cons, List.map_nil, List.mem_append, List.mem_singleton] at hx
    simp only [setAt, mem_sadd]
    rcases hx with hx | rfl
    · exact Or.inr (hm.bansFull hs x hx)
    · exact Or.inl rfl

theorem ChanMatches.ban_del {mp ms bs : Bool} {sc : SChan} {ch : Chan} (hm : ChanMatches mp ms bs sc ch) (a : Str) :
    ChanMatches mp ms bs { sc with bans := sc.bans.filter (fun m => lower m != lower a) } (setAt ch 3 (fun s => sdel s (lower a))) := by
  refine ⟨hm.users, hm.ops, hm.halfops, hm.voices, hm.topic, hm.modes, hm.modesFull, ?_, ?_⟩
  · intro x hx
    simp only [setAt, mem_sdel] at hx
    obtain ⟨m, hm', rfl⟩ := List.mem_map.mp (hm.bans x hx.2)
    exact List.mem_map.mpr ⟨m, List.mem_filter.mpr ⟨hm', by simpa using hx.1⟩, rfl⟩
  · intro hs x hx
    obtain ⟨m, hm', rfl⟩ := List.mem_map.mp hx
    obtain ⟨hm1, hm2⟩ := List.mem_filter.mp hm'
    simp only [setAt, mem_sdel]
    exact ⟨by simpa using hm2, hm.bansFull hs _ (List.mem_map.mpr ⟨m, hm1, rfl⟩)⟩

theorem ModeEffect.sim {mp ms bs : Bool} {sc sc' : SChan} {ch : Chan} {c : MChange} (he : ModeEffect sc c sc')
    (hm : ChanMatches mp ms bs sc ch) : ∃ ch', ch.modeStep (tr c) = some ch' ∧ ChanMatches mp ms bs sc' ch' := by
  unfold tr
  cases he with
  | @status g w a hs harg hmem =>
    rw [harg, modeStep_set ch c.add c.ch w (some a) hs.tracked.1 hs.tracked.2]
    exact ⟨_, rfl, hm.status hs (lower a) hmem c.add⟩
  | @ban a hb hadd harg =>
    rw [harg, hb, modeStep_set ch c.add 'b' 3 (some a) tracked_classes.2.2.1 tracked_classes.2.2.2]
    simp only [hadd, ↓reduceIte, valStr]
    exact ⟨_, rfl, ChanMatches.ban_add hm a⟩
  | @unban a hb hadd harg =>
    rw [harg, hb, modeStep_set ch c.add 'b' 3 (some a) tracked_classes.2.2.1 tracked_classes.2.2.2]
    simp only [hadd, Bool.false_eq_true, ↓reduceIte, valStr]
    exact ⟨_, rfl, ChanMatches.ban_del hm a⟩
  | otherList hl harg =>
    have ht := tracked_classes.2.1 c.ch hl
    exact ⟨_, modeStep_ignored ch c.add c.ch c.arg ht.1 ht.2, hm⟩
  | set hcl _ hadd =>
    rw [modeStep_plain ch c.add c.ch c.arg (fun h => hcl (tracked_classes.1 _ h))]
    simp only [hadd, ↓reduceIte]
    exact ⟨_, rfl, ChanMatches.modes_set hm _ _⟩
  | unset hcl _ hadd =>
    rw [modeStep_plain ch c.add c.ch c.arg (fun h => hcl (tracked_classes.1 _ h))]
    simp only [hadd, Bool.false_eq_true, ↓reduceIte]
    exact ⟨_, rfl, ChanMatches.modes_del hm _⟩

theorem applyModes_sim {mp ms bs : Bool} (cs : List MChange) : ∀ (sc : SChan) (ch : Chan), ChanMatches mp ms bs sc ch →
    ∃ ch', runSteps Chan.modeStep ch ((applyModes sc cs).2.map tr) = (ch', false) ∧
      ChanMatches mp ms bs (applyModes sc cs).1 ch' := by
  induction cs with
  | nil => intro sc ch hm; exact ⟨ch, rfl, hm⟩
  | cons c cs ih =>
    intro sc ch hm
    unfold applyModes
    cases ha : sc.applyMode c with
    | none => exact ih sc ch hm
    | some sc1 =>
      obtain ⟨ch1, h1, h2⟩ := (applyMode_effect ha).sim hm
      obtain ⟨ch', h4, h5⟩ := ih sc1 ch1 h2
      refine ⟨ch', ?_, h5⟩
      simp only [List.map_cons, runSteps, h1]
      exact h4

theorem coupled_mode {s : Srv} {b : Bot} (hw : SrvWF s) (hc : Coupled s b) {src c : Str} {cs : List MChange}
    (hok : ∀ c ∈ cs, c.ok) {pfx : Str} {sc : SChan} (hsrc : s.source src = some pfx)
    (hch : aget s.chans (lower c) = some sc) :
    Coupled { s with chans := aset s.chans (lower c) (applyModes sc cs).1 }
      (b.recvAll (if s.botIn sc then
        [emit pfx "MODE" (sc.name :: modeString none (applyModes sc cs).2 :: modeArgs (applyModes sc cs).2)] else [])) := by
  have hcw := hw.chans _ _ hch
  have hrel := hc.chans (lower c)
  rw [hch] at hrel
  by_cases hb : s.botIn sc = true
  · simp only [hb, ↓reduceIte, recvAll_cons, recv_emit, recvAll_nil]
    obtain ⟨b0, hc0, hch0, hn0, hfeed⟩ := feed_from_source hw hc hsrc "MODE".toList
      (sc.name :: modeString none (applyModes sc cs).2 :: modeArgs (applyModes sc cs).2)
      (setters_out_ok "MODE".toList (by decide +kernel)) (by decide +kernel) (fun b0 => by simp only [Bot.ircCmd, cmdOf_MODE])
    rw [hfeed]
    obtain ⟨ch, hbc, hm0⟩ := Coupled.chan_of_botIn hc0 hch hb
    have hchan : b0.chanOrNew sc.name = ch := by
      simp only [Bot.chanOrNew, Bot.chan, hcw.key, hbc, Option.getD_some]
    have hsh := applyModes_shaped cs sc
    have hsep := separateModes_render (applyModes sc cs).2 (fun c hc => (hsh c hc).1)
      (fun c hc a ha => (hok c (hsh c hc).2) a ha)
    obtain ⟨ch', h1, h2⟩ := applyModes_sim cs sc ch hm0
    have h3 := applyModes_has cs sc
    simp only [Bot.stateCmd, cmdOf_MODE, Bot.doMode, isChannel_of_ok hc0.isup (chanOK_of_valid hcw.name), hchan,
      Chan.doMode, hsep, h1]
    refine coupled_setChan hc0 hch _ (fun h => by rw [h3] at h; exact h) ?_ ?_ rfl rfl rfl rfl rfl rfl
    · intro k hk; simp only [Bot.setChan, hcw.key]; exact aget_aset_ne _ _ (Ne.symm hk)
    · simp only [Bot.setChan, hcw.key, aget_aset_self, ChanRel]
      refine ⟨?_, h2⟩
      show (applyModes sc cs).1.has s.botKey = true
      rw [h3]; exact hb
  · simp only [hb, Bool.false_eq_true, ↓reduceIte, recvAll_nil]
    have hb' : sc.has s.botKey = false := by simpa [Srv.botIn] using hb
    exact coupled_setChan_unseen hc hch hb' _ (by rw [applyModes_has]; exact hb')

end C10
