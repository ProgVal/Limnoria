/-
C19 — the echo emulation: a message is lost to its assertion only if the object already carries the
tag; since the emulated echo is a tagged *copy*, the only objects carrying the tag are made inside the
bot; messages handed over by callers (any number of times) and messages built or passed on by
well-behaved filters never carry it, so nothing is lost.
-/
import LimnoriaModel.C19.Lemmas
namespace C19
open Py List

/-- the objects that carry the `emulatedEcho` tag are objects made inside the bot (echo copies) -/
def EchoInv (s : Irc) : Prop := ∀ o ∈ s.echoed, ∃ k, o = Oid.int k

/-- a `lost` event of this result concerns an object tagged before; new tags go to new internal objects -/
def EchoOk (s : Irc) (r : Irc × List Ev) : Prop :=
  (∀ f src out t, Ev.lost f src out t ∈ r.2 → out.oid ∈ s.echoed) ∧
  (∀ o ∈ r.1.echoed, o ∈ s.echoed ∨ ∃ k, o = Oid.int k)

theorem deliver_echo {s s1 : Irc} {m : Msg} {d : Delivery} (h : deliver s m = (s1, d)) :
    match d with
    | .dropped => s1.echoed = s.echoed
    | .lost o => o.oid ∈ s.echoed ∧ s1.echoed = s.echoed
    | .out _ => s1.echoed = s.echoed ∨ ∃ k, s1.echoed = Oid.int k :: s.echoed := by
  unfold deliver at h
  split at h
  · injection h with h1 h2; subst h1 h2; rfl
  · dsimp only at h
    split at h
    · split at h
      · rename_i hin
        injection h with h1 h2; subst h1 h2; exact ⟨hin, rfl⟩
      · injection h with h1 h2; subst h1 h2; exact Or.inr ⟨_, rfl⟩
    · injection h with h1 h2; subst h1 h2; exact Or.inl rfl

def Ev.notLost : Ev → Bool
  | .lost _ _ _ _ => false
  | _ => true

theorem Ev.notLost_of_admin {e : Ev} (h : e.admin = true) : e.notLost = true := by
  cases e <;> first | rfl | cases h

theorem EchoOk.of_notLost {s s' : Irc} {evs : List Ev} (he : s'.echoed = s.echoed)
    (hp : ∀ e ∈ evs, e.notLost = true) : EchoOk s (s', evs) :=
  ⟨fun _ _ _ _ h => (nomatch hp _ h), fun _ ho => Or.inl (he ▸ ho)⟩

theorem EchoOk.cons_notLost {s s0 s1 : Irc} {e : Ev} {evs : List Ev} (he : e.notLost = true)
    (hs : s0.echoed = s.echoed) (h : EchoOk s0 (s1, evs)) : EchoOk s (s1, e :: evs) := by
  constructor
  · intro f src out t hm
    rcases mem_cons.mp hm with hm | hm
    · subst hm; cases he
    · rw [← hs]; exact h.1 f src out t hm
  · intro o ho
    rcases h.2 o ho with h' | h'
    · exact Or.inl (hs ▸ h')
    · exact Or.inr h'

theorem EchoOk.of_admin {s s' : Irc} {evs : List Ev} (he : s'.echoed = s.echoed)
    (ha : ∀ e ∈ evs, e.admin = true) : EchoOk s (s', evs) :=
  EchoOk.of_notLost he (fun e h => Ev.notLost_of_admin (ha e h))

theorem noMsg_echo (s : Irc) : EchoOk s (noMsg s) :=
  EchoOk.of_admin (congrArg Irc.echoed (noMsg_state s)) (noMsg_admin s)

theorem takeAux_echo : ∀ (fuel : Nat) (s : Irc), EchoOk s (takeAux fuel s) := by
  have noMsg' : ∀ s, EchoOk s (s, (noMsg s).2) := fun s => noMsg_eq s ▸ noMsg_echo s
  refine takeAux_ind (fun s => EchoOk.of_notLost rfl (by simp)) ?_ ?_ ?_ ?_ ?_
  · intro s f m s0 s1 d hr hd _
    obtain ⟨q, fa, lt, rfl⟩ := hr.frame
    have := deliver_echo hd
    cases d with
    | out o =>
      refine ⟨by simp [Delivery.ev], fun x hx => ?_⟩
      rcases this with h | ⟨k, h⟩
      · exact Or.inl (h ▸ hx)
      · rw [h] at hx
        rcases mem_cons.mp hx with hx | hx
        · exact Or.inr ⟨k, hx⟩
        · exact Or.inl hx
    | lost o =>
      refine ⟨fun f' src out t h => ?_, fun x hx => Or.inl (this.2 ▸ hx)⟩
      cases mem_singleton.mp h
      exact this.1
    | dropped => exact EchoOk.of_notLost this (by simp [Delivery.ev, Ev.notLost])
  · intro s f m s0 s1 r hr hd ih
    obtain ⟨q, fa, lt, rfl⟩ := hr.frame
    exact EchoOk.cons_notLost rfl (deliver_echo hd) ih
  · exact fun s _ _ _ => EchoOk.cons_notLost rfl rfl (noMsg' s)
  · exact fun _ _ => EchoOk.cons_notLost rfl rfl (noMsg' _)
  · intro s _ _
    exact EchoOk.of_admin (pingBranch_echoed s)
      (forall_mem_append.mpr ⟨pingBranch_admin s, noMsg_admin _⟩)

theorem step_echo (s : Irc) (op : Op) : EchoOk s (step s op) := by
  cases op using Op.casesSilent with
  | queue m => exact EchoOk.of_admin (queueMsg_offer s m).echoed (queueMsg_offer s m).admin
  | send m => exact EchoOk.of_admin (sendMsg_offer s m).echoed (sendMsg_offer s m).admin
  | take => exact takeAux_echo _ s
  | die =>
    unfold step die; dsimp only
    split <;> exact EchoOk.of_notLost rfl (by simp [Ev.notLost])
  | reset => exact EchoOk.of_admin (reset_echoed s) (reset_admin s)
  | config c => exact EchoOk.of_notLost rfl (by simp [Ev.notLost])
  | silent op h =>
    obtain ⟨_, _, _, _, _, _, h⟩ := step_silent s h
    rw [h]; exact EchoOk.of_notLost rfl (by simp)

theorem run_echoInv : ∀ (ops : List Op) (s : Irc), EchoInv s → EchoInv (run s ops).1
  | [], s, h => by simpa [run] using h
  | op :: ops, s, h => by
    unfold run
    dsimp only
    apply run_echoInv ops
    intro o ho
    rcases (step_echo s op).2 o ho with h' | h'
    · exact h o h'
    · exact h'

/-- a filter returns the object it was given or one it has just built -/
def FilterOk (f : Filter) : Prop := ∀ n m m', f n m = some m' → m'.oid = m.oid ∨ m'.oid = .int n

def oids (l : List Msg) : List Oid := l.map (·.oid)

theorem labelFilter_ok : FilterOk labelFilter := by
  intro n m m' h
  simp only [labelFilter, Option.some.injEq] at h
  subst h
  left
  split <;> rfl

theorem chain_ok (s : Irc) (h : ∀ f ∈ s.cfg.filters, FilterOk f) : ∀ f ∈ s.chain, FilterOk f := by
  intro f hf
  unfold Irc.chain at hf
  split at hf
  · cases hf with
    | head => exact labelFilter_ok
    | tail _ hf => exact h f hf
  · exact h f hf

/-- `.int k` with `k ≥ n` does not occur -/
def IntBelow (n : Nat) (l : List Oid) : Prop := ∀ k, Oid.int k ∈ l → k < n

/-- no waiting object carries the echo tag; the tagged objects are internal ones; the identities
made inside the bot so far are below `nextOid` -/
structure TagInv (s : Irc) : Prop where
  untagged : ∀ o ∈ oids s.pending, o ∉ s.echoed
  intPending : IntBelow s.nextOid (oids s.pending)
  intEchoed : IntBelow s.nextOid s.echoed
  echoedInt : ∀ o ∈ s.echoed, ∃ k, o = Oid.int k
  filters : ∀ f ∈ s.cfg.filters, FilterOk f

theorem runFilters_oid : ∀ (fs : List Filter) (n : Nat) (m out : Msg) (n' : Nat),
    (∀ f ∈ fs, FilterOk f) → runFilters fs n m = (some out, n') →
    n ≤ n' ∧ (out.oid = m.oid ∨ ∃ k, out.oid = .int k ∧ n ≤ k ∧ k < n')
  | [], n, m, out, n', _, h => by
    simp only [runFilters] at h
    injection h with h1 h2; injection h1 with h1; subst h1 h2
    exact ⟨Nat.le_refl _, Or.inl rfl⟩
  | f :: fs, n, m, out, n', hok, h => by
    simp only [runFilters] at h
    split at h
    · injection h with h1 _; cases h1
    · rename_i m1 hf
      have ih := runFilters_oid fs (n + 1) m1 out n' (fun g hg => hok g (mem_cons_of_mem _ hg)) h
      have h1 := hok f mem_cons_self n m m1 hf
      refine ⟨by omega, ?_⟩
      rcases ih.2 with h2 | ⟨k, h2, h3, h4⟩
      · rcases h1 with h1 | h1
        · exact Or.inl (h2.trans h1)
        · exact Or.inr ⟨n, h2.trans h1, Nat.le_refl _, by omega⟩
      · exact Or.inr ⟨k, h2, by omega, h4⟩

theorem runFilters_mono : ∀ (fs : List Filter) (n : Nat) (m : Msg), n ≤ (runFilters fs n m).2
  | [], n, m => Nat.le_refl _
  | f :: fs, n, m => by
    simp only [runFilters]
    split
    · exact Nat.le_succ _
    · exact Nat.le_trans (Nat.le_succ _) (runFilters_mono fs (n + 1) _)

theorem oids_cons (m : Msg) (l : List Msg) : oids (m :: l) = m.oid :: oids l := rfl

/-- the invariant only looks at which objects wait, the tags, the counter and the filters -/
theorem TagInv.of_sub {s s' : Irc} (h : TagInv s) (hp : ∀ o ∈ oids s'.pending, o ∈ oids s.pending)
    (he : s'.echoed = s.echoed) (hn : s.nextOid ≤ s'.nextOid) (hf : s'.cfg = s.cfg) : TagInv s' := by
  refine ⟨?_, ?_, ?_, by rw [he]; exact h.echoedInt, by rw [hf]; exact h.filters⟩
  · intro o ho; rw [he]; exact h.untagged o (hp o ho)
  · intro k hk; exact Nat.lt_of_lt_of_le (h.intPending k (hp _ hk)) hn
  · intro k hk; rw [he] at hk; exact Nat.lt_of_lt_of_le (h.intEchoed k hk) hn

/-- the state just after `m` was taken out of a queue -/
structure PreInv (s : Irc) (m : Msg) : Prop where
  untagged : ∀ o ∈ oids (m :: s.pending), o ∉ s.echoed
  intPending : IntBelow s.nextOid (oids (m :: s.pending))
  intEchoed : IntBelow s.nextOid s.echoed
  echoedInt : ∀ o ∈ s.echoed, ∃ k, o = Oid.int k
  filters : ∀ f ∈ s.cfg.filters, FilterOk f

/-- … that is, the invariant with `m` still at the head of the fast queue -/
theorem PreInv.iff (s : Irc) (m : Msg) : PreInv s m ↔ TagInv { s with fast := m :: s.fast } :=
  ⟨fun h => ⟨h.untagged, h.intPending, h.intEchoed, h.echoedInt, h.filters⟩,
   fun h => ⟨h.untagged, h.intPending, h.intEchoed, h.echoedInt, h.filters⟩⟩

theorem PreInv.of_sub {s s0 : Irc} {m : Msg} (h : TagInv s0)
    (hp : ∀ o ∈ oids (m :: s.pending), o ∈ oids s0.pending) (he : s.echoed = s0.echoed)
    (hn : s.nextOid = s0.nextOid) (hf : s.cfg = s0.cfg) : PreInv s m :=
  (PreInv.iff s m).mpr (h.of_sub hp he (Nat.le_of_eq hn.symm) hf)

theorem deliver_tag {s s1 : Irc} {m : Msg} {d : Delivery} (hp : PreInv s m)
    (h : deliver s m = (s1, d)) : (∀ o, d ≠ .lost o) ∧ TagInv s1 := by
  -- `m` is gone and the identity supply has moved on
  have base : ∀ n, s.nextOid ≤ n → TagInv { s with nextOid := n } := fun n hn =>
    ((PreInv.iff s m).mp hp).of_sub (fun o ho => mem_cons_of_mem _ ho) rfl hn rfl
  unfold deliver at h
  split at h
  · rename_i n hr
    injection h with h1 h2; subst h1 h2
    have hmono := runFilters_mono s.chain s.nextOid m
    rw [hr] at hmono
    exact ⟨(by intro o h; cases h), base n hmono⟩
  · rename_i out n hr
    obtain ⟨hmono, hoid⟩ := runFilters_oid s.chain s.nextOid m out n (chain_ok s hp.filters) hr
    have base := base n hmono
    have hnot : out.oid ∉ s.echoed := by
      rcases hoid with h1 | ⟨k, h1, h2, _⟩
      · rw [h1]; exact hp.untagged _ (by rw [oids_cons]; exact mem_cons_self)
      · rw [h1]; intro hk; have := hp.intEchoed k hk; omega
    dsimp only at h
    split at h
    · injection h with h1 h2; subst h1 h2
      refine ⟨(by intro o h; cases h), ⟨?_, ?_, ?_, ?_, hp.filters⟩⟩
      · intro o ho hm
        rcases mem_cons.mp hm with hm | hm
        · have := base.intPending n (by rw [← hm]; exact ho)
          exact Nat.lt_irrefl _ this
        · exact base.untagged o ho hm
      · intro k hk; exact Nat.lt_succ_of_lt (base.intPending k hk)
      · intro k hk
        rcases mem_cons.mp hk with hk | hk
        · injection hk with hk; subst hk; exact Nat.lt_succ_self _
        · exact Nat.lt_succ_of_lt (base.intEchoed k hk)
      · intro o ho
        rcases mem_cons.mp ho with ho | ho
        · exact ⟨n, ho⟩
        · exact hp.echoedInt o ho
    · injection h with h1 h2; subst h1 h2
      exact ⟨(by intro o h; cases h), base⟩

theorem dequeue_msg_perm {limit now : Nat} {q q' : Queue} {m : Msg}
    (h : q.dequeue limit now = (q', .msg m)) : q.all.Perm (m :: q'.all) := by
  rw [perm_iff_count]; intro x
  have := dequeue_msg_count h x
  simp only [count_cons_one]; omega

theorem dequeue_rotated_perm {limit now : Nat} {q q' : Queue} {m : Msg}
    (h : q.dequeue limit now = (q', .rotated m)) : q'.all.Perm q.all := by
  rw [perm_iff_count]; intro x
  exact dequeue_rotated_count h x

theorem enqueue_true_perm {dup : Bool} {q q' : Queue} {m : Msg} (h : q.enqueue dup m = (q', true)) :
    q'.all.Perm (m :: q.all) := by
  rw [perm_iff_count]; intro x
  have := enqueue_true_count h x
  simp only [count_cons_one]; omega

theorem oids_perm {l1 l2 : List Msg} (h : l1.Perm l2) : (oids l1).Perm (oids l2) := h.map _

/-- adding a waiting object that does not carry the tag -/
theorem TagInv.add_of {s : Irc} (h : TagInv s) (m : Msg) (s' : Irc)
    (hp : ∀ o ∈ oids s'.pending, o = m.oid ∨ o ∈ oids s.pending) (he : s'.echoed = s.echoed)
    (hn : s.nextOid ≤ s'.nextOid) (hf : s'.cfg = s.cfg)
    (hm : m.oid ∉ s.echoed) (hk : ∀ k, m.oid = .int k → k < s'.nextOid) : TagInv s' := by
  refine ⟨?_, ?_, ?_, by rw [he]; exact h.echoedInt, by rw [hf]; exact h.filters⟩
  · intro o ho; rw [he]
    rcases hp o ho with ho | ho
    · rw [ho]; exact hm
    · exact h.untagged o ho
  · intro k hk'
    rcases hp _ hk' with hk' | hk'
    · exact hk k hk'.symm
    · exact Nat.lt_of_lt_of_le (h.intPending k hk') hn
  · intro k hk'; rw [he] at hk'; exact Nat.lt_of_lt_of_le (h.intEchoed k hk') hn

theorem TagInv.add {s : Irc} (h : TagInv s) (m : Msg) (s' : Irc)
    (hp : ∀ o ∈ oids s'.pending, o = m.oid ∨ o ∈ oids s.pending) (he : s'.echoed = s.echoed)
    (hn : s.nextOid ≤ s'.nextOid) (hf : s'.cfg = s.cfg)
    (hm : (∃ k, m.oid = .ext k) ∨ (∃ k, m.oid = .int k ∧ s.nextOid ≤ k ∧ k < s'.nextOid)) : TagInv s' := by
  refine h.add_of m s' hp he hn hf ?_ ?_
  · rcases hm with ⟨k, hk⟩ | ⟨k, hk, h1, _⟩
    · rw [hk]; intro hin; obtain ⟨j, hj⟩ := h.echoedInt _ hin; cases hj
    · rw [hk]; intro hin; have := h.intEchoed k hin; omega
  · intro k hk
    rcases hm with ⟨j, hj⟩ | ⟨j, hj, _, h2⟩
    · rw [hj] at hk; cases hk
    · rw [hj] at hk; injection hk with hk; omega

def TagStep (s : Irc) (r : Irc × List Ev) : Prop :=
  TagInv s → TagInv r.1 ∧ ∀ e ∈ r.2, e.notLost = true

theorem TagStep.trans {s s1 s2 : Irc} {e1 e2 : List Ev} (h1 : TagStep s (s1, e1))
    (h2 : TagStep s1 (s2, e2)) : TagStep s (s2, e1 ++ e2) := by
  intro hi
  obtain ⟨a1, a2⟩ := h1 hi
  obtain ⟨b1, b2⟩ := h2 a1
  exact ⟨b1, forall_mem_append.mpr ⟨a2, b2⟩⟩

theorem mem_oids_perm {l1 l2 : List Msg} (h : l1.Perm l2) {o : Oid} : o ∈ oids l1 ↔ o ∈ oids l2 :=
  (oids_perm h).mem_iff

/-- an object a caller may hand over: one of its own, or an internal one that exists and is not an echo copy -/
def Sendable (s : Irc) (m : Msg) : Prop :=
  (∃ k, m.oid = .ext k) ∨ (∃ k, m.oid = .int k ∧ k < s.nextOid ∧ Oid.int k ∉ s.echoed)

theorem TagInv.accept {s : Irc} (hi : TagInv s) {m : Msg} (hm : Sendable s m) (s' : Irc)
    (hp : s'.pending.Perm (m :: s.pending)) (he : s'.echoed = s.echoed) (hn : s'.nextOid = s.nextOid)
    (hf : s'.cfg = s.cfg) : TagInv s' := by
  refine hi.add_of m s' (fun o ho => ?_) he (Nat.le_of_eq hn.symm) hf ?_ ?_
  · exact mem_cons.mp ((mem_oids_perm hp).mp ho)
  · rcases hm with ⟨k, hk⟩ | ⟨k, hk, _, h3⟩
    · rw [hk]; intro hin; obtain ⟨j, hj⟩ := hi.echoedInt _ hin; cases hj
    · rw [hk]; exact h3
  · intro k hk
    rcases hm with ⟨j, hj⟩ | ⟨j, hj, h2, _⟩
    · rw [hj] at hk; cases hk
    · rw [hj] at hk; injection hk with hk; omega

theorem Offer.tag {s : Irc} {m : Msg} {f : Bool} {r : Irc × List Ev} (h : Offer s m f r) (hm : Sendable s m) :
    TagStep s r := by
  intro hi
  cases h with
  | queued _ he =>
    exact ⟨hi.accept hm _ ((Perm.append_left _ (enqueue_true_perm he)).trans perm_middle) rfl rfl rfl,
      by simp [Ev.notLost]⟩
  | sent =>
    refine ⟨hi.accept hm _ ?_ rfl rfl rfl, by simp [Ev.notLost]⟩
    show ((s.fast ++ [m]) ++ s.queue.all).Perm (m :: (s.fast ++ s.queue.all))
    simp only [append_assoc, singleton_append]; exact perm_middle
  | refused => exact ⟨hi, by simp [Ev.notLost]⟩

theorem TagInv.bump {s : Irc} (h : TagInv s) : TagInv { s with nextOid := s.nextOid + 1 } :=
  h.of_sub (fun _ ho => ho) rfl (Nat.le_succ _) rfl

theorem sendConnect_tag (cs : List Content) : ∀ (s : Irc), TagStep s (sendConnect s cs) := by
  induction cs with
  | nil => intro s hi; exact ⟨hi, by intro e h; cases h⟩
  | cons c cs ih =>
    intro s
    refine TagStep.trans (fun hi => ?_) (ih _)
    -- the new object's number is the next one, above every tagged one
    have hfresh : Oid.int s.nextOid ∉ s.echoed := fun hin => Nat.lt_irrefl _ (hi.intEchoed _ hin)
    exact (sendMsg_offer { s with nextOid := s.nextOid + 1 } ⟨.int s.nextOid, c⟩).tag
      (Or.inr ⟨s.nextOid, rfl, Nat.lt_succ_self _, hfresh⟩) hi.bump

theorem reset_tag (s : Irc) : TagStep s (reset s) := by
  intro hi
  refine ⟨?_, fun e he => Ev.notLost_of_admin (reset_admin s e he)⟩
  have hclear : TagInv (cleared s) :=
    ⟨fun o ho => (by cases ho), fun k hk => (by cases hk), hi.intEchoed, hi.echoedInt, hi.filters⟩
  rw [reset_cleared]
  unfold queueConnectMessages
  split
  · exact hclear
  · exact (sendConnect_tag _ _ hclear).1

theorem noMsg_tag (s : Irc) : TagStep s (noMsg s) := fun hi =>
  ⟨(noMsg_state s).symm ▸ hi, fun e he => Ev.notLost_of_admin (noMsg_admin s e he)⟩

theorem pingBranch_tag (s : Irc) : TagStep s (pingBranch s) := fun hi =>
  pingBranch_cases (P := fun r => TagInv r.1 ∧ ∀ e ∈ r.2, e.notLost = true)
    (fun _ _ _ _ => by
      obtain ⟨h1, h2⟩ := reset_tag s hi
      exact ⟨h1, forall_mem_cons.mpr ⟨rfl, h2⟩⟩)
    (fun _ _ _ _ _ =>
      -- the ping is a new internal object: its number is the next one, above every tagged one
      have hfresh : Oid.int s.nextOid ∉ s.echoed := fun hin => Nat.lt_irrefl _ (hi.intEchoed _ hin)
      have hb : TagInv { s with lastPing := s.now, outstandingPing := true, nextOid := s.nextOid + 1 } :=
        hi.of_sub (fun _ ho => ho) rfl (Nat.le_succ _) rfl
      (queueMsg_offer _ _).tag (Or.inr ⟨s.nextOid, rfl, Nat.lt_succ_self _, hfresh⟩) hb)
    ⟨hi, by simp⟩

theorem Removes.preInv {s s0 : Irc} {f : Bool} {m : Msg} (hr : Removes s f m s0) (hi : TagInv s) :
    PreInv s0 m := by
  cases hr with
  | fast hf => exact PreInv.of_sub hi (by intro o ho; simpa [oids, Irc.pending, hf] using ho) rfl rfl rfl
  | @queue q' m hf _ hq =>
    refine PreInv.of_sub hi (fun o ho => ?_) rfl rfl rfl
    have hperm : (m :: (s.fast ++ q'.all)).Perm (s.fast ++ s.queue.all) := by
      rw [hf]; simpa using (dequeue_msg_perm hq).symm
    exact (mem_oids_perm hperm).mp ho

theorem takeAux_tag : ∀ (fuel : Nat) (s : Irc), TagStep s (takeAux fuel s) :=
  takeAux_lift (fun s hi => ⟨hi, by simp⟩) TagStep.trans
    (fun {s f m s0 s1 d} hr hd hi => by
      obtain ⟨h1, h2⟩ := deliver_tag (hr.preInv hi) hd
      refine ⟨h2, fun e he => ?_⟩
      cases mem_singleton.mp he
      cases d with
      | lost o => exact absurd rfl (h1 o)
      | out o => rfl
      | dropped => rfl)
    (fun s hi => ⟨hi, by simp [Ev.notLost]⟩)
    (fun {s q' m} _ hq hi => by
      refine ⟨hi.of_sub (fun o ho => ?_) rfl (Nat.le_refl _) rfl, by simp [Ev.notLost]⟩
      exact (mem_oids_perm (Perm.append_left s.fast (dequeue_rotated_perm hq))).mp ho)
    (fun s _ _ => pingBranch_tag s) noMsg_tag

/-- every `queueMsg`/`sendMsg` is given a caller-made object (possibly one handed over before);
every configuration change installs well-behaved filters -/
def OpsExt : List Op → Prop
  | [] => True
  | .queue m :: ops => (∃ k, m.oid = .ext k) ∧ OpsExt ops
  | .send m :: ops => (∃ k, m.oid = .ext k) ∧ OpsExt ops
  | .config c :: ops => (∀ f ∈ c.filters, FilterOk f) ∧ OpsExt ops
  | _ :: ops => OpsExt ops

theorem run_tag : ∀ (ops : List Op) (s : Irc), TagInv s → OpsExt ops → ∀ e ∈ (run s ops).2, e.notLost = true
  | [], _, _, _ => by intro e h; cases h
  | op :: ops, s, hi, ho => by
    have key : TagStep s (step s op) ∧ OpsExt ops := by
      cases op using Op.casesSilent with
      | queue m => exact ⟨(queueMsg_offer s m).tag (Or.inl ho.1), ho.2⟩
      | send m => exact ⟨(sendMsg_offer s m).tag (Or.inl ho.1), ho.2⟩
      | take => exact ⟨takeAux_tag _ s, ho⟩
      | die =>
        refine ⟨fun hi => ?_, ho⟩
        show TagInv (die s).1 ∧ ∀ e ∈ (die s).2, e.notLost = true
        unfold die; dsimp only
        split <;> exact ⟨hi.of_sub (fun _ h => h) rfl (Nat.le_refl _) rfl, by simp [Ev.notLost]⟩
      | reset => exact ⟨reset_tag s, ho⟩
      | config c =>
        exact ⟨fun hi => ⟨⟨hi.untagged, hi.intPending, hi.intEchoed, hi.echoedInt, ho.1⟩,
          by simp [step, Ev.notLost]⟩, ho.2⟩
      | silent op h =>
        have ho' : OpsExt ops := by cases h <;> exact ho
        obtain ⟨_, _, _, _, _, _, h⟩ := step_silent s h
        rw [h]
        exact ⟨fun hi => ⟨hi.of_sub (fun _ h => h) rfl (Nat.le_refl _) rfl, by simp⟩, ho'⟩
    obtain ⟨h1, h3⟩ := key.1 hi
    exact forall_mem_append.mpr ⟨h3, run_tag ops _ h1 key.2⟩

theorem lostOf_nil_of_notLost : ∀ (evs : List Ev), (∀ e ∈ evs, e.notLost = true) → lostOf evs = []
  | [], _ => rfl
  | e :: r, h => by
    have h1 := h e mem_cons_self
    have ih := lostOf_nil_of_notLost r (fun x hx => h x (mem_cons_of_mem _ hx))
    cases e <;> first | (simpa [lostOf] using ih) | cases h1

end C19
