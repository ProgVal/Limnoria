/-
C19 — property theorems.  (`Reentrant` and `Threads` are imported so that their property theorems,
stated where they are proved, are part of this module's closure.)

Vocabulary: `run s ops` = final state and event trace of the operations `ops` (any interleaving
of queueMsg / sendMsg / takeMsg / die / reset / clock ticks / MOTD end / PONG / echo-message
(un)acknowledged / configuration changes — the filters are part of the configuration) from an
arbitrary state `s`; `life c now ops` = the same from a freshly constructed `Irc`.
-/
import LimnoriaModel.C19.Echo
import LimnoriaModel.C19.Live
import LimnoriaModel.C19.Ping
import LimnoriaModel.C19.Reentrant
import LimnoriaModel.C19.Threads
namespace C19
open Py List

/-- Facts about the *extracted* tables (`_high`, `_low`, the rate-limited command) on which the
priority and JOIN-rate theorems rest; re-checked against what `/repo/src/irclib.py` says now. -/
theorem tables_ok : TablesOk Gen.highPriority Gen.lowPriority Gen.rateLimitedCommand := by decide

/-- the commands the property statement calls urgent protocol messages / bulk -/
def urgentCore : List Str :=
  [['P', 'O', 'N', 'G'], ['M', 'O', 'D', 'E'], ['K', 'I', 'C', 'K'], ['N', 'I', 'C', 'K'], ['P', 'A', 'S', 'S']]
def bulkCore : List Str :=
  [['P', 'R', 'I', 'V', 'M', 'S', 'G'], ['N', 'O', 'T', 'I', 'C', 'E'], ['J', 'O', 'I', 'N'], ['W', 'H', 'O'],
   ['P', 'I', 'N', 'G']]
def normalCore : List Str := [['Q', 'U', 'I', 'T'], ['P', 'A', 'R', 'T'], ['T', 'O', 'P', 'I', 'C'], ['C', 'A', 'P']]

/-- the extracted tables put them where the statement expects them -/
def ClassesOk : Prop :=
  (∀ c ∈ urgentCore, classOf c = .high) ∧ (∀ c ∈ bulkCore, classOf c = .low) ∧
  (∀ c ∈ normalCore, classOf c = .normal) ∧ Gen.rateLimitedCommand = ['J', 'O', 'I', 'N'] ∧
  (∀ c ∈ [['P', 'R', 'I', 'V', 'M', 'S', 'G'], ['N', 'O', 'T', 'I', 'C', 'E'], ['T', 'A', 'G', 'M', 'S', 'G']],
      c ∈ Gen.echoCommands)

instance : Decidable ClassesOk := by unfold ClassesOk; infer_instance

/-- "Urgent protocol messages before normal ones before bulk ones": PONG/MODE/KICK/NICK/PASS are
in the high class, PRIVMSG/NOTICE/JOIN/WHO/PING in the low class, QUIT/PART/TOPIC/CAP in neither;
the rate-limited command is JOIN — according to the tables extracted from the source now. -/
theorem classes_ok : ClassesOk := by decide

/-! ## no loss, no duplication -/

/-- **Conservation.**  Whatever the operations and the filters: the messages that were waiting
plus those accepted since are exactly (as multisets) those handed to the driver, those a filter
dropped, those lost to the echo-emulation assertion, those thrown away by `reset()` and those
still waiting.  Nothing is duplicated, nothing vanishes otherwise. -/
theorem conservation (s : Irc) (ops : List Op) :
    (s.pending ++ accOf (run s ops).2).Perm
      (tookOf (run s ops).2 ++ dropOf (run s ops).2 ++ lostOf (run s ops).2 ++
        discOf (run s ops).2 ++ (run s ops).1.pending) :=
  (run_conserves ops s).perm

/-- the same for a whole life of an `Irc` object (nothing waits before it is constructed) -/
theorem conservation_life (c : Cfg) (now : Nat) (ops : List Op) :
    (accOf (life c now ops).2).Perm
      (tookOf (life c now ops).2 ++ dropOf (life c now ops).2 ++ lostOf (life c now ops).2 ++
        discOf (life c now ops).2 ++ (life c now ops).1.pending) := by
  have h : Conserves (blank c now) (life c now ops) :=
    Conserves.trans (e1 := [_]) (fun x => by cnt)
      ((queueConnectMessages_conserves (blank c now)).trans (run_conserves ops _))
  exact h.perm

/-- **Refusal is explicit and has no effect**: `queueMsg` answers `False` exactly when the bot
is quitting or an equal message is queued while duplicate refusal is on; the state is unchanged. -/
theorem queueMsg_refused_iff (s : Irc) (m : Msg) :
    (queueMsg s m).2 = [.refused false m] ↔
      (s.zombie = true ∨ (s.queue.contains m = true ∧ s.cfg.dupRefuse = true)) := by
  have h := queueMsg_offer s m
  generalize queueMsg s m = r at h ⊢
  cases h with
  | queued hz he =>
    have := (enqueue_true he).1
    simp [hz] at this ⊢
    exact this
  | refused hr =>
    refine ⟨fun _ => ?_, fun _ => rfl⟩
    rcases hr with hz | ⟨_, hc⟩
    · exact .inl hz
    · exact .inr (by simpa using hc)

theorem queueMsg_refused_state (s : Irc) (m : Msg) (h : (queueMsg s m).2 = [.refused false m]) :
    (queueMsg s m).1 = s := by
  have ho := queueMsg_offer s m
  generalize queueMsg s m = r at ho h ⊢
  cases ho with
  | queued => simp at h
  | refused => rfl

/-- otherwise it answers `True` and the message is appended to the list of its class -/
theorem queueMsg_accepted (s : Irc) (m : Msg)
    (h : ¬ (s.zombie = true ∨ (s.queue.contains m = true ∧ s.cfg.dupRefuse = true))) :
    (queueMsg s m).2 = [.accepted false m] ∧
    (queueMsg s m).1.pending.Perm (s.pending ++ [m]) := by
  have hne : (queueMsg s m).2 ≠ [.refused false m] := fun h' => h ((queueMsg_refused_iff s m).mp h')
  have ho := queueMsg_offer s m
  generalize queueMsg s m = r at ho hne ⊢
  cases ho with
  | queued hz he =>
    refine ⟨rfl, ?_⟩
    rw [perm_iff_count]; intro x
    have := enqueue_true_count he x
    simp only [Irc.pending, count_append, count_cons_one, count_nil] at *
    omega
  | refused => exact absurd rfl hne

/-! ## priority and first-in-first-out -/

/-- **Fast queue first, then the most urgent class, oldest first.**  In any reachable state
(`FifoInv`), a message that `takeMsg` takes from the regular queue (to hand it to the driver, or
to lose it to a filter) is the head of the most urgent non-empty class list; no queued message
has a more urgent class; the throttle interval has passed; and every message of the fast queue
was dealt with first (each was dropped by a filter in this very call). -/
theorem priority (s : Irc) (h : Hist) (hi : FifoInv s h) (e : Ev) (m : Msg)
    (he : e ∈ (takeMsg s).2) (hs : e.srcQ = some m) :
    ((∃ r, s.queue.high = m :: r) ∨ (s.queue.high = [] ∧ ∃ r, s.queue.normal = m :: r) ∨
      (s.queue.high = [] ∧ s.queue.normal = [] ∧ ∃ r, s.queue.low = m :: r)) ∧
    (∀ x ∈ s.queue.all, (classOf m.cmd).rank ≤ (classOf x.cmd).rank) ∧
    s.lastTake + s.cfg.throttle < s.now ∧
    (∀ x ∈ s.fast, Ev.dropped true x s.now ∈ (takeMsg s).2) := by
  obtain ⟨⟨q', hq⟩, ht, hf⟩ := takeAux_fromQueue _ s e m he hs
  exact ⟨dequeue_msg_head hq, dequeue_msg_best hq hi.cls, ht, hf⟩

/-- a message taken from the fast queue is its head -/
theorem fast_first (s : Irc) (m : Msg) (rest : List Msg) (hf : s.fast = m :: rest) :
    ∃ e r, (takeMsg s).2 = e :: r ∧
      ((∃ o, e = .took true m o s.now) ∨ (∃ o, e = .lost true m o s.now) ∨ e = .dropped true m s.now) := by
  unfold takeMsg takeAux takeBody
  simp only [hf]
  split
  · exact ⟨_, _, rfl, Or.inl ⟨_, rfl⟩⟩
  · exact ⟨_, _, rfl, Or.inr (Or.inl ⟨_, rfl⟩)⟩
  · exact ⟨_, _, rfl, Or.inr (Or.inr rfl)⟩

/-- **First-in-first-out inside a class**, for a whole life: per class, the sequence of accepted
messages (since the last `reset()`) is the sequence of those that left followed by those still
waiting — exactly, in order, for the fast queue and the high and normal classes; for the low
class as multisets, and in order once the rate-limited command (JOIN) is disregarded: a held-back
JOIN only moves to the back, it is never dropped and nothing else is reordered. -/
theorem fifo (c : Cfg) (now : Nat) (ops : List Op) :
    FifoInv (life c now ops).1 (Hist.empty.pushAll (life c now ops).2) := by
  unfold life init
  dsimp only
  have h0 : FifoInv (blank c now) Hist.empty := FifoInv.of_empty _ rfl rfl
  have a : FifoStep (blank c now) ((queueConnectMessages (blank c now)).1,
      Ev.config c.throttle c.joinLimit :: (queueConnectMessages (blank c now)).2) := by
    intro h hi
    exact queueConnectMessages_fifo (blank c now) h hi
  exact FifoStep.trans a (run_fifo ops _) Hist.empty h0

/-- the same from any state satisfying the invariant -/
theorem fifo_run (s : Irc) (h : Hist) (hi : FifoInv s h) (ops : List Op) :
    FifoInv (run s ops).1 (h.pushAll (run s ops).2) := run_fifo ops s h hi

/-! ## a quitting bot drains its queues -/

/-- **The driver is killed only with empty queues.**  Whatever the state and the operation: if
the step calls `driver.die()`, then either it is `die()` itself on a bot that has not finished
connecting (no end of MOTD yet — by design it closes at once), or both queues are empty at that
point (after the repair of `takeMsg`: the zombie branch used to fire whenever no message was
returned — throttle, held-back JOIN, filter returning None). -/
theorem quit_drains (s : Irc) (op : Op) (h : Ev.driverDie ∈ (step s op).2) :
    (op = .die ∧ s.afterConnect = false) ∨ (step s op).1.drained := by
  cases op with
  | queue m => exact absurd h (queueMsg_offer s m).die
  | send m => exact absurd h (sendMsg_offer s m).die
  | take => exact Or.inr (takeAux_dieOk _ s h)
  | die =>
    left
    unfold step die at h
    dsimp only at h
    split at h
    · rename_i hc; exact ⟨rfl, by simpa using hc⟩
    · cases h
  | reset => exact Or.inr (reset_dieOk s h)
  | tick dt => cases h
  | connected => cases h
  | pong => cases h
  | capEcho b => cases h
  | capLabel b => cases h
  | config c => simp [step] at h

/-! ## throttle and JOIN rate -/

/-- the state a freshly constructed `Irc` is in satisfies the invariants -/
theorem init_inv (c : Cfg) (now : Nat) :
    RateInv (init c now).1 ⟨c.throttle, c.joinLimit, none, none⟩ ∧ ClassInv (init c now).1.queue ∧
    Rate.run ⟨0, 0, none, none⟩ (init c now).2 = some ⟨c.throttle, c.joinLimit, none, none⟩ := by
  obtain ⟨⟨fa, n, h⟩, hev⟩ := queueConnectMessages_spec (blank c now)
  unfold init
  dsimp only
  rw [h]
  refine ⟨⟨rfl, rfl, (by intro l h; cases h), Nat.zero_le _, (by intro l h; cases h), Nat.zero_le _⟩, ?_, ?_⟩
  · exact ⟨by simp [blank, Queue.empty], by simp [blank, Queue.empty], by simp [blank, Queue.empty]⟩
  · simp only [Rate.run, Rate.push]
    exact Rate.run_neutral _ _ (fun e he => Ev.rateNeutral_of_connecting (hev e he))

/-- **Every trace passes the rate checker** `Rate.run` (which fails as soon as a queued message is
released ≤ throttleTime after the previous one, or a queued JOIN less than rateLimit.join after the
previous queued JOIN, counted since the last `reset()` and with the rates in force at the release). -/
theorem rates (c : Cfg) (now : Nat) (ops : List Op) :
    ∃ st', Rate.run ⟨0, 0, none, none⟩ (life c now ops).2 = some st' := by
  obtain ⟨hi, hc, h0⟩ := init_inv c now
  obtain ⟨st', h1, _⟩ := run_rate tables_ok ops (init c now).1 _ hi hc
  refine ⟨st', ?_⟩
  unfold life
  dsimp only
  rw [Rate.run_append, h0]
  exact h1

/-- **Throttle / JOIN rate, spelled out.**  Take any two releases of queued messages in the trace
of a life, with no `reset()` and no change of the rates between them.  They are more than the
throttle time (in force when the first was released) apart, and if both are JOINs at least the
JOIN rate limit apart. -/
theorem throttle_join_rate (c : Cfg) (now : Nat) (ops : List Op) (a b d : List Ev)
    (m1 o1 : Msg) (t1 : Nat) (m2 o2 : Msg) (t2 : Nat)
    (htr : (life c now ops).2 = a ++ Ev.took false m1 o1 t1 :: (b ++ Ev.took false m2 o2 t2 :: d))
    (hb : ∀ e ∈ b, e.keepsRates = true) :
    ∃ st1, Rate.run ⟨0, 0, none, none⟩ a = some st1 ∧ t1 + st1.thr < t2 ∧
      (isJoin m1 = true → isJoin m2 = true → t1 + st1.jl ≤ t2) := by
  obtain ⟨st', h⟩ := rates c now ops
  rw [htr] at h
  exact Rate.run_spec _ st' a b d m1 o1 t1 m2 o2 t2 h hb

/-- with a configuration that is never changed the rates are the configured ones:
consecutive (and hence any two) releases of queued messages on one connection are more than
`throttleTime` apart, queued JOINs at least `rateLimit.join` apart -/
theorem throttle_join_rate_fixed (c : Cfg) (now : Nat) (ops : List Op)
    (hops : ∀ op ∈ ops, op.isConfig = false) (a b d : List Ev)
    (m1 o1 : Msg) (t1 : Nat) (m2 o2 : Msg) (t2 : Nat)
    (htr : (life c now ops).2 = a ++ Ev.took false m1 o1 t1 :: (b ++ Ev.took false m2 o2 t2 :: d))
    (hb : ∀ e ∈ b, ∀ ms, e ≠ Ev.discarded ms) :
    t1 + c.throttle < t2 ∧ (isJoin m1 = true → isJoin m2 = true → t1 + c.joinLimit ≤ t2) := by
  -- no config event after the first one
  have hall : ∀ e ∈ (run (init c now).1 ops).2, e.isConfig = false := run_noConfig ops _ hops
  have a5 := (queueConnectMessages_spec (blank c now)).2
  have hlife : (life c now ops).2 = Ev.config c.throttle c.joinLimit ::
      ((queueConnectMessages (blank c now)).2 ++ (run (init c now).1 ops).2) := by
    unfold life init; rfl
  have hrest : ∀ e ∈ (queueConnectMessages (blank c now)).2 ++ (run (init c now).1 ops).2,
      e.isConfig = false :=
    forall_mem_append.mpr ⟨fun e h => Ev.isConfig_of_admin (Ev.admin_of_connecting (a5 e h)), hall⟩
  -- `a` starts with the config event
  cases a with
  | nil => rw [hlife] at htr; injection htr with h1 _; cases h1
  | cons e0 a' =>
    rw [hlife] at htr
    injection htr with h1 h2
    subst h1
    have hb' : ∀ e ∈ b, e.keepsRates = true := by
      intro e he
      have hm : e ∈ (queueConnectMessages (blank c now)).2 ++ (run (init c now).1 ops).2 := by
        rw [h2]; simp [he]
      have := hrest e hm
      cases e with
      | discarded ms => exact absurd rfl (hb _ he ms)
      | config t j => cases this
      | _ => rfl
    have htr' : (life c now ops).2 = (Ev.config c.throttle c.joinLimit :: a') ++
        Ev.took false m1 o1 t1 :: (b ++ Ev.took false m2 o2 t2 :: d) := by
      rw [hlife, h2]; rfl
    obtain ⟨st1, r1, r2, r3⟩ := throttle_join_rate c now ops _ b d m1 o1 t1 m2 o2 t2 htr' hb'
    simp only [Rate.run, Rate.push] at r1
    have ha' : ∀ e ∈ a', e.isConfig = false := by
      intro e he
      apply hrest e
      rw [h2]; simp [he]
    obtain ⟨f1, f2⟩ := Rate.run_rates_fixed a' _ st1 r1 ha'
    rw [f1] at r2; rw [f2] at r3
    exact ⟨r2, r3⟩

/-! ## a filter returning None -/

/-- **The loop of `takeMsg` is a fixed point of its body**: `takeMsg` is the body with `takeMsg` itself
for the next round (the bound `pending.length + 1` is never reached). -/
theorem takeMsg_recursive (s : Irc) : takeMsg s = takeBody takeMsg s := takeMsg_unfold s

/-- **A filter returning None consumes only that message** (fast queue): the call carries on with
the next message exactly as if the dropped one had never been queued. -/
theorem filter_no_stall_fast (s : Irc) (m : Msg) (rest : List Msg) (hf : s.fast = m :: rest)
    (n : Nat) (hd : runFilters s.chain s.nextOid m = (none, n)) :
    takeMsg s =
      ((takeMsg { s with fast := rest, nextOid := n }).1,
       .dropped true m s.now :: (takeMsg { s with fast := rest, nextOid := n }).2) := by
  rw [takeMsg_unfold s]
  unfold takeBody
  simp only [hf]
  have : deliver { s with fast := rest } m = ({ s with fast := rest, nextOid := n }, .dropped) := by
    have hc : Irc.chain { s with fast := rest } = s.chain := rfl
    simp only [deliver, hc, hd]
  simp only [this]

/-- … and for a message of the regular queue: only that message is removed; the rest of the call
is the call one would make right after a normal release (the messages behind wait one throttle
interval, no longer; with `conservation` nothing else is consumed). -/
theorem filter_no_stall_queue (s : Irc) (hf : s.fast = []) (hq : s.queue.isEmpty = false)
    (ht : s.lastTake + s.cfg.throttle < s.now) (q' : Queue) (m : Msg)
    (hdq : s.queue.dequeue s.cfg.joinLimit s.now = (q', .msg m))
    (n : Nat) (hd : runFilters s.chain s.nextOid m = (none, n)) :
    takeMsg s =
      ((takeMsg { s with lastTake := s.now, queue := q', nextOid := n }).1,
       .dropped false m s.now :: (takeMsg { s with lastTake := s.now, queue := q', nextOid := n }).2) := by
  rw [takeMsg_unfold s]
  unfold takeBody
  have hnle : ¬ s.now ≤ s.lastTake + s.cfg.throttle := Nat.not_le.mpr ht
  have : deliver { s with lastTake := s.now, queue := q' } m
      = ({ s with lastTake := s.now, queue := q', nextOid := n }, .dropped) := by
    have hc : Irc.chain { s with lastTake := s.now, queue := q' } = s.chain := rfl
    simp only [deliver, hc, hd]
  simp only [hf] at this
  simp only [hf, hq, Bool.not_false, if_true, hnle, if_false, hdq, this]

/-- **Nothing can stall the queues**: whatever the filters do, as soon as something is waiting
and the clock is past the throttle time and the JOIN limit, a `takeMsg` call removes a message
from a queue (it is handed to the driver, dropped by a filter, or — the known finding — lost). -/
theorem no_stall (s : Irc) (hp : s.pending ≠ []) (ht : s.lastTake + s.cfg.throttle < s.now)
    (hj : s.queue.lastJoin + s.cfg.joinLimit ≤ s.now) :
    ∃ e ∈ (takeMsg s).2, e.consumes = true :=
  takeMsg_progress s hp ht hj

/-- **A quitting bot drains its queues, then closes** (liveness, with `quit_drains` for safety):
a zombie in a reachable state (`ZInv`), with the clock advancing by more than the throttle time
and at least the JOIN limit between `takeMsg` calls, has empty queues after at most as many
calls as messages were waiting, and the call after that kills the driver. -/
theorem quit_completes (s : Irc) (hz : ZInv s) (d : Nat) (hd : s.cfg.throttle < d)
    (hj : s.cfg.joinLimit ≤ d) :
    ∃ k, k ≤ s.pending.length ∧ (run s (drainOps d k)).1.pending = [] ∧
      Ev.driverDie ∈ (run s (drainOps d (k + 1))).2 :=
  quit_completes_aux tables_ok d s.pending.length s (Nat.le_refl _) hz hd hj

/-! ## the one way a message is lost -/

/-- A message is lost (`takeMsg` returns None after removing it) only when the object coming out
of the filter chain already carries the `emulatedEcho` tag … -/
theorem lost_only_tagged (s : Irc) (op : Op) (f : Bool) (src out : Msg) (t : Nat)
    (h : Ev.lost f src out t ∈ (step s op).2) : out.oid ∈ s.echoed :=
  (step_echo s op).1 f src out t h

/-- … and since the repair of `takeMsg` (the emulated echo is a tagged *copy*) the tagged objects
are only such copies, made inside the bot: no message a caller hands over ever carries the tag. -/
theorem tagged_are_echo_copies (c : Cfg) (now : Nat) (ops : List Op) : EchoInv (life c now ops).1 := by
  unfold life
  dsimp only
  apply run_echoInv
  intro o ho
  have : (init c now).1.echoed = [] := queueConnectMessages_echoed (blank c now)
  rw [this] at ho; cases ho

/-- conservation without a loss term for a trace that has no `lost` event -/
theorem conservation_partial (c : Cfg) (now : Nat) (ops : List Op)
    (hno : lostOf (life c now ops).2 = []) :
    (accOf (life c now ops).2).Perm
      (tookOf (life c now ops).2 ++ dropOf (life c now ops).2 ++
        discOf (life c now ops).2 ++ (life c now ops).1.pending) := by
  have := conservation_life c now ops
  rw [hno, append_nil] at this
  exact this

/-- **Nothing is lost** (after the repair; this was the known finding C19-reused-object-lost):
whatever callers queue or send — the same object any number of times — and whatever the filters
do, as long as each returns its argument or a message it has just built (`FilterOk`; the only
way to lose a message is to send back an echo copy the bot itself made), no message is swallowed
by the echo-emulation assertion … -/
theorem no_loss (c : Cfg) (hc : ∀ f ∈ c.filters, FilterOk f) (now : Nat) (ops : List Op)
    (ho : OpsExt ops) : lostOf (life c now ops).2 = [] := by
  apply lostOf_nil_of_notLost
  have hb : TagInv (blank c now) :=
    ⟨fun o ho => (by cases ho), fun k hk => (by cases hk), fun k hk => (by cases hk),
      fun o ho => (by cases ho), hc⟩
  obtain ⟨h1, h2⟩ := sendConnect_tag c.connectMsgs (blank c now) hb
  exact forall_mem_append.mpr ⟨forall_mem_cons.mpr ⟨rfl, h2⟩, run_tag ops _ h1 ho⟩

/-- … hence **the conservation law in full**: every accepted message is handed to the driver,
dropped by a filter, discarded by `reset()` or still waiting — exactly once. -/
theorem conservation_full (c : Cfg) (hc : ∀ f ∈ c.filters, FilterOk f) (now : Nat)
    (ops : List Op) (ho : OpsExt ops) :
    (accOf (life c now ops).2).Perm
      (tookOf (life c now ops).2 ++ dropOf (life c now ops).2 ++
        discOf (life c now ops).2 ++ (life c now ops).1.pending) :=
  conservation_partial c now ops (no_loss c hc now ops ho)

/-! ## counter-example and non-vacuity -/

def exCfg : Cfg :=
  { throttle := 1, joinLimit := 3, dupRefuse := true, pingOn := false, pingInterval := 120,
    connectMsgs := [⟨[], ['N', 'I', 'C', 'K'], [['b', 'o', 't']], []⟩], filters := [] }

def privmsg (n : Nat) : Msg :=
  ⟨.ext n, ⟨[], ['P', 'R', 'I', 'V', 'M', 'S', 'G'], [['#', 'a'], ['h', 'i']], []⟩⟩
def joinMsg (n : Nat) : Msg := ⟨.ext n, ⟨[], ['J', 'O', 'I', 'N'], [['#', 'a']], []⟩⟩
def joinB (n : Nat) : Msg := ⟨.ext n, ⟨[], ['J', 'O', 'I', 'N'], [['#', 'b']], []⟩⟩
def quitMsg (n : Nat) : Msg := ⟨.ext n, ⟨[], ['Q', 'U', 'I', 'T'], [], []⟩⟩
def modeMsg (n : Nat) : Msg := ⟨.ext n, ⟨[], ['M', 'O', 'D', 'E'], [['#', 'a']], []⟩⟩

/-- the witness of the former finding C19-reused-object-lost: the same object queued again after
it was sent -/
def reuseOps : List Op :=
  [.connected, .take, .queue (privmsg 0), .tick 2, .take, .queue (privmsg 0), .tick 2, .take]

-- both copies are now handed to the driver (`no_loss` / `conservation_full` apply: `OpsExt`)
example : OpsExt reuseOps ∧ lostOf (life exCfg 1000 reuseOps).2 = [] ∧
    tookOf (life exCfg 1000 reuseOps).2 = [⟨.int 0, ⟨[], ['N', 'I', 'C', 'K'], [['b', 'o', 't']], []⟩⟩,
      privmsg 0, privmsg 0] := by
  refine ⟨⟨⟨0, rfl⟩, ⟨0, rfl⟩, trivial⟩, by decide, by decide⟩

/-- an outFilter that drops WHO -/
def dropQuit : Filter := fun _ m => if m.cmd = ['W', 'H', 'O'] then none else some m
def busyCfg : Cfg := { exCfg with filters := [dropQuit] }
def whoMsg (n : Nat) : Msg := ⟨.ext n, ⟨[], ['W', 'H', 'O'], [['#', 'a']], []⟩⟩
/-- a quitting bot with mixed traffic, a dropping filter and the clock moving -/
def busyOps : List Op :=
  [.connected, .take, .queue (privmsg 0), .queue (joinMsg 1), .queue (modeMsg 2), .queue (quitMsg 3),
   .queue (joinB 4), .send (whoMsg 5), .send (modeMsg 6), .queue (privmsg 0), .die, .queue (privmsg 7),
   .tick 2, .take, .tick 2, .take, .take, .tick 2, .take, .tick 2, .take, .tick 1, .take, .tick 1, .take,
   .tick 2, .take, .tick 2, .take, .tick 2, .take]

-- `conservation_partial` is not vacuous (and the run does release, drop, refuse and kill):
example : lostOf (life busyCfg 1000 busyOps).2 = [] := by decide
example : (tookOf (life busyCfg 1000 busyOps).2).length = 7 ∧ dropOf (life busyCfg 1000 busyOps).2 = [whoMsg 5] ∧
    (life busyCfg 1000 busyOps).1.pending = [] ∧ Ev.driverDie ∈ (life busyCfg 1000 busyOps).2 := by decide
-- `queueMsg_refused_iff`: both reasons occur (duplicate, quitting)
example : Ev.refused false (privmsg 0) ∈ (life busyCfg 1000 busyOps).2 ∧
    Ev.refused false (privmsg 7) ∈ (life busyCfg 1000 busyOps).2 := by decide
-- `quit_drains`: a step that kills the driver, with both queues empty
example : Ev.driverDie ∈ (step (run (init busyCfg 1000).1 (busyOps.take 30)).1 .take).2 ∧
    (run (init busyCfg 1000).1 (busyOps.take 30)).1.pending = [] := by decide
-- `priority`: a release from the regular queue with a lower class still waiting
example : ∃ e ∈ (takeMsg (run (init busyCfg 1000).1 (busyOps.take 15)).1).2, e.srcQ = some (modeMsg 2) := by
  decide
-- `throttle_join_rate_fixed`: two queued JOINs are released (the second one held back once)
example : ∃ a b d, (life busyCfg 1000 busyOps).2 =
    a ++ Ev.took false (joinMsg 1) (joinMsg 1) 1010 :: (b ++ Ev.took false (joinB 4) (joinB 4) 1014 :: d) ∧
    (∀ e ∈ b, ∀ ms, e ≠ Ev.discarded ms) := by
  refine ⟨(life busyCfg 1000 busyOps).2.take 19, [Ev.rotated (joinB 4) 1012],
    (life busyCfg 1000 busyOps).2.drop 22, by decide, ?_⟩
  intro e he ms; simp at he; subst he; simp
-- `no_loss`: the filter of the busy run is well behaved
example : ∀ f ∈ busyCfg.filters, FilterOk f := by
  intro f hf
  simp [busyCfg] at hf
  subst hf
  intro n m m' h
  simp only [dropQuit] at h
  split at h
  · cases h
  · injection h with h; subst h; exact Or.inl rfl
-- `quit_completes` / `no_stall`: the state right after `die()` in the run above is a quitting bot
-- with seven messages waiting, and the clock then past every limit
example : let s := (run (init busyCfg 1000).1 (busyOps.take 11)).1
    s.zombie = true ∧ s.lastTake ≤ s.now ∧ s.queue.lastJoin ≤ s.now ∧ s.pending.length = 7 ∧
    s.cfg.throttle < 4 ∧ s.cfg.joinLimit ≤ 4 := by decide
-- `filter_no_stall_fast`: the dropping filter hits the head of the fast queue
example : (run (init busyCfg 1000).1 (busyOps.take 12)).1.fast = [whoMsg 5, modeMsg 6] ∧
    runFilters busyCfg.filters 1 (whoMsg 5) = (none, 2) := by decide
-- `filter_no_stall_queue`
example : let s := (run (init { busyCfg with filters := [fun _ _ => none] } 1000).1 (busyOps.take 5)).1
    s.fast = [] ∧ s.queue.isEmpty = false ∧ s.lastTake + s.cfg.throttle < s.now + 2 := by decide

/-! ## ping timeout → reconnect → reset -/

/-- **Ping timeout**: with both queues empty, after the MOTD, pings on, the interval elapsed and the
last PING unanswered, `takeMsg` makes the driver reconnect, which resets the Irc object: the result is
exactly — nothing is returned to the driver — the state with both queues cleared, the throttle, ping
and echo-message state of a new connection, and the registration messages (new objects), in order,
alone in the fast queue. -/
theorem ping_timeout_reconnects (s : Irc) (hz : s.zombie = false) (hf : s.fast = [])
    (hq : s.queue.isEmpty = true) (hc : s.afterConnect = true) (hp : s.cfg.pingOn = true)
    (ho : s.outstandingPing = true) (ht : s.lastPing + s.cfg.pingInterval < s.now) :
    takeMsg s = (afterReset s, .driverReconnect :: .discarded [] ::
      (connectObjs s.nextOid s.cfg.connectMsgs).map (Ev.accepted true)) := by
  rw [takeMsg_idle_eq s hf hq]
  have hpb : pingBranch s = (afterReset s, .driverReconnect :: .discarded [] ::
      (connectObjs s.nextOid s.cfg.connectMsgs).map (Ev.accepted true)) := by
    simp only [pingBranch, hc, hp, ht, ho, decide_true, Bool.and_self, if_true, reset_eq s hz,
      pending_nil s hf hq]
  rw [hpb]
  simp [noMsg, afterReset, hz]

/-- **`reset()` and the queues**: whatever was waiting is discarded (and reported as such — it is in
the books of `conservation`), the queue of the new connection holds exactly the registration
messages, in order, as new objects; the ping machinery is idle until the next end of MOTD, so a
reconnect cannot trigger another one; a PING left unanswered on the old connection is forgotten. -/
theorem reset_starts_clean (s : Irc) (hz : s.zombie = false) :
    (reset s).1.queue = Queue.empty ∧
    (reset s).1.fast.map (·.c) = s.cfg.connectMsgs ∧
    (∀ m ∈ (reset s).1.fast, ∃ n, m.oid = .int n ∧ s.nextOid ≤ n) ∧
    (reset s).2.head? = some (.discarded s.pending) ∧
    (reset s).1.outstandingPing = false ∧
    pingBranch (reset s).1 = ((reset s).1, []) := by
  rw [reset_eq s hz]
  refine ⟨rfl, connectObjs_contents _ _, ?_, rfl, rfl, pingBranch_idle _ rfl⟩
  intro m hm
  exact connectObjs_oids _ _ m hm

/-- `reset()` of a dying bot queues nothing: the registration is not sent again -/
theorem reset_zombie (s : Irc) (hz : s.zombie = true) :
    (reset s).1.pending = [] ∧ (reset s).2 = .discarded s.pending :: killEvents := by
  have : queueConnectMessages (cleared s) = (cleared s, killEvents) := if_pos hz
  rw [reset_cleared, this]
  exact ⟨rfl, rfl⟩

/-! ## the labeled-response label -/

theorem insertTag_has (k : Str) (v : Option Str) : ∀ (l : List (Str × Option Str)),
    (insertTag k v l).any (fun kv => kv.1 = k) = true
  | [] => by simp [insertTag]
  | kv :: r => by
    unfold insertTag
    split
    · simp
    · simp only [List.any_cons, insertTag_has k v r, Bool.or_true]

/-- **The label step**: with `labeled-response` negotiated the dequeued object itself (same identity)
gets a `label` server tag unless it carries one; prefix, command and arguments are untouched; it never
drops a message.  Without the capability the chain is just the outFilters. -/
theorem label_step (n : Nat) (m : Msg) :
    ∃ m', labelFilter n m = some m' ∧ m'.oid = m.oid ∧ hasLabel m'.c = true ∧
      m'.c.pfx = m.c.pfx ∧ m'.c.cmd = m.c.cmd ∧ m'.c.args = m.c.args ∧
      (hasLabel m.c = true → m' = m) := by
  unfold labelFilter
  by_cases h : hasLabel m.c = true
  · exact ⟨m, by simp [h], rfl, h, rfl, rfl, rfl, fun _ => rfl⟩
  · refine ⟨⟨m.oid, { m.c with tags := insertTag labelKey (some (['a', 'u', 't', 'o'] ++ natDec n)) m.c.tags }⟩,
      by rw [if_neg h], rfl, ?_, rfl, rfl, rfl, fun h' => absurd h' h⟩
    unfold hasLabel
    exact insertTag_has _ _ _

theorem chain_cases (s : Irc) :
    (s.labelAcked = true → s.chain = labelFilter :: s.cfg.filters) ∧
    (s.labelAcked = false → s.chain = s.cfg.filters) := by
  constructor <;> intro h <;> simp [Irc.chain, h]

/-- **Every message handed to the driver is labelled** once `labeled-response` is negotiated (here
with no outFilter in the way: a filter may build a new message without the tag): the `if msg:` block
of `takeMsg` never drops it and what comes out carries a label. -/
theorem delivered_is_labeled (s : Irc) (m : Msg) (hl : s.labelAcked = true) (hf : s.cfg.filters = []) :
    match (deliver s m).2 with
    | .out o => hasLabel o.c = true ∧ o.oid = m.oid
    | .lost o => hasLabel o.c = true ∧ o.oid = m.oid
    | .dropped => False := by
  obtain ⟨m', h1, h2, h3, _⟩ := label_step s.nextOid m
  have hr : runFilters s.chain s.nextOid m = (some m', s.nextOid + 1) := by
    rw [(chain_cases s).1 hl, hf]
    simp only [runFilters, h1]
  unfold deliver
  rw [hr]
  simp only
  by_cases he : (isEchoCmd m'.cmd && !s.echoAcked) = true
  · by_cases hm : m'.oid ∈ s.echoed
    · simp only [he, hm, if_true]; exact ⟨h3, h2⟩
    · simp only [he, hm, if_true, if_false]; exact ⟨h3, h2⟩
  · simp only [he]; exact ⟨h3, h2⟩

/-! ## the ping machinery over histories -/

/-- **One `takeMsg`, however many rounds**: it leaves the ping state alone; or it emits exactly one
PING, at a moment (`PingDue`) when both queues are empty, the MOTD is over, pings are on, the
interval has elapsed since the last one and none is outstanding — and marks it outstanding; or,
with a PING outstanding for a whole interval, it makes the driver reconnect exactly once and the
PING is forgotten. -/
theorem take_ping_cases (s : Irc) : PingOut s (takeMsg s) := takeAux_ping _ s

/-- **A ping time-out discards nothing**: the only thing `takeMsg` ever discards is the (empty) backlog
at a reconnect for an unanswered PING; a message accepted by `queueMsg`/`sendMsg` is never thrown away
by a time-out while it waits. -/
theorem timeout_discards_nothing (s : Irc) : ∀ ms ∈ discs (takeMsg s).2, ms = [] :=
  takeAux_discards_nothing _ s

/-- a PONG clears the outstanding PING -/
theorem pong_clears (s : Irc) : (step s .pong).1.outstandingPing = false := rfl

/-- **Over a whole life of the bot** (callers queue objects of their own): every reconnect by ping
time-out and the PING outstanding at the end, if any, each have a PING of their own
(`reconnects + outstanding ≤ pings`: never two time-outs for one PING, never a time-out without a
PING); and a new PING is only emitted once the previous one was answered, timed out or reset away
(`pings ≤ reconnects + PONGs and resets + outstanding`): at most one PING is outstanding at any time. -/
theorem ping_history (c : Cfg) (now : Nat) (ops : List Op) (h : QExt ops) :
    reconnOf (life c now ops).2 + b2n (life c now ops).1.outstandingPing ≤ pingsOf (life c now ops).2 ∧
    pingsOf (life c now ops).2 ≤
      reconnOf (life c now ops).2 + clearsOf ops + b2n (life c now ops).1.outstandingPing := by
  have hq := queueConnectMessages_quiet (blank c now)
  have hb := run_bal ops (init c now).1 h
  have hi : pingsOf (init c now).2 = 0 ∧ reconnOf (init c now).2 = 0 ∧
      (init c now).1.outstandingPing = false := by
    unfold init
    dsimp only
    rw [pingsOf_cons, reconnOf_cons, hq.1, hq.2.1, hq.2.2]
    exact ⟨rfl, rfl, rfl⟩
  unfold life
  dsimp only
  simp only [PingBal, hi.2.2] at hb
  have hz : b2n false = 0 := rfl
  rw [hz] at hb
  rw [pingsOf_append, reconnOf_append, hi.1, hi.2.1]
  omega

end C19
