/-
C19 — the projections of a trace and conservation; what `enqueue`, `dequeue`, `reset`,
the ping branch and a round of `takeMsg` do, each stated once (`enqueue_true`, `dequeue_spec`,
`queueConnectMessages_spec`, `pingBranch_cases`, `takeAux_ind` / `takeAux_lift`), for the invariants of
the other files to be proved from.
-/
import LimnoriaModel.C19.Model
namespace C19
open Py List

/-- `count x [m]` under a name `cnt` does not unfold: an atom for `omega` -/
def one (x m : Msg) : Nat := count x [m]

theorem count_cons_one (x m : Msg) (l : List Msg) : count x (m :: l) = one x m + count x l := by
  simp [one, count_cons]; omega

/-! ### projections of a trace -/

/-- every message that entered a queue -/
def accOf : List Ev → List Msg
  | [] => []
  | .accepted _ m :: r => m :: accOf r
  | _ :: r => accOf r

/-- messages handed to the driver (as they were when dequeued) -/
def tookOf : List Ev → List Msg
  | [] => []
  | .took _ s _ _ :: r => s :: tookOf r
  | _ :: r => tookOf r

/-- messages an outFilter dropped -/
def dropOf : List Ev → List Msg
  | [] => []
  | .dropped _ s _ :: r => s :: dropOf r
  | _ :: r => dropOf r

/-- messages swallowed by the echo-emulation assertion -/
def lostOf : List Ev → List Msg
  | [] => []
  | .lost _ s _ _ :: r => s :: lostOf r
  | _ :: r => lostOf r

/-- messages thrown away by `reset()` -/
def discOf : List Ev → List Msg
  | [] => []
  | .discarded ms :: r => ms ++ discOf r
  | _ :: r => discOf r

/-- everything that left the queues, whichever way -/
def goneOf : List Ev → List Msg
  | [] => []
  | .took _ s _ _ :: r => s :: goneOf r
  | .dropped _ s _ :: r => s :: goneOf r
  | .lost _ s _ _ :: r => s :: goneOf r
  | .discarded ms :: r => ms ++ goneOf r
  | _ :: r => goneOf r

theorem accOf_append (a b : List Ev) : accOf (a ++ b) = accOf a ++ accOf b := by
  induction a with
  | nil => rfl
  | cons e r ih =>
    cases e with
    | accepted f m => exact congrArg (m :: ·) ih
    | _ => exact ih

theorem goneOf_append (a b : List Ev) : goneOf (a ++ b) = goneOf a ++ goneOf b := by
  induction a with
  | nil => rfl
  | cons e r ih =>
    cases e with
    | took f s o t => exact congrArg (s :: ·) ih
    | dropped f s t => exact congrArg (s :: ·) ih
    | lost f s o t => exact congrArg (s :: ·) ih
    | discarded ms => exact (congrArg (ms ++ ·) ih).trans (append_assoc ..).symm
    | _ => exact ih

theorem tookOf_append (a b : List Ev) : tookOf (a ++ b) = tookOf a ++ tookOf b := by
  induction a with
  | nil => rfl
  | cons e r ih =>
    cases e with
    | took f s o t => exact congrArg (s :: ·) ih
    | _ => exact ih

theorem dropOf_append (a b : List Ev) : dropOf (a ++ b) = dropOf a ++ dropOf b := by
  induction a with
  | nil => rfl
  | cons e r ih =>
    cases e with
    | dropped f s t => exact congrArg (s :: ·) ih
    | _ => exact ih

theorem lostOf_append (a b : List Ev) : lostOf (a ++ b) = lostOf a ++ lostOf b := by
  induction a with
  | nil => rfl
  | cons e r ih =>
    cases e with
    | lost f s o t => exact congrArg (s :: ·) ih
    | _ => exact ih

theorem discOf_append (a b : List Ev) : discOf (a ++ b) = discOf a ++ discOf b := by
  induction a with
  | nil => rfl
  | cons e r ih =>
    cases e with
    | discarded ms => exact (congrArg (ms ++ ·) ih).trans (append_assoc ..).symm
    | _ => exact ih

theorem goneOf_count (x : Msg) (tr : List Ev) :
    count x (goneOf tr) = count x (tookOf tr) + count x (dropOf tr) + count x (lostOf tr)
      + count x (discOf tr) := by
  induction tr with
  | nil => rfl
  | cons e r ih =>
    cases e <;> simp only [goneOf, tookOf, dropOf, lostOf, discOf, count_cons_one, count_append, ih] <;> omega

/-! ### conservation -/

/-- normalise counts to atoms (`count x l` for variables `l`, `one x m`) and finish with `omega` -/
macro "cnt" : tactic =>
  `(tactic| (simp only [Irc.pending, Queue.all, Queue.empty, accOf, goneOf, killEvents, count_append,
      count_cons_one, count_nil] at * <;> omega))

theorem pending_nil_iff (s : Irc) : s.pending = [] ↔ s.fast = [] ∧ s.queue.isEmpty = true := by
  simp [Irc.pending, Queue.all, Queue.isEmpty, and_assoc]

theorem pending_nil (s : Irc) (hf : s.fast = []) (hq : s.queue.isEmpty = true) : s.pending = [] :=
  (pending_nil_iff s).mpr ⟨hf, hq⟩

/-- pending-before + accepted = gone + pending-after, as multisets (counted per message) -/
def Conserves (s : Irc) (r : Irc × List Ev) : Prop :=
  ∀ x : Msg, count x s.pending + count x (accOf r.2) = count x (goneOf r.2) + count x r.1.pending

theorem Conserves.trans {s : Irc} {s1 s2 : Irc} {e1 e2 : List Ev}
    (h1 : Conserves s (s1, e1)) (h2 : Conserves s1 (s2, e2)) : Conserves s (s2, e1 ++ e2) := by
  intro x
  have a := h1 x
  have b := h2 x
  simp only [accOf_append, goneOf_append, count_append] at *
  omega

theorem Conserves.refl (s : Irc) : Conserves s (s, []) := by
  intro x; cnt

/-- the law as a permutation, the ways of leaving a queue told apart -/
theorem Conserves.perm {s : Irc} {r : Irc × List Ev} (h : Conserves s r) :
    (s.pending ++ accOf r.2).Perm
      (tookOf r.2 ++ dropOf r.2 ++ lostOf r.2 ++ discOf r.2 ++ r.1.pending) := by
  rw [perm_iff_count]
  intro x
  have h := h x
  have g := goneOf_count x r.2
  simp only [count_append] at *
  omega

theorem Conserves.of_pending {s s0 : Irc} {r : Irc × List Ev} (hc : Conserves s0 r)
    (h : s0.pending = s.pending) : Conserves s r := by
  intro x; have := hc x; rw [h] at this; exact this

theorem enqueue_true {dup : Bool} {q q' : Queue} {m : Msg} (h : q.enqueue dup m = (q', true)) :
    (q.contains m && dup) = false ∧
    ((classOf m.cmd = .high ∧ q' = { q with high := q.high ++ [m] }) ∨
     (classOf m.cmd = .low ∧ q' = { q with low := q.low ++ [m] }) ∨
     (classOf m.cmd = .normal ∧ q' = { q with normal := q.normal ++ [m] })) := by
  unfold Queue.enqueue at h
  split at h
  · cases h
  · refine ⟨Bool.eq_false_iff.mpr ‹_›, ?_⟩
    split at h <;> injection h with h1 _ <;> subst h1
    · exact .inl ⟨‹_›, rfl⟩
    · exact .inr (.inl ⟨‹_›, rfl⟩)
    · exact .inr (.inr ⟨‹_›, rfl⟩)

theorem enqueue_true_count {dup : Bool} {q q' : Queue} {m : Msg}
    (h : q.enqueue dup m = (q', true)) (x : Msg) :
    count x q'.all = count x q.all + one x m := by
  rcases (enqueue_true h).2 with ⟨_, rfl⟩ | ⟨_, rfl⟩ | ⟨_, rfl⟩ <;> cnt

theorem enqueue_false_eq {dup : Bool} {q q' : Queue} {m : Msg}
    (h : q.enqueue dup m = (q', false)) : q' = q := by
  unfold Queue.enqueue at h
  split at h
  · injection h with h1 _; exact h1.symm
  · split at h <;> (injection h with _ h2; cases h2)

theorem enqueue_false {dup : Bool} {q q' : Queue} {m : Msg}
    (h : q.enqueue dup m = (q', false)) : (q.contains m && dup) = true := by
  unfold Queue.enqueue at h
  split at h
  · assumption
  · split at h <;> (injection h with _ h2; cases h2)

theorem enqueue_lastJoin {dup : Bool} {q q' : Queue} {m : Msg} {b : Bool}
    (h : q.enqueue dup m = (q', b)) : q'.lastJoin = q.lastJoin := by
  cases b
  · rw [enqueue_false_eq h]
  · rcases (enqueue_true h).2 with ⟨_, rfl⟩ | ⟨_, rfl⟩ | ⟨_, rfl⟩ <;> rfl

theorem dequeue_spec (limit now : Nat) (q : Queue) :
    match q.dequeue limit now with
    | (q', .msg m) => ∃ r,
        (q.high = m :: r ∧ q' = { q with high := r }) ∨
        (q.high = [] ∧ q.normal = m :: r ∧ q' = { q with normal := r }) ∨
        (q.high = [] ∧ q.normal = [] ∧ q.low = m :: r ∧
          ((m.cmd ≠ Gen.rateLimitedCommand ∧ q' = { q with low := r }) ∨
           (m.cmd = Gen.rateLimitedCommand ∧ q.lastJoin + limit ≤ now ∧
              q' = { q with low := r, lastJoin := now })))
    | (q', .rotated m) => ∃ r, q.high = [] ∧ q.normal = [] ∧ q.low = m :: r ∧
        m.cmd = Gen.rateLimitedCommand ∧ ¬ q.lastJoin + limit ≤ now ∧ q' = { q with low := r ++ [m] }
    | (q', .nothing) => q' = q ∧ q.high = [] ∧ q.normal = [] ∧ q.low = [] := by
  obtain ⟨h, n, l, j⟩ := q
  cases h with
  | cons m r => exact ⟨r, .inl ⟨rfl, rfl⟩⟩
  | nil =>
    cases n with
    | cons m r => exact ⟨r, .inr (.inl ⟨rfl, rfl, rfl⟩)⟩
    | nil =>
      cases l with
      | nil => exact ⟨rfl, rfl, rfl, rfl⟩
      | cons m r =>
        by_cases hj : m.cmd = Gen.rateLimitedCommand
        · by_cases hl : j + limit ≤ now
          · simp only [Queue.dequeue, if_pos hj, if_pos hl]
            exact ⟨r, .inr (.inr ⟨trivial, trivial, rfl, .inr ⟨hj, hl, rfl⟩⟩)⟩
          · simp only [Queue.dequeue, if_pos hj, if_neg hl]
            exact ⟨r, trivial, trivial, rfl, hj, hl, rfl⟩
        · simp only [Queue.dequeue, if_neg hj]
          exact ⟨r, .inr (.inr ⟨trivial, trivial, rfl, .inl ⟨hj, rfl⟩⟩)⟩

theorem dequeue_msg {limit now : Nat} {q q' : Queue} {m : Msg}
    (h : q.dequeue limit now = (q', .msg m)) : ∃ r,
      (q.high = m :: r ∧ q' = { q with high := r }) ∨
      (q.high = [] ∧ q.normal = m :: r ∧ q' = { q with normal := r }) ∨
      (q.high = [] ∧ q.normal = [] ∧ q.low = m :: r ∧
        ((m.cmd ≠ Gen.rateLimitedCommand ∧ q' = { q with low := r }) ∨
         (m.cmd = Gen.rateLimitedCommand ∧ q.lastJoin + limit ≤ now ∧
            q' = { q with low := r, lastJoin := now }))) := by
  have := dequeue_spec limit now q; rw [h] at this; exact this

theorem dequeue_rotated {limit now : Nat} {q q' : Queue} {m : Msg}
    (h : q.dequeue limit now = (q', .rotated m)) :
    ∃ r, q.high = [] ∧ q.normal = [] ∧ q.low = m :: r ∧ m.cmd = Gen.rateLimitedCommand ∧
      ¬ q.lastJoin + limit ≤ now ∧ q' = { q with low := r ++ [m] } := by
  have := dequeue_spec limit now q; rw [h] at this; exact this

theorem dequeue_nothing {limit now : Nat} {q q' : Queue}
    (h : q.dequeue limit now = (q', .nothing)) : q' = q ∧ q.isEmpty = true := by
  have := dequeue_spec limit now q; rw [h] at this
  simp [this.1, Queue.isEmpty, this.2]

/-- `queueMsg` (`f = false`) or `sendMsg` is given `m` -/
inductive Offer (s : Irc) (m : Msg) : Bool → Irc × List Ev → Prop
  | queued {q'} (hz : s.zombie = false) (he : s.queue.enqueue s.cfg.dupRefuse m = (q', true)) :
      Offer s m false ({ s with queue := q' }, [.accepted false m])
  | sent (hz : s.zombie = false) : Offer s m true ({ s with fast := s.fast ++ [m] }, [.accepted true m])
  | refused {f} (hr : s.zombie = true ∨ (f = false ∧ (s.queue.contains m && s.cfg.dupRefuse) = true)) :
      Offer s m f (s, [.refused f m])

theorem queueMsg_offer (s : Irc) (m : Msg) : Offer s m false (queueMsg s m) := by
  unfold queueMsg
  split
  · split
    · exact .queued (by simpa using ‹(!s.zombie) = true›) ‹_›
    · exact .refused (.inr ⟨rfl, enqueue_false ‹_›⟩)
  · exact .refused (.inl (by simpa using ‹¬ (!s.zombie) = true›))

theorem sendMsg_offer (s : Irc) (m : Msg) : Offer s m true (sendMsg s m) := by
  unfold sendMsg
  split
  · exact .sent (by simpa using ‹(!s.zombie) = true›)
  · exact .refused (.inl (by simpa using ‹¬ (!s.zombie) = true›))

theorem Offer.conserves {s : Irc} {m : Msg} {f : Bool} {r : Irc × List Ev} (h : Offer s m f r) :
    Conserves s r := by
  intro x
  cases h with
  | queued _ he => have := enqueue_true_count he x; cnt
  | sent => cnt
  | refused => cnt

theorem dequeue_msg_count {limit now : Nat} {q q' : Queue} {m : Msg}
    (h : q.dequeue limit now = (q', .msg m)) (x : Msg) :
    count x q.all = one x m + count x q'.all := by
  obtain ⟨r, ⟨hh, rfl⟩ | ⟨hh, hn, rfl⟩ | ⟨hh, hn, hl, ⟨_, rfl⟩ | ⟨_, _, rfl⟩⟩⟩ := dequeue_msg h <;>
    simp only [Queue.all, *] <;> cnt

theorem dequeue_rotated_count {limit now : Nat} {q q' : Queue} {m : Msg}
    (h : q.dequeue limit now = (q', .rotated m)) (x : Msg) :
    count x q'.all = count x q.all := by
  obtain ⟨r, hh, hn, hl, _, _, rfl⟩ := dequeue_rotated h
  simp only [Queue.all, hh, hn, hl]; cnt

theorem deliver_frame (s : Irc) (m : Msg) :
    ∃ n e, (deliver s m).1 = { s with nextOid := n, echoed := e } := by
  unfold deliver; split
  · exact ⟨_, _, rfl⟩
  · dsimp only; split
    · split <;> exact ⟨_, _, rfl⟩
    · exact ⟨_, _, rfl⟩

theorem deliver_frame' {s s1 : Irc} {m : Msg} {d : Delivery} (h : deliver s m = (s1, d)) :
    ∃ n e, s1 = { s with nextOid := n, echoed := e } := by
  obtain ⟨n, e, hh⟩ := deliver_frame s m
  rw [h] at hh; exact ⟨n, e, hh⟩

theorem deliver_pending {s s1 : Irc} {m : Msg} {d : Delivery} (h : deliver s m = (s1, d)) :
    s1.pending = s.pending := by
  obtain ⟨n, e, rfl⟩ := deliver_frame' h; rfl

theorem deliver_cfg {s s1 : Irc} {m : Msg} {d : Delivery} (h : deliver s m = (s1, d)) : s1.cfg = s.cfg := by
  obtain ⟨n, e, rfl⟩ := deliver_frame' h; rfl

theorem deliver_fq {s s1 : Irc} {m : Msg} {d : Delivery} (h : deliver s m = (s1, d)) :
    s1.fast = s.fast ∧ s1.queue = s.queue := by
  obtain ⟨n, e, rfl⟩ := deliver_frame' h; exact ⟨rfl, rfl⟩

theorem noMsg_state (s : Irc) : (noMsg s).1 = s := by
  unfold noMsg; split <;> rfl

theorem noMsg_eq (s : Irc) : noMsg s = (s, (noMsg s).2) := Prod.ext (noMsg_state s) rfl

theorem noMsg_events (s : Irc) : (noMsg s).2 = [] ∨ (noMsg s).2 = killEvents := by
  unfold noMsg; split
  · right; rfl
  · left; rfl

/-- the state `reset()` hands to `_queueConnectMessages` -/
def cleared (s : Irc) : Irc :=
  { s with lastTake := 0, afterConnect := false, lastPing := s.now, outstandingPing := false,
           echoAcked := false, labelAcked := false, queue := Queue.empty, fast := [] }

theorem reset_cleared (s : Irc) :
    reset s = ((queueConnectMessages (cleared s)).1,
      .discarded s.pending :: (queueConnectMessages (cleared s)).2) := rfl

/-- the events of `_queueConnectMessages` -/
def Ev.connecting : Ev → Bool
  | .accepted true _ | .refused true _ | .driverDie => true
  | _ => false

theorem sendConnect_spec (cs : List Content) : ∀ s : Irc,
    (∃ fa n, (sendConnect s cs).1 = { s with fast := fa, nextOid := n }) ∧
    ∀ e ∈ (sendConnect s cs).2, e.connecting = true := by
  induction cs with
  | nil => exact fun s => ⟨⟨_, _, rfl⟩, by simp [sendConnect]⟩
  | cons c cs ih =>
    intro s
    have hm : (∃ fa, (sendMsg { s with nextOid := s.nextOid + 1 } ⟨.int s.nextOid, c⟩).1 =
          { s with fast := fa, nextOid := s.nextOid + 1 }) ∧
        ∀ e ∈ (sendMsg { s with nextOid := s.nextOid + 1 } ⟨.int s.nextOid, c⟩).2, e.connecting = true := by
      unfold sendMsg; split <;> exact ⟨⟨_, rfl⟩, by simp [Ev.connecting]⟩
    obtain ⟨⟨fa, h1⟩, h2⟩ := hm
    obtain ⟨⟨fa', n, h3⟩, h4⟩ := ih (sendMsg { s with nextOid := s.nextOid + 1 } ⟨.int s.nextOid, c⟩).1
    refine ⟨⟨fa', n, ?_⟩, forall_mem_append.mpr ⟨h2, h4⟩⟩
    show (sendConnect (sendMsg { s with nextOid := s.nextOid + 1 } ⟨.int s.nextOid, c⟩).1 cs).1 = _
    rw [h3, h1]

theorem queueConnectMessages_spec (s : Irc) :
    (∃ fa n, (queueConnectMessages s).1 = { s with fast := fa, nextOid := n }) ∧
    ∀ e ∈ (queueConnectMessages s).2, e.connecting = true := by
  unfold queueConnectMessages
  split
  · exact ⟨⟨_, _, rfl⟩, by simp [killEvents, Ev.connecting]⟩
  · exact sendConnect_spec _ s

/-- the ping `takeMsg` sends when the line has been quiet for `pingInterval` -/
def pingOf (s : Irc) : Msg := ⟨.int s.nextOid, ⟨[], ['P', 'I', 'N', 'G'], [natDec s.now], []⟩⟩

theorem pingBranch_cases {s : Irc} {P : Irc × List Ev → Prop}
    (timeout : s.afterConnect = true → s.cfg.pingOn = true → s.lastPing + s.cfg.pingInterval < s.now →
      s.outstandingPing = true → P ((reset s).1, .driverReconnect :: (reset s).2))
    (ping : s.afterConnect = true → s.cfg.pingOn = true → s.lastPing + s.cfg.pingInterval < s.now →
      s.outstandingPing = false → s.zombie = false →
      P (queueMsg { s with lastPing := s.now, outstandingPing := true, nextOid := s.nextOid + 1 } (pingOf s)))
    (quiet : P (s, [])) : P (pingBranch s) := by
  unfold pingBranch
  split
  · rename_i h
    simp only [Bool.and_eq_true, decide_eq_true_eq] at h
    split
    · exact timeout h.1.1 h.1.2 h.2 ‹_›
    · split
      · exact ping h.1.1 h.1.2 h.2 (Bool.eq_false_iff.mpr ‹_›) (by simpa using ‹(!s.zombie) = true›)
      · exact quiet
  · exact quiet

/-- bookkeeping events: no report on a taken message, no change of configuration -/
def Ev.admin : Ev → Bool
  | .accepted _ _ | .refused _ _ | .discarded _ | .driverDie | .driverReconnect => true
  | _ => false

theorem noMsg_admin (s : Irc) : ∀ e ∈ (noMsg s).2, e.admin = true := by
  rcases noMsg_events s with h | h <;> simp [h, killEvents, Ev.admin]

theorem Offer.admin {s : Irc} {m : Msg} {f : Bool} {r : Irc × List Ev} (h : Offer s m f r) :
    ∀ e ∈ r.2, e.admin = true := by
  cases h <;> simp [Ev.admin]

theorem Ev.admin_of_connecting {e : Ev} (h : e.connecting = true) : e.admin = true := by
  cases e <;> first | rfl | cases h

theorem queueConnectMessages_admin (s : Irc) : ∀ e ∈ (queueConnectMessages s).2, e.admin = true :=
  fun e he => Ev.admin_of_connecting ((queueConnectMessages_spec s).2 e he)

theorem reset_admin (s : Irc) : ∀ e ∈ (reset s).2, e.admin = true :=
  forall_mem_cons.mpr ⟨rfl, queueConnectMessages_admin _⟩

theorem pingBranch_admin (s : Irc) : ∀ e ∈ (pingBranch s).2, e.admin = true :=
  pingBranch_cases (P := fun r => ∀ e ∈ r.2, e.admin = true)
    (fun _ _ _ _ => forall_mem_cons.mpr ⟨rfl, reset_admin s⟩)
    (fun _ _ _ _ _ => (queueMsg_offer _ _).admin) (fun e he => by cases he)

theorem Offer.echoed {s : Irc} {m : Msg} {f : Bool} {r : Irc × List Ev} (h : Offer s m f r) :
    r.1.echoed = s.echoed := by
  cases h <;> rfl

theorem queueConnectMessages_echoed (s : Irc) : (queueConnectMessages s).1.echoed = s.echoed := by
  obtain ⟨fa, n, h⟩ := (queueConnectMessages_spec s).1
  rw [h]

theorem reset_echoed (s : Irc) : (reset s).1.echoed = s.echoed := queueConnectMessages_echoed (cleared s)

theorem pingBranch_echoed (s : Irc) : (pingBranch s).1.echoed = s.echoed :=
  pingBranch_cases (P := fun r => r.1.echoed = s.echoed) (fun _ _ _ _ => reset_echoed s)
    (fun _ _ _ _ _ => (queueMsg_offer _ _).echoed) rfl

/-- the event for the outcome of `m` (`f`: it came from the fast queue) -/
def Delivery.ev (f : Bool) (m : Msg) (t : Nat) : Delivery → Ev
  | .out o => .took f m o t
  | .lost o => .lost f m o t
  | .dropped => .dropped f m t

/-- a round takes `m` out of a queue, leaving `s0`: the head of the fast queue (`f`), or, with the
fast queue empty and the throttle time over, the message `dequeue` selects -/
inductive Removes (s : Irc) : Bool → Msg → Irc → Prop
  | fast {m rest} (hf : s.fast = m :: rest) : Removes s true m { s with fast := rest }
  | queue {q' m} (hf : s.fast = []) (ht : s.lastTake + s.cfg.throttle < s.now)
      (hq : s.queue.dequeue s.cfg.joinLimit s.now = (q', .msg m)) :
      Removes s false m { s with lastTake := s.now, queue := q' }

theorem Removes.frame {s s0 : Irc} {f : Bool} {m : Msg} (h : Removes s f m s0) :
    ∃ q fa lt, s0 = { s with queue := q, fast := fa, lastTake := lt } := by
  cases h <;> exact ⟨_, _, _, rfl⟩

theorem Delivery.accOf_ev (f : Bool) (m : Msg) (t : Nat) (d : Delivery) : accOf [d.ev f m t] = [] := by
  cases d <;> rfl

theorem Delivery.goneOf_ev (f : Bool) (m : Msg) (t : Nat) (d : Delivery) : goneOf [d.ev f m t] = [m] := by
  cases d <;> rfl

theorem takeAux_ind {P : Irc → Irc × List Ev → Prop} (zero : ∀ s, P s (s, []))
    (rel : ∀ {s f m s0 s1 d}, Removes s f m s0 → deliver s0 m = (s1, d) → d ≠ .dropped →
      P s (s1, [d.ev f m s.now]))
    (drop : ∀ {s f m s0 s1 r}, Removes s f m s0 → deliver s0 m = (s1, .dropped) → P s1 r →
      P s (r.1, .dropped f m s.now :: r.2))
    (thr : ∀ s, s.fast = [] → s.queue.isEmpty = false → s.now ≤ s.lastTake + s.cfg.throttle →
      P s (s, .throttled s.now :: (noMsg s).2))
    (rot : ∀ {s q' m}, s.fast = [] → s.queue.dequeue s.cfg.joinLimit s.now = (q', .rotated m) →
      P s ({ s with lastTake := s.now, queue := q' },
           .rotated m s.now :: (noMsg { s with lastTake := s.now, queue := q' }).2))
    (idle : ∀ s, s.fast = [] → s.queue.isEmpty = true →
      P s ((pingBranch s).1, (pingBranch s).2 ++ (noMsg (pingBranch s).1).2)) :
    ∀ fuel s, P s (takeAux fuel s)
  | 0, s => zero s
  | fuel + 1, s => by
    have ih := takeAux_ind zero rel drop thr rot idle fuel
    unfold takeAux takeBody
    split
    · rename_i m rest hf
      split
      · exact rel (.fast hf) ‹_› Delivery.noConfusion
      · exact rel (.fast hf) ‹_› Delivery.noConfusion
      · exact drop (.fast hf) ‹_› (ih _)
    · rename_i hf
      split
      · rename_i hq
        split
        · dsimp only; rw [noMsg_state]; exact thr s hf (by simpa using hq) ‹_›
        · rename_i ht
          split
          · rename_i hd
            have hr := Removes.queue hf (Nat.lt_of_not_le ht) hd
            split
            · exact rel hr ‹_› Delivery.noConfusion
            · exact rel hr ‹_› Delivery.noConfusion
            · exact drop hr ‹_› (ih _)
          · dsimp only; rw [noMsg_state]; exact rot hf ‹_›
          -- `dequeue` finds nothing only in an empty queue
          · rename_i hd
            simp [(dequeue_nothing hd).2] at hq
      · rename_i hq
        dsimp only; rw [noMsg_state]; exact idle s hf (by simpa using hq)

theorem takeAux_lift {P : Irc → Irc × List Ev → Prop} (refl : ∀ s, P s (s, []))
    (trans : ∀ {s s1 s2 e1 e2}, P s (s1, e1) → P s1 (s2, e2) → P s (s2, e1 ++ e2))
    (rel : ∀ {s f m s0 s1 d}, Removes s f m s0 → deliver s0 m = (s1, d) → P s (s1, [d.ev f m s.now]))
    (thr : ∀ s, P s (s, [.throttled s.now]))
    (rot : ∀ {s q' m}, s.fast = [] → s.queue.dequeue s.cfg.joinLimit s.now = (q', .rotated m) →
      P s ({ s with lastTake := s.now, queue := q' }, [.rotated m s.now]))
    (ping : ∀ s, s.fast = [] → s.queue.isEmpty = true → P s (pingBranch s))
    (nomsg : ∀ s, P s (noMsg s)) : ∀ fuel s, P s (takeAux fuel s) :=
  have nomsg' : ∀ s, P s (s, (noMsg s).2) := fun s => noMsg_eq s ▸ nomsg s
  takeAux_ind refl (fun hr hd _ => rel hr hd) (fun hr hd ih => trans (rel hr hd) ih)
    (fun s _ _ _ => trans (thr s) (nomsg' s)) (fun hf hq => trans (rot hf hq) (nomsg' _))
    (fun s hf hq => trans (ping s hf hq) (nomsg' _))

theorem takeMsg_idle_eq (s : Irc) (hf : s.fast = []) (hq : s.queue.isEmpty = true) :
    takeMsg s = ((noMsg (pingBranch s).1).1, (pingBranch s).2 ++ (noMsg (pingBranch s).1).2) := by
  simp only [takeMsg, Irc.pending, hf, nil_append]
  unfold takeAux takeBody
  simp [hf, hq]

theorem Removes.count {s s0 : Irc} {f : Bool} {m : Msg} (h : Removes s f m s0) (x : Msg) :
    count x s.pending = one x m + count x s0.pending := by
  cases h with
  | fast hf => simp only [Irc.pending, hf]; cnt
  | queue hf _ hq => have := dequeue_msg_count hq x; simp only [Irc.pending, hf]; cnt

theorem noMsg_conserves (s : Irc) : Conserves s (noMsg s) := by
  unfold noMsg; split <;> (intro x; cnt)

theorem sendConnect_conserves (cs : List Content) : ∀ s : Irc, Conserves s (sendConnect s cs) := by
  induction cs with
  | nil => intro s; exact Conserves.refl s
  | cons c cs ih =>
    intro s
    have h1 : Conserves s (sendMsg { s with nextOid := s.nextOid + 1 } ⟨.int s.nextOid, c⟩) :=
      (sendMsg_offer { s with nextOid := s.nextOid + 1 } ⟨.int s.nextOid, c⟩).conserves
    exact Conserves.trans h1 (ih _)

theorem queueConnectMessages_conserves (s : Irc) : Conserves s (queueConnectMessages s) := by
  unfold queueConnectMessages
  split
  · intro x; cnt
  · exact sendConnect_conserves _ s

theorem reset_conserves (s : Irc) : Conserves s (reset s) := by
  intro x
  have h := queueConnectMessages_conserves (cleared s) x
  rw [show (cleared s).pending = [] from rfl] at h
  rw [reset_cleared]
  cnt

theorem pingBranch_conserves (s : Irc) : Conserves s (pingBranch s) :=
  pingBranch_cases (fun _ _ _ _ x => by have := reset_conserves s x; cnt)
    (fun _ _ _ _ _ => (queueMsg_offer _ _).conserves.of_pending rfl) (Conserves.refl s)

theorem takeAux_conserves : ∀ (fuel : Nat) (s : Irc), Conserves s (takeAux fuel s) :=
  takeAux_lift Conserves.refl Conserves.trans
    (fun {s f m s0 s1 d} hr hd x => by
      have := hr.count x
      rw [d.accOf_ev, d.goneOf_ev, deliver_pending hd]; cnt)
    (fun s x => by cnt)
    (fun {s q' m} hf hq x => by have := dequeue_rotated_count hq x; simp only [Irc.pending, hf] at *; cnt)
    (fun s _ _ => pingBranch_conserves s) noMsg_conserves

theorem takeMsg_conserves (s : Irc) : Conserves s (takeMsg s) := takeAux_conserves _ s

inductive Op.Silent : Op → Prop
  | tick (dt) : Op.Silent (.tick dt)
  | connected : Op.Silent .connected
  | pong : Op.Silent .pong
  | capEcho (b) : Op.Silent (.capEcho b)
  | capLabel (b) : Op.Silent (.capLabel b)

theorem step_silent (s : Irc) {op : Op} (h : op.Silent) : ∃ now ac out ea la, s.now ≤ now ∧
    step s op = ({ s with now := now, afterConnect := ac, outstandingPing := out, echoAcked := ea,
                          labelAcked := la }, []) := by
  cases h
  · exact ⟨_, _, _, _, _, Nat.le_add_right _ _, rfl⟩
  all_goals exact ⟨_, _, _, _, _, Nat.le_refl _, rfl⟩

theorem Op.casesSilent {motive : Op → Prop} (queue : ∀ m, motive (.queue m)) (send : ∀ m, motive (.send m))
    (take : motive .take) (die : motive .die) (reset : motive .reset) (config : ∀ c, motive (.config c))
    (silent : ∀ op, op.Silent → motive op) (op : Op) : motive op := by
  cases op with
  | queue m => exact queue m
  | send m => exact send m
  | take => exact take
  | die => exact die
  | reset => exact reset
  | config c => exact config c
  | tick dt => exact silent _ (.tick dt)
  | connected => exact silent _ .connected
  | pong => exact silent _ .pong
  | capEcho b => exact silent _ (.capEcho b)
  | capLabel b => exact silent _ (.capLabel b)

theorem step_conserves (s : Irc) (op : Op) : Conserves s (step s op) := by
  cases op using Op.casesSilent with
  | queue m => exact (queueMsg_offer s m).conserves
  | send m => exact (sendMsg_offer s m).conserves
  | take => exact takeMsg_conserves s
  | die => unfold step die; dsimp only; split <;> (intro x; cnt)
  | reset => exact reset_conserves s
  | config c => intro x; simp only [step]; cnt
  | silent op h =>
    obtain ⟨_, _, _, _, _, _, h⟩ := step_silent s h
    rw [h]; intro x; cnt

theorem run_conserves : ∀ (ops : List Op) (s : Irc), Conserves s (run s ops)
  | [], s => Conserves.refl s
  | op :: ops, s => by
    unfold run
    exact Conserves.trans (step_conserves s op) (run_conserves ops _)

end C19
