/-
C19 — which message leaves: first-in-first-out inside a class (with the class invariant), and what
`takeMsg` releases from the regular queue: the head of the most urgent class, after the fast queue
-/
import LimnoriaModel.C19.Lemmas
namespace C19
open Py List

/-- every message sits in the list of its class -/
def ClassInv (q : Queue) : Prop :=
  (∀ m ∈ q.high, classOf m.cmd = .high) ∧ (∀ m ∈ q.normal, classOf m.cmd = .normal) ∧
  (∀ m ∈ q.low, classOf m.cmd = .low)

/-- per class: what was accepted and what left, in order, since the last `reset()` -/
structure Hist where
  accF : List Msg
  outF : List Msg
  accH : List Msg
  outH : List Msg
  accN : List Msg
  outN : List Msg
  accL : List Msg
  outL : List Msg

def Hist.empty : Hist := ⟨[], [], [], [], [], [], [], []⟩

def Hist.acc (h : Hist) (fast : Bool) (m : Msg) : Hist :=
  if fast then { h with accF := h.accF ++ [m] }
  else match classOf m.cmd with
    | .high => { h with accH := h.accH ++ [m] }
    | .normal => { h with accN := h.accN ++ [m] }
    | .low => { h with accL := h.accL ++ [m] }

def Hist.out (h : Hist) (fast : Bool) (m : Msg) : Hist :=
  if fast then { h with outF := h.outF ++ [m] }
  else match classOf m.cmd with
    | .high => { h with outH := h.outH ++ [m] }
    | .normal => { h with outN := h.outN ++ [m] }
    | .low => { h with outL := h.outL ++ [m] }

def Hist.push (h : Hist) : Ev → Hist
  | .accepted f m => h.acc f m
  | .took f s _ _ => h.out f s
  | .dropped f s _ => h.out f s
  | .lost f s _ _ => h.out f s
  | .discarded _ => Hist.empty
  | _ => h

def Hist.pushAll (h : Hist) (evs : List Ev) : Hist := evs.foldl Hist.push h

theorem Hist.pushAll_append (h : Hist) (a b : List Ev) :
    h.pushAll (a ++ b) = (h.pushAll a).pushAll b := by
  simp [Hist.pushAll, foldl_append]

def notJoin (m : Msg) : Bool := !(m.cmd == Gen.rateLimitedCommand)

/-- a held-back JOIN is rotated to the back of the low class: that class keeps its messages (`lowPerm`)
and the order of all but the JOINs (`lowOrder`); the other lists are exact -/
structure FifoInv (s : Irc) (h : Hist) : Prop where
  fast : h.accF = h.outF ++ s.fast
  high : h.accH = h.outH ++ s.queue.high
  normal : h.accN = h.outN ++ s.queue.normal
  lowPerm : h.accL.Perm (h.outL ++ s.queue.low)
  lowOrder : h.accL.filter notJoin = h.outL.filter notJoin ++ s.queue.low.filter notJoin
  cls : ClassInv s.queue

/-- a step keeps the FIFO invariant, whatever the history so far -/
def FifoStep (s : Irc) (r : Irc × List Ev) : Prop :=
  ∀ h, FifoInv s h → FifoInv r.1 (h.pushAll r.2)

theorem FifoStep.trans {s s1 s2 : Irc} {e1 e2 : List Ev}
    (h1 : FifoStep s (s1, e1)) (h2 : FifoStep s1 (s2, e2)) : FifoStep s (s2, e1 ++ e2) := by
  intro h hi
  rw [Hist.pushAll_append]
  exact h2 _ (h1 h hi)

theorem FifoStep.refl (s : Irc) : FifoStep s (s, []) := fun _ hi => hi

theorem FifoStep.of_same {s s' : Irc} {e : List Ev} (hf : s'.fast = s.fast) (hq : s'.queue = s.queue)
    (he : ∀ h : Hist, h.pushAll e = h) : FifoStep s (s', e) := by
  intro h hi
  rw [he]
  exact ⟨by rw [hf]; exact hi.fast, by rw [hq]; exact hi.high, by rw [hq]; exact hi.normal,
    by rw [hq]; exact hi.lowPerm, by rw [hq]; exact hi.lowOrder, by rw [hq]; exact hi.cls⟩

theorem pushAll_kill (h : Hist) : h.pushAll killEvents = h := rfl

theorem FifoInv.congr {s s' : Irc} {h : Hist} (hi : FifoInv s h) (hf : s'.fast = s.fast)
    (hq : s'.queue = s.queue) : FifoInv s' h :=
  ⟨by rw [hf]; exact hi.fast, by rw [hq]; exact hi.high, by rw [hq]; exact hi.normal,
    by rw [hq]; exact hi.lowPerm, by rw [hq]; exact hi.lowOrder, by rw [hq]; exact hi.cls⟩

theorem enqueue_fifo {dup : Bool} {q' : Queue} {m : Msg} {s : Irc} {h : Hist}
    (he : s.queue.enqueue dup m = (q', true)) (hi : FifoInv s h) :
    FifoInv { s with queue := q' } (h.acc false m) := by
  obtain ⟨c1, c2, c3⟩ := hi.cls
  have hmem : ∀ {l : List Msg} {c : Cls}, (∀ x ∈ l, classOf x.cmd = c) → classOf m.cmd = c →
      ∀ x ∈ l ++ [m], classOf x.cmd = c := by
    intro l c hl hc x hx
    rcases mem_append.mp hx with hx | hx
    · exact hl x hx
    · rw [mem_singleton.mp hx]; exact hc
  rcases (enqueue_true he).2 with ⟨hc, rfl⟩ | ⟨hc, rfl⟩ | ⟨hc, rfl⟩ <;>
    simp only [Hist.acc, hc, Bool.false_eq_true, if_false]
  · exact ⟨hi.fast, by simp [hi.high], hi.normal, hi.lowPerm, hi.lowOrder, hmem c1 hc, c2, c3⟩
  · refine ⟨hi.fast, hi.high, hi.normal, ?_, ?_, c1, c2, hmem c3 hc⟩
    · rw [← append_assoc]; exact hi.lowPerm.append_right [m]
    · simp only [filter_append, hi.lowOrder, append_assoc]
  · exact ⟨hi.fast, hi.high, by simp [hi.normal], hi.lowPerm, hi.lowOrder, c1, hmem c2 hc, c3⟩

theorem Offer.fifo {s : Irc} {m : Msg} {f : Bool} {r : Irc × List Ev} (h : Offer s m f r) : FifoStep s r := by
  cases h with
  | queued _ he => exact fun h hi => enqueue_fifo he hi
  | sent =>
    exact fun h hi => ⟨by simp [Hist.pushAll, Hist.push, Hist.acc, hi.fast], hi.high, hi.normal, hi.lowPerm,
      hi.lowOrder, hi.cls⟩
  | refused => exact FifoStep.of_same rfl rfl (fun _ => rfl)

theorem notJoin_of_ne {m : Msg} (h : ¬ m.cmd = Gen.rateLimitedCommand) : notJoin m = true := by
  simp [notJoin, h]

theorem notJoin_of_eq {m : Msg} (h : m.cmd = Gen.rateLimitedCommand) : notJoin m = false := by
  simp [notJoin, h]

theorem dequeue_msg_classInv {limit now : Nat} {q q' : Queue} {m : Msg}
    (hq : q.dequeue limit now = (q', .msg m)) (hc : ClassInv q) : ClassInv q' := by
  obtain ⟨c1, c2, c3⟩ := hc
  obtain ⟨r, ⟨hh, rfl⟩ | ⟨hh, hn, rfl⟩ | ⟨hh, hn, hl, ⟨_, rfl⟩ | ⟨_, _, rfl⟩⟩⟩ := dequeue_msg hq
  · exact ⟨fun x hx => c1 x (hh ▸ mem_cons_of_mem _ hx), c2, c3⟩
  · exact ⟨c1, fun x hx => c2 x (hn ▸ mem_cons_of_mem _ hx), c3⟩
  · exact ⟨c1, c2, fun x hx => c3 x (hl ▸ mem_cons_of_mem _ hx)⟩
  · exact ⟨c1, c2, fun x hx => c3 x (hl ▸ mem_cons_of_mem _ hx)⟩

theorem dequeue_rotated_classInv {limit now : Nat} {q q' : Queue} {m : Msg}
    (hq : q.dequeue limit now = (q', .rotated m)) (hc : ClassInv q) : ClassInv q' := by
  obtain ⟨c1, c2, c3⟩ := hc
  obtain ⟨r, hh, hn, hl, _, _, rfl⟩ := dequeue_rotated hq
  refine ⟨c1, c2, fun x hx => c3 x ?_⟩
  rw [hl]
  rcases mem_append.mp hx with hx | hx
  · exact mem_cons_of_mem _ hx
  · rw [mem_singleton.mp hx]; exact mem_cons_self

theorem dequeue_msg_fifo {limit now : Nat} {q' : Queue} {m : Msg} {s : Irc} {h : Hist}
    (hq : s.queue.dequeue limit now = (q', .msg m)) (hi : FifoInv s h) :
    FifoInv { s with queue := q' } (h.out false m) := by
  have hcls := dequeue_msg_classInv hq hi.cls
  obtain ⟨c1, c2, c3⟩ := hi.cls
  obtain ⟨r, ⟨hh, rfl⟩ | ⟨hh, hn, rfl⟩ | ⟨hh, hn, hl, hq'⟩⟩ := dequeue_msg hq
  · have hc : classOf m.cmd = .high := c1 m (hh ▸ mem_cons_self)
    simp only [Hist.out, hc, Bool.false_eq_true, if_false]
    exact ⟨hi.fast, by simp [hi.high, hh], hi.normal, hi.lowPerm, hi.lowOrder, hcls⟩
  · have hc : classOf m.cmd = .normal := c2 m (hn ▸ mem_cons_self)
    simp only [Hist.out, hc, Bool.false_eq_true, if_false]
    exact ⟨hi.fast, hi.high, by simp [hi.normal, hn], hi.lowPerm, hi.lowOrder, hcls⟩
  · have hc : classOf m.cmd = .low := c3 m (hl ▸ mem_cons_self)
    -- the invariant does not look at `lastJoin`
    have key : ∀ j, FifoInv { s with queue := { s.queue with low := r, lastJoin := j } } (h.out false m) := by
      intro j
      simp only [Hist.out, hc, Bool.false_eq_true, if_false]
      refine ⟨hi.fast, hi.high, hi.normal, ?_, ?_, c1, c2, fun x hx => c3 x (hl ▸ mem_cons_of_mem _ hx)⟩
      · simpa [hl] using hi.lowPerm
      · have := hi.lowOrder
        rw [hl] at this
        simp only [filter_append, this, append_assoc, filter_cons]
        split <;> simp
    rcases hq' with ⟨_, rfl⟩ | ⟨_, _, rfl⟩ <;> exact key _

theorem dequeue_rotated_fifo {limit now : Nat} {q' : Queue} {m : Msg} {s : Irc} {h : Hist}
    (hq : s.queue.dequeue limit now = (q', .rotated m)) (hi : FifoInv s h) :
    FifoInv { s with queue := q' } h := by
  have hcls := dequeue_rotated_classInv hq hi.cls
  obtain ⟨r, hh, hn, hl, hj, _, rfl⟩ := dequeue_rotated hq
  refine ⟨hi.fast, hi.high, hi.normal, ?_, ?_, hcls⟩
  · have := hi.lowPerm
    rw [hl] at this
    exact this.trans (Perm.append_left _ (by simpa using (perm_append_singleton m r).symm))
  · have := hi.lowOrder
    rw [hl] at this
    simp [this, notJoin_of_eq hj]

theorem noMsg_fifo (s : Irc) : FifoStep s (noMsg s) := by
  unfold noMsg; split
  · exact FifoStep.of_same rfl rfl (fun _ => rfl)
  · exact FifoStep.refl s

theorem sendConnect_fifo (cs : List Content) : ∀ s : Irc, FifoStep s (sendConnect s cs) := by
  induction cs with
  | nil => intro s; exact FifoStep.refl s
  | cons c cs ih =>
    intro s
    have h1 : FifoStep s (sendMsg { s with nextOid := s.nextOid + 1 } ⟨.int s.nextOid, c⟩) :=
      fun h hi => (sendMsg_offer _ _).fifo h (hi.congr rfl rfl)
    exact FifoStep.trans h1 (ih _)

theorem queueConnectMessages_fifo (s : Irc) : FifoStep s (queueConnectMessages s) := by
  unfold queueConnectMessages
  split
  · exact FifoStep.of_same rfl rfl (fun _ => rfl)
  · exact sendConnect_fifo _ s

theorem FifoInv.of_empty (s : Irc) (hf : s.fast = []) (hq : s.queue = Queue.empty) :
    FifoInv s Hist.empty := by
  refine ⟨by simp [Hist.empty, hf], by simp [Hist.empty, hq, Queue.empty],
    by simp [Hist.empty, hq, Queue.empty], by simp [Hist.empty, hq, Queue.empty],
    by simp [Hist.empty, hq, Queue.empty], ?_⟩
  rw [hq]; exact ⟨by simp [Queue.empty], by simp [Queue.empty], by simp [Queue.empty]⟩

/-- `reset()` starts a new history -/
theorem reset_fifo (s : Irc) : FifoStep s (reset s) := by
  intro h _
  show FifoInv _ ((h.pushAll [Ev.discarded s.pending]).pushAll _)
  exact queueConnectMessages_fifo (cleared s) Hist.empty (FifoInv.of_empty _ rfl rfl)

theorem pingBranch_fifo (s : Irc) : FifoStep s (pingBranch s) :=
  pingBranch_cases (fun _ _ _ _ => reset_fifo s)
    (fun _ _ _ _ _ h hi => (queueMsg_offer _ _).fifo h (hi.congr rfl rfl)) (FifoStep.refl s)

theorem Removes.fifo {s s0 : Irc} {f : Bool} {m : Msg} {h : Hist} (hr : Removes s f m s0)
    (hi : FifoInv s h) : FifoInv s0 (h.out f m) := by
  cases hr with
  | fast hf =>
    exact ⟨by simp [Hist.out, hi.fast, hf], hi.high, hi.normal, hi.lowPerm, hi.lowOrder, hi.cls⟩
  | queue _ _ hq => exact (dequeue_msg_fifo hq hi).congr rfl rfl

theorem takeAux_fifo : ∀ (fuel : Nat) (s : Irc), FifoStep s (takeAux fuel s) :=
  takeAux_lift FifoStep.refl FifoStep.trans
    (fun {s f m s0 s1 d} hr hd h hi => by
      have : h.pushAll [d.ev f m s.now] = h.out f m := by cases d <;> rfl
      rw [this]
      exact (hr.fifo hi).congr (deliver_fq hd).1 (deliver_fq hd).2)
    (fun s => FifoStep.of_same rfl rfl (fun _ => rfl))
    (fun _ hq h hi => (dequeue_rotated_fifo hq hi).congr rfl rfl)
    (fun s _ _ => pingBranch_fifo s) noMsg_fifo

theorem step_fifo (s : Irc) (op : Op) : FifoStep s (step s op) := by
  cases op using Op.casesSilent with
  | queue m => exact (queueMsg_offer s m).fifo
  | send m => exact (sendMsg_offer s m).fifo
  | take => exact takeAux_fifo _ s
  | die => unfold step die; dsimp only; split <;> exact FifoStep.of_same rfl rfl (fun _ => rfl)
  | reset => exact reset_fifo s
  | config c => exact FifoStep.of_same rfl rfl (fun _ => rfl)
  | silent op h =>
    obtain ⟨_, _, _, _, _, _, h⟩ := step_silent s h
    rw [h]; exact FifoStep.of_same rfl rfl (fun _ => rfl)

theorem run_fifo : ∀ (ops : List Op) (s : Irc), FifoStep s (run s ops)
  | [], s => FifoStep.refl s
  | op :: ops, s => by
    unfold run
    exact FifoStep.trans (step_fifo s op) (run_fifo ops _)

theorem FifoInv.of_classInv (s : Irc) (hc : ClassInv s.queue) :
    FifoInv s ⟨s.fast, [], s.queue.high, [], s.queue.normal, [], s.queue.low, []⟩ :=
  ⟨by simp, by simp, by simp, by simp, by simp, hc⟩

theorem FifoStep.classInv {s : Irc} {r : Irc × List Ev} (h : FifoStep s r) (hc : ClassInv s.queue) :
    ClassInv r.1.queue := (h _ (FifoInv.of_classInv s hc)).cls

/-- the message a non-fast took/dropped/lost event is about -/
def Ev.srcQ : Ev → Option Msg
  | .took false s _ _ => some s
  | .dropped false s _ => some s
  | .lost false s _ _ => some s
  | _ => none

theorem Ev.srcQ_of_admin {e : Ev} (h : e.admin = true) : e.srcQ = none := by
  cases e <;> first | rfl | cases h

/-- a message released from the regular queue is the one `dequeue` selects from the queue as it
stood when `takeMsg` was called, and every message of the fast queue was dropped before it -/
def FromQueue (s : Irc) (r : Irc × List Ev) : Prop :=
  ∀ e m, e ∈ r.2 → e.srcQ = some m →
    (∃ q', s.queue.dequeue s.cfg.joinLimit s.now = (q', .msg m)) ∧
    s.lastTake + s.cfg.throttle < s.now ∧
    (∀ x ∈ s.fast, Ev.dropped true x s.now ∈ r.2)

theorem FromQueue.of_none {s : Irc} {r : Irc × List Ev} (h : ∀ e ∈ r.2, e.srcQ = none) : FromQueue s r :=
  fun e m he hs => by rw [h e he] at hs; cases hs

theorem takeAux_fromQueue : ∀ (fuel : Nat) (s : Irc), FromQueue s (takeAux fuel s) := by
  -- the event reporting on the message a round removed: only one about the regular queue counts
  have head : ∀ {s f m0 s0 m} (d : Delivery), Removes s f m0 s0 → (d.ev f m0 s.now).srcQ = some m →
      (∃ q', s.queue.dequeue s.cfg.joinLimit s.now = (q', .msg m)) ∧
      s.lastTake + s.cfg.throttle < s.now ∧ s.fast = [] := by
    intro s f m0 s0 m d hr hs
    cases hr with
    | fast => cases d <;> cases hs
    | queue hf ht hq =>
      have : m0 = m := by cases d <;> exact Option.some.inj hs
      exact ⟨⟨_, this ▸ hq⟩, ht, hf⟩
  have tail : ∀ s : Irc, ∀ e ∈ (noMsg s).2, e.srcQ = none :=
    fun s e he => Ev.srcQ_of_admin (noMsg_admin s e he)
  refine takeAux_ind (fun s => .of_none (by simp)) ?_ ?_
    (fun s _ _ _ => .of_none (forall_mem_cons.mpr ⟨rfl, tail s⟩))
    (fun _ _ => .of_none (forall_mem_cons.mpr ⟨rfl, tail _⟩))
    (fun s _ _ => .of_none (forall_mem_append.mpr
      ⟨fun e he => Ev.srcQ_of_admin (pingBranch_admin s e he), tail _⟩))
  · intro s f m0 s0 s1 d hr _ _ e m he hs
    obtain ⟨h1, h2, h3⟩ := head d hr (mem_singleton.mp he ▸ hs)
    exact ⟨h1, h2, by rw [h3]; intro x hx; cases hx⟩
  · intro s f m0 s0 s1 r hr hd ih e m he hs
    rcases mem_cons.mp he with rfl | he
    · obtain ⟨h1, h2, h3⟩ := head .dropped hr hs
      exact ⟨h1, h2, by rw [h3]; intro x hx; cases hx⟩
    · obtain ⟨h1, h2, h3⟩ := ih e m he hs
      obtain ⟨n, ec, rfl⟩ := deliver_frame' hd
      cases hr with
      | fast hf =>
        refine ⟨h1, h2, ?_⟩
        rw [hf]
        exact forall_mem_cons.mpr ⟨mem_cons_self, fun x hx => mem_cons_of_mem _ (h3 x hx)⟩
      -- right after a message was taken from the regular queue the throttle is closed
      | queue => exact absurd h2 (by simp)

theorem dequeue_msg_head {limit now : Nat} {q q' : Queue} {m : Msg}
    (h : q.dequeue limit now = (q', .msg m)) :
    (∃ r, q.high = m :: r) ∨ (q.high = [] ∧ ∃ r, q.normal = m :: r) ∨
    (q.high = [] ∧ q.normal = [] ∧ ∃ r, q.low = m :: r) := by
  obtain ⟨r, ⟨hh, _⟩ | ⟨hh, hn, _⟩ | ⟨hh, hn, hl, _⟩⟩ := dequeue_msg h
  · exact .inl ⟨r, hh⟩
  · exact .inr (.inl ⟨hh, r, hn⟩)
  · exact .inr (.inr ⟨hh, hn, r, hl⟩)

theorem rank_le_low (c : Cls) : c.rank ≤ Cls.low.rank := by cases c <;> decide

theorem dequeue_msg_best {limit now : Nat} {q q' : Queue} {m : Msg}
    (h : q.dequeue limit now = (q', .msg m)) (hc : ClassInv q) :
    ∀ x ∈ q.all, (classOf m.cmd).rank ≤ (classOf x.cmd).rank := by
  obtain ⟨c1, c2, c3⟩ := hc
  intro x hx
  simp only [Queue.all, mem_append] at hx
  rcases dequeue_msg_head h with ⟨r, hh⟩ | ⟨hh, r, hn⟩ | ⟨hh, hn, r, hl⟩
  · rw [c1 m (by rw [hh]; exact mem_cons_self)]; exact Nat.zero_le _
  · rw [c2 m (by rw [hn]; exact mem_cons_self)]
    rcases hx with (hx | hx) | hx
    · rw [hh] at hx; cases hx
    · rw [c2 x hx]; exact Nat.le_refl _
    · rw [c3 x hx]; decide
  · rcases hx with (hx | hx) | hx
    · rw [hh] at hx; cases hx
    · rw [hn] at hx; cases hx
    · rw [c3 x hx]; exact rank_le_low _

end C19
