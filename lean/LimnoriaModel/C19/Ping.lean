/-
C19 — the ping machinery over whole histories.

A PING of the bot's own is the only message `queueMsg` is ever given from inside (`Oid.int`, regular
queue): `isPing`.  `takeMsg` (any number of rounds) either leaves the ping state alone, or emits one
PING — at a moment when both queues are empty, the MOTD is over, the interval has elapsed and no PING
is outstanding — or, with a PING outstanding that long, makes the driver reconnect, once.
-/
import LimnoriaModel.C19.Lemmas
namespace C19
open Py List

/-- the objects `_queueConnectMessages` builds, numbered from `n` -/
def connectObjs : Nat → List Content → List Msg
  | _, [] => []
  | n, c :: cs => ⟨.int n, c⟩ :: connectObjs (n + 1) cs

theorem connectObjs_contents : ∀ (n : Nat) (cs : List Content), (connectObjs n cs).map (·.c) = cs
  | _, [] => rfl
  | n, c :: cs => by simp [connectObjs, connectObjs_contents (n + 1) cs]

theorem connectObjs_oids : ∀ (n : Nat) (cs : List Content) (m : Msg), m ∈ connectObjs n cs →
    ∃ k, m.oid = .int k ∧ n ≤ k
  | _, [], m, h => by simp [connectObjs] at h
  | n, c :: cs, m, h => by
    simp only [connectObjs, mem_cons] at h
    cases h with
    | inl h => exact ⟨n, by rw [h], Nat.le_refl n⟩
    | inr h =>
      obtain ⟨k, hk, hle⟩ := connectObjs_oids (n + 1) cs m h
      exact ⟨k, hk, by omega⟩

/-- the state after the `sendMsg`s of `_queueConnectMessages` -/
def withConnects (s : Irc) (cs : List Content) : Irc :=
  { s with fast := s.fast ++ connectObjs s.nextOid cs, nextOid := s.nextOid + cs.length }

theorem sendConnect_eq : ∀ (cs : List Content) (s : Irc), s.zombie = false →
    (sendConnect s cs).1 = withConnects s cs ∧
    (sendConnect s cs).2 = (connectObjs s.nextOid cs).map (Ev.accepted true)
  | [], s, _ => by simp [sendConnect, withConnects, connectObjs]
  | c :: cs, s, hz => by
    have ih := sendConnect_eq cs { s with fast := s.fast ++ [⟨.int s.nextOid, c⟩], nextOid := s.nextOid + 1 } hz
    simp only [sendConnect, sendMsg, hz, Bool.not_false, if_true]
    simp only [hz] at ih
    refine ⟨?_, ?_⟩
    · rw [ih.1]
      simp only [withConnects, connectObjs, append_assoc, singleton_append, length_cons, Irc.mk.injEq,
        true_and]
      exact ⟨hz.symm, by omega⟩
    · rw [ih.2]
      simp [connectObjs]

/-- the state `reset()` leaves when the bot is not dying -/
def afterReset (s : Irc) : Irc :=
  { s with lastTake := 0, afterConnect := false, lastPing := s.now, outstandingPing := false,
           echoAcked := false, labelAcked := false, queue := Queue.empty,
           fast := connectObjs s.nextOid s.cfg.connectMsgs,
           nextOid := s.nextOid + s.cfg.connectMsgs.length }

theorem reset_eq (s : Irc) (hz : s.zombie = false) :
    reset s = (afterReset s, .discarded s.pending ::
      (connectObjs s.nextOid s.cfg.connectMsgs).map (Ev.accepted true)) := by
  have h := sendConnect_eq s.cfg.connectMsgs
    { s with lastTake := 0, afterConnect := false, lastPing := s.now, outstandingPing := false,
             echoAcked := false, labelAcked := false, queue := Queue.empty, fast := [] } hz
  simp only [hz] at h
  simp only [reset, queueConnectMessages, hz, Bool.false_eq_true, if_false]
  rw [Prod.ext_iff]
  refine ⟨?_, ?_⟩
  · rw [h.1]; simp [withConnects, afterReset, hz]
  · simp only; rw [h.2]

theorem pingBranch_idle (s : Irc) (h : s.afterConnect = false) : pingBranch s = (s, []) := by
  simp [pingBranch, h]

def isPing : Ev → Bool
  | .accepted false m => match m.oid with
    | .int _ => true
    | .ext _ => false
  | _ => false

def isReconn : Ev → Bool
  | .driverReconnect => true
  | _ => false

def pingsOf (evs : List Ev) : Nat := evs.countP isPing
def reconnOf (evs : List Ev) : Nat := evs.countP isReconn

theorem pingsOf_append (a b : List Ev) : pingsOf (a ++ b) = pingsOf a + pingsOf b := countP_append
theorem reconnOf_append (a b : List Ev) : reconnOf (a ++ b) = reconnOf a + reconnOf b := countP_append
theorem pingsOf_cons (e : Ev) (l : List Ev) : pingsOf (e :: l) = pingsOf [e] + pingsOf l :=
  pingsOf_append [e] l
theorem reconnOf_cons (e : Ev) (l : List Ev) : reconnOf (e :: l) = reconnOf [e] + reconnOf l :=
  reconnOf_append [e] l

/-- the moment a PING may be emitted -/
structure PingDue (t : Irc) : Prop where
  fastEmpty : t.fast = []
  queueEmpty : t.queue.isEmpty = true
  connected : t.afterConnect = true
  pingOn : t.cfg.pingOn = true
  elapsed : t.lastPing + t.cfg.pingInterval < t.now
  alive : t.zombie = false

/-- what a piece of `takeMsg` does to the ping state -/
inductive PingOut (s : Irc) (r : Irc × List Ev) : Prop where
  | quiet (hp : pingsOf r.2 = 0) (hr : reconnOf r.2 = 0)
      (ho : r.1.outstandingPing = s.outstandingPing) : PingOut s r
  | sent (hp : pingsOf r.2 = 1) (hr : reconnOf r.2 = 0) (h0 : s.outstandingPing = false)
      (h1 : r.1.outstandingPing = true) (t : Irc) (hd : PingDue t) (hl : r.1.lastPing = t.now) : PingOut s r
  | timedOut (hp : pingsOf r.2 = 0) (hr : reconnOf r.2 = 1) (h0 : s.outstandingPing = true)
      (h1 : r.1.outstandingPing = false) : PingOut s r

theorem PingOut.of_frame {s s' : Irc} {r : Irc × List Ev} (h : PingOut s r)
    (ho : s.outstandingPing = s'.outstandingPing) : PingOut s' r := by
  cases h with
  | quiet hp hr h1 => exact .quiet hp hr (h1.trans ho)
  | sent hp hr h0 h1 t hd hl => exact .sent hp hr (ho ▸ h0) h1 t hd hl
  | timedOut hp hr h0 h1 => exact .timedOut hp hr (ho ▸ h0) h1

theorem PingOut.prepend {s : Irc} {r : Irc × List Ev} (h : PingOut s r) (a : List Ev)
    (hp : pingsOf a = 0) (hr : reconnOf a = 0) : PingOut s (r.1, a ++ r.2) := by
  cases h with
  | quiet p q o => exact .quiet (by rw [pingsOf_append]; omega) (by rw [reconnOf_append]; omega) o
  | sent p q h0 h1 t hd hl =>
    exact .sent (by rw [pingsOf_append]; omega) (by rw [reconnOf_append]; omega) h0 h1 t hd hl
  | timedOut p q h0 h1 =>
    exact .timedOut (by rw [pingsOf_append]; omega) (by rw [reconnOf_append]; omega) h0 h1

theorem PingOut.append {s : Irc} {r : Irc × List Ev} (h : PingOut s r) (a : List Ev)
    (hp : pingsOf a = 0) (hr : reconnOf a = 0) : PingOut s (r.1, r.2 ++ a) := by
  cases h with
  | quiet p q o => exact .quiet (by rw [pingsOf_append]; omega) (by rw [reconnOf_append]; omega) o
  | sent p q h0 h1 t hd hl =>
    exact .sent (by rw [pingsOf_append]; omega) (by rw [reconnOf_append]; omega) h0 h1 t hd hl
  | timedOut p q h0 h1 =>
    exact .timedOut (by rw [pingsOf_append]; omega) (by rw [reconnOf_append]; omega) h0 h1

theorem isPing_of_connecting {e : Ev} (h : e.connecting = true) : isPing e = false := by
  cases e with
  | accepted f m => cases f <;> first | rfl | cases h
  | _ => rfl

theorem isReconn_of_connecting {e : Ev} (h : e.connecting = true) : isReconn e = false := by
  cases e <;> first | rfl | cases h

theorem queueConnectMessages_quiet (s : Irc) :
    pingsOf (queueConnectMessages s).2 = 0 ∧ reconnOf (queueConnectMessages s).2 = 0 ∧
    (queueConnectMessages s).1.outstandingPing = s.outstandingPing := by
  obtain ⟨⟨fa, n, h⟩, hev⟩ := queueConnectMessages_spec s
  refine ⟨countP_eq_zero.mpr fun e he => ?_, countP_eq_zero.mpr fun e he => ?_, by rw [h]⟩
  · simp [isPing_of_connecting (hev e he)]
  · simp [isReconn_of_connecting (hev e he)]

theorem reset_quiet (s : Irc) :
    pingsOf (reset s).2 = 0 ∧ reconnOf (reset s).2 = 0 ∧ (reset s).1.outstandingPing = false := by
  have h := queueConnectMessages_quiet (cleared s)
  rw [reset_cleared, pingsOf_cons, reconnOf_cons, h.1, h.2.1, h.2.2]
  exact ⟨rfl, rfl, rfl⟩

theorem noMsg_quiet (s : Irc) : pingsOf (noMsg s).2 = 0 ∧ reconnOf (noMsg s).2 = 0 := by
  unfold noMsg
  split <;> exact ⟨rfl, rfl⟩

theorem queueMsg_idle_accept (t : Irc) (m : Msg) (htz : t.zombie = false) (hq : t.queue.isEmpty = true) :
    ∃ q', queueMsg t m = ({ t with queue := q' }, [.accepted false m]) := by
  have hnc : t.queue.contains m = false := by
    simp only [Queue.isEmpty, Bool.and_eq_true, List.isEmpty_iff] at hq
    simp [Queue.contains, hq.1.1, hq.1.2, hq.2]
  have ho := queueMsg_offer t m
  generalize queueMsg t m = r at ho ⊢
  cases ho with
  | queued => exact ⟨_, rfl⟩
  | refused hr =>
    rcases hr with h | ⟨_, h⟩
    · rw [htz] at h; cases h
    · simp [hnc] at h

theorem pingBranch_out (s : Irc) (hf : s.fast = []) (hq : s.queue.isEmpty = true) :
    PingOut s (pingBranch s) :=
  pingBranch_cases
    (fun _ _ _ ho => by
      have h := reset_quiet s
      refine .timedOut ?_ ?_ ho h.2.2
      · rw [pingsOf_cons, h.1]; rfl
      · rw [reconnOf_cons, h.2.1]; rfl)
    (fun h1 h2 h3 ho hz => by
      obtain ⟨q', hacc⟩ := queueMsg_idle_accept
        { s with lastPing := s.now, outstandingPing := true, nextOid := s.nextOid + 1 } (pingOf s) hz hq
      rw [hacc]
      exact .sent rfl rfl ho rfl s ⟨hf, hq, h1, h2, h3, hz⟩ rfl)
    (.quiet rfl rfl rfl)

theorem takeAux_ping : ∀ (fuel : Nat) (s : Irc), PingOut s (takeAux fuel s) := by
  -- a round that does not reach the ping branch: one event that is no ping, then the tail
  have tail : ∀ (s s' : Irc) (e : Ev), pingsOf [e] = 0 → reconnOf [e] = 0 →
      s'.outstandingPing = s.outstandingPing → PingOut s (s', e :: (noMsg s').2) := by
    intro s s' e h1 h2 ho
    have h := noMsg_quiet s'
    exact .quiet (by rw [pingsOf_cons, h.1, h1]) (by rw [reconnOf_cons, h.2, h2]) ho
  refine takeAux_ind (fun s => .quiet rfl rfl rfl) ?_ ?_ (fun s _ _ _ => tail s s _ rfl rfl rfl)
    (fun _ _ => tail _ _ _ rfl rfl rfl) ?_
  · intro s f m s0 s1 d hr hd _
    obtain ⟨q, fa, lt, rfl⟩ := hr.frame
    obtain ⟨n, ec, rfl⟩ := deliver_frame' hd
    exact .quiet (by cases d <;> rfl) (by cases d <;> rfl) rfl
  · intro s f m s0 s1 r hr hd ih
    obtain ⟨q, fa, lt, rfl⟩ := hr.frame
    obtain ⟨n, ec, rfl⟩ := deliver_frame' hd
    exact (ih.of_frame (s' := s) rfl).prepend [.dropped f m s.now] rfl rfl
  · intro s hf hq
    have h := noMsg_quiet (pingBranch s).1
    exact (pingBranch_out s hf hq).append _ h.1 h.2

def discs (evs : List Ev) : List (List Msg) :=
  evs.filterMap fun
    | .discarded ms => some ms
    | _ => none

theorem discs_append (a b : List Ev) : discs (a ++ b) = discs a ++ discs b := filterMap_append

theorem discs_cons (e : Ev) (l : List Ev) : discs (e :: l) = discs [e] ++ discs l := discs_append [e] l

theorem queueConnectMessages_discs (s : Irc) : discs (queueConnectMessages s).2 = [] := by
  refine filterMap_eq_nil_iff.mpr fun e he => ?_
  have := (queueConnectMessages_spec s).2 e he
  cases e <;> first | rfl | cases this

theorem noMsg_discs (s : Irc) : discs (noMsg s).2 = [] := by
  unfold noMsg; split <;> rfl

theorem Offer.discs {s : Irc} {m : Msg} {f : Bool} {r : Irc × List Ev} (h : Offer s m f r) : discs r.2 = [] := by
  cases h <;> rfl

theorem pingBranch_discs (s : Irc) (hf : s.fast = []) (hq : s.queue.isEmpty = true) :
    ∀ ms ∈ discs (pingBranch s).2, ms = [] :=
  pingBranch_cases (P := fun r => ∀ ms ∈ discs r.2, ms = [])
    (fun _ _ _ _ ms hm => by
      have hr : discs (reset s).2 = [s.pending] := by
        rw [reset_cleared, discs_cons, queueConnectMessages_discs]; rfl
      rw [discs_cons, hr] at hm
      simp only [discs, filterMap_cons, filterMap_nil, nil_append, mem_singleton] at hm
      rw [hm]; exact pending_nil s hf hq)
    (fun _ _ _ _ _ ms hm => by rw [(queueMsg_offer _ _).discs] at hm; cases hm)
    (fun ms hm => by cases hm)

theorem takeAux_discards_nothing : ∀ (fuel : Nat) (s : Irc), ∀ ms ∈ discs (takeAux fuel s).2, ms = [] :=
  takeAux_lift (P := fun _ r => ∀ ms ∈ discs r.2, ms = []) (fun _ ms hm => by cases hm)
    (fun h1 h2 => discs_append _ _ ▸ forall_mem_append.mpr ⟨h1, h2⟩)
    (fun {_ f m _ _ d} _ _ ms hm => by cases d <;> cases hm)
    (fun _ ms hm => by cases hm) (fun _ _ ms hm => by cases hm)
    pingBranch_discs (fun s ms hm => by rw [noMsg_discs] at hm; cases hm)

def b2n (b : Bool) : Nat := if b then 1 else 0

/-- operations that clear an outstanding PING from outside: a PONG arrived, `reset()` was called -/
def clearsOf : List Op → Nat
  | [] => 0
  | .pong :: ops => clearsOf ops + 1
  | .reset :: ops => clearsOf ops + 1
  | _ :: ops => clearsOf ops

/-- callers hand `queueMsg` objects of their own -/
def QExt : List Op → Prop
  | [] => True
  | .queue m :: ops => (∃ k, m.oid = .ext k) ∧ QExt ops
  | _ :: ops => QExt ops

/-- relative to the state a piece of history starts from: every reconnect and the PING outstanding at the
end have a PING of their own; a new PING comes only after the previous one was cleared -/
def PingBal (s : Irc) (r : Irc × List Ev) (clears : Nat) : Prop :=
  reconnOf r.2 + b2n r.1.outstandingPing ≤ pingsOf r.2 + b2n s.outstandingPing ∧
  pingsOf r.2 + b2n s.outstandingPing ≤ reconnOf r.2 + clears + b2n r.1.outstandingPing

theorem PingOut.bal {s : Irc} {r : Irc × List Ev} (h : PingOut s r) : PingBal s r 0 := by
  cases h with
  | quiet hp hr ho => simp only [PingBal, hp, hr, ho]; omega
  | sent hp hr h0 h1 => simp only [PingBal, hp, hr, h0, h1, b2n]; simp
  | timedOut hp hr h0 h1 => simp only [PingBal, hp, hr, h0, h1, b2n]; simp

theorem PingBal.trans {s s1 s2 : Irc} {e1 e2 : List Ev} {k1 k2 : Nat}
    (h1 : PingBal s (s1, e1) k1) (h2 : PingBal s1 (s2, e2) k2) : PingBal s (s2, e1 ++ e2) (k1 + k2) := by
  simp only [PingBal, pingsOf_append, reconnOf_append] at *
  omega

/-- a message a caller offers is no ping of the bot's own -/
theorem Offer.bal {s : Irc} {m : Msg} {f : Bool} {r : Irc × List Ev} (h : Offer s m f r)
    (hm : f = false → ∃ k, m.oid = .ext k) : PingBal s r 0 := by
  refine (PingOut.quiet ?_ ?_ ?_).bal <;> cases h
  · obtain ⟨k, hk⟩ := hm rfl
    simp [pingsOf, isPing, hk]
  all_goals rfl

theorem step_bal (s : Irc) (op : Op) (h : QExt [op]) :
    PingBal s (step s op) (clearsOf [op]) := by
  cases op with
  | queue m => exact (queueMsg_offer s m).bal (fun _ => h.1)
  | send m => exact (sendMsg_offer s m).bal (fun hf => by cases hf)
  | take => exact (takeAux_ping _ s).bal
  | die =>
    simp only [step, die]
    split <;> (simp only [PingBal, pingsOf, reconnOf, countP_cons, countP_nil, isPing, isReconn]; simp)
  | reset =>
    have hq := reset_quiet s
    simp only [step, PingBal, clearsOf, hq.1, hq.2.1, hq.2.2, b2n]
    cases s.outstandingPing <;> simp
  | tick dt => simp [step, PingBal, pingsOf, reconnOf]
  | connected => simp [step, PingBal, pingsOf, reconnOf]
  | pong =>
    simp only [step, PingBal, clearsOf, pingsOf, reconnOf, countP_nil, b2n]
    cases s.outstandingPing <;> simp
  | capEcho b => simp [step, PingBal, pingsOf, reconnOf]
  | capLabel b => simp [step, PingBal, pingsOf, reconnOf]
  | config c => simp [step, PingBal, pingsOf, reconnOf, isPing, isReconn]

theorem QExt.cons {op : Op} {ops : List Op} (h : QExt (op :: ops)) : QExt [op] ∧ QExt ops := by
  cases op <;> first | exact ⟨trivial, h⟩ | exact ⟨⟨h.1, trivial⟩, h.2⟩

theorem clearsOf_cons (op : Op) (ops : List Op) : clearsOf (op :: ops) = clearsOf [op] + clearsOf ops := by
  cases op <;> simp [clearsOf] <;> omega

theorem run_bal : ∀ (ops : List Op) (s : Irc), QExt ops → PingBal s (run s ops) (clearsOf ops)
  | [], s, _ => by simp [run, PingBal, pingsOf, reconnOf, clearsOf]
  | op :: ops, s, h => by
    obtain ⟨h1, h2⟩ := h.cons
    unfold run
    dsimp only
    rw [clearsOf_cons]
    exact PingBal.trans (step_bal s op h1) (run_bal ops (step s op).1 h2)

end C19
