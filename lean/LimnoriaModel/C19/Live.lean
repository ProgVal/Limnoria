/-
C19 — the loop of `takeMsg`: its bound is never reached; the driver is killed only with both queues
empty; with the clock past every limit each call consumes a waiting message; a quitting bot empties its
queues in boundedly many calls and then closes.
-/
import LimnoriaModel.C19.Rate
namespace C19
open Py List

theorem dequeue_msg_length {limit now : Nat} {q q' : Queue} {m : Msg}
    (h : q.dequeue limit now = (q', .msg m)) : q.all.length = q'.all.length + 1 := by
  obtain ⟨r, ⟨hh, rfl⟩ | ⟨hh, hn, rfl⟩ | ⟨hh, hn, hl, ⟨_, rfl⟩ | ⟨_, _, rfl⟩⟩⟩ := dequeue_msg h <;>
    simp [Queue.all, *]

/-- the body only ever calls `again` on a state with fewer pending messages -/
theorem takeBody_congr (r1 r2 : Irc → Irc × List Ev) (s : Irc)
    (h : ∀ s1 : Irc, s1.pending.length < s.pending.length → r1 s1 = r2 s1) :
    takeBody r1 s = takeBody r2 s := by
  unfold takeBody
  split
  · rename_i m rest hf
    split
    · rfl
    · rfl
    · rename_i s1 hd
      have hp := deliver_pending hd
      have : s1.pending.length < s.pending.length := by
        rw [hp]; simp [Irc.pending, hf]
      rw [h s1 this]
  · rename_i hf
    split
    · split
      · rfl
      · split
        · rename_i q' m hq
          split
          · rfl
          · rfl
          · rename_i s1 hd
            have hp := deliver_pending hd
            have hl := dequeue_msg_length hq
            have : s1.pending.length < s.pending.length := by
              rw [hp]; simp [Irc.pending, hf]; omega
            rw [h s1 this]
        · rfl
        · rfl
    · rfl

theorem takeAux_succ : ∀ (fuel : Nat) (s : Irc), s.pending.length < fuel →
    takeAux (fuel + 1) s = takeAux fuel s
  | 0, _, h => absurd h (Nat.not_lt_zero _)
  | k + 1, s, h => by
    show takeBody (takeAux (k + 1)) s = takeBody (takeAux k) s
    apply takeBody_congr
    intro s1 h1
    exact takeAux_succ k s1 (by omega)

theorem takeAux_fuel (s : Irc) : ∀ (extra : Nat),
    takeAux (s.pending.length + 1 + extra) s = takeMsg s
  | 0 => rfl
  | e + 1 => by
    rw [← Nat.add_assoc, takeAux_succ _ s (by omega)]
    exact takeAux_fuel s e

/-- `takeMsg` satisfies the recursive equation of the Python code: the bound is an artefact -/
theorem takeMsg_unfold (s : Irc) : takeMsg s = takeBody takeMsg s := by
  show takeBody (takeAux s.pending.length) s = takeBody takeMsg s
  apply takeBody_congr
  intro s1 h1
  have := takeAux_fuel s1 (s.pending.length - (s1.pending.length + 1))
  rw [← this]
  congr 1
  omega

def Irc.drained (s : Irc) : Prop := s.fast = [] ∧ s.queue.isEmpty = true

def DieOk (r : Irc × List Ev) : Prop := Ev.driverDie ∈ r.2 → r.1.drained

theorem DieOk.of_not {r : Irc × List Ev} (h : Ev.driverDie ∉ r.2) : DieOk r := fun h' => absurd h' h

theorem noMsg_dieOk (s : Irc) : DieOk (noMsg s) := by
  unfold noMsg
  split
  · rename_i hc
    simp only [Bool.and_eq_true] at hc
    exact fun _ => ⟨by simpa using hc.2, hc.1.2⟩
  · exact DieOk.of_not (by simp)

theorem Offer.die {s : Irc} {m : Msg} {f : Bool} {r : Irc × List Ev} (h : Offer s m f r) :
    Ev.driverDie ∉ r.2 := by
  cases h <;> simp

theorem sendConnect_die (cs : List Content) : ∀ s : Irc, Ev.driverDie ∉ (sendConnect s cs).2 := by
  induction cs with
  | nil => intro s h; cases h
  | cons c cs ih =>
    intro s h
    rcases mem_append.mp h with h | h
    · exact (sendMsg_offer _ _).die h
    · exact ih _ h

theorem reset_dieOk (s : Irc) : DieOk (reset s) := by
  unfold reset queueConnectMessages
  dsimp only
  split
  · intro _; exact ⟨rfl, rfl⟩
  · intro h
    rcases mem_cons.mp h with h | h
    · cases h
    · exact absurd h (sendConnect_die _ _)

theorem pingBranch_dieOk (s : Irc) : DieOk (pingBranch s) :=
  pingBranch_cases
    (fun _ _ _ _ h => by
      rcases mem_cons.mp h with h | h
      · cases h
      · exact reset_dieOk s h)
    (fun _ _ _ _ _ => DieOk.of_not (queueMsg_offer _ _).die) (DieOk.of_not (by simp))

/-- a `driverDie` after an event of another kind comes from the tail of the round, whose state is final -/
theorem DieOk.cons {e : Ev} {s : Irc} {evs : List Ev} (he : e ≠ .driverDie) (h : DieOk (s, evs)) :
    DieOk (s, e :: evs) := by
  intro hm
  rcases mem_cons.mp hm with hm | hm
  · exact absurd hm.symm he
  · exact h hm

theorem takeAux_dieOk : ∀ (fuel : Nat) (s : Irc), DieOk (takeAux fuel s) :=
  takeAux_ind (P := fun _ r => DieOk r) (fun _ => DieOk.of_not (by simp))
    (fun {_ f m _ _ d} _ _ _ => DieOk.of_not (by cases d <;> simp [Delivery.ev]))
    (fun _ _ ih => DieOk.cons Ev.noConfusion ih)
    (fun s _ _ _ => DieOk.cons Ev.noConfusion (noMsg_eq s ▸ noMsg_dieOk s))
    (fun _ _ => DieOk.cons Ev.noConfusion (noMsg_eq _ ▸ noMsg_dieOk _))
    (fun s _ _ h => (mem_append.mp h).elim (pingBranch_dieOk s)
      (noMsg_eq (pingBranch s).1 ▸ noMsg_dieOk _))

/-- a message left a queue in this event (handed over, dropped by a filter, or lost) -/
def Ev.consumes : Ev → Bool
  | .took _ _ _ _ => true
  | .dropped _ _ _ => true
  | .lost _ _ _ _ => true
  | _ => false

theorem dequeue_ready {limit now : Nat} {q : Queue} (hne : q.isEmpty = false)
    (hj : q.lastJoin + limit ≤ now) : ∃ q' m, q.dequeue limit now = (q', .msg m) := by
  unfold Queue.dequeue
  split
  · exact ⟨_, _, rfl⟩
  · rename_i hh
    split
    · exact ⟨_, _, rfl⟩
    · rename_i hn
      split
      · rename_i hl
        simp [Queue.isEmpty, hh, hn, hl] at hne
      · split
        · exact ⟨_, _, rfl⟩
        · exact ⟨_, _, rfl⟩

theorem takeMsg_progress (s : Irc) (hp : s.pending ≠ []) (ht : s.lastTake + s.cfg.throttle < s.now)
    (hj : s.queue.lastJoin + s.cfg.joinLimit ≤ s.now) :
    ∃ e ∈ (takeMsg s).2, e.consumes = true := by
  rw [takeMsg_unfold]
  unfold takeBody
  split
  · split
    · exact ⟨_, mem_cons_self, rfl⟩
    · exact ⟨_, mem_cons_self, rfl⟩
    · exact ⟨_, mem_cons_self, rfl⟩
  · rename_i hf
    have hq : s.queue.isEmpty = false := by
      cases h : s.queue.isEmpty
      · rfl
      · exact absurd ((pending_nil_iff s).mpr ⟨hf, h⟩) hp
    obtain ⟨q', m, hd⟩ := dequeue_ready (limit := s.cfg.joinLimit) (now := s.now) hq hj
    simp only [hq, Bool.not_false, if_true, Nat.not_le.mpr ht, if_false, hd]
    split
    · exact ⟨_, mem_cons_self, rfl⟩
    · exact ⟨_, mem_cons_self, rfl⟩
    · exact ⟨_, mem_cons_self, rfl⟩

/-- what a zombie's `takeMsg` leaves alone -/
structure ZFrame (s s' : Irc) (evs : List Ev) : Prop where
  zombie : s'.zombie = true
  cfg : s'.cfg = s.cfg
  now : s'.now = s.now
  noAcc : accOf evs = []

theorem ZFrame.trans {s s1 s2 : Irc} {e1 e2 : List Ev} (h1 : ZFrame s s1 e1) (h2 : ZFrame s1 s2 e2) :
    ZFrame s s2 (e1 ++ e2) :=
  ⟨h2.zombie, h2.cfg.trans h1.cfg, h2.now.trans h1.now, by rw [accOf_append, h1.noAcc, h2.noAcc]; rfl⟩

theorem noMsg_zframe (s : Irc) (hz : s.zombie = true) : ZFrame s (noMsg s).1 (noMsg s).2 := by
  rw [noMsg_state]
  refine ⟨hz, rfl, rfl, ?_⟩
  rcases noMsg_events s with h | h <;> rw [h] <;> rfl

theorem reset_zframe (s : Irc) (hz : s.zombie = true) : ZFrame s (reset s).1 (reset s).2 := by
  unfold reset queueConnectMessages
  dsimp only
  rw [if_pos hz]
  exact ⟨hz, rfl, rfl, rfl⟩

theorem pingBranch_zframe (s : Irc) (hz : s.zombie = true) : ZFrame s (pingBranch s).1 (pingBranch s).2 :=
  pingBranch_cases (P := fun r => ZFrame s r.1 r.2)
    (fun _ _ _ _ => have h := reset_zframe s hz; ⟨h.zombie, h.cfg, h.now, h.noAcc⟩)
    (fun _ _ _ _ hnz => by rw [hz] at hnz; cases hnz) ⟨hz, rfl, rfl, rfl⟩

theorem takeAux_zframe (fuel : Nat) (s : Irc) :
    s.zombie = true → ZFrame s (takeAux fuel s).1 (takeAux fuel s).2 :=
  takeAux_lift (P := fun s r => s.zombie = true → ZFrame s r.1 r.2)
    (fun _ hz => ⟨hz, rfl, rfl, rfl⟩) (fun h1 h2 hz => (h1 hz).trans (h2 (h1 hz).zombie))
    (fun {s f m s0 s1 d} hr hd hz => by
      obtain ⟨q, fa, lt, rfl⟩ := hr.frame
      obtain ⟨n, ec, rfl⟩ := deliver_frame' hd
      exact ⟨hz, rfl, rfl, d.accOf_ev f m s.now⟩)
    (fun _ hz => ⟨hz, rfl, rfl, rfl⟩) (fun _ _ hz => ⟨hz, rfl, rfl, rfl⟩)
    (fun s _ _ => pingBranch_zframe s) noMsg_zframe fuel s

theorem takeMsg_zombie_empty (s : Irc) (hz : s.zombie = true) (hp : s.pending = []) :
    Ev.driverDie ∈ (takeMsg s).2 ∧ (takeMsg s).1.pending = [] := by
  obtain ⟨hf, hq⟩ := (pending_nil_iff s).mp hp
  rw [takeMsg_idle_eq s hf hq]
  -- the ping branch either does nothing or resets a zombie (which kills, too)
  have hpb : (pingBranch s).1.zombie = true ∧ (pingBranch s).1.pending = [] :=
    pingBranch_cases (P := fun r => r.1.zombie = true ∧ r.1.pending = [])
      (fun _ _ _ _ => by
        rw [reset_cleared, show queueConnectMessages (cleared s) = (cleared s, killEvents) from if_pos hz]
        exact ⟨hz, rfl⟩)
      (fun _ _ _ _ hnz => by rw [hz] at hnz; cases hnz) ⟨hz, hp⟩
  obtain ⟨hf', hq'⟩ := (pending_nil_iff _).mp hpb.2
  refine ⟨mem_append_right _ ?_, by rw [noMsg_state]; exact hpb.2⟩
  unfold noMsg
  simp [hpb.1, hf', hq', killEvents]

/-- `k` rounds of: let `d` seconds pass, call `takeMsg` -/
def drainOps (d : Nat) : Nat → List Op
  | 0 => []
  | k + 1 => .tick d :: .take :: drainOps d k

/-- a quitting bot in a consistent state -/
structure ZInv (s : Irc) : Prop where
  zombie : s.zombie = true
  cls : ClassInv s.queue
  takeNow : s.lastTake ≤ s.now
  joinNow : s.queue.lastJoin ≤ s.now

theorem goneOf_ne_nil_of_consumes {evs : List Ev} {e : Ev} (he : e ∈ evs) (hc : e.consumes = true) :
    0 < (goneOf evs).length := by
  induction evs with
  | nil => cases he
  | cons x xs ih =>
    rcases mem_cons.mp he with h | h
    · subst h
      cases e with
      | took f a b t => simp [goneOf]
      | dropped f a t => simp [goneOf]
      | lost f a b t => simp [goneOf]
      | _ => cases hc
    · have := ih h
      cases x <;> simp [goneOf] <;> omega

theorem drain_round (ht : TablesOk Gen.highPriority Gen.lowPriority Gen.rateLimitedCommand)
    (s : Irc) (hz : ZInv s) (d : Nat) (hd : s.cfg.throttle < d) (hj : s.cfg.joinLimit ≤ d) :
    let s' := (takeMsg { s with now := s.now + d }).1
    ZInv s' ∧ s'.cfg = s.cfg ∧ (s.pending ≠ [] → s'.pending.length < s.pending.length) := by
  intro s'
  let st : Irc := { s with now := s.now + d }
  have hzt : st.zombie = true := hz.zombie
  have zf := takeAux_zframe (st.pending.length + 1) st hzt
  have hcls : ClassInv s'.queue := (takeAux_fifo (st.pending.length + 1) st).classInv hz.cls
  have hri : RateInv st ⟨st.cfg.throttle, st.cfg.joinLimit, none, none⟩ :=
    ⟨rfl, rfl, (by intro l h; cases h), Nat.le_trans hz.takeNow (Nat.le_add_right _ _),
      (by intro l h; cases h), Nat.le_trans hz.joinNow (Nat.le_add_right _ _)⟩
  obtain ⟨st', _, hri'⟩ := takeAux_rate ht (st.pending.length + 1) st _ hri hz.cls
  refine ⟨⟨zf.zombie, hcls, hri'.takeNow, hri'.joinNow⟩, zf.cfg, ?_⟩
  intro hp
  have hp' : st.pending ≠ [] := hp
  have h1 : st.lastTake + st.cfg.throttle < st.now := by
    show s.lastTake + s.cfg.throttle < s.now + d
    have := hz.takeNow; omega
  have h2 : st.queue.lastJoin + st.cfg.joinLimit ≤ st.now := by
    show s.queue.lastJoin + s.cfg.joinLimit ≤ s.now + d
    have := hz.joinNow; omega
  obtain ⟨e, he, hc⟩ := takeMsg_progress st hp' h1 h2
  have hlen := goneOf_ne_nil_of_consumes he hc
  have hcons := takeMsg_conserves st
  have hperm : st.pending.Perm (goneOf (takeMsg st).2 ++ (takeMsg st).1.pending) := by
    rw [perm_iff_count]; intro x
    have := hcons x
    have hacc : accOf (takeMsg st).2 = [] := zf.noAcc
    rw [hacc] at this
    simp only [count_append, count_nil] at *
    omega
  have := hperm.length_eq
  simp only [length_append] at this
  show (takeMsg st).1.pending.length < st.pending.length
  omega

theorem run_drain_succ (s : Irc) (d k : Nat) :
    run s (drainOps d (k + 1)) =
      ((run (takeMsg { s with now := s.now + d }).1 (drainOps d k)).1,
       (takeMsg { s with now := s.now + d }).2 ++ (run (takeMsg { s with now := s.now + d }).1 (drainOps d k)).2) := by
  simp [drainOps, run, step]

theorem quit_completes_aux (ht : TablesOk Gen.highPriority Gen.lowPriority Gen.rateLimitedCommand) (d : Nat) :
    ∀ (n : Nat) (s : Irc), s.pending.length ≤ n → ZInv s → s.cfg.throttle < d → s.cfg.joinLimit ≤ d →
    ∃ k, k ≤ n ∧ (run s (drainOps d k)).1.pending = [] ∧ Ev.driverDie ∈ (run s (drainOps d (k + 1))).2 := by
  intro n
  induction n with
  | zero =>
    intro s hn hz _ _
    have hp : s.pending = [] := length_eq_zero_iff.mp (Nat.le_zero.mp hn)
    refine ⟨0, Nat.le_refl _, by simpa [drainOps, run] using hp, ?_⟩
    rw [run_drain_succ]
    exact mem_append_left _ (takeMsg_zombie_empty { s with now := s.now + d } hz.zombie hp).1
  | succ n ih =>
    intro s hn hz hd hj
    by_cases hp : s.pending = []
    · obtain ⟨k, hk, h⟩ := ih s (by simp [hp]) hz hd hj
      exact ⟨k, Nat.le_succ_of_le hk, h⟩
    · obtain ⟨z', c', p'⟩ := drain_round ht s hz d hd hj
      have hlt := p' hp
      obtain ⟨k, hk, h1, h2⟩ := ih _ (by omega) z' (by rw [c']; exact hd) (by rw [c']; exact hj)
      refine ⟨k + 1, by omega, ?_, ?_⟩
      · rw [run_drain_succ]; exact h1
      · rw [run_drain_succ]; exact mem_append_right _ h2

end C19
