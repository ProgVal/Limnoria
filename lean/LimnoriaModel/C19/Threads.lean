/-
C19 — `Irc.queueMsg` called from other threads (plugins with threaded commands do it).

At the granularity of the Python statements that touch the queues: list `append` / `pop(0)` are atomic
under the GIL, only the driver's thread dequeues, and `Irc.takeMsg` looks at the queues only at the
start of a round (an append landing inside a round is an append at the round's boundary: the filters
of `Reentrant.lean` are arbitrary, so `rtakeMsg_conserves` covers it).  The one compound step is
`IrcMsgQueue.enqueue`: `if msg in self and duplicates(): refuse` … `append`.  `qcheck` / `qappend` are
its two halves, run by a thread `tid` with anything in between.
 * conservation holds for every interleaving, lock or no lock (`trun_conserves`);
 * the refusal of duplicates does not: `unlocked_duplicates` is the schedule (found on the real code by
   the two-thread stream of harness/c19.py) — hence the lock `enqueue` now takes (`enqueue_is_locked`,
   extracted), under which the two halves are one step and the thread model collapses to the sequential
   one (`locked_pair`), about which everything else is proved.
-/
import LimnoriaModel.C19.Lemmas
namespace C19
open Py List

inductive TOp where
  | base (op : Op)
  | qcheck (tid : Nat) (m : Msg)
  | qappend (tid : Nat)

structure TState where
  irc : Irc
  slots : List (Nat × Msg × Bool)      -- what each thread decided in its `qcheck`

def tstep (s : TState) : TOp → TState × List Ev
  | .base op => ({ s with irc := (step s.irc op).1 }, (step s.irc op).2)
  | .qcheck tid m =>
    ({ s with slots := (tid, m, !s.irc.zombie && !(s.irc.queue.contains m && s.irc.cfg.dupRefuse)) :: s.slots }, [])
  | .qappend tid =>
    match s.slots.find? (fun x => x.1 == tid) with
    | none => (s, [])
    | some (_, m, ok) =>
      let sl := s.slots.filter (fun x => !(x.1 == tid))
      if ok then
        (⟨{ s.irc with queue := (s.irc.queue.enqueue false m).1 }, sl⟩, [.accepted false m])
      else (⟨s.irc, sl⟩, [.refused false m])

def trun : TState → List TOp → TState × List Ev
  | s, [] => (s, [])
  | s, op :: ops =>
    let r := tstep s op
    let r2 := trun r.1 ops
    (r2.1, r.2 ++ r2.2)

theorem enqueue_dupOff (q : Queue) (m : Msg) : (q.enqueue false m).2 = true := by
  unfold Queue.enqueue
  simp only [Bool.and_false, Bool.false_eq_true, if_false]
  split <;> rfl

theorem tstep_conserves (s : TState) (op : TOp) : Conserves s.irc ((tstep s op).1.irc, (tstep s op).2) := by
  cases op with
  | base op => exact step_conserves s.irc op
  | qcheck tid m => exact Conserves.refl _
  | qappend tid =>
    simp only [tstep]
    cases hfind : s.slots.find? (fun x => x.1 == tid) with
    | none => exact Conserves.refl _
    | some x =>
      obtain ⟨t, m, ok⟩ := x
      cases ok with
      | true =>
        simp only [if_true]
        have h : s.irc.queue.enqueue false m = ((s.irc.queue.enqueue false m).1, true) := by
          rw [← enqueue_dupOff s.irc.queue m]
        intro x
        have := enqueue_true_count h x
        cnt
      | false =>
        simp only [Bool.false_eq_true, if_false]
        intro x; cnt

/-- **Conservation under every interleaving** of the two halves of `queueMsg` run by any number of
threads with everything else: waiting + accepted = handed over + dropped + lost + discarded + waiting. -/
theorem trun_conserves : ∀ (ops : List TOp) (s : TState),
    Conserves s.irc ((trun s ops).1.irc, (trun s ops).2)
  | [], s => Conserves.refl _
  | op :: ops, s => by
    unfold trun
    dsimp only
    exact Conserves.trans (tstep_conserves s op) (trun_conserves ops (tstep s op).1)

/-- **Under the lock** the two halves are one step: exactly `queueMsg`. -/
theorem locked_pair (s : TState) (tid : Nat) (m : Msg) :
    (tstep (tstep s (.qcheck tid m)).1 (.qappend tid)).1.irc = (queueMsg s.irc m).1 ∧
    (tstep (tstep s (.qcheck tid m)).1 (.qappend tid)).2 = (queueMsg s.irc m).2 := by
  simp only [tstep, find?_cons, beq_self_eq_true]
  unfold queueMsg Queue.enqueue
  cases hz : s.irc.zombie <;> cases hc : (s.irc.queue.contains m && s.irc.cfg.dupRefuse)
  · simp only [Bool.not_false, Bool.and_self, if_true, Bool.false_eq_true, if_false, Bool.and_false]
    split <;> exact ⟨rfl, rfl⟩
  · simp
  · simp
  · simp

def raceCfg : Cfg :=
  { throttle := 0, joinLimit := 0, dupRefuse := true, pingOn := false, pingInterval := 120,
    connectMsgs := [], filters := [] }

def raceMsg (n : Nat) : Msg := ⟨.ext n, ⟨[], ['N', 'O', 'T', 'I', 'C', 'E'], [['n']], []⟩⟩

/-- **Without the lock**: two threads queue equal messages; both test before either appends; both are
accepted although duplicates are refused — the queue holds the message twice. -/
theorem unlocked_duplicates :
    ((trun ⟨(init raceCfg 1000).1, []⟩
        [.qcheck 1 (raceMsg 1), .qcheck 2 (raceMsg 2), .qappend 1, .qappend 2]).1.irc.queue.low.map (·.c))
      = [(raceMsg 1).c, (raceMsg 1).c] := by decide

/-- … while the same calls one after the other (what the lock enforces) refuse the second -/
theorem locked_refuses :
    ((trun ⟨(init raceCfg 1000).1, []⟩
        [.qcheck 1 (raceMsg 1), .qappend 1, .qcheck 2 (raceMsg 2), .qappend 2]).1.irc.queue.low.map (·.c))
      = [(raceMsg 1).c] := by decide

/-- the lock is there (extracted from src/irclib.py on every run) -/
theorem enqueue_is_locked : Gen.enqueueLocked = true := by decide

end C19
