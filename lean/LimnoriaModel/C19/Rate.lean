/-
C19 — throttle and JOIN rate: a checker over event traces and the invariant that makes every
trace of the model pass it; the rates only change at a configuration change.
-/
import LimnoriaModel.C19.Order
namespace C19
open Py List

/-- what the property theorems need from the extracted tables -/
def TablesOk (high low : List Str) (join : Str) : Prop :=
  (∀ c, c ∈ high → c ∉ low) ∧ join ∈ low ∧ join ∉ high

instance (high low : List Str) (join : Str) : Decidable (TablesOk high low join) := by
  unfold TablesOk; infer_instance

/-- state of the rate checker: the rates in force, and the time of the last release of a queued
message / of a queued JOIN since the last `reset()` -/
structure Rate where
  thr : Nat
  jl : Nat
  lastQ : Option Nat
  lastJ : Option Nat
deriving DecidableEq, Repr

def isJoin (m : Msg) : Bool := m.cmd == Gen.rateLimitedCommand

/-- `none` = the trace breaks a rate -/
def Rate.push (st : Rate) : Ev → Option Rate
  | .took false src _ t =>
    if (st.lastQ.all fun l => decide (l + st.thr < t)) &&
       (!isJoin src || st.lastJ.all fun l => decide (l + st.jl ≤ t)) then
      some { st with lastQ := some t, lastJ := if isJoin src then some t else st.lastJ }
    else none
  | .discarded _ => some { st with lastQ := none, lastJ := none }
  | .config t j => some { st with thr := t, jl := j }
  | _ => some st

def Rate.run : Rate → List Ev → Option Rate
  | st, [] => some st
  | st, e :: r => match st.push e with
    | none => none
    | some st' => Rate.run st' r

theorem Rate.run_append (st : Rate) (a b : List Ev) :
    Rate.run st (a ++ b) = (Rate.run st a).bind fun st' => Rate.run st' b := by
  induction a generalizing st with
  | nil => rfl
  | cons e r ih =>
    simp only [cons_append, Rate.run]
    cases st.push e with
    | none => rfl
    | some st' => exact ih st'

/-- `≤`, not `=`: the model's `lastTake` also moves when a JOIN is rotated or a filter drops the message -/
structure RateInv (s : Irc) (st : Rate) : Prop where
  thr : st.thr = s.cfg.throttle
  jl : st.jl = s.cfg.joinLimit
  lastQ : ∀ l, st.lastQ = some l → l ≤ s.lastTake
  takeNow : s.lastTake ≤ s.now
  lastJ : ∀ l, st.lastJ = some l → l ≤ s.queue.lastJoin
  joinNow : s.queue.lastJoin ≤ s.now

/-- the step's events pass the checker and re-establish the invariant -/
def RateStep (s : Irc) (r : Irc × List Ev) : Prop :=
  ∀ st, RateInv s st → ClassInv s.queue → ∃ st', Rate.run st r.2 = some st' ∧ RateInv r.1 st'

theorem RateStep.refl (s : Irc) : RateStep s (s, []) := fun st hi _ => ⟨st, rfl, hi⟩

/-- events the checker ignores -/
def Ev.rateNeutral : Ev → Bool
  | .took false _ _ _ => false
  | .discarded _ => false
  | .config _ _ => false
  | _ => true

theorem Rate.push_neutral (st : Rate) {e : Ev} (he : e.rateNeutral = true) : st.push e = some st := by
  cases e with
  | took f src o t =>
    cases f
    · cases he
    · rfl
  | discarded ms => cases he
  | config t j => cases he
  | _ => rfl

theorem Rate.run_neutral (st : Rate) (evs : List Ev) (h : ∀ e ∈ evs, e.rateNeutral = true) :
    Rate.run st evs = some st := by
  induction evs with
  | nil => rfl
  | cons e r ih =>
    simp only [Rate.run, Rate.push_neutral st (h e mem_cons_self)]
    exact ih (fun e' he' => h e' (mem_cons_of_mem _ he'))

theorem RateInv.congr {s s' : Irc} {st : Rate} (hi : RateInv s st) (h1 : s'.cfg = s.cfg)
    (h2 : s'.lastTake = s.lastTake) (h3 : s'.now = s.now) (h4 : s'.queue.lastJoin = s.queue.lastJoin) :
    RateInv s' st :=
  ⟨by rw [h1]; exact hi.thr, by rw [h1]; exact hi.jl, by rw [h2]; exact hi.lastQ,
   by rw [h2, h3]; exact hi.takeNow, by rw [h4]; exact hi.lastJ, by rw [h4, h3]; exact hi.joinNow⟩

theorem RateStep.of_neutral {s s' : Irc} {evs : List Ev} (hn : ∀ e ∈ evs, e.rateNeutral = true)
    (h1 : s'.cfg = s.cfg) (h2 : s'.lastTake = s.lastTake) (h3 : s'.now = s.now)
    (h4 : s'.queue.lastJoin = s.queue.lastJoin) : RateStep s (s', evs) :=
  fun st hi _ => ⟨st, Rate.run_neutral st evs hn, hi.congr h1 h2 h3 h4⟩

theorem noMsg_rate (s : Irc) : RateStep s (noMsg s) := by
  intro st hi _
  refine ⟨st, Rate.run_neutral st _ (fun e he => ?_), by rw [noMsg_state]; exact hi⟩
  rcases noMsg_events s with h | h <;> rw [h] at he
  · cases he
  · simp [killEvents] at he; subst he; rfl

theorem Offer.rate {s : Irc} {m : Msg} {f : Bool} {r : Irc × List Ev} (h : Offer s m f r) : RateStep s r := by
  cases h with
  | queued _ he => exact RateStep.of_neutral (by simp [Ev.rateNeutral]) rfl rfl rfl (enqueue_lastJoin he)
  | sent => exact RateStep.of_neutral (by simp [Ev.rateNeutral]) rfl rfl rfl rfl
  | refused => exact RateStep.of_neutral (by simp [Ev.rateNeutral]) rfl rfl rfl rfl

theorem Ev.rateNeutral_of_connecting {e : Ev} (h : e.connecting = true) : e.rateNeutral = true := by
  cases e <;> first | rfl | cases h

/-- `reset()` starts a new connection: the checker forgets the last releases -/
theorem reset_rate (s : Irc) : RateStep s (reset s) := by
  intro st hi _
  obtain ⟨⟨fa, n, h⟩, hev⟩ := queueConnectMessages_spec (cleared s)
  refine ⟨{ st with lastQ := none, lastJ := none }, ?_, ?_⟩
  · simp only [reset_cleared, Rate.run, Rate.push]
    exact Rate.run_neutral _ _ (fun e he => Ev.rateNeutral_of_connecting (hev e he))
  · rw [reset_cleared, h]
    exact ⟨hi.thr, hi.jl, (by intro l h; cases h), Nat.zero_le _, (by intro l h; cases h), Nat.zero_le _⟩

theorem pingBranch_rate (s : Irc) : RateStep s (pingBranch s) :=
  pingBranch_cases
    (fun _ _ _ _ st hi hc => by
      obtain ⟨st', h1, h2⟩ := reset_rate s st hi hc
      exact ⟨st', by simpa [Rate.run, Rate.push] using h1, h2⟩)
    (fun _ _ _ _ _ st hi hc => (queueMsg_offer _ _).rate st (hi.congr rfl rfl rfl rfl) hc)
    (RateStep.refl s)

/-- two steps in a row; the class invariant is carried by `FifoStep` -/
theorem RateStep.trans {s s1 s2 : Irc} {e1 e2 : List Ev} (h1 : RateStep s (s1, e1))
    (hf : FifoStep s (s1, e1)) (h2 : RateStep s1 (s2, e2)) : RateStep s (s2, e1 ++ e2) := by
  intro st hi hc
  obtain ⟨st1, a1, a2⟩ := h1 st hi hc
  obtain ⟨st2, b1, b2⟩ := h2 st1 a2 (hf.classInv hc)
  exact ⟨st2, by rw [Rate.run_append, a1]; exact b1, b2⟩

theorem classOf_join (ht : TablesOk Gen.highPriority Gen.lowPriority Gen.rateLimitedCommand) :
    classOf Gen.rateLimitedCommand = .low := by
  unfold classOf
  rw [if_neg ht.2.2, if_pos ht.2.1]

theorem isJoin_iff (m : Msg) : isJoin m = true ↔ m.cmd = Gen.rateLimitedCommand := by
  simp [isJoin]

theorem dequeue_msg_join (ht : TablesOk Gen.highPriority Gen.lowPriority Gen.rateLimitedCommand)
    {limit now : Nat} {q q' : Queue} {m : Msg}
    (hq : q.dequeue limit now = (q', .msg m)) (hc : ClassInv q) :
    (isJoin m = true → q.lastJoin + limit ≤ now ∧ q'.lastJoin = now) ∧
    (isJoin m = false → q'.lastJoin = q.lastJoin) := by
  obtain ⟨c1, c2, c3⟩ := hc
  have hj := classOf_join ht
  -- a JOIN is of class low: it is not at the head of the other two lists
  have notLow : ∀ {c : Cls}, classOf m.cmd = c → c ≠ .low → isJoin m = true → False := by
    intro c hm hne h
    rw [(isJoin_iff m).mp h, hj] at hm
    exact hne hm.symm
  obtain ⟨r, ⟨hh, rfl⟩ | ⟨hh, hn, rfl⟩ | ⟨hh, hn, hl, ⟨hcmd, rfl⟩ | ⟨hcmd, hlim, rfl⟩⟩⟩ := dequeue_msg hq
  · exact ⟨fun h => (notLow (c1 m (hh ▸ mem_cons_self)) Cls.noConfusion h).elim, fun _ => rfl⟩
  · exact ⟨fun h => (notLow (c2 m (hn ▸ mem_cons_self)) Cls.noConfusion h).elim, fun _ => rfl⟩
  · exact ⟨fun h => absurd ((isJoin_iff m).mp h) hcmd, fun _ => rfl⟩
  · exact ⟨fun _ => ⟨hlim, rfl⟩, fun h => by rw [(isJoin_iff m).mpr hcmd] at h; cases h⟩

theorem dequeue_rotated_lastJoin {limit now : Nat} {q q' : Queue} {m : Msg}
    (hq : q.dequeue limit now = (q', .rotated m)) : q'.lastJoin = q.lastJoin := by
  obtain ⟨r, _, _, _, _, _, rfl⟩ := dequeue_rotated hq; rfl

theorem RateStep.cons_neutral {s s1 : Irc} {e : Ev} {evs : List Ev} (he : e.rateNeutral = true)
    (h : RateStep s (s1, evs)) : RateStep s (s1, e :: evs) := by
  intro st hi hc
  obtain ⟨st', h1, h2⟩ := h st hi hc
  refine ⟨st', ?_, h2⟩
  simp only [Rate.run, Rate.push_neutral st he]
  exact h1

theorem Removes.rateInv (ht : TablesOk Gen.highPriority Gen.lowPriority Gen.rateLimitedCommand)
    {s s0 : Irc} {f : Bool} {m : Msg} {st : Rate} (hr : Removes s f m s0) (hi : RateInv s st)
    (hc : ClassInv s.queue) : RateInv s0 st ∧ ClassInv s0.queue := by
  cases hr with
  | fast => exact ⟨hi.congr rfl rfl rfl rfl, hc⟩
  | @queue q' m hf hlt hq =>
    obtain ⟨j1, j2⟩ := dequeue_msg_join ht hq hc
    have hq'ge : s.queue.lastJoin ≤ q'.lastJoin ∧ q'.lastJoin ≤ s.now := by
      cases hj : isJoin m
      · rw [j2 hj]; exact ⟨Nat.le_refl _, hi.joinNow⟩
      · rw [(j1 hj).2]; exact ⟨hi.joinNow, Nat.le_refl _⟩
    exact ⟨⟨hi.thr, hi.jl, fun l hl => Nat.le_trans (hi.lastQ l hl) hi.takeNow, Nat.le_refl _,
      fun l hl => Nat.le_trans (hi.lastJ l hl) hq'ge.1, hq'ge.2⟩, dequeue_msg_classInv hq hc⟩

/-- a message of the regular queue that goes out passes the checker: the throttle time is over, and
for a JOIN `dequeue` has waited for the JOIN limit -/
theorem Removes.rateTook (ht : TablesOk Gen.highPriority Gen.lowPriority Gen.rateLimitedCommand)
    {s s0 : Irc} {m o : Msg} {st : Rate} (hr : Removes s false m s0) (hi : RateInv s st)
    (hc : ClassInv s.queue) :
    ∃ st', Rate.run st [.took false m o s.now] = some st' ∧ RateInv s0 st' := by
  cases hr with
  | @queue q' m hf hlt hq =>
    obtain ⟨j1, j2⟩ := dequeue_msg_join ht hq hc
    have okQ : (st.lastQ.all fun l => decide (l + st.thr < s.now)) = true := by
      cases hl : st.lastQ with
      | none => rfl
      | some l =>
        have := hi.lastQ l hl
        simp only [Option.all_some, decide_eq_true_eq, hi.thr]; omega
    have okJ : (!isJoin m || st.lastJ.all fun l => decide (l + st.jl ≤ s.now)) = true := by
      cases hj : isJoin m
      · rfl
      · cases hl : st.lastJ with
        | none => rfl
        | some l =>
          have := hi.lastJ l hl
          have := (j1 hj).1
          simp only [Bool.not_true, Bool.false_or, Option.all_some, decide_eq_true_eq, hi.jl]
          omega
    refine ⟨{ st with lastQ := some s.now, lastJ := if isJoin m then some s.now else st.lastJ }, ?_, ?_⟩
    · simp only [Rate.run, Rate.push, okQ, okJ, Bool.and_self, if_true]
    · refine ⟨hi.thr, hi.jl, ?_, Nat.le_refl _, ?_, ?_⟩
      · intro l hl; injection hl with hl; subst hl; exact Nat.le_refl _
      · intro l hl
        show l ≤ q'.lastJoin
        cases hj : isJoin m
        · simp only [hj, Bool.false_eq_true, if_false] at hl
          rw [j2 hj]; exact hi.lastJ l hl
        · simp only [hj, if_true] at hl
          injection hl with hl; subst hl
          rw [(j1 hj).2]; exact Nat.le_refl _
      · show q'.lastJoin ≤ s.now
        cases hj : isJoin m
        · rw [j2 hj]; exact hi.joinNow
        · rw [(j1 hj).2]; exact Nat.le_refl _

theorem takeAux_rate (ht : TablesOk Gen.highPriority Gen.lowPriority Gen.rateLimitedCommand) :
    ∀ (fuel : Nat) (s : Irc), RateStep s (takeAux fuel s) := by
  have noMsg' : ∀ s, RateStep s (s, (noMsg s).2) := fun s => noMsg_eq s ▸ noMsg_rate s
  refine takeAux_ind RateStep.refl ?_ ?_ ?_ ?_ ?_
  · intro s f m s0 s1 d hr hd _ st hi hc
    obtain ⟨n, ec, rfl⟩ := deliver_frame' hd
    have neutral : (d.ev f m s.now).rateNeutral = true →
        ∃ st', Rate.run st [d.ev f m s.now] = some st' ∧ RateInv { s0 with nextOid := n, echoed := ec } st' :=
      fun h => ⟨st, Rate.run_neutral st _ (by simpa using h), ((hr.rateInv ht hi hc).1).congr rfl rfl rfl rfl⟩
    cases f with
    | true => exact neutral (by cases d <;> rfl)
    | false =>
      cases d with
      | out o =>
        obtain ⟨st', h1, h2⟩ := hr.rateTook ht (o := o) hi hc
        exact ⟨st', h1, h2.congr rfl rfl rfl rfl⟩
      | lost o => exact neutral rfl
      | dropped => exact neutral rfl
  · intro s f m s0 s1 r hr hd ih
    obtain ⟨n, ec, rfl⟩ := deliver_frame' hd
    refine RateStep.cons_neutral (by cases f <;> rfl) (fun st hi hc => ?_)
    obtain ⟨h1, h2⟩ := hr.rateInv ht hi hc
    exact ih st (h1.congr rfl rfl rfl rfl) h2
  · exact fun s _ _ _ => RateStep.cons_neutral rfl (noMsg' s)
  · intro s q' m hf hq
    refine RateStep.cons_neutral rfl (fun st hi hc => ?_)
    refine noMsg' _ st ?_ (dequeue_rotated_classInv hq hc)
    have hl := dequeue_rotated_lastJoin hq
    exact ⟨hi.thr, hi.jl, fun l h => Nat.le_trans (hi.lastQ l h) hi.takeNow, Nat.le_refl _,
      by intro l h; show l ≤ q'.lastJoin; rw [hl]; exact hi.lastJ l h,
      by show q'.lastJoin ≤ s.now; rw [hl]; exact hi.joinNow⟩
  · exact fun s _ _ => RateStep.trans (pingBranch_rate s) (pingBranch_fifo s) (noMsg' _)

theorem step_rate (ht : TablesOk Gen.highPriority Gen.lowPriority Gen.rateLimitedCommand)
    (s : Irc) (op : Op) : RateStep s (step s op) := by
  cases op using Op.casesSilent with
  | queue m => exact (queueMsg_offer s m).rate
  | send m => exact (sendMsg_offer s m).rate
  | take => exact takeAux_rate ht _ s
  | die =>
    unfold step die; dsimp only
    split <;> exact RateStep.of_neutral (by intro e h; simp at h <;> (subst h; rfl)) rfl rfl rfl rfl
  | reset => exact reset_rate s
  | config c =>
    intro st hi _
    exact ⟨{ st with thr := c.throttle, jl := c.joinLimit }, rfl, rfl, rfl, hi.lastQ, hi.takeNow,
      hi.lastJ, hi.joinNow⟩
  | silent op h =>
    -- the clock only moves forward
    obtain ⟨_, _, _, _, _, hn, h⟩ := step_silent s h
    rw [h]
    exact fun st hi _ => ⟨st, rfl, hi.thr, hi.jl, hi.lastQ, Nat.le_trans hi.takeNow hn, hi.lastJ,
      Nat.le_trans hi.joinNow hn⟩

theorem run_rate (ht : TablesOk Gen.highPriority Gen.lowPriority Gen.rateLimitedCommand) :
    ∀ (ops : List Op) (s : Irc), RateStep s (run s ops)
  | [], s => RateStep.refl s
  | op :: ops, s => RateStep.trans (step_rate ht s op) (step_fifo s op) (run_rate ht ops _)

def Ev.isConfig : Ev → Bool
  | .config _ _ => true
  | _ => false

/-- an event other than a configuration change leaves the rates in force alone -/
theorem Rate.push_rates {st st1 : Rate} {e : Ev} (hc : e.isConfig = false) (h : st.push e = some st1) :
    st1.thr = st.thr ∧ st1.jl = st.jl := by
  cases e with
  | took f src o t =>
    cases f
    · simp only [Rate.push] at h
      split at h
      · cases h; exact ⟨rfl, rfl⟩
      · cases h
    · cases h; exact ⟨rfl, rfl⟩
  | config a b => cases hc
  | _ => cases h; exact ⟨rfl, rfl⟩

/-- neither a `reset()` nor a change of the configured rates -/
def Ev.keepsRates : Ev → Bool
  | .discarded _ => false
  | .config _ _ => false
  | _ => true

theorem Rate.push_keeps {st st1 : Rate} {e : Ev} (hk : e.keepsRates = true) (h : st.push e = some st1) :
    st1.thr = st.thr ∧ st1.jl = st.jl ∧
    (∀ l, st.lastQ = some l → ∃ l', st1.lastQ = some l' ∧ l ≤ l') ∧
    (∀ l, st.lastJ = some l → ∃ l', st1.lastJ = some l' ∧ l ≤ l') := by
  obtain ⟨h1, h2⟩ := Rate.push_rates (by cases e <;> first | rfl | cases hk) h
  refine ⟨h1, h2, ?_⟩
  -- an event the checker ignores
  have same : some st = some st1 →
      (∀ l, st.lastQ = some l → ∃ l', st1.lastQ = some l' ∧ l ≤ l') ∧
      (∀ l, st.lastJ = some l → ∃ l', st1.lastJ = some l' ∧ l ≤ l') := by
    intro h; cases h
    exact ⟨fun l hl => ⟨l, hl, Nat.le_refl _⟩, fun l hl => ⟨l, hl, Nat.le_refl _⟩⟩
  cases e with
  | took f src o t =>
    cases f
    · simp only [Rate.push] at h
      split at h
      · rename_i hok
        injection h with h; subst h
        simp only [Bool.and_eq_true, Bool.or_eq_true, Bool.not_eq_true'] at hok
        refine ⟨fun l hl => ?_, fun l hl => ?_⟩
        · have := hok.1; rw [hl] at this
          simp only [Option.all_some, decide_eq_true_eq] at this
          exact ⟨t, rfl, by omega⟩
        · cases hj : isJoin src
          · exact ⟨l, by simp [hl], Nat.le_refl _⟩
          · have := hok.2; rw [hj, hl] at this
            simp only [Bool.true_eq_false, Option.all_some, decide_eq_true_eq, false_or] at this
            exact ⟨t, by simp, by omega⟩
      · cases h
    · exact same h
  | discarded ms => cases hk
  | config a b => cases hk
  | _ => exact same h

/-- what the checker has verified when it reaches a release from the regular queue: the gap since the last
one (the last JOIN) -/
theorem Rate.run_gap : ∀ (b : List Ev) (st : Rate) (c : List Ev) (m o t) (st' : Rate),
    (∀ e ∈ b, e.keepsRates = true) → Rate.run st (b ++ Ev.took false m o t :: c) = some st' →
    (∀ l, st.lastQ = some l → l + st.thr < t) ∧
    (isJoin m = true → ∀ j, st.lastJ = some j → j + st.jl ≤ t)
  | [], st, c, m, o, t, st', _, h => by
    simp only [nil_append, Rate.run] at h
    cases hp : st.push (Ev.took false m o t) with
    | none => rw [hp] at h; cases h
    | some st1 =>
      simp only [Rate.push] at hp
      split at hp
      · rename_i hok
        simp only [Bool.and_eq_true, Bool.or_eq_true, Bool.not_eq_true'] at hok
        refine ⟨fun l hl => ?_, fun hj j hl => ?_⟩
        · have := hok.1; rw [hl] at this; simpa using this
        · have := hok.2; rw [hl, hj] at this; simpa using this
      · cases hp
  | e :: b, st, c, m, o, t, st', hb, h => by
    simp only [cons_append, Rate.run] at h
    split at h
    · cases h
    · rename_i st1 hp
      obtain ⟨k1, k2, k3, k4⟩ := Rate.push_keeps (hb e mem_cons_self) hp
      obtain ⟨g1, g2⟩ := Rate.run_gap b st1 c m o t st' (fun e' he' => hb e' (mem_cons_of_mem _ he')) h
      refine ⟨fun l hl => ?_, fun hj j hl => ?_⟩
      · obtain ⟨l', hl', hle⟩ := k3 l hl
        have := g1 l' hl'
        rw [k1] at this; omega
      · obtain ⟨l', hl', hle⟩ := k4 j hl
        have := g2 hj l' hl'
        rw [k2] at this; omega

/-- **meaning of the checker**: two releases of queued messages with no `reset()` and no change of
the rates between them are more than the throttle time apart; if both are JOINs they are at least
the JOIN rate limit apart (`st1` = checker state when the first one was released). -/
theorem Rate.run_spec (st0 st' : Rate) (a b c : List Ev) (m1 o1 : Msg) (t1 : Nat) (m2 o2 : Msg) (t2 : Nat)
    (h : Rate.run st0 (a ++ Ev.took false m1 o1 t1 :: (b ++ Ev.took false m2 o2 t2 :: c)) = some st')
    (hb : ∀ e ∈ b, e.keepsRates = true) :
    ∃ st1, Rate.run st0 a = some st1 ∧ t1 + st1.thr < t2 ∧
      (isJoin m1 = true → isJoin m2 = true → t1 + st1.jl ≤ t2) := by
  rw [Rate.run_append] at h
  cases ha : Rate.run st0 a with
  | none => rw [ha] at h; cases h
  | some st1 =>
    rw [ha] at h
    simp only [Option.bind_some, Rate.run] at h
    refine ⟨st1, rfl, ?_⟩
    split at h
    · cases h
    · rename_i st2 hp
      simp only [Rate.push] at hp
      split at hp
      · injection hp with hp
        have e1 : st2.lastQ = some t1 := by rw [← hp]
        have e2 : st2.thr = st1.thr := by rw [← hp]
        have e3 : st2.jl = st1.jl := by rw [← hp]
        refine ⟨?_, ?_⟩
        · have := (Rate.run_gap b st2 c m2 o2 t2 st' hb h).1 t1 e1
          rw [e2] at this; exact this
        · intro j1 j2
          have e4 : st2.lastJ = some t1 := by rw [← hp]; simp [j1]
          have := (Rate.run_gap b st2 c m2 o2 t2 st' hb h).2 j2 t1 e4
          rw [e3] at this; exact this
      · cases hp

theorem Ev.isConfig_of_admin {e : Ev} (h : e.admin = true) : e.isConfig = false := by
  cases e <;> first | rfl | cases h

theorem takeAux_noConfig : ∀ (fuel : Nat) (s : Irc), ∀ e ∈ (takeAux fuel s).2, e.isConfig = false := by
  have noMsg' : ∀ s, ∀ e ∈ (noMsg s).2, e.isConfig = false :=
    fun s e he => Ev.isConfig_of_admin (noMsg_admin s e he)
  refine takeAux_ind (P := fun _ r => ∀ e ∈ r.2, e.isConfig = false) (by simp) ?_ ?_ ?_ ?_ ?_
  · intro s f m s0 s1 d _ _ _
    cases d <;> simp [Delivery.ev, Ev.isConfig]
  · exact fun _ _ ih => forall_mem_cons.mpr ⟨rfl, ih⟩
  · exact fun s _ _ _ => forall_mem_cons.mpr ⟨rfl, noMsg' s⟩
  · exact fun _ _ => forall_mem_cons.mpr ⟨rfl, noMsg' _⟩
  · exact fun s _ _ => forall_mem_append.mpr
      ⟨fun e he => Ev.isConfig_of_admin (pingBranch_admin s e he), noMsg' _⟩

def Op.isConfig : Op → Bool
  | .config _ => true
  | _ => false

theorem step_noConfig (s : Irc) (op : Op) (ho : op.isConfig = false) :
    ∀ e ∈ (step s op).2, e.isConfig = false := by
  intro e he
  cases op using Op.casesSilent with
  | queue m => exact Ev.isConfig_of_admin ((queueMsg_offer s m).admin e he)
  | send m => exact Ev.isConfig_of_admin ((sendMsg_offer s m).admin e he)
  | take => exact takeAux_noConfig _ s e he
  | die =>
    have he' : e ∈ (die s).2 := he
    unfold die at he'; dsimp only at he'
    split at he'
    · cases mem_singleton.mp he'; rfl
    · cases he'
  | reset => exact Ev.isConfig_of_admin (reset_admin s e he)
  | config c => cases ho
  | silent op h =>
    obtain ⟨_, _, _, _, _, _, h⟩ := step_silent s h
    rw [h] at he; cases he

theorem run_noConfig : ∀ (ops : List Op) (s : Irc), (∀ op ∈ ops, op.isConfig = false) →
    ∀ e ∈ (run s ops).2, e.isConfig = false
  | [], _, _ => by intro e h; cases h
  | op :: ops, s, ho => by
    exact forall_mem_append.mpr ⟨step_noConfig s op (ho op mem_cons_self),
      run_noConfig ops _ (fun o h' => ho o (mem_cons_of_mem _ h'))⟩

theorem Rate.run_rates_fixed : ∀ (a : List Ev) (st st1 : Rate), Rate.run st a = some st1 →
    (∀ e ∈ a, e.isConfig = false) → st1.thr = st.thr ∧ st1.jl = st.jl
  | [], st, st1, h, _ => by injection h with h; subst h; exact ⟨rfl, rfl⟩
  | e :: a, st, st1, h, hn => by
    simp only [Rate.run] at h
    split at h
    · cases h
    · rename_i st2 hp
      obtain ⟨h1, h2⟩ := Rate.run_rates_fixed a st2 st1 h (fun e' he' => hn e' (mem_cons_of_mem _ he'))
      obtain ⟨g1, g2⟩ := Rate.push_rates (hn e mem_cons_self) hp
      exact ⟨h1.trans g1, h2.trans g2⟩

end C19
