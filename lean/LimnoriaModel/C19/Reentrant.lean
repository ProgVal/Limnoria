/-
C19 — outFilters that call `irc.sendMsg` / `irc.queueMsg` themselves (re-entrancy).

`takeMsg` is a loop since the repair (`for _ in range(len(self.fastqueue) + len(self.queue) + 1)`,
one round per iteration, `_takeMsg`): the bound is computed when `takeMsg` is entered — the fuel
`pending.length + 1` of the model is that bound, literally.  A filter may, besides returning a message
or `None`, hand messages to `sendMsg` / `queueMsg` (`Req`); they are enqueued at that moment, behind
everything already waiting in their queue.  `rtakeMsg` is `takeMsg` for such filters; for filters that
queue nothing it is `takeMsg` (`rtakeMsg_plain`).
-/
import LimnoriaModel.C19.Lemmas
namespace C19
open Py List

structure Req where
  fast : Bool          -- `irc.sendMsg` (true) or `irc.queueMsg`
  c : Content
deriving DecidableEq, Repr

/-- an outFilter with side effects on the queues: its result and what it sent, in order -/
abbrev RFilter := Nat → Msg → Option Msg × List Req

def lift (f : Filter) : RFilter := fun n m => (f n m, [])

/-- the `sendMsg` / `queueMsg` calls of one filter call (new objects) -/
def applyReqs : Irc → List Req → Irc × List Ev
  | s, [] => (s, [])
  | s, r :: rs =>
    let m : Msg := ⟨.int s.nextOid, r.c⟩
    let s0 := { s with nextOid := s.nextOid + 1 }
    let a := if r.fast then sendMsg s0 m else queueMsg s0 m
    let b := applyReqs a.1 rs
    (b.1, a.2 ++ b.2)

/-- the filter loop of one round -/
def rrunFilters : List RFilter → Irc → Msg → Option Msg × Irc × List Ev
  | [], s, m => (some m, s, [])
  | f :: fs, s, m =>
    let a := applyReqs { s with nextOid := s.nextOid + 1 } (f s.nextOid m).2
    match (f s.nextOid m).1 with
    | none => (none, a.1, a.2)
    | some m' =>
      let b := rrunFilters fs a.1 m'
      (b.1, b.2.1, a.2 ++ b.2.2)

def rchain (s : Irc) (rf : List RFilter) : List RFilter :=
  if s.labelAcked then lift labelFilter :: rf else rf

/-- the `if msg:` block of one round -/
def rdeliver (rf : List RFilter) (s : Irc) (m : Msg) : Irc × Delivery × List Ev :=
  match rrunFilters (rchain s rf) s m with
  | (none, s1, evs) => (s1, .dropped, evs)
  | (some out, s1, evs) =>
    if isEchoCmd out.cmd && !s1.echoAcked then
      if out.oid ∈ s1.echoed then (s1, .lost out, evs)
      else ({ s1 with echoed := .int s1.nextOid :: s1.echoed, nextOid := s1.nextOid + 1 }, .out out, evs)
    else (s1, .out out, evs)

/-- one round (`_takeMsg`), over any way `D` of treating the dequeued message -/
def takeBodyG (D : Irc → Msg → Irc × Delivery × List Ev) (again : Irc → Irc × List Ev) (s : Irc) :
    Irc × List Ev :=
  match s.fast with
  | m :: rest =>
    match D { s with fast := rest } m with
    | (s1, .out o, evs) => (s1, evs ++ [.took true m o s.now])
    | (s1, .lost o, evs) => (s1, evs ++ [.lost true m o s.now])
    | (s1, .dropped, evs) =>
      let r := again s1
      (r.1, evs ++ .dropped true m s.now :: r.2)
  | [] =>
    if !s.queue.isEmpty then
      if s.now ≤ s.lastTake + s.cfg.throttle then
        let r := noMsg s
        (r.1, .throttled s.now :: r.2)
      else
        match s.queue.dequeue s.cfg.joinLimit s.now with
        | (q', .msg m) =>
          match D { s with lastTake := s.now, queue := q' } m with
          | (s1, .out o, evs) => (s1, evs ++ [.took false m o s.now])
          | (s1, .lost o, evs) => (s1, evs ++ [.lost false m o s.now])
          | (s1, .dropped, evs) =>
            let r := again s1
            (r.1, evs ++ .dropped false m s.now :: r.2)
        | (q', .rotated m) =>
          let r := noMsg { s with lastTake := s.now, queue := q' }
          (r.1, .rotated m s.now :: r.2)
        | (q', .nothing) => noMsg { s with lastTake := s.now, queue := q' }
    else
      let r := pingBranch s
      let r2 := noMsg r.1
      (r2.1, r.2 ++ r2.2)

/-- the loop of `takeMsg`, `fuel` rounds left -/
def rtakeAux (rf : List RFilter) : Nat → Irc → Irc × List Ev
  | 0, s => (s, [])
  | fuel + 1, s => takeBodyG (rdeliver rf) (rtakeAux rf fuel) s

/-- `Irc.takeMsg()` with re-entrant filters -/
def rtakeMsg (rf : List RFilter) (s : Irc) : Irc × List Ev := rtakeAux rf (s.pending.length + 1) s

theorem rrunFilters_plain : ∀ (fs : List Filter) (s : Irc) (m : Msg),
    rrunFilters (fs.map lift) s m =
      ((runFilters fs s.nextOid m).1, { s with nextOid := (runFilters fs s.nextOid m).2 }, [])
  | [], s, m => by simp [rrunFilters, runFilters]
  | f :: fs, s, m => by
    simp only [map_cons, rrunFilters, lift, applyReqs, runFilters]
    cases hf : f s.nextOid m with
    | none => simp
    | some m' =>
      simp only
      rw [rrunFilters_plain fs _ m']
      simp

theorem rchain_plain (s : Irc) : rchain s (s.cfg.filters.map lift) = s.chain.map lift := by
  unfold rchain Irc.chain
  split <;> simp

theorem rdeliver_plain (s : Irc) (m : Msg) :
    rdeliver (s.cfg.filters.map lift) s m = ((deliver s m).1, (deliver s m).2, []) := by
  unfold rdeliver deliver
  rw [rchain_plain, rrunFilters_plain]
  cases h : runFilters s.chain s.nextOid m with
  | mk o n =>
    cases o with
    | none => simp
    | some out =>
      simp only
      split
      · split <;> simp
      · simp

theorem takeBodyG_plain (D : Irc → Msg → Irc × Delivery × List Ev) (again again' : Irc → Irc × List Ev)
    (s : Irc)
    (hD : ∀ t m, t.cfg = s.cfg → D t m = ((deliver t m).1, (deliver t m).2, []))
    (hag : ∀ t, t.cfg = s.cfg → again t = again' t) :
    takeBodyG D again s = takeBody again' s := by
  unfold takeBodyG takeBody
  cases hf : s.fast with
  | cons m rest =>
    simp only
    rw [hD { s with fast := rest } m rfl]
    cases h : deliver { s with fast := rest } m with
    | mk s1 d =>
      have hc : s1.cfg = s.cfg := (deliver_cfg h).trans rfl
      cases d <;> simp [hag s1 hc]
  | nil =>
    simp only
    by_cases hq : (!s.queue.isEmpty) = true
    · simp only [hq, if_true]
      by_cases ht : s.now ≤ s.lastTake + s.cfg.throttle
      · simp only [ht, if_true]
      · simp only [ht, if_false]
        cases hdq : s.queue.dequeue s.cfg.joinLimit s.now with
        | mk q' d =>
          cases d with
          | msg m =>
            simp only
            rw [hD { s with fast := [], lastTake := s.now, queue := q' } m rfl]
            cases h : deliver { s with fast := [], lastTake := s.now, queue := q' } m with
            | mk s1 d =>
              have hc : s1.cfg = s.cfg := (deliver_cfg h).trans rfl
              cases d <;> simp [hag s1 hc]
          | rotated m => rfl
          | nothing => rfl
    · simp only [hq]
      rfl

theorem rtakeAux_plain (fs : List Filter) : ∀ (fuel : Nat) (s : Irc), s.cfg.filters = fs →
    rtakeAux (fs.map lift) fuel s = takeAux fuel s
  | 0, _, _ => rfl
  | fuel + 1, s, hs =>
    takeBodyG_plain _ _ _ s (fun t m ht => by rw [← hs, ← ht]; exact rdeliver_plain t m)
      (fun t ht => rtakeAux_plain fs fuel t (by rw [ht]; exact hs))

/-- **Filters that queue nothing**: the re-entrant model is the verified one. -/
theorem rtakeMsg_plain (s : Irc) : rtakeMsg (s.cfg.filters.map lift) s = takeMsg s :=
  rtakeAux_plain s.cfg.filters _ s rfl

theorem offer_req (s : Irc) (m : Msg) (f : Bool) :
    Offer s m f (if f then sendMsg s m else queueMsg s m) := by
  cases f
  · exact queueMsg_offer s m
  · exact sendMsg_offer s m

theorem applyReqs_conserves : ∀ (rs : List Req) (s : Irc), Conserves s (applyReqs s rs)
  | [], s => Conserves.refl s
  | r :: rs, s =>
    ((offer_req _ ⟨.int s.nextOid, r.c⟩ r.fast).conserves.trans (applyReqs_conserves rs _)).of_pending
      (s0 := { s with nextOid := s.nextOid + 1 }) rfl

theorem rrunFilters_conserves : ∀ (fs : List RFilter) (s : Irc) (m : Msg),
    Conserves s ((rrunFilters fs s m).2.1, (rrunFilters fs s m).2.2)
  | [], s, m => Conserves.refl s
  | f :: fs, s, m => by
    unfold rrunFilters
    dsimp only
    have ha : Conserves s (applyReqs { s with nextOid := s.nextOid + 1 } (f s.nextOid m).2) :=
      (applyReqs_conserves _ _).of_pending rfl
    split
    · exact ha
    · rename_i m' _
      exact Conserves.trans ha (rrunFilters_conserves fs _ m')

theorem rdeliver_conserves (rf : List RFilter) (s : Irc) (m : Msg) :
    Conserves s ((rdeliver rf s m).1, (rdeliver rf s m).2.2) := by
  have h := rrunFilters_conserves (rchain s rf) s m
  unfold rdeliver
  split
  · rename_i s1 evs hr
    rw [hr] at h; exact h
  · rename_i out s1 evs hr
    rw [hr] at h
    split
    · split
      · exact h
      · intro x; have := h x; simp only [Irc.pending] at *; exact this
    · exact h

theorem takeBodyG_conserves (D : Irc → Msg → Irc × Delivery × List Ev) (again : Irc → Irc × List Ev)
    (hD : ∀ t m, Conserves t ((D t m).1, (D t m).2.2)) (hag : ∀ t, Conserves t (again t)) (s : Irc) :
    Conserves s (takeBodyG D again s) := by
  -- the message leaves; what `D` did in between conserves by assumption
  have rel : ∀ {f m s0 s1 d evs}, Removes s f m s0 → D s0 m = (s1, d, evs) →
      Conserves s (s1, evs ++ [d.ev f m s.now]) := by
    intro f m s0 s1 d evs hr hd x
    have h1 := hr.count x
    have h2 := hD s0 m x
    rw [hd] at h2
    simp only [accOf_append, goneOf_append, count_append, d.accOf_ev, d.goneOf_ev] at *
    cnt
  have drop : ∀ {f m s0 s1 evs}, Removes s f m s0 → D s0 m = (s1, .dropped, evs) →
      Conserves s ((again s1).1, evs ++ .dropped f m s.now :: (again s1).2) := by
    intro f m s0 s1 evs hr hd
    have := (rel hr hd).trans (hag s1)
    rwa [append_assoc] at this
  have tail : ∀ (s' : Irc) (e : Ev), Conserves s (s', [e]) → Conserves s ((noMsg s').1, e :: (noMsg s').2) :=
    fun s' e h => h.trans (noMsg_conserves s')
  unfold takeBodyG
  split
  · rename_i m rest hf
    split
    · exact rel (.fast hf) ‹_›
    · exact rel (.fast hf) ‹_›
    · exact drop (.fast hf) ‹_›
  · rename_i hf
    split
    · split
      · exact tail s _ (fun x => by cnt)
      · rename_i ht
        split
        · rename_i hd
          have hr := Removes.queue hf (Nat.lt_of_not_le ht) hd
          split
          · exact rel hr ‹_›
          · exact rel hr ‹_›
          · exact drop hr ‹_›
        · rename_i q' m hq
          refine tail _ _ (fun x => ?_)
          have := dequeue_rotated_count hq x
          simp only [Irc.pending, hf] at *; cnt
        · rename_i q' hd
          obtain ⟨rfl, _⟩ := dequeue_nothing hd
          exact (noMsg_conserves _).of_pending rfl
    · exact (pingBranch_conserves s).trans (noMsg_conserves _)

theorem rtakeAux_conserves (rf : List RFilter) : ∀ (fuel : Nat) (s : Irc), Conserves s (rtakeAux rf fuel s)
  | 0, s => Conserves.refl s
  | fuel + 1, s =>
    takeBodyG_conserves (rdeliver rf) (rtakeAux rf fuel) (rdeliver_conserves rf)
      (rtakeAux_conserves rf fuel) s

/-- **Conservation with re-entrant filters**: whatever the outFilters send or queue while `takeMsg`
runs, waiting + accepted (by anyone, the filters included) = handed over + dropped + lost + still
waiting, message by message. -/
theorem rtakeMsg_conserves (rf : List RFilter) (s : Irc) : Conserves s (rtakeMsg rf s) :=
  rtakeAux_conserves rf _ s

theorem Offer.fast {s : Irc} {m : Msg} {f : Bool} {r : Irc × List Ev} (h : Offer s m f r) :
    ∃ add, r.1.fast = s.fast ++ add := by
  cases h
  · exact ⟨[], (append_nil _).symm⟩
  · exact ⟨[m], rfl⟩
  · exact ⟨[], (append_nil _).symm⟩

theorem applyReqs_fast : ∀ (rs : List Req) (s : Irc), ∃ add, (applyReqs s rs).1.fast = s.fast ++ add
  | [], s => ⟨[], by simp [applyReqs]⟩
  | r :: rs, s => by
    obtain ⟨a1, h1⟩ := (offer_req { s with nextOid := s.nextOid + 1 } ⟨.int s.nextOid, r.c⟩ r.fast).fast
    obtain ⟨a2, h2⟩ := applyReqs_fast rs
      (if r.fast then sendMsg { s with nextOid := s.nextOid + 1 } ⟨.int s.nextOid, r.c⟩
       else queueMsg { s with nextOid := s.nextOid + 1 } ⟨.int s.nextOid, r.c⟩).1
    exact ⟨a1 ++ a2, by unfold applyReqs; dsimp only; rw [h2, h1, append_assoc]⟩

theorem rrunFilters_fast : ∀ (fs : List RFilter) (s : Irc) (m : Msg),
    ∃ add, (rrunFilters fs s m).2.1.fast = s.fast ++ add
  | [], s, m => ⟨[], by simp [rrunFilters]⟩
  | f :: fs, s, m => by
    unfold rrunFilters
    dsimp only
    obtain ⟨a1, h1⟩ := applyReqs_fast (f s.nextOid m).2 { s with nextOid := s.nextOid + 1 }
    split
    · exact ⟨a1, h1⟩
    · rename_i m' _
      obtain ⟨a2, h2⟩ := rrunFilters_fast fs (applyReqs { s with nextOid := s.nextOid + 1 } (f s.nextOid m).2).1 m'
      exact ⟨a1 ++ a2, by rw [h2, h1]; simp⟩

theorem rdeliver_fast (rf : List RFilter) (s : Irc) (m : Msg) :
    ∃ add, (rdeliver rf s m).1.fast = s.fast ++ add := by
  obtain ⟨add, h⟩ := rrunFilters_fast (rchain s rf) s m
  refine ⟨add, ?_⟩
  unfold rdeliver
  split
  · rename_i s1 evs hr; rw [hr] at h; exact h
  · rename_i out s1 evs hr
    rw [hr] at h
    split
    · split <;> exact h
    · exact h

theorem rdeliver_dropped (rf : List RFilter) (s : Irc) (m : Msg) :
    (rdeliver rf s m).2.1 = .dropped ↔ (rrunFilters (rchain s rf) s m).1 = none := by
  unfold rdeliver
  split
  · rename_i s1 evs hr; simp [hr]
  · rename_i out s1 evs hr
    rw [hr]
    split
    · split <;> simp
    · simp

/-- the chain drops `m`, whatever the state of the bot -/
def Drops (rf : List RFilter) (m : Msg) : Prop := ∀ s, (rrunFilters (rchain s rf) s m).1 = none
/-- … lets `m` through (as `m` or rewritten) -/
def Passes (rf : List RFilter) (m : Msg) : Prop := ∀ s, (rrunFilters (rchain s rf) s m).1 ≠ none

theorem takeBodyG_fast (D : Irc → Msg → Irc × Delivery × List Ev) (again : Irc → Irc × List Ev) (s : Irc)
    (m : Msg) (rest : List Msg) (hf : s.fast = m :: rest) :
    takeBodyG D again s =
      match D { s with fast := rest } m with
      | (s1, .out o, evs) => (s1, evs ++ [.took true m o s.now])
      | (s1, .lost o, evs) => (s1, evs ++ [.lost true m o s.now])
      | (s1, .dropped, evs) => ((again s1).1, evs ++ .dropped true m s.now :: (again s1).2) := by
  unfold takeBodyG
  simp only [hf]

/-- handed to the driver, or (a re-sent echo copy) lost to the echo assertion: `g` left the queue
through the filters, not by being forgotten -/
def Reached (g : Msg) (evs : List Ev) : Prop :=
  ∃ o t, Ev.took true g o t ∈ evs ∨ Ev.lost true g o t ∈ evs

theorem rtakeAux_reaches (rf : List RFilter) (g : Msg) (hg : Passes rf g) :
    ∀ (ds : List Msg) (fuel : Nat) (s : Irc) (rest : List Msg), (∀ d ∈ ds, Drops rf d) →
      s.fast = ds ++ g :: rest → ds.length < fuel → Reached g (rtakeAux rf fuel s).2
  | [], fuel, s, rest, _, hf, hlt => by
    obtain ⟨k, rfl⟩ : ∃ k, fuel = k + 1 := ⟨fuel - 1, by omega⟩
    show Reached g (takeBodyG (rdeliver rf) (rtakeAux rf k) s).2
    rw [takeBodyG_fast _ _ s g rest (by simpa using hf)]
    have hnd : (rdeliver rf { s with fast := rest } g).2.1 ≠ .dropped :=
      fun h => hg { s with fast := rest } ((rdeliver_dropped rf _ g).mp h)
    cases h : rdeliver rf { s with fast := rest } g with
    | mk s1 r =>
      cases r with
      | mk d evs =>
        rw [h] at hnd
        cases d with
        | out o => exact ⟨o, s.now, Or.inl (by simp)⟩
        | lost o => exact ⟨o, s.now, Or.inr (by simp)⟩
        | dropped => exact absurd rfl hnd
  | d :: ds, fuel, s, rest, hd, hf, hlt => by
    obtain ⟨k, rfl⟩ : ∃ k, fuel = k + 1 := ⟨fuel - 1, by simp at hlt; omega⟩
    show Reached g (takeBodyG (rdeliver rf) (rtakeAux rf k) s).2
    rw [takeBodyG_fast _ _ s d (ds ++ g :: rest) (by simpa using hf)]
    have hdd := (rdeliver_dropped rf { s with fast := ds ++ g :: rest } d).mpr (hd d mem_cons_self _)
    obtain ⟨add, hfast⟩ := rdeliver_fast rf { s with fast := ds ++ g :: rest } d
    cases h : rdeliver rf { s with fast := ds ++ g :: rest } d with
    | mk s1 r =>
      cases r with
      | mk dl evs =>
        rw [h] at hdd hfast
        simp only at hdd hfast
        subst hdd
        simp only
        have ih := rtakeAux_reaches rf g hg ds k s1 (rest ++ add) (fun x hx => hd x (mem_cons_of_mem _ hx))
          (by rw [hfast]; simp) (by simp at hlt; omega)
        obtain ⟨o, t, ho⟩ := ih
        refine ⟨o, t, ?_⟩
        rcases ho with ho | ho
        · exact Or.inl (by simp [ho])
        · exact Or.inr (by simp [ho])

/-- **A run of dropped messages — even with filters that send or queue more while they run — cannot
stall the message behind it**: if the fast queue starts with messages the chain drops, followed by one
it lets through, that one leaves in the very same `takeMsg` call: the rounds `takeMsg` allows itself
(one per message waiting at entry, plus one) are enough, because whatever the filters add goes behind. -/
theorem rtakeMsg_no_stall (rf : List RFilter) (s : Irc) (ds : List Msg) (g : Msg) (rest : List Msg)
    (hd : ∀ d ∈ ds, Drops rf d) (hg : Passes rf g) (hf : s.fast = ds ++ g :: rest) :
    Reached g (rtakeMsg rf s).2 := by
  apply rtakeAux_reaches rf g hg ds _ s rest hd hf
  simp only [Irc.pending, hf, length_append, length_cons]
  omega

end C19
