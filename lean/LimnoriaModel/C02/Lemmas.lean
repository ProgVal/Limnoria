/-
C02 — what a command can do to the state: `Effect` lists the few ways in which the state after
`body` is built from the state before (`body_effect`); each invariant is proved once per way.
-/
import LimnoriaModel.C02.Model
import LimnoriaModel.C03.Lemmas
import LimnoriaModel.C16.Reload
namespace C02
open Py

theorem dictGet_mem {α β : Type} [DecidableEq α] {k : α} {v : β} {l : List (α × β)}
    (h : C16.dictGet k l = some v) : (k, v) ∈ l := by
  induction l with
  | nil => simp [C16.dictGet] at h
  | cons p ps ih =>
    simp only [C16.dictGet] at h
    split at h
    · rename_i hk
      injection h with h
      subst h; subst hk
      simp
    · exact List.mem_cons_of_mem _ (ih h)

theorem dictGet_dictSet_same {α β : Type} [DecidableEq α] (k : α) (v : β) (l : List (α × β)) :
    C16.dictGet k (C16.dictSet k v l) = some v := by
  unfold C16.dictSet
  split
  · rename_i h
    induction l with
    | nil => simp at h
    | cons p ps ih =>
      simp only [List.map_cons, C16.dictGet]
      by_cases hp : p.1 = k
      · simp [hp]
      · simp only [hp, if_false]
        apply ih
        simpa [hp] using h
  · rename_i h
    induction l with
    | nil => simp [C16.dictGet]
    | cons p ps ih =>
      have hp : p.1 ≠ k := by intro e; apply h; simp [e]
      simp only [List.cons_append, C16.dictGet, hp, if_false]
      apply ih
      intro h'; apply h
      simp only [List.any_cons, Bool.or_eq_true]; exact Or.inr h'

theorem dictGet_map_other {α β : Type} [DecidableEq α] (k k' : α) (v : β) (l : List (α × β)) (hk : k' ≠ k) :
    C16.dictGet k' (l.map (fun p => if p.1 = k then (k, v) else p)) = C16.dictGet k' l := by
  induction l with
  | nil => rfl
  | cons p ps ih =>
    simp only [List.map_cons, C16.dictGet]
    by_cases hp : p.1 = k
    · simp only [hp, if_true, hk.symm, if_false]
      exact ih
    · simp only [hp, if_false]
      by_cases hp' : p.1 = k'
      · simp [hp']
      · simp only [hp', if_false]; exact ih

theorem dictGet_append_other {α β : Type} [DecidableEq α] (k k' : α) (v : β) (l : List (α × β)) (hk : k' ≠ k) :
    C16.dictGet k' (l ++ [(k, v)]) = C16.dictGet k' l := by
  induction l with
  | nil => simp [C16.dictGet, hk.symm]
  | cons p ps ih =>
    simp only [List.cons_append, C16.dictGet]
    by_cases hp' : p.1 = k'
    · simp [hp']
    · simp only [hp', if_false]; exact ih

theorem dictGet_dictSet_other {α β : Type} [DecidableEq α] (k k' : α) (v : β) (l : List (α × β)) (hk : k' ≠ k) :
    C16.dictGet k' (C16.dictSet k v l) = C16.dictGet k' l := by
  unfold C16.dictSet
  split
  · exact dictGet_map_other k k' v l hk
  · exact dictGet_append_other k k' v l hk

theorem dictGet_of_mem_nodup {α β : Type} [DecidableEq α] {l : List (α × β)} (h : (l.map (·.1)).Nodup)
    {k : α} {v : β} (hm : (k, v) ∈ l) : C16.dictGet k l = some v := by
  induction l with
  | nil => cases hm
  | cons p ps ih =>
    simp only [List.map_cons, List.nodup_cons] at h
    simp only [C16.dictGet]
    rcases List.mem_cons.mp hm with rfl | hm
    · simp
    · have : p.1 ≠ k := by
        intro e
        apply h.1
        rw [e]
        exact List.mem_map_of_mem (f := (·.1)) hm
      simp only [this, if_false]
      exact ih h.2 hm

theorem dictGet_append_left {α β : Type} [DecidableEq α] {l m : List (α × β)} {k : α} {v : β}
    (h : C16.dictGet k l = some v) : C16.dictGet k (l ++ m) = some v := by
  induction l with
  | nil => simp [C16.dictGet] at h
  | cons p ps ih =>
    simp only [List.cons_append, C16.dictGet] at h ⊢
    split
    · rename_i hp; simpa [hp] using h
    · rename_i hp; simp only [hp, if_false] at h; exact ih h

theorem user_mem {st : St} {id : Nat} {u : C16.User} (h : st.user id = some u) : (id, u) ∈ st.users :=
  dictGet_mem h

theorem mem_putUser {st : St} {id : Nat} {u : C16.User} {p : Nat × C16.User}
    (h : p ∈ (putUser st id u).users) : p = (id, u) ∨ p ∈ st.users := C16.mem_dictSet h

open C16 in
/-- every stored field is free of line breaks (a hostmask may end with one LF), capabilities are
clean lower-case words, and a record left in the reader's class attribute is harmless -/
structure Inv (st : St) : Prop where
  users : ∀ p ∈ st.users, SafeUser p.2
  cu : ∀ c, st.cu = some c → SafeUser c.u
  cuok : CuOk st.cu
  fresh : CuFresh st.cu

/-- contract of the `saltHash` parameter: its values contain no line break -/
def HashSafe (cfg : Cfg) : Prop := ∀ p, C16.noBreak (cfg.hash p)

def SafeUsers (st : St) : Prop := ∀ p ∈ st.users, C16.SafeUser p.2

/-- one record per id, none above `nextId` -/
def IdsOk (st : St) : Prop := (st.users.map (·.1)).Nodup ∧ ∀ p ∈ st.users, p.1 ≤ st.nextId

/-- the file on disk is what `users.flush()` writes for the present table -/
def Saved (st : St) : Prop := st.usaved = some { users := st.users, nextId := st.nextId }

/-- every capability of every account keeps being held by that account -/
def UserGrow (st st' : St) : Prop :=
  ∀ i u, st.user i = some u → ∃ u', st'.user i = some u' ∧ ∀ x ∈ u.caps, x ∈ u'.caps

/-- every capability in the records `fu` is held, in memory, by the account with the same id -/
def HeldBy (fu : List (Nat × C16.User)) (st : St) : Prop :=
  ∀ p ∈ fu, ∀ x ∈ p.2.caps, ∃ u, st.user p.1 = some u ∧ x ∈ u.caps

/-- **the saved file lags behind memory only by capabilities memory still has**: the records in
users.conf have line-safe fields and every capability in them is still held in memory — or the
reader's class attribute holds a record with an id, in which case nothing can be loaded at all -/
def FileOk (st : St) : Prop :=
  ∀ db, st.usaved = some db → (∀ p ∈ db.users, C16.SafeUser p.2) ∧ (HeldBy db.users st ∨ C16.Stuck st.cu)

/-- commands that can take a capability away from an account (adding one displaces its inverse) -/
def Cmd.capChanging : Cmd → Bool
  | .capAdd .. => true
  | .capRemove .. => true
  | .chanCapAdd .. => true
  | .chanCapRemove .. => true
  | _ => false

/-- how a command leaves the users file: saved; or untouched with the table only grown; or, for a
capability-changing command, untouched with the failure visible in the reply -/
def Shape (st : St) (c : Cmd) (r : St × Bool) : Prop :=
  Saved r.1 ∨ (r.1.usaved = st.usaved ∧ UserGrow st r.1) ∨
    (c.capChanging = true ∧ r.2 = false ∧ r.1.usaved = st.usaved)

/-- the two ways a capability can newly appear on account `id` -/
def Granted (cfg : Cfg) (st : St) (pfx : Str) (c : Cmd) (id : Nat) (x : Str) : Prop :=
  (∃ name cap0, c = .capAdd name cap0 ∧ st.otherUser cfg name = some id ∧ x = C03.toLower cap0 ∧
      C03.strEqual (C03.toLower cap0) C03.ownerS = false ∧
      (C03.isAntiCapability (C03.toLower cap0) = true ∨ st.check pfx (C03.toLower cap0) = some true)) ∨
  (∃ chan name cap c1, c = .chanCapAdd chan name cap ∧ st.otherUser cfg name = some id ∧
      st.opGuard pfx chan = true ∧ splitWs cap = [c1] ∧ x = C03.toLower (chan ++ ',' :: c1))

theorem userGrow_of_users_eq {st st' : St} (h : st'.users = st.users) : UserGrow st st' := by
  intro i u hu
  exact ⟨u, by unfold St.user at hu ⊢; rw [h]; exact hu, fun _ hx => hx⟩

theorem userGrow_of_dictSet {st st' : St} {id : Nat} {u u' : C16.User} {l : List (Nat × C16.User)}
    (hu : st.user id = some u) (hsub : ∀ x ∈ u.caps, x ∈ u'.caps) (e : st'.users = C16.dictSet id u' l)
    (hl : ∀ {i}, i ≠ id → C16.dictGet i l = C16.dictGet i st.users) : UserGrow st st' := by
  intro i v hv
  unfold St.user at *
  rw [e]
  by_cases hi : i = id
  · subst hi
    rw [hu] at hv; injection hv with hv; subst hv
    exact ⟨u', dictGet_dictSet_same _ _ _, hsub⟩
  · exact ⟨v, by rw [dictGet_dictSet_other _ _ _ _ hi, hl hi]; exact hv, fun _ hx => hx⟩

theorem ids_of_eq {st st' : St} (h : IdsOk st) (e1 : st'.users = st.users) (e2 : st'.nextId = st.nextId) : IdsOk st' := by
  unfold IdsOk; rw [e1, e2]; exact h

theorem noBreak_of_not_hasLineBreak {v : Str} (h : ¬ C16.hasLineBreak v = true) : C16.noBreak v := by
  intro c hc
  simp only [C16.hasLineBreak, List.any_eq_true, Bool.or_eq_true, decide_eq_true_eq, not_exists, not_and, not_or] at h
  have := h c hc
  simp [C16.isBreak, this.1, this.2]

theorem isUserHostmask_lfCore {h : Str} (hh : C03.isUserHostmask h = true) : C16.noBreak (C16.lfCore h) := by
  unfold C03.isUserHostmask at hh
  simp only [Bool.and_eq_true, List.all_eq_true, Bool.not_eq_true'] at hh
  have hall := hh.1
  unfold C16.lfCore
  have key : ∀ (b : Str), (∀ x ∈ b, isSpace x = false) → C16.noBreak b := by
    intro b hb c hc
    have := hb c hc
    cases hbk : C16.isBreak c with
    | false => rfl
    | true =>
      simp only [C16.isBreak, Bool.or_eq_true, decide_eq_true_eq] at hbk
      rcases hbk with rfl | rfl <;> revert this <;> decide
  by_cases hl : h.getLast? = some '\n'
  · have e : (h.getLast? == some '\n') = true := by simp [hl]
    simp only [e, if_true] at hall
    simp only [hl, if_true]
    exact key _ hall
  · have e : (h.getLast? == some '\n') = false := by simpa using hl
    simp only [e, Bool.false_eq_true, if_false] at hall
    simp only [hl, if_false]
    exact key _ hall

theorem user_safe {st : St} (h : SafeUsers st) {id : Nat} {u : C16.User} (hu : st.user id = some u) : C16.SafeUser u :=
  h (id, u) (user_mem hu)

/-- closes the goals `SafeUsers (…).1` of the case analysis of a command body -/
macro "safe_auto" h:term "," hu:term : tactic => `(tactic|
  ((repeat' split) <;>
   (first
    | with_reducible exact $h
    | (refine safe_finishSet $h ?_ (user_safe $h $hu); rfl)
    | exact safe_finishSet $h rfl (safe_secure (user_safe $h $hu) _)
    | exact safe_finishSet $h rfl (safe_hostmasks (user_safe $h $hu) (fun x hx => (by cases hx)))
    | exact safe_finishSet $h rfl (safe_hostmasks (user_safe $h $hu)
        (fun x hx => (user_safe $h $hu).hostmasks x (List.mem_filter.mp hx).1))
    | exact safe_finishSet $h rfl (C16.safeUser_caps (user_safe $h $hu) _
        (capRemove_safe (by assumption) (user_safe $h $hu).caps))
    | exact safe_finishSet $h rfl (C16.safeUser_caps (user_safe $h $hu) _
        (C16.uadd_safe (by assumption) (user_safe $h $hu).caps))
    | with_reducible exact safe_of_users_eq $h rfl
    | (intro p hp; exact $h p (List.mem_filter.mp hp).1))))

theorem mem_ircSetAdd {hs : List Str} {x y : Str} (hy : y ∈ C16.ircSetAdd hs x) : y ∈ hs ∨ y = x := by
  unfold C16.ircSetAdd at hy
  split at hy
  · exact Or.inl hy
  · simpa using hy

/-- what `UserCapabilitySet.add` can put into a list -/
theorem mem_uadd {caps caps' : List Str} {c x : Str} (h : C03.uadd caps c = .ok caps') (hx : x ∈ caps') :
    x ∈ caps ∨ x = C03.toLower c := by
  obtain ⟨inv, _, rfl⟩ := C16.uadd_ok h
  rcases (C16.mem_capInsert _ _ _).mp hx with hx | hx
  · exact Or.inr hx
  · exact Or.inl ((C16.mem_capErase _ _ _).mp hx).1

theorem mem_capRemove {caps caps' : List Str} {c x : Str} (h : C03.CapSet.remove caps c = .ok caps')
    (hx : x ∈ caps') : x ∈ caps := by
  unfold C03.CapSet.remove at h
  simp only [] at h
  split at h
  · injection h with h
    subst h
    exact ((C16.mem_capErase _ _ _).mp hx).1
  · cases h

/-- a well-formed capability always has an inverse, so `CapSet.add` cannot raise once
`isCapability` holds: the pre-check of `channel capability set` is enough -/
theorem invert_ok_of_isCapability {c : Str} (h : C03.isCapability c = true) : ∃ i, C03.invertCapability c = .ok i := by
  unfold C03.invertCapability
  simp only [h, Bool.not_true, Bool.false_eq_true, if_false]
  split
  · rename_i ha
    unfold C03.unAntiCapability
    simp only [h, ha, Bool.not_true, Bool.false_eq_true, if_false]
    split <;> exact ⟨_, rfl⟩
  · rename_i ha
    unfold C03.makeAntiCapability
    simp only [h, ha, Bool.not_true, Bool.false_eq_true, if_false]
    split
    · rename_i ch c' hs
      have hcs : C03.isChannel ch = true ∧ C03.isCapability c' = true := by
        unfold C03.chanSplit at hs
        split at hs
        · split at hs
          · rename_i hh
            injection hs with hs
            injection hs with h1 h2
            subst h1; subst h2
            simpa using hh
          · cases hs
        · cases hs
      have hc2 : C03.isCapability ('-' :: c') = true := by
        have := hcs.2
        unfold C03.isCapability at this ⊢
        simp only [List.isEmpty_cons, Bool.not_false, Bool.true_and, List.all_cons, Bool.and_eq_true] at this ⊢
        exact ⟨by decide, this.2⟩
      unfold C03.makeChannelCapability
      simp only [hc2, hcs.1, Bool.not_true, Bool.false_eq_true, if_false]
      exact ⟨_, rfl⟩
    · exact ⟨_, rfl⟩

theorem capAdd_ok_of_isCapability (caps : List Str) {c : Str} (h : C03.isCapability c = true) :
    ∃ s', C03.CapSet.add caps c = .ok s' := by
  obtain ⟨i, hi⟩ := invert_ok_of_isCapability (c := C03.toLower c) (by rw [C03.isCapability_toLower]; exact h)
  unfold C03.CapSet.add
  simp only [hi]
  exact ⟨_, rfl⟩

theorem addCaps_complete (caps l : List Str) (h : l.all C03.isCapability = true) : (addCaps caps l).2 = true := by
  induction l generalizing caps with
  | nil => rfl
  | cons c rest ih =>
    simp only [List.all_cons, Bool.and_eq_true] at h
    obtain ⟨s', hs'⟩ := capAdd_ok_of_isCapability caps h.1
    unfold addCaps
    simp only [h.1, Bool.not_true, Bool.false_eq_true, if_false, hs']
    exact ih s' h.2

theorem removeCaps_complete (caps l : List Str) (h : l.all C03.isCapability = true) : (removeCaps caps l).2.1 = true := by
  induction l generalizing caps with
  | nil => rfl
  | cons c rest ih =>
    simp only [List.all_cons, Bool.and_eq_true] at h
    unfold removeCaps
    simp only [h.1, Bool.not_true, Bool.false_eq_true, if_false]
    split
    · exact ih _ h.2
    · exact ih _ h.2

theorem setUser_fst (cfg : Cfg) (st : St) (id : Nat) (u : C16.User) :
    (st.setUser cfg id u).1 = st ∨ (st.setUser cfg id u).1 = { st with nextId := max st.nextId id } ∨
    (st.setUser cfg id u).1 = putUser { st with nextId := max st.nextId id } id u := by
  unfold St.setUser
  split
  · exact Or.inl rfl
  · simp only []
    split
    · exact Or.inr (Or.inl rfl)
    · split
      · exact Or.inr (Or.inl rfl)
      · split
        · exact Or.inr (Or.inl rfl)
        · exact Or.inr (Or.inr rfl)
    · split
      · exact Or.inr (Or.inl rfl)
      · exact Or.inr (Or.inr rfl)

/-- what `setUser id u'` leaves of a state that differed from `st` at most in its logins -/
structure AfterSet (st : St) (id : Nat) (u' : C16.User) (s1 : St) : Prop where
  users : s1.users = st.users ∨ s1.users = C16.dictSet id u' st.users
  nextId : s1.nextId = st.nextId ∨ s1.nextId = max st.nextId id
  cu : s1.cu = st.cu
  usaved : s1.usaved = st.usaved
  channels : s1.channels = st.channels
  csaved : s1.csaved = st.csaved

theorem setUser_after (cfg : Cfg) (st : St) (a : List (Nat × List Str)) (id : Nat) (u' : C16.User) :
    AfterSet st id u' ({ st with auth := a }.setUser cfg id u').1 := by
  rcases setUser_fst cfg { st with auth := a } id u' with h | h | h <;> rw [h]
  · exact ⟨Or.inl rfl, Or.inl rfl, rfl, rfl, rfl, rfl⟩
  · exact ⟨Or.inl rfl, Or.inr rfl, rfl, rfl, rfl, rfl⟩
  · exact ⟨Or.inr rfl, Or.inr rfl, rfl, rfl, rfl, rfl⟩

namespace AfterSet
variable {st s1 : St} {id : Nat} {u u' : C16.User}

theorem mem (hs : AfterSet st id u' s1) {p : Nat × C16.User} (hp : p ∈ s1.users) : p = (id, u') ∨ p ∈ st.users := by
  rcases hs.users with e | e <;> rw [e] at hp
  · exact Or.inr hp
  · exact C16.mem_dictSet hp

theorem safe (hs : AfterSet st id u' s1) (h : SafeUsers st) (hu' : C16.SafeUser u') : SafeUsers s1 := by
  intro p hp
  rcases hs.mem hp with rfl | hp
  · exact hu'
  · exact h p hp

/-- for an account that exists the id counter stays where it is -/
theorem ids (hs : AfterSet st id u' s1) (h : IdsOk st) (hu : st.user id = some u) :
    IdsOk s1 ∧ id ≤ s1.nextId := by
  have hid : id ≤ st.nextId := h.2 (id, u) (user_mem hu)
  have hn : s1.nextId = st.nextId := by
    rcases hs.nextId with e | e
    · exact e
    · rw [e]; exact Nat.max_eq_left hid
  refine ⟨⟨?_, fun p hp => ?_⟩, by rw [hn]; exact hid⟩
  · rcases hs.users with e | e <;> rw [e]
    · exact h.1
    · exact C16.dictSet_nodup _ _ _ h.1
  · rw [hn]
    rcases hs.mem hp with rfl | hp
    · exact hid
    · exact h.2 p hp

theorem get_other (hs : AfterSet st id u' s1) {i : Nat} (hi : i ≠ id) :
    C16.dictGet i s1.users = C16.dictGet i st.users := by
  rcases hs.users with e | e <;> rw [e]
  exact dictGet_dictSet_other _ _ _ _ hi

theorem grow (hs : AfterSet st id u' s1) (hu : st.user id = some u) (hsub : ∀ x ∈ u.caps, x ∈ u'.caps) :
    UserGrow st s1 := by
  rcases hs.users with e | e
  · exact userGrow_of_users_eq e
  · exact userGrow_of_dictSet hu hsub e fun _ => rfl

theorem grow_put (hs : AfterSet st id u' s1) {u'' : C16.User} (hu : st.user id = some u)
    (hsub : ∀ x ∈ u.caps, x ∈ u''.caps) : UserGrow st (putUser s1 id u'') :=
  userGrow_of_dictSet hu hsub rfl fun hi => hs.get_other hi

end AfterSet

theorem ids_putUser {st : St} (h : IdsOk st) {id : Nat} (hid : id ≤ st.nextId) (u : C16.User) : IdsOk (putUser st id u) := by
  refine ⟨C16.dictSet_nodup _ _ _ h.1, fun p hp => ?_⟩
  rcases mem_putUser hp with rfl | hp
  · exact hid
  · exact h.2 p hp

/-- the changes a command makes in place to the record `u` of account `id` before it calls
`setUser`, with what the command has checked by then -/
inductive Edit (cfg : Cfg) (st : St) (pfx : Str) (c : Cmd) (id : Nat) (u : C16.User) : C16.User → Prop
  | same : Edit cfg st pfx c id u u
  | name {n : Str} : ¬ C16.hasLineBreak n = true → Edit cfg st pfx c id u { u with name := n }
  | hostmasks {hs : List Str} : (∀ x ∈ hs, x ∈ u.hostmasks ∨ C03.isUserHostmask x = true) →
      Edit cfg st pfx c id u { u with hostmasks := hs }
  | password (p : Str) : Edit cfg st pfx c id u { u with hashed := true, password := cfg.hash p }
  | secure (b : Bool) : Edit cfg st pfx c id u { u with secure := b }
  | capsDrop {caps' : List Str} : c.capChanging = true → (∀ x ∈ caps', x ∈ u.caps) →
      Edit cfg st pfx c id u { u with caps := caps' }
  | capsAdd {r : Str} {caps' : List Str} : c.capChanging = true → C03.uadd u.caps r = .ok caps' →
      Granted cfg st pfx c id (C03.toLower r) → Edit cfg st pfx c id u { u with caps := caps' }

namespace Edit
variable {cfg : Cfg} {st : St} {pfx : Str} {c : Cmd} {id : Nat} {u u' : C16.User}

theorem safe (he : Edit cfg st pfx c id u u') (hcfg : HashSafe cfg) (h : C16.SafeUser u) : C16.SafeUser u' := by
  cases he with
  | same => exact h
  | name hn => exact ⟨noBreak_of_not_hasLineBreak hn, h.password, h.caps, h.hostmasks, h.nicks, h.gpgkeys⟩
  | hostmasks hh =>
    refine ⟨h.name, h.password, h.caps, fun x hx => ?_, h.nicks, h.gpgkeys⟩
    rcases hh x hx with hx | hx
    · exact h.hostmasks x hx
    · exact isUserHostmask_lfCore hx
  | password p => exact ⟨h.name, hcfg p, h.caps, h.hostmasks, h.nicks, h.gpgkeys⟩
  | secure b => exact ⟨h.name, h.password, h.caps, h.hostmasks, h.nicks, h.gpgkeys⟩
  | capsDrop _ hsub => exact C16.safeUser_caps h _ fun x hx => h.caps x (hsub x hx)
  | capsAdd _ hadd _ => exact C16.safeUser_caps h _ (C16.uadd_safe hadd h.caps)

theorem caps (he : Edit cfg st pfx c id u u') : ∀ x ∈ u'.caps, x ∈ u.caps ∨ Granted cfg st pfx c id x := by
  intro x hx
  cases he with
  | capsDrop _ hsub => exact Or.inl (hsub x hx)
  | capsAdd _ hadd hg =>
    rcases mem_uadd hadd hx with hx | rfl
    · exact Or.inl hx
    · exact Or.inr hg
  | _ => exact Or.inl hx

theorem grow (he : Edit cfg st pfx c id u u') : c.capChanging = true ∨ ∀ x ∈ u.caps, x ∈ u'.caps := by
  cases he with
  | capsDrop hc _ => exact Or.inl hc
  | capsAdd hc _ _ => exact Or.inl hc
  | _ => exact Or.inr fun _ hx => hx

end Edit

/-- **what a command body (other than a reload) can do to the state.**  A command on an account
edits the record and hands it to `setUser` (`saved`, `unsaved`), and the edited record is in the
table even when `setUser` refused (`forced`); `register`/`unregister` append or delete a record and
save; the Channel commands save the channel they changed or merely created it by asking
(`chanTouched`); the rest changes ignores or default capabilities, or flushes everything. -/
inductive Effect (cfg : Cfg) (st : St) (pfx : Str) (c : Cmd) : St × Bool → Prop
  | same (b : Bool) : Effect cfg st pfx c (st, b)
  | saved {id : Nat} {u u' : C16.User} {s1 : St} (b : Bool) : st.user id = some u → Edit cfg st pfx c id u u' →
      AfterSet st id u' s1 → Effect cfg st pfx c (flushU s1, b)
  | unsaved {id : Nat} {u : C16.User} {s1 : St} (b : Bool) : st.user id = some u → AfterSet st id u s1 →
      Effect cfg st pfx c (s1, b)
  | forced {id : Nat} {u u' u'' : C16.User} {s1 : St} : st.user id = some u → Edit cfg st pfx c id u u' →
      Edit cfg st pfx c id u u'' → AfterSet st id u' s1 → Effect cfg st pfx c (putUser s1 id u'', false)
  | registered {name : Str} (pw : Str) (ah : Bool) : ¬ C16.hasLineBreak name = true →
      Effect cfg st pfx c
        (flushU { st with nextId := st.nextId + 1, users := st.users ++ [(st.nextId + 1,
          { name := name, hashed := true, password := cfg.hash pw, hostmasks := if ah then [pfx] else [] })] }, true)
  | idUsed : Effect cfg st pfx c (flushU { st with nextId := st.nextId + 1 }, false)
  | unregistered (id : Nat) : Effect cfg st pfx c
      (flushU { st with users := st.users.filter (fun p => p.1 ≠ id), auth := st.auth.filter (fun p => p.1 ≠ id) }, true)
  | chanSaved (name : Str) (c' : C16.Chan) (b : Bool) : Effect cfg st pfx c (flushC (st.putChan name c'), b)
  | chanTouched (name : Str) : Effect cfg st pfx c (st.putChan name (st.chan name), false)
  | conf (i : C16.IgnoresDb) (d : List Str) : Effect cfg st pfx c ({ st with ignores := i, defaults := d }, true)
  | flushed : Effect cfg st pfx c (flushAllSt cfg st, true)

namespace Effect
variable {cfg : Cfg} {st : St} {pfx : Str} {c : Cmd}

theorem inElse {p : Prop} [Decidable p] {b : Bool} {r : St × Bool} (h : ¬ p → Effect cfg st pfx c r) :
    Effect cfg st pfx c (if p then (st, b) else r) := by
  split
  · exact .same b
  · exact h ‹_›

theorem inThen {p : Prop} [Decidable p] {b : Bool} {r : St × Bool} (h : p → Effect cfg st pfx c r) :
    Effect cfg st pfx c (if p then r else (st, b)) := by
  split
  · exact h ‹_›
  · exact .same b

theorem withOther {name : Str} {f : Nat → C16.User → St × Bool}
    (h : ∀ id u, st.otherUser cfg name = some id → st.user id = some u → Effect cfg st pfx c (f id u)) :
    Effect cfg st pfx c (withOther cfg st name f) := by
  unfold C02.withOther
  split
  · exact .same _
  · split
    · exact .same _
    · exact h _ _ ‹_› ‹_›

theorem withCaller {f : Nat → C16.User → St × Bool}
    (h : ∀ id u, st.user id = some u → Effect cfg st pfx c (f id u)) :
    Effect cfg st pfx c (withCaller st pfx f) := by
  unfold C02.withCaller
  split
  · split
    · exact h _ _ ‹_›
    · exact .same _
  · exact .same _

theorem finishSet {id : Nat} {u u' : C16.User} (a : List (Nat × List Str)) (hu : st.user id = some u)
    (he : Edit cfg st pfx c id u u') : Effect cfg st pfx c (finishSet cfg { st with auth := a } id u') := by
  unfold C02.finishSet
  simp only []
  split
  · exact .saved true hu he (setUser_after cfg st a id u')
  · exact .forced hu he he (setUser_after cfg st a id u')

/-- `identify` stores the record as it is and does not save -/
theorem finishSet_noflush {id : Nat} {u : C16.User} (a : List (Nat × List Str)) (hu : st.user id = some u) :
    Effect cfg st pfx c (C02.finishSet cfg { st with auth := a } id u false) := by
  unfold C02.finishSet
  simp only []
  split
  · exact .unsaved true hu (setUser_after cfg st a id u)
  · exact .forced hu .same .same (setUser_after cfg st a id u)

end Effect

theorem granted_capAdd {cfg : Cfg} {st : St} {pfx name cap0 : Str} {id : Nat}
    (hid : st.otherUser cfg name = some id) (hne : ¬ C03.strEqual (C03.toLower cap0) C03.ownerS = true)
    (hent : (if C03.isAntiCapability (C03.toLower cap0) then some true else st.check pfx (C03.toLower cap0)) = some true) :
    Granted cfg st pfx (.capAdd name cap0) id (C03.toLower (C03.toLower cap0)) := by
  refine Or.inl ⟨name, cap0, rfl, hid, C03.toLower_idem _, by simpa using hne, ?_⟩
  by_cases ha : C03.isAntiCapability (C03.toLower cap0) = true
  · exact Or.inl ha
  · rw [if_neg ha] at hent
    exact Or.inr hent

theorem granted_chanCapAdd {cfg : Cfg} {st : St} {pfx chan name cap c1 cc : Str} {id : Nat}
    (hid : st.otherUser cfg name = some id) (hop : st.opGuard pfx chan = true) (hsplit : splitWs cap = [c1])
    (hcc : C03.makeChannelCapability chan c1 = .ok cc) :
    Granted cfg st pfx (.chanCapAdd chan name cap) id (C03.toLower cc) := by
  refine Or.inr ⟨chan, name, cap, c1, rfl, hid, hop, hsplit, ?_⟩
  unfold C03.makeChannelCapability at hcc
  split at hcc
  · cases hcc
  · split at hcc
    · cases hcc
    · injection hcc with hcc; rw [hcc]

theorem chanCapSet_body (cfg : Cfg) (st : St) (pfx chan : Str) (caps : List Str) :
    body cfg st pfx (.chanCapSet chan caps) = (st, false) ∨
    ∃ c', body cfg st pfx (.chanCapSet chan caps) = (flushC (st.putChan chan c'), true) := by
  simp only [body]
  split
  · exact Or.inl rfl
  · split
    · exact Or.inl rfl
    · split
      · exact Or.inl rfl
      · rename_i hall
        simp only [addCaps_complete _ _ (by simpa using hall), if_true]
        exact Or.inr ⟨_, rfl⟩

theorem chanCapUnset_body (cfg : Cfg) (st : St) (pfx chan : Str) (caps : List Str) :
    body cfg st pfx (.chanCapUnset chan caps) = (st, false) ∨
    ∃ c' b, body cfg st pfx (.chanCapUnset chan caps) = (flushC (st.putChan chan c'), b) := by
  simp only [body]
  split
  · exact Or.inl rfl
  · split
    · exact Or.inl rfl
    · split
      · exact Or.inl rfl
      · rename_i hall
        simp only [removeCaps_complete _ _ (by simpa using hall), if_true]
        exact Or.inr ⟨_, _, rfl⟩

theorem body_effect (cfg : Cfg) (st : St) (pfx : Str) (c : Cmd) (hc : c ≠ .flushReload) (hr : c ≠ .reload) :
    Effect cfg st pfx c (body cfg st pfx c) := by
  cases c with
  | flushReload => exact absurd rfl hc
  | reload => exact absurd rfl hr
  | register name pw =>
    simp only [body, doRegister]
    refine .inElse fun _ => .inElse fun _ => .inElse fun _ => .inElse fun hlb => ?_
    split
    · exact .same _
    · split
      · exact .idUsed
      · exact .registered pw _ hlb
  | unregister name pw =>
    simp only [body]
    exact .withOther fun id u _ _ => .inThen fun _ => .unregistered id
  | changename name newname pw =>
    simp only [body]
    exact .inElse fun _ => .withOther fun id u _ hu => .inElse fun _ => .inElse fun _ => .inElse fun hlb =>
      .inThen fun _ => .finishSet st.auth hu (.name hlb)
  | identify name pw =>
    simp only [body]
    exact .inElse fun _ => .withOther fun id u _ hu => .inThen fun _ => .inThen fun _ => .finishSet_noflush _ hu
  | unidentify =>
    simp only [body]
    exact .withCaller fun id u hu => .finishSet _ hu .same
  | hostmaskAdd name hostmask pw =>
    simp only [body]
    refine .inElse fun _ => .withOther fun id u _ hu => ?_
    split
    · exact .same _
    · refine .inElse fun hhm => .inElse fun _ => .inElse fun _ => .inElse fun _ => .inElse fun _ => ?_
      have hs : ∀ x ∈ C16.ircSetAdd u.hostmasks hostmask, x ∈ u.hostmasks ∨ C03.isUserHostmask x = true := by
        intro x hx
        rcases mem_ircSetAdd hx with hx | rfl
        · exact Or.inl hx
        · exact Or.inr (by simpa using hhm)
      -- `finishSet`, except that a refused hostmask is taken out of the live record again
      split
      · exact .saved true hu (.hostmasks hs) (setUser_after cfg st st.auth id _)
      · exact .forced hu (.hostmasks hs) (.hostmasks fun x hx => hs x (List.mem_filter.mp hx).1)
          (setUser_after cfg st st.auth id _)
      · exact .forced hu (.hostmasks hs) (.hostmasks hs) (setUser_after cfg st st.auth id _)
  | hostmaskRemove name hostmask pw =>
    simp only [body]
    refine .inElse fun _ => .withOther fun id u _ hu => ?_
    split
    · split
      · exact .finishSet st.auth hu (.hostmasks fun x hx => nomatch hx)
      · exact .inThen fun _ => .finishSet st.auth hu (.hostmasks fun x hx => Or.inl (List.mem_filter.mp hx).1)
    · exact .same _
  | setPassword name old new =>
    simp only [body]
    exact .inElse fun _ => .withOther fun id u _ hu => .inElse fun _ => .inThen fun _ =>
      .finishSet st.auth hu (.password new)
  | setSecure pw value =>
    simp only [body]
    exact .inElse fun _ => .withCaller fun id u hu => .inThen fun _ => .finishSet st.auth hu (.secure _)
  | capAdd name cap0 =>
    simp only [body]
    refine .withOther fun id u hid hu => .inElse fun hne => ?_
    split
    · rename_i hent
      split
      · rename_i hadd
        exact .finishSet st.auth hu (.capsAdd rfl hadd (granted_capAdd hid hne hent))
      · exact .same _
    · exact .same _
  | capRemove name cap0 =>
    simp only [body]
    refine .withOther fun id u _ hu => ?_
    split
    · split
      · rename_i hrem
        exact .finishSet st.auth hu (.capsDrop rfl fun x hx => mem_capRemove hrem hx)
      · exact .same _
    · exact .same _
  | chanCapAdd chan name cap =>
    simp only [body]
    refine .inElse fun hop => .withOther fun id u hid hu => .inElse fun _ => ?_
    split
    · rename_i hsplit
      split
      · exact .same _
      · rename_i hcc
        split
        · exact .same _
        · rename_i hadd
          exact .finishSet st.auth hu (.capsAdd rfl hadd (granted_chanCapAdd hid (by simpa using hop) hsplit hcc))
    · exact .same _
  | chanCapRemove chan name cap =>
    simp only [body]
    refine .inElse fun _ => .withOther fun id u _ hu => .inElse fun _ => ?_
    split
    · split
      · exact .same _
      · split
        · rename_i hrem
          exact .finishSet st.auth hu (.capsDrop rfl fun x hx => mem_capRemove hrem hx)
        · -- a capability the account does not have: the record is stored as it is
          unfold finishSet
          simp only []
          split
          · exact .saved false hu .same (setUser_after cfg st st.auth id u)
          · exact .forced hu .same .same (setUser_after cfg st st.auth id u)
    · exact .same _
  | chanCapSet chan caps =>
    rcases chanCapSet_body cfg st pfx chan caps with h | ⟨c', h⟩ <;> rw [h]
    · exact .same _
    · exact .chanSaved _ _ _
  | chanCapUnset chan caps =>
    rcases chanCapUnset_body cfg st pfx chan caps with h | ⟨c', b, h⟩ <;> rw [h]
    · exact .same _
    · exact .chanSaved _ _ _
  | chanSetDefault chan v =>
    simp only [body]
    exact .inElse fun _ => .chanSaved _ _ _
  | ignoreAdd h0 =>
    simp only [body]
    split
    · exact .inThen fun _ => .conf _ st.defaults
    · exact .same _
  | ignoreRemove h0 =>
    simp only [body]
    split
    · exact .inThen fun _ => .conf _ st.defaults
    · exact .same _
  | defaultCapAdd cap =>
    simp only [body]
    refine .inElse fun _ => ?_
    split
    · exact .conf st.ignores _
    · exact .same _
  | defaultCapRemove cap =>
    simp only [body]
    refine .inElse fun _ => ?_
    split
    · exact .conf st.ignores _
    · refine .inElse fun _ => ?_
      split
      · split
        · exact .conf st.ignores _
        · exact .same _
      · exact .same _
    · exact .same _
  | configCaps v =>
    simp only [body]
    split
    · exact .conf st.ignores _
    · exact .same _
  | flushAll => exact .flushed
  | upkeep on =>
    cases on
    · exact .same true
    · exact .flushed
  | chanDisable chan plugin command =>
    simp only [body]
    refine .inElse fun _ => ?_
    split
    · exact .same _
    · split
      · exact .chanSaved _ _ _
      · exact .chanTouched _
  | chanEnable chan plugin command =>
    simp only [body]
    refine .inElse fun _ => ?_
    split
    · exact .same _
    · split
      · exact .chanSaved _ _ _
      · exact .chanSaved _ _ _

namespace Effect
variable {cfg : Cfg} {st : St} {pfx : Str} {c : Cmd} {r : St × Bool}

theorem safe (he : Effect cfg st pfx c r) (hcfg : HashSafe cfg) (hpfx : C16.noBreak pfx) (h : SafeUsers st) :
    SafeUsers r.1 := by
  cases he with
  | saved b hu he hs => exact hs.safe h (he.safe hcfg (user_safe h hu))
  | unsaved b hu hs => exact hs.safe h (user_safe h hu)
  | forced hu he he' hs =>
    intro p hp
    rcases mem_putUser hp with rfl | hp
    · exact he'.safe hcfg (user_safe h hu)
    · exact hs.safe h (he.safe hcfg (user_safe h hu)) p hp
  | registered pw ah hlb =>
    intro p hp
    rcases List.mem_append.mp hp with hp | hp
    · exact h p hp
    · rw [List.mem_singleton.mp hp]
      refine ⟨noBreak_of_not_hasLineBreak hlb, hcfg pw, fun _ hx => (nomatch hx), fun x hx => ?_,
        fun _ hx => (nomatch hx), fun _ hx => (nomatch hx)⟩
      cases ah
      · cases hx
      · rw [List.mem_singleton.mp hx, (C16.lfCore_of_noBreak hpfx).1]; exact hpfx
  | unregistered id => exact fun p hp => h p (List.mem_filter.mp hp).1
  | _ => exact h

theorem cu (he : Effect cfg st pfx c r) : r.1.cu = st.cu := by
  cases he with
  | saved b hu he hs => exact hs.cu
  | unsaved b hu hs => exact hs.cu
  | forced hu he he' hs => exact hs.cu
  | _ => rfl

theorem ids (he : Effect cfg st pfx c r) (h : IdsOk st) : IdsOk r.1 := by
  cases he with
  | saved b hu he hs => exact (hs.ids h hu).1
  | unsaved b hu hs => exact (hs.ids h hu).1
  | forced hu he he' hs => exact ids_putUser (hs.ids h hu).1 (hs.ids h hu).2 _
  | registered pw ah hlb =>
    refine ⟨?_, fun p hp => ?_⟩
    · show ((st.users ++ [_]).map Prod.fst).Nodup
      rw [List.map_append, List.nodup_append]
      refine ⟨h.1, by simp, fun a ha b hb => ?_⟩
      obtain ⟨p, hp, rfl⟩ := List.mem_map.mp ha
      rw [List.mem_singleton.mp hb]
      exact Nat.ne_of_lt (Nat.lt_succ_of_le (h.2 p hp))
    · rcases List.mem_append.mp hp with hp | hp
      · exact Nat.le_succ_of_le (h.2 p hp)
      · rw [List.mem_singleton.mp hp]; exact Nat.le_refl _
  | idUsed => exact ⟨h.1, fun p hp => Nat.le_succ_of_le (h.2 p hp)⟩
  | unregistered id =>
    exact ⟨(List.Sublist.map _ List.filter_sublist).nodup h.1, fun p hp => h.2 p (List.mem_filter.mp hp).1⟩
  | _ => exact h

theorem caps (he : Effect cfg st pfx c r) : ∀ p ∈ r.1.users, ∀ x ∈ p.2.caps,
    (∃ u, (p.1, u) ∈ st.users ∧ x ∈ u.caps) ∨ Granted cfg st pfx c p.1 x := by
  have old : ∀ p ∈ st.users, ∀ x ∈ p.2.caps,
      (∃ u, (p.1, u) ∈ st.users ∧ x ∈ u.caps) ∨ Granted cfg st pfx c p.1 x :=
    fun p hp x hx => Or.inl ⟨p.2, hp, hx⟩
  have edited : ∀ {id u u'}, st.user id = some u → Edit cfg st pfx c id u u' → ∀ x ∈ u'.caps,
      (∃ u, (id, u) ∈ st.users ∧ x ∈ u.caps) ∨ Granted cfg st pfx c id x :=
    fun hu he x hx => (he.caps x hx).imp_left fun hx => ⟨_, user_mem hu, hx⟩
  intro p hp
  cases he with
  | saved b hu he hs =>
    rcases hs.mem hp with rfl | hp
    · exact edited hu he
    · exact old p hp
  | unsaved b hu hs =>
    rcases hs.mem hp with rfl | hp
    · exact edited hu .same
    · exact old p hp
  | forced hu he he' hs =>
    rcases mem_putUser hp with rfl | hp
    · exact edited hu he'
    · rcases hs.mem hp with rfl | hp
      · exact edited hu he
      · exact old p hp
  | registered pw ah hlb =>
    rcases List.mem_append.mp hp with hp | hp
    · exact old p hp
    · rw [List.mem_singleton.mp hp]; exact fun _ hx => nomatch hx
  | unregistered id => exact old p (List.mem_filter.mp hp).1
  | _ => exact old p hp

theorem shape (he : Effect cfg st pfx c r) : Shape st c r := by
  have kept : ∀ {st' : St} {b : Bool}, st'.usaved = st.usaved → st'.users = st.users → Shape st c (st', b) :=
    fun hf hus => Or.inr (Or.inl ⟨hf, userGrow_of_users_eq hus⟩)
  cases he with
  | same b => exact kept rfl rfl
  | unsaved b hu hs => exact Or.inr (Or.inl ⟨hs.usaved, hs.grow hu fun _ hx => hx⟩)
  | forced hu he he' hs =>
    rcases he'.grow with hcc | hsub
    · exact Or.inr (Or.inr ⟨hcc, rfl, hs.usaved⟩)
    · exact Or.inr (Or.inl ⟨hs.usaved, hs.grow_put hu hsub⟩)
  | chanSaved name c' b => exact kept rfl rfl
  | chanTouched name => exact kept rfl rfl
  | conf i d => exact kept rfl rfl
  | _ => exact Or.inl rfl

end Effect

end C02
