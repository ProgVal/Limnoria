import LimnoriaModel.C02.Lemmas

/-!
# C02 — the channels file and the channels in memory

`ChannelsDictionary.getChannel` hands out the live record; the Channel plugin changes it and then
calls `setChannel`, which saves.  `ChanAgree`: the saved channels file and the channels in memory
answer every `getChannel(name)` alike (a record that merely was created by asking equals the
default one, so it does not count as a difference).  Every command keeps it (`body_chanShape`).
-/

namespace C02
open Py

/-- `channels.getChannel(name)` on a dictionary given as a list -/
def chanOf (l : C16.ChannelsDb) (name : Str) : C16.Chan :=
  match l.find? (fun p => C03.toLower p.1 = C03.toLower (asciiLower name)) with
  | some p => p.2
  | none => C16.freshChan

theorem chan_eq_chanOf (st : St) (name : Str) : st.chan name = chanOf st.channels name := rfl

theorem find_ircDictSet_same (l : C16.ChannelsDb) (k : Str) (c : C16.Chan) (t : Str)
    (hk : C03.toLower k = t) :
    ((C16.ircDictSet k c l).find? (fun p => C03.toLower p.1 = t)).map (·.2) = some c := by
  unfold C16.ircDictSet
  split
  · rename_i hany
    induction l with
    | nil => simp at hany
    | cons p rest ih =>
      simp only [List.map_cons]
      by_cases hp : C03.toLower p.1 = C03.toLower k
      · simp only [hp, if_true, List.find?_cons, hk, decide_true, Option.map_some]
      · have hp' : ¬ C03.toLower p.1 = t := by rw [← hk]; exact hp
        simp only [hp, if_false, List.find?_cons, hp', decide_false]
        apply ih
        simp only [List.any_cons, hp, decide_false, Bool.false_or] at hany
        exact hany
  · rename_i hany
    have hnone : l.find? (fun p => decide (C03.toLower p.1 = t)) = none := by
      rw [List.find?_eq_none]
      intro p hp
      simp only [List.any_eq_true, not_exists, not_and, decide_eq_true_eq] at hany
      simpa [← hk] using hany p hp
    rw [List.find?_append, hnone]
    simp [hk]

theorem find_ircDictSet_other (l : C16.ChannelsDb) (k : Str) (c : C16.Chan) (t : Str)
    (hk : C03.toLower k ≠ t) :
    ((C16.ircDictSet k c l).find? (fun p => C03.toLower p.1 = t)).map (·.2) =
      (l.find? (fun p => C03.toLower p.1 = t)).map (·.2) := by
  unfold C16.ircDictSet
  split
  · rename_i hany
    clear hany
    induction l with
    | nil => rfl
    | cons p rest ih =>
      simp only [List.map_cons]
      by_cases hp : C03.toLower p.1 = C03.toLower k
      · have hp' : ¬ C03.toLower p.1 = t := by rw [hp]; exact hk
        simp only [hp, if_true, List.find?_cons, hk, decide_false]
        exact ih
      · simp only [hp, if_false, List.find?_cons]
        by_cases hq : C03.toLower p.1 = t
        · simp only [hq, decide_true]
        · simp only [hq, decide_false]
          exact ih
  · rw [List.find?_append]
    cases h : l.find? (fun p => decide (C03.toLower p.1 = t)) with
    | some p => rfl
    | none => simp [hk]

theorem chanOf_eq (l : C16.ChannelsDb) (n : Str) :
    chanOf l n = ((l.find? (fun p => C03.toLower p.1 = C03.toLower (asciiLower n))).map (·.2)).getD C16.freshChan := by
  unfold chanOf
  cases l.find? (fun p => decide (C03.toLower p.1 = C03.toLower (asciiLower n))) <;> rfl

/-- storing a record under a name changes the answer for that name (in any spelling) only -/
theorem chanOf_put (l : C16.ChannelsDb) (name n : Str) (c : C16.Chan) :
    chanOf (C16.ircDictSet (asciiLower name) c l) n =
      if C03.toLower (asciiLower name) = C03.toLower (asciiLower n) then c else chanOf l n := by
  by_cases h : C03.toLower (asciiLower name) = C03.toLower (asciiLower n)
  · rw [if_pos h, chanOf_eq, find_ircDictSet_same l (asciiLower name) c _ h]
    rfl
  · rw [if_neg h, chanOf_eq, find_ircDictSet_other l (asciiLower name) c _ h, ← chanOf_eq]

/-- putting back the record `getChannel` returned changes no answer -/
theorem chanOf_put_same (st : St) (name n : Str) :
    chanOf (st.putChan name (st.chan name)).channels n = chanOf st.channels n := by
  unfold St.putChan
  simp only []
  rw [chanOf_put]
  split
  · rename_i h
    rw [chan_eq_chanOf]
    unfold chanOf
    rw [h]
  · rfl

/-- two channel records with the same settings and the same capabilities as sets (the order of a
capability set is not determined: `Ev.order`) -/
def ChanEquiv (a b : C16.Chan) : Prop :=
  a.lobotomized = b.lobotomized ∧ a.defaultAllow = b.defaultAllow ∧ a.bans = b.bans ∧ a.ignores = b.ignores ∧
  ∀ x, x ∈ a.caps ↔ x ∈ b.caps

theorem chanEquiv_refl (a : C16.Chan) : ChanEquiv a a := ⟨rfl, rfl, rfl, rfl, fun _ => Iff.rfl⟩

theorem chanEquiv_trans {a b c : C16.Chan} (h1 : ChanEquiv a b) (h2 : ChanEquiv b c) : ChanEquiv a c :=
  ⟨h1.1.trans h2.1, h1.2.1.trans h2.2.1, h1.2.2.1.trans h2.2.2.1, h1.2.2.2.1.trans h2.2.2.2.1,
   fun x => (h1.2.2.2.2 x).trans (h2.2.2.2.2 x)⟩

/-- the saved channels file and memory answer every `getChannel(name)` alike -/
def ChanAgree (st : St) : Prop :=
  ∀ saved, st.csaved = some saved → ∀ n, ChanEquiv (chanOf saved n) (chanOf st.channels n)

/-- what a command does to channels and their file: it saved, or it left the file alone and
changed no answer of `getChannel` -/
def ChanShape (st st' : St) : Prop :=
  st'.csaved = some st'.channels ∨ (st'.csaved = st.csaved ∧ ∀ n, chanOf st'.channels n = chanOf st.channels n)

theorem chanAgree_of_saved {st : St} (h : st.csaved = some st.channels) : ChanAgree st := by
  intro saved hsv n
  rw [h] at hsv
  injection hsv with hsv
  rw [hsv]
  exact chanEquiv_refl _

theorem chanAgree_of_shape {st st' : St} (hs : ChanShape st st') (h : ChanAgree st) : ChanAgree st' := by
  rcases hs with hs | ⟨h1, h2⟩
  · exact chanAgree_of_saved hs
  · intro saved hsv n
    rw [h1] at hsv
    rw [h2 n]
    exact h saved hsv n

/-! ## `channel capability set/unset` save whatever they change (repair C02-channel-capability-half-applied) -/

/-- **`channel capability set` / `unset` are saved or did nothing**: the capabilities are checked
before the live channel record is touched, so whenever the command changed the state at all it
went through `setChannel` and the saved channels file is the channels in memory.  (Before the
repair an argument such as `"\tx"` stopped the loop after earlier capabilities had been removed
in memory only: `unset #chan op "\tx"`, then SIGHUP, and `op` was back.) -/
theorem chanCapSet_saved (cfg : Cfg) (st : St) (pfx chan : Str) (caps : List Str) (c : Cmd)
    (hc : c = .chanCapSet chan caps ∨ c = .chanCapUnset chan caps) :
    (body cfg st pfx c).1 = st ∨ (body cfg st pfx c).1.csaved = some (body cfg st pfx c).1.channels := by
  rcases hc with rfl | rfl
  · rcases chanCapSet_body cfg st pfx chan caps with h | ⟨c', h⟩ <;> rw [h]
    · exact Or.inl rfl
    · exact Or.inr rfl
  · rcases chanCapUnset_body cfg st pfx chan caps with h | ⟨c', b, h⟩ <;> rw [h]
    · exact Or.inl rfl
    · exact Or.inr rfl

theorem Effect.chanShape {cfg : Cfg} {st : St} {pfx : Str} {c : Cmd} {r : St × Bool} (he : Effect cfg st pfx c r) :
    ChanShape st r.1 := by
  have kept : ∀ {st' : St}, st'.csaved = st.csaved → st'.channels = st.channels → ChanShape st st' :=
    fun h1 h2 => Or.inr ⟨h1, fun n => by rw [h2]⟩
  cases he with
  | saved b hu he hs => exact kept hs.csaved hs.channels
  | unsaved b hu hs => exact kept hs.csaved hs.channels
  | forced hu he he' hs => exact kept hs.csaved hs.channels
  | chanSaved name c' b => exact Or.inl rfl
  | chanTouched name => exact Or.inr ⟨rfl, chanOf_put_same st name⟩
  | flushed => exact Or.inl rfl
  | _ => exact kept rfl rfl

/-- **every command keeps the channels file and memory in agreement** -/
theorem body_chanShape (cfg : Cfg) (st : St) (pfx : Str) (c : Cmd) (hc : c ≠ .flushReload) (hr : c ≠ .reload) :
    ChanShape st (body cfg st pfx c).1 :=
  (body_effect cfg st pfx c hc hr).chanShape

end C02
