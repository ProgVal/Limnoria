/-
C14 — lemmas behind the property theorems: the evaluator (`evalArgs_logInv`, `evalArgs_answer`), `getCommand`,
`findCallbacksForArgs`, `canonicalName`, the disabled-commands store.
-/
import LimnoriaModel.C14.Model
namespace C14
open Py

/-- from the recursor: a recursion over the nested `List Arg` in each theorem is slow to check -/
theorem Arg.list_induct {motive : List Arg → Prop} (nil : motive [])
    (str : ∀ s rest, motive rest → motive (.str s :: rest))
    (sub : ∀ l rest, motive l → motive rest → motive (.sub l :: rest)) (todo : List Arg) : motive todo :=
  Arg.rec_1 (motive_1 := fun a => ∀ rest, motive rest → motive (a :: rest)) (motive_2 := motive)
    str (fun l hl rest hr => sub l rest hl hr) nil (fun _ l ha hl => ha l hl) todo

/-- paths of all sub-lists among the items (first item has index `i`), left-to-right post-order -/
def postPaths (path : List Nat) : Nat → List Arg → List (List Nat)
  | _, [] => []
  | i, .str _ :: rest => postPaths path (i + 1) rest
  | i, .sub l :: rest => postPaths (path ++ [i]) 0 l ++ [path ++ [i]] ++ postPaths path (i + 1) rest

/-- bracket depth below a list of items -/
def depthL : List Arg → Nat
  | [] => 0
  | .str _ :: rest => depthL rest
  | .sub l :: rest => max (depthL l + 1) (depthL rest)

def Outcome.isStopped : Outcome → Prop
  | .stopped _ => True
  | _ => False

section
variable (cfg : EvCfg) (disp : List Str → Dispatch) (beh : Str → List Str → List Str → Act) (inv : Nat → List Str → Act)

theorem perform_log (nested : Nat) (command : List Str) (a : Act) (st : St) :
    (perform cfg nested command a st).2.log = st.log := by
  obtain ⟨tag, b⟩ := a
  cases tag <;> rcases b with s | _ | s | _ | (_ | s | _ | d) <;> try rfl
  -- left: `noReply` and an unexpected exception, whose outcome hangs on an `if`
  all_goals (simp only [perform]; split <;> rfl)

theorem performInvalid_log (nested : Nat) (tokens : List Str) (a : Act) (st : St) :
    (performInvalid cfg nested tokens a st).2.log = st.log :=
  perform_log cfg nested tokens a st

/-- the abstract dispatch function raises nothing, and an unknown command always ends the evaluation
(as with `supybot.reply.whenNotCommand` on: an error; no `invalidCommand` handler answers in its place) -/
def NoExc (cfg : EvCfg) (disp : List Str → Dispatch) (inv : Nat → List Str → Act) : Prop :=
  (∀ a e, disp a ≠ .exc e) ∧ ∀ n a st, (performInvalid cfg n a (inv n a) st).1.isStopped

theorem finalEval_spec (nested : Nat) (path : List Nat) (done : List Str) (st : St) :
    ((finalEval cfg disp beh inv nested path done st).2.log = st.log ∧
      (NoExc cfg disp inv → (finalEval cfg disp beh inv nested path done st).1.isStopped)) ∨
    ∃ c, (finalEval cfg disp beh inv nested path done st).2.log = st.log ++ [c] ∧ c.path = path := by
  unfold finalEval
  cases h : disp done with
  | exc e => exact .inl ⟨by simp only; split <;> (try split) <;> rfl, fun hne => absurd h (hne.1 _ _)⟩
  | none => exact .inl ⟨performInvalid_log .., fun hne => hne.2 nested done st⟩
  | ambiguous c names => exact .inl ⟨rfl, fun _ => trivial⟩
  | run idx plugin command rest => exact .inr ⟨⟨path, plugin, command, rest⟩, by simp only [perform_log], rfl⟩

/-! ### one step of `evalArgs` at a bracket pair -/

/-- outcome of the child proxy spawned for the bracket pair `l` -/
def child (nested : Nat) (path : List Nat) (i : Nat) (l : List Arg) (st : St) : Outcome × St :=
  if cfg.maxNesting ≠ 0 ∧ nested + 1 > cfg.maxNesting then (.stopped .tooDeep, st)
  else match l with
    | [] => performInvalid cfg (nested + 1) [] (inv (nested + 1) []) st
    | a :: l' => evalArgs cfg disp beh inv (nested + 1) (path ++ [i]) [] 0 (a :: l') st

/-- how the parent goes on after the child's outcome; `none`: stopped -/
def resume (done : List Str) : Outcome × St → Option (List Str × St)
  | (.replied s, st') =>
    some (if st'.ignored then (done, { st' with ignored := false }) else (done ++ [s.take cfg.maxLen], st'))
  | (.noReply, st') => some (done, { st' with ignored := false })
  | (.stopped _, _) => none

theorem evalArgs_sub (nested : Nat) (path : List Nat) (done : List Str) (i : Nat) (l rest : List Arg) (st : St) :
    evalArgs cfg disp beh inv nested path done i (.sub l :: rest) st =
      match resume cfg done (child cfg disp beh inv nested path i l st) with
      | some (done', st') => evalArgs cfg disp beh inv nested path done' (i + 1) rest st'
      | none => child cfg disp beh inv nested path i l st := by
  have h : evalArgs cfg disp beh inv nested path done i (.sub l :: rest) st =
      (match child cfg disp beh inv nested path i l st with
       | (.replied s, st') =>
         if st'.ignored then evalArgs cfg disp beh inv nested path done (i + 1) rest { st' with ignored := false }
         else evalArgs cfg disp beh inv nested path (done ++ [s.take cfg.maxLen]) (i + 1) rest st'
       | (.noReply, st') => evalArgs cfg disp beh inv nested path done (i + 1) rest { st' with ignored := false }
       | (.stopped w, st') => (.stopped w, st')) := by
    conv => lhs; unfold evalArgs
    rfl
  rw [h]
  generalize child cfg disp beh inv nested path i l st = rc
  obtain ⟨o, st'⟩ := rc
  cases o with
  | replied s => simp only [resume]; split <;> rfl
  | noReply => rfl
  | stopped w => rfl

variable {cfg} in
theorem resume_some {done done' : List Str} {o : Outcome} {st' st'' : St}
    (h : resume cfg done (o, st') = some (done', st'')) : ¬ o.isStopped ∧ st''.log = st'.log := by
  cases o with
  | replied s =>
    refine ⟨fun hs => hs, ?_⟩
    simp only [resume, Option.some.injEq] at h
    split at h <;> (cases h; rfl)
  | noReply => cases h; exact ⟨fun hs => hs, rfl⟩
  | stopped w => cases h

variable {cfg} in
theorem resume_none {done : List Str} {o : Outcome} {st' : St}
    (h : resume cfg done (o, st') = none) : ∃ w, o = .stopped w := by
  cases o with
  | stopped w => exact ⟨w, rfl⟩
  | replied s => cases h
  | noReply => cases h

/-! ### what every evaluation adds to the log -/

/-- The calls `l` that evaluating the items `todo` (the first has index `i`) of the list at `path`, at
nesting level `nested`, adds to the log, `r` being the result. -/
structure LogInv (nested : Nat) (path : List Nat) (i : Nat) (todo : List Arg) (st : St) (r : Outcome × St)
    (l : List Call) : Prop where
  log : r.2.log = st.log ++ l
  sublist : (l.map (·.path)).Sublist (postPaths path i todo ++ [path])
  isPrefix : NoExc cfg disp inv → (l.map (·.path)) <+: (postPaths path i todo ++ [path]) ∧
    (¬ r.1.isStopped → l.map (·.path) = postPaths path i todo ++ [path])
  tooDeep : cfg.maxNesting ≠ 0 → nested + depthL todo > cfg.maxNesting → r.1.isStopped
  /-- a call at `path ++ t` runs at level `nested + t.length`, which is within the maximum -/
  depth : ∀ c ∈ l, cfg.maxNesting ≠ 0 → c.path.length + nested ≤ cfg.maxNesting + path.length

/-- an empty argument list goes to the invalidCommand handlers: no command runs for it -/
theorem logInv_invalid (nested : Nat) (path : List Nat) (i : Nat) (st : St)
    (hn : cfg.maxNesting ≠ 0 → nested ≤ cfg.maxNesting) :
    LogInv cfg disp inv nested path i [] st (performInvalid cfg nested [] (inv nested []) st) [] :=
  ⟨by simp [performInvalid_log], by simp, fun hne => ⟨by simp, fun hs => absurd (hne.2 _ _ _) hs⟩,
    fun h0 hd => by have := hn h0; simp [depthL] at hd; omega, by simp⟩

theorem postPaths_sub (path : List Nat) (i : Nat) (l rest : List Arg) :
    postPaths path i (.sub l :: rest) ++ [path] =
      (postPaths (path ++ [i]) 0 l ++ [path ++ [i]]) ++ (postPaths path (i + 1) rest ++ [path]) := by
  simp only [postPaths, List.append_assoc]

section
variable {cfg} {disp} {inv}

theorem logInv_child_stop {nested : Nat} {path : List Nat} {i : Nat}
    {l rest : List Arg} {st st' : St} {w : Stop} {lc : List Call}
    (hc : LogInv cfg disp inv (nested + 1) (path ++ [i]) 0 l st (.stopped w, st') lc) :
    LogInv cfg disp inv nested path i (.sub l :: rest) st (.stopped w, st') lc where
  log := hc.log
  sublist := by rw [postPaths_sub]; exact hc.sublist.trans (List.sublist_append_left _ _)
  isPrefix hne := ⟨by rw [postPaths_sub]; exact (hc.isPrefix hne).1.trans (List.prefix_append _ _),
    fun h => absurd trivial h⟩
  tooDeep _ _ := trivial
  depth c hcm h0 := by have := hc.depth c hcm h0; simp at this; omega

theorem logInv_seq {nested : Nat} {path : List Nat} {i : Nat}
    {l rest : List Arg} {st st' st'' : St} {o : Outcome} {r : Outcome × St} {lc lr : List Call}
    (hc : LogInv cfg disp inv (nested + 1) (path ++ [i]) 0 l st (o, st') lc) (ho : ¬ o.isStopped)
    (hlog : st''.log = st'.log)
    (hr : LogInv cfg disp inv nested path (i + 1) rest st'' r lr) :
    LogInv cfg disp inv nested path i (.sub l :: rest) st r (lc ++ lr) where
  log := by rw [hr.log, hlog, hc.log, List.append_assoc]
  sublist := by rw [postPaths_sub, List.map_append]; exact hc.sublist.append hr.sublist
  isPrefix hne := by
    -- the child was not stopped: it logged its whole post-order
    rw [postPaths_sub, List.map_append, (hc.isPrefix hne).2 ho]
    exact ⟨(List.prefix_append_right_inj _).2 (hr.isPrefix hne).1, fun hs => by rw [(hr.isPrefix hne).2 hs]⟩
  tooDeep h0 hd := by
    simp only [depthL] at hd
    by_cases hcd : nested + 1 + depthL l > cfg.maxNesting
    · exact absurd (hc.tooDeep h0 hcd) ho
    · exact hr.tooDeep h0 (by omega)
  depth c hcm h0 := by
    rcases List.mem_append.1 hcm with h | h
    · have := hc.depth c h h0; simp at this; omega
    · exact hr.depth c h h0

end

theorem evalArgs_logInv (todo : List Arg) : ∀ (nested : Nat) (path : List Nat) (done : List Str) (i : Nat) (st : St),
      (cfg.maxNesting ≠ 0 → nested ≤ cfg.maxNesting) →
      ∃ l, LogInv cfg disp inv nested path i todo st (evalArgs cfg disp beh inv nested path done i todo st) l := by
  induction todo using Arg.list_induct with
  | nil =>
    intro nested path done i st hn
    have hd : cfg.maxNesting ≠ 0 → ¬ nested + depthL [] > cfg.maxNesting := fun h0 => by
      have := hn h0; simp only [depthL]; omega
    rw [evalArgs]
    rcases finalEval_spec cfg disp beh inv nested path done st with ⟨h1, h2⟩ | ⟨c, h1, hc⟩
    · exact ⟨[], by simpa using h1, by simp, fun hne => ⟨by simp, fun hs => absurd (h2 hne) hs⟩,
        fun h0 h => absurd h (hd h0), by simp⟩
    · refine ⟨[c], h1, by simp [postPaths, hc], fun _ => ⟨by simp [postPaths, hc], fun _ => by simp [postPaths, hc]⟩,
        fun h0 h => absurd h (hd h0), fun c' hc' h0 => ?_⟩
      rw [List.mem_singleton.1 hc', hc]; have := hn h0; omega
  | str s rest ih =>
    intro nested path done i st hn
    obtain ⟨l, h⟩ := ih nested path (done ++ [s]) (i + 1) st hn
    rw [evalArgs]
    exact ⟨l, h.log, by simpa only [postPaths] using h.sublist, by simpa only [postPaths] using h.isPrefix,
      by simpa only [depthL] using h.tooDeep, h.depth⟩
  | sub l rest ihl ihr =>
    intro nested path done i st hn
    have ihc : ∃ lc, LogInv cfg disp inv (nested + 1) (path ++ [i]) 0 l st
        (child cfg disp beh inv nested path i l st) lc := by
      unfold child
      split
      · exact ⟨[], by simp, by simp, fun _ => ⟨by simp, fun h => absurd trivial h⟩, fun _ _ => trivial, by simp⟩
      · next hdeep =>
        have hn' : cfg.maxNesting ≠ 0 → nested + 1 ≤ cfg.maxNesting := fun h0 =>
          Nat.le_of_not_gt fun hc => hdeep ⟨h0, hc⟩
        cases l with
        | nil => exact ⟨[], logInv_invalid cfg disp inv _ _ _ st hn'⟩
        | cons a l' => exact ihl (nested + 1) (path ++ [i]) [] 0 st hn'
    rw [evalArgs_sub]
    generalize child cfg disp beh inv nested path i l st = rc at ihc
    obtain ⟨o, st'⟩ := rc
    obtain ⟨lc, ihc⟩ := ihc
    cases hr : resume cfg done (o, st') with
    | none => obtain ⟨w, rfl⟩ := resume_none hr; exact ⟨lc, logInv_child_stop ihc⟩
    | some p =>
      obtain ⟨ho, hlog⟩ := resume_some hr
      obtain ⟨lr, ihr⟩ := ihr nested path p.1 (i + 1) p.2 hn
      exact ⟨_, logInv_seq ihc ho hlog ihr⟩

end

/-! ### the post-order paths are pairwise distinct -/

/-- `p` lies below position `≥ i` of the list at `path` -/
def Below (path : List Nat) (i : Nat) (p : List Nat) : Prop := ∃ j t, i ≤ j ∧ p = path ++ j :: t

theorem postPaths_below (todo : List Arg) : ∀ (path : List Nat) (i : Nat) (p : List Nat),
    p ∈ postPaths path i todo → Below path i p := by
  induction todo using Arg.list_induct with
  | nil => intro _ _ _ h; simp [postPaths] at h
  | str s rest ih =>
    intro path i p h
    simp only [postPaths] at h
    obtain ⟨j, t, hj, rfl⟩ := ih path (i + 1) p h
    exact ⟨j, t, by omega, rfl⟩
  | sub l rest ihl ihr =>
    intro path i p h
    simp only [postPaths, List.mem_append, List.mem_singleton] at h
    rcases h with (h | h) | h
    · obtain ⟨j, t, _, rfl⟩ := ihl (path ++ [i]) 0 p h
      exact ⟨i, j :: t, Nat.le_refl _, by simp⟩
    · exact ⟨i, [], Nat.le_refl _, by simp [h]⟩
    · obtain ⟨j, t, hj, rfl⟩ := ihr path (i + 1) p h
      exact ⟨j, t, by omega, rfl⟩

theorem below_ne {path : List Nat} {i : Nat} {t : List Nat} {p : List Nat} (h : Below path (i + 1) p) :
    p ≠ path ++ i :: t := by
  obtain ⟨k, u, hk, rfl⟩ := h
  intro e
  have := List.append_cancel_left e
  simp at this
  omega

theorem postPaths_nodup (todo : List Arg) : ∀ (path : List Nat) (i : Nat), (postPaths path i todo).Nodup := by
  induction todo using Arg.list_induct with
  | nil => intro _ _; simp [postPaths]
  | str s rest ih => intro path i; simp only [postPaths]; exact ih path (i + 1)
  | sub l rest ihl ihr =>
    intro path i
    simp only [postPaths]
    rw [List.nodup_append, List.nodup_append]
    refine ⟨⟨ihl _ 0, by simp, ?_⟩, ihr path (i + 1), ?_⟩
    · intro a ha b hb
      simp at hb; subst hb
      obtain ⟨j, t, _, rfl⟩ := postPaths_below l (path ++ [i]) 0 a ha
      intro e
      have := congrArg List.length e
      simp at this
    · intro a ha b hb
      have hb' := postPaths_below rest path (i + 1) b hb
      simp only [List.mem_append, List.mem_singleton] at ha
      rcases ha with ha | ha
      · obtain ⟨j, t, _, rfl⟩ := postPaths_below l (path ++ [i]) 0 a ha
        intro e
        exact below_ne (i := i) (t := j :: t) hb' (by rw [← e]; simp)
      · subst ha
        intro e
        exact below_ne (i := i) (t := []) hb' (by rw [← e])

/-! ### the reference semantics: function application -/

section
variable {cfg : EvCfg} {disp : List Str → Dispatch} {beh : Str → List Str → List Str → Act} {inv : Nat → List Str → Act}

/-- reply text of the command that `disp` selects for the evaluated arguments `a` -/
def textOf (disp : List Str → Dispatch) (beh : Str → List Str → List Str → Act) (a : List Str) : Str :=
  match disp a with
  | .run _ p c r => (match (beh p c r).b with | .reply s => s | _ => [])
  | _ => []

/-- the log entry of that call -/
def callOf (disp : List Str → Dispatch) (path : List Nat) (a : List Str) : Call :=
  match disp a with
  | .run _ p c r => ⟨path, p, c, r⟩
  | _ => ⟨path, [], [], []⟩

/-- the items with every sub-command replaced by (the first `maxLen` characters of) its reply text -/
def values (cfg : EvCfg) (disp : List Str → Dispatch) (beh : Str → List Str → List Str → Act) : List Arg → List Str
  | [] => []
  | .str s :: rest => s :: values cfg disp beh rest
  | .sub l :: rest => (textOf disp beh (values cfg disp beh l)).take cfg.maxLen :: values cfg disp beh rest

/-- calls made for the sub-commands among the items, in post-order, each with its evaluated arguments -/
def refCalls (cfg : EvCfg) (disp : List Str → Dispatch) (beh : Str → List Str → List Str → Act)
    (path : List Nat) : Nat → List Arg → List Call
  | _, [] => []
  | i, .str _ :: rest => refCalls cfg disp beh path (i + 1) rest
  | i, .sub l :: rest =>
    refCalls cfg disp beh (path ++ [i]) 0 l ++ [callOf disp (path ++ [i]) (values cfg disp beh l)] ++
      refCalls cfg disp beh path (i + 1) rest

/-- no empty bracket pair anywhere -/
def NoEmpty : List Arg → Prop
  | [] => True
  | .str _ :: rest => NoEmpty rest
  | .sub l :: rest => l ≠ [] ∧ NoEmpty l ∧ NoEmpty rest

/-- every evaluated argument list is dispatched to exactly one plugin whose command replies (once) -/
def AllReply (disp : List Str → Dispatch) (beh : Str → List Str → List Str → Act) : Prop :=
  ∀ a, ∃ idx p c r s, disp a = .run idx p c r ∧ beh p c r = ⟨false, .reply s⟩

/-- the reply text of the command selected for `a`, if its body replies -/
def answerOf (disp : List Str → Dispatch) (beh : Str → List Str → List Str → Act) (a : List Str) : Option Str :=
  match disp a with
  | .run _ p c r => (match (beh p c r).b with | .reply s => some s | _ => none)
  | _ => none

/-- `valuesO` / `refCallsO` are `values` / `refCalls` for commands that may answer nothing (`answerOf`
is an `Option`): a sub-command contributes its (truncated) reply text, or no argument at all -/
def valuesO (cfg : EvCfg) (disp : List Str → Dispatch) (beh : Str → List Str → List Str → Act) : List Arg → List Str
  | [] => []
  | .str s :: rest => s :: valuesO cfg disp beh rest
  | .sub l :: rest =>
    match answerOf disp beh (valuesO cfg disp beh l) with
    | some s => s.take cfg.maxLen :: valuesO cfg disp beh rest
    | none => valuesO cfg disp beh rest

def refCallsO (cfg : EvCfg) (disp : List Str → Dispatch) (beh : Str → List Str → List Str → Act)
    (path : List Nat) : Nat → List Arg → List Call
  | _, [] => []
  | i, .str _ :: rest => refCallsO cfg disp beh path (i + 1) rest
  | i, .sub l :: rest =>
    refCallsO cfg disp beh (path ++ [i]) 0 l ++ [callOf disp (path ++ [i]) (valuesO cfg disp beh l)] ++
      refCallsO cfg disp beh path (i + 1) rest

/-- every evaluated argument list goes to exactly one plugin whose command either replies (once) or
calls noReply (possibly after tagging the message `ignored`, as Utilities.ignore does) -/
def AllAnswer (disp : List Str → Dispatch) (beh : Str → List Str → List Str → Act) : Prop :=
  ∀ a, ∃ idx p c r, disp a = .run idx p c r ∧
    ((∃ s, beh p c r = ⟨false, .reply s⟩) ∨ (∃ t, beh p c r = ⟨t, .noReply⟩))

def outcomeOf (o : Option Str) : Outcome := match o with | some s => .replied s | none => .noReply

theorem finalEval_answer (hall : AllAnswer disp beh) (nested : Nat) (path : List Nat) (done : List Str) (log : List Call) :
    ∃ ig, finalEval cfg disp beh inv nested path done ⟨log, false, false⟩ =
      (outcomeOf (answerOf disp beh done), ⟨log ++ [callOf disp path done], ig, false⟩) ∧
      (answerOf disp beh done ≠ none → ig = false) := by
  obtain ⟨idx, p, c, r, h1, h2⟩ := hall done
  rcases h2 with ⟨s, h2⟩ | ⟨t, h2⟩
  · exact ⟨false, by simp [finalEval, answerOf, callOf, outcomeOf, h1, h2, perform], fun _ => rfl⟩
  · refine ⟨if nested = 0 then true else t, ?_, fun h => by simp [answerOf, h1, h2] at h⟩
    by_cases hn : nested = 0 <;> cases t <;>
      simp [finalEval, answerOf, callOf, outcomeOf, h1, h2, perform, hn]

theorem resume_answer (done : List Str) (o : Option Str) (log : List Call) (ig : Bool)
    (h : o ≠ none → ig = false) :
    resume cfg done (outcomeOf o, ⟨log, ig, false⟩) =
      some (done ++ (o.map (·.take cfg.maxLen)).toList, ⟨log, false, false⟩) := by
  cases o with
  | none => simp [outcomeOf, resume]
  | some s => cases h (by simp); simp [outcomeOf, resume]

theorem valuesO_sub (l rest : List Arg) :
    valuesO cfg disp beh (.sub l :: rest) =
      ((answerOf disp beh (valuesO cfg disp beh l)).map (·.take cfg.maxLen)).toList ++ valuesO cfg disp beh rest := by
  rw [valuesO]; cases answerOf disp beh (valuesO cfg disp beh l) <;> rfl

/-- function application, or the nesting error when the nesting does not fit -/
theorem evalArgs_answer (hall : AllAnswer disp beh) (todo : List Arg) :
    ∀ (nested : Nat) (path : List Nat) (done : List Str) (i : Nat) (log : List Call),
      NoEmpty todo → (cfg.maxNesting ≠ 0 → nested ≤ cfg.maxNesting) →
      ((cfg.maxNesting ≠ 0 → nested + depthL todo ≤ cfg.maxNesting) →
        ∃ ig, evalArgs cfg disp beh inv nested path done i todo ⟨log, false, false⟩ =
          (outcomeOf (answerOf disp beh (done ++ valuesO cfg disp beh todo)),
           ⟨log ++ refCallsO cfg disp beh path i todo ++ [callOf disp path (done ++ valuesO cfg disp beh todo)], ig, false⟩) ∧
          (answerOf disp beh (done ++ valuesO cfg disp beh todo) ≠ none → ig = false)) ∧
      (cfg.maxNesting ≠ 0 → nested + depthL todo > cfg.maxNesting →
        ∃ st', evalArgs cfg disp beh inv nested path done i todo ⟨log, false, false⟩ = (.stopped .tooDeep, st')) := by
  induction todo using Arg.list_induct with
  | nil =>
    intro nested path done i log _ hn
    refine ⟨fun _ => ?_, fun h0 hd => ?_⟩
    · rw [evalArgs]
      obtain ⟨ig, h1, h2⟩ := finalEval_answer (inv := inv) hall nested path done log
      exact ⟨ig, by simpa [valuesO, refCallsO] using h1, by simpa [valuesO] using h2⟩
    · have := hn h0; simp only [depthL] at hd; omega
  | str s rest ih =>
    intro nested path done i log hne hn
    have := ih nested path (done ++ [s]) (i + 1) log (by simpa only [NoEmpty] using hne) hn
    rw [evalArgs]
    simpa only [valuesO, refCallsO, depthL, List.append_assoc, List.singleton_append] using this
  | sub l rest ihl ihr =>
    intro nested path done i log hne hn
    obtain ⟨hl, hnl, hnr⟩ : l ≠ [] ∧ NoEmpty l ∧ NoEmpty rest := by simpa only [NoEmpty] using hne
    obtain ⟨a, l', rfl⟩ := List.exists_cons_of_ne_nil hl
    rw [evalArgs_sub]
    unfold child
    by_cases hdeep : cfg.maxNesting ≠ 0 ∧ nested + 1 > cfg.maxNesting
    · rw [if_pos hdeep]
      refine ⟨fun hfit => ?_, fun _ _ => ⟨_, rfl⟩⟩
      have := hfit hdeep.1; simp only [depthL] at this; omega
    · rw [if_neg hdeep]
      simp only
      have hn' : cfg.maxNesting ≠ 0 → nested + 1 ≤ cfg.maxNesting := fun h0 =>
        Nat.le_of_not_gt fun hc => hdeep ⟨h0, hc⟩
      obtain ⟨hcfit, hcdeep⟩ := ihl (nested + 1) (path ++ [i]) [] 0 log hnl hn'
      by_cases hc : cfg.maxNesting ≠ 0 → nested + 1 + depthL (a :: l') ≤ cfg.maxNesting
      · obtain ⟨igc, hc1, hc2⟩ := hcfit hc
        rw [hc1, resume_answer done _ _ igc hc2]
        simp only [List.nil_append]
        obtain ⟨hrfit, hrdeep⟩ := ihr nested path
          (done ++ ((answerOf disp beh (valuesO cfg disp beh (a :: l'))).map (·.take cfg.maxLen)).toList) (i + 1)
          (log ++ refCallsO cfg disp beh (path ++ [i]) 0 (a :: l') ++
            [callOf disp (path ++ [i]) (valuesO cfg disp beh (a :: l'))]) hnr hn
        refine ⟨fun hfit => ?_, fun h0 hd => hrdeep h0 ?_⟩
        · obtain ⟨ig, h1, h2⟩ := hrfit fun h0 => by have := hfit h0; simp only [depthL] at this; omega
          rw [h1]
          exact ⟨ig, by simp only [valuesO_sub, refCallsO, List.append_assoc],
            by simpa only [valuesO_sub, List.append_assoc] using h2⟩
        · have := hc h0; simp only [depthL] at hd; omega
      · obtain ⟨h0, hd⟩ : cfg.maxNesting ≠ 0 ∧ nested + 1 + depthL (a :: l') > cfg.maxNesting := by
          simpa only [Classical.not_imp, Nat.not_le] using hc
        obtain ⟨st', h⟩ := hcdeep h0 hd
        rw [h]
        refine ⟨fun hfit => ?_, fun _ _ => ⟨st', rfl⟩⟩
        have := hfit h0; simp only [depthL] at this; omega

theorem AllReply.allAnswer (hall : AllReply disp beh) : AllAnswer disp beh := fun a =>
  let ⟨idx, p, c, r, s, h1, h2⟩ := hall a
  ⟨idx, p, c, r, h1, Or.inl ⟨s, h2⟩⟩

theorem answerOf_reply (hall : AllReply disp beh) (a : List Str) : answerOf disp beh a = some (textOf disp beh a) := by
  obtain ⟨idx, p, c, r, s, h1, h2⟩ := hall a
  simp only [answerOf, textOf, h1, h2]

theorem valuesO_reply (hall : AllReply disp beh) (todo : List Arg) : valuesO cfg disp beh todo = values cfg disp beh todo := by
  induction todo using Arg.list_induct with
  | nil => rw [valuesO, values]
  | str s rest ih => rw [valuesO, values, ih]
  | sub l rest ihl ihr => rw [valuesO, values, ihl, ihr, answerOf_reply hall]

theorem refCallsO_reply (hall : AllReply disp beh) (todo : List Arg) :
    ∀ (path : List Nat) (i : Nat), refCallsO cfg disp beh path i todo = refCalls cfg disp beh path i todo := by
  induction todo using Arg.list_induct with
  | nil => intro _ _; rw [refCallsO, refCalls]
  | str s rest ih => intro path i; rw [refCallsO, refCalls, ih]
  | sub l rest ihl ihr => intro path i; rw [refCallsO, refCalls, ihl, ihr, valuesO_reply hall]

theorem evalArgs_reply (hall : AllReply disp beh) (todo : List Arg) (nested : Nat) (path : List Nat) (done : List Str) (i : Nat)
    (log : List Call) (hne : NoEmpty todo) (hd : cfg.maxNesting ≠ 0 → nested + depthL todo ≤ cfg.maxNesting) :
    evalArgs cfg disp beh inv nested path done i todo ⟨log, false, false⟩ =
      (.replied (textOf disp beh (done ++ values cfg disp beh todo)),
       ⟨log ++ refCalls cfg disp beh path i todo ++ [callOf disp path (done ++ values cfg disp beh todo)], false, false⟩) := by
  obtain ⟨ig, h1, h2⟩ := (evalArgs_answer (cfg := cfg) (inv := inv) hall.allAnswer todo nested path done i log hne
    fun h0 => Nat.le_trans (Nat.le_add_right _ _) (hd h0)).1 hd
  rw [answerOf_reply hall] at h1 h2
  rw [h1, h2 (by simp), valuesO_reply hall, refCallsO_reply hall]
  rfl

end

/-! ### `getCommand` -/

theorem getCommandSubs_none (d : Disabled) : ∀ (subs : List Plugin) (first : Str) (args : List Str),
    (∀ S ∈ subs, first ≠ canonicalName S.name) → getCommandSubs d subs first args = none
  | [], _, _, _ => by rw [getCommandSubs]
  | S :: subs, first, args, h => by
    rw [getCommandSubs, if_neg (h S (by simp))]
    exact getCommandSubs_none d subs first args fun T hT => h T (by simp [hT])

theorem getCommand_cons (d : Disabled) (name : Str) (methods : List Str) (subs : List Plugin) (thr : Bool)
    (first : Str) (rest : List Str) :
    getCommand d (.mk name methods subs thr) (first :: rest) =
      (match getCommandSubs d subs first (first :: rest) with
       | some r => r
       | none =>
         if first = canonicalName name ∧ rest ≠ [] then
           (match (match rest with
                   | [] => (.ok [] : Except GErr (List Str))
                   | first' :: _ =>
                     match getCommandSubs d subs first' rest with
                     | some r => r
                     | none => .ok (if isCmd d name methods first' then [first'] else [])) with
            | .error e => .error e
            | .ok [] => .ok (if isCmd d name methods first then [first] else [])
            | .ok (r :: rs) => .ok (first :: r :: rs))
         else .ok (if isCmd d name methods first then [first] else [])) := by
  conv => lhs; unfold getCommand
  rfl

/-- `c` is an enabled command method of the plugin or of one of its (nested) command groups -/
inductive Owns (d : Disabled) : Plugin → Str → Prop
  | self (P : Plugin) (c : Str) : isCmd d P.name P.methods c = true → Owns d P c
  | sub (P Q : Plugin) (c : Str) : Q ∈ P.subs → Owns d Q c → Owns d P c

mutual
theorem getCommand_spec (d : Disabled) : (P : Plugin) → ∀ (args L : List Str), getCommand d P args = .ok L →
    L <+: args ∧ ∀ c, L.getLast? = some c → Owns d P c
  | .mk name methods subs thr, args, L, h => by
    cases args with
    | nil => simp [getCommand] at h
    | cons first rest =>
      rw [getCommand_cons] at h
      have hown : ∀ x tl L', .ok (if isCmd d name methods x = true then [x] else []) = Except.ok (ε := GErr) L' →
          L' <+: x :: tl ∧ ∀ c, L'.getLast? = some c → Owns d (.mk name methods subs thr) c := by
        intro x tl L' hL'
        injection hL' with hL'; subst hL'
        split
        · next hc => exact ⟨by simp, fun c hcl => by simp at hcl; subst hcl; exact .self _ _ hc⟩
        · exact ⟨by simp, fun c hcl => by simp at hcl⟩
      have hsub : ∀ x tl r L', getCommandSubs d subs x (x :: tl) = some r → r = .ok L' →
          L' <+: x :: tl ∧ ∀ c, L'.getLast? = some c → Owns d (.mk name methods subs thr) c := by
        intro x tl r L' hs hr
        obtain ⟨Q, hQ, hp, ho⟩ := getCommandSubs_spec d subs x (x :: tl) r hs L' hr
        exact ⟨hp, fun c hc => .sub _ Q c hQ (ho c hc)⟩
      split at h
      · next r hs => exact hsub first rest r L hs h
      · split at h
        · next hname =>
          cases rest with
          | nil => exact absurd rfl hname.2
          | cons first' rest' =>
            -- own name in front: the rest is looked up the same way
            have hret : ∀ R, (match getCommandSubs d subs first' (first' :: rest') with
                | some r => r
                | none => .ok (if isCmd d name methods first' = true then [first'] else [])) = .ok R →
                R <+: first' :: rest' ∧ ∀ c, R.getLast? = some c → Owns d (.mk name methods subs thr) c := by
              intro R hR
              split at hR
              · next r hs => exact hsub first' rest' r R hs hR
              · exact hown first' rest' R hR
            simp only at h
            split at h
            · cases h
            · exact hown first _ L h
            · next r0 rs hR =>
              injection h with h; subst h
              obtain ⟨hp, ho⟩ := hret _ hR
              exact ⟨by simpa using hp, fun c hc => ho c (by simpa [List.getLast?_cons_cons] using hc)⟩
        · exact hown first rest L h
theorem getCommandSubs_spec (d : Disabled) : (subs : List Plugin) → ∀ (first : Str) (args : List Str)
    (r : Except GErr (List Str)), getCommandSubs d subs first args = some r → ∀ L, r = .ok L →
    ∃ Q ∈ subs, L <+: args ∧ ∀ c, L.getLast? = some c → Owns d Q c
  | [], _, _, _, h, _, _ => by simp [getCommandSubs] at h
  | S :: subs, first, args, r, h, L, hL => by
    rw [getCommandSubs] at h
    by_cases hf : first = canonicalName S.name
    · rw [if_pos hf] at h
      injection h with h
      subst hL
      obtain ⟨hp, ho⟩ := getCommand_spec d S args L h
      exact ⟨S, by simp, hp, ho⟩
    · rw [if_neg hf] at h
      obtain ⟨Q, hQ, hp⟩ := getCommandSubs_spec d subs first args r h L hL
      exact ⟨Q, by simp [hQ], hp⟩
end

/-! ### `findCallbacksForArgs` -/

/-- a plugin other than the addressed one: not called `p`, and no command group called `p` -/
def Foreign (Q : Plugin) (p : Str) : Prop :=
  p ≠ canonicalName Q.name ∧ ∀ S ∈ Q.subs, p ≠ canonicalName S.name

theorem getCommand_bare (d : Disabled) (Q : Plugin) (cmd : Str) (rest : List Str) (h : Foreign Q cmd) :
    getCommand d Q (cmd :: rest) = .ok (if isCmd d Q.name Q.methods cmd then [cmd] else []) := by
  obtain ⟨name, methods, subs, thr⟩ := Q
  rw [getCommand_cons, getCommandSubs_none d subs cmd _ h.2]
  simp only
  rw [if_neg (fun hh => h.1 hh.1)]
  rfl

theorem getCommand_foreign (d : Disabled) (Q : Plugin) (p : Str) (rest : List Str) (h : Foreign Q p) :
    ∃ L, getCommand d Q (p :: rest) = .ok L ∧ L.length ≤ 1 :=
  ⟨_, getCommand_bare d Q p rest h, by split <;> simp⟩

/-- the addressed plugin: called `p`, has the enabled command `c`, no group called `p` or `c` -/
def Addressed (d : Disabled) (P : Plugin) (p c : Str) : Prop :=
  p = canonicalName P.name ∧ isCmd d P.name P.methods c = true ∧
  ∀ S ∈ P.subs, p ≠ canonicalName S.name ∧ c ≠ canonicalName S.name

theorem getCommand_addressed (d : Disabled) (P : Plugin) (p c : Str) (rest : List Str) (h : Addressed d P p c) :
    getCommand d P (p :: c :: rest) = .ok [p, c] := by
  obtain ⟨name, methods, subs, thr⟩ := P
  obtain ⟨hp, hc, hs⟩ := h
  rw [getCommand_cons, getCommandSubs_none d subs p _ fun S hS => (hs S hS).1]
  simp only
  rw [if_pos ⟨hp, by simp⟩]
  rw [getCommandSubs_none d subs c _ fun S hS => (hs S hS).2]
  simp only [Plugin.name, Plugin.methods] at hc
  simp [hc]

theorem scan_short (d : Disabled) (args : List Str) : ∀ (cbs : List Plugin) (i : Nat) (maxL : List Str)
    (acc : List (Nat × List Str)), 2 ≤ maxL.length →
    (∀ Q ∈ cbs, ∃ L, getCommand d Q args = .ok L ∧ L.length ≤ 1) →
    scan d args cbs i maxL acc = .ok (maxL, acc)
  | [], _, _, _, _, _ => by rw [scan]
  | Q :: cbs, i, maxL, acc, hm, h => by
    obtain ⟨L, hL, hlen⟩ := h Q (by simp)
    rw [scan, hL]
    simp only
    rw [if_neg (by intro hh; omega)]
    exact scan_short d args cbs (i + 1) maxL acc hm fun R hR => h R (by simp [hR])

/-- indices (counted from `i`) of the callbacks that have the enabled command method `cmd` -/
def candsFrom (d : Disabled) (cmd : Str) : List Plugin → Nat → List Nat
  | [], _ => []
  | Q :: cbs, i =>
    if isCmd d Q.name Q.methods cmd then i :: candsFrom d cmd cbs (i + 1) else candsFrom d cmd cbs (i + 1)

/-- a prefix of callbacks foreign to `cmd` only adds those that have the command to the accumulators -/
theorem scan_bare (d : Disabled) (cmd : Str) (rest : List Str) (tail : List Plugin) : ∀ (pre : List Plugin) (i : Nat)
    (maxL : List Str) (acc : List (Nat × List Str)), (maxL = [] ∨ maxL = [cmd]) →
    (∀ Q ∈ pre, Foreign Q cmd) →
    scan d (cmd :: rest) (pre ++ tail) i maxL acc =
      scan d (cmd :: rest) tail (i + pre.length) (if candsFrom d cmd pre i = [] then maxL else [cmd])
        (acc ++ (candsFrom d cmd pre i).map (·, [cmd]))
  | [], _, _, _, _, _ => by simp [candsFrom]
  | Q :: pre, i, maxL, acc, hm, h => by
    rw [List.cons_append, scan, getCommand_bare d Q cmd rest (h Q (by simp))]
    simp only
    by_cases hc : isCmd d Q.name Q.methods cmd = true
    · rw [if_pos hc, if_pos ⟨by simp, by rcases hm with rfl | rfl <;> simp⟩,
        scan_bare d cmd rest tail pre (i + 1) [cmd] _ (Or.inr rfl) fun R hR => h R (by simp [hR])]
      simp [candsFrom, hc, Nat.add_assoc, Nat.add_comm 1]
    · rw [if_neg hc, if_neg (by simp),
        scan_bare d cmd rest tail pre (i + 1) maxL acc hm fun R hR => h R (by simp [hR])]
      simp [candsFrom, hc, Nat.add_assoc, Nat.add_comm 1]

theorem mem_candsFrom (d : Disabled) (cmd : Str) : ∀ (cbs : List Plugin) (k j : Nat),
    j ∈ candsFrom d cmd cbs k → ∃ n Q, j = k + n ∧ cbs[n]? = some Q
  | [], _, _, h => by simp [candsFrom] at h
  | R :: cbs, k, j, h => by
    have tail : j ∈ candsFrom d cmd cbs (k + 1) → ∃ n Q, j = k + n ∧ (R :: cbs)[n]? = some Q := fun h =>
      let ⟨n, Q, hj, hn⟩ := mem_candsFrom d cmd cbs (k + 1) j h
      ⟨n + 1, Q, by omega, hn⟩
    rw [candsFrom] at h
    split at h
    · rcases List.mem_cons.1 h with rfl | h
      · exact ⟨0, R, rfl, rfl⟩
      · exact tail h
    · exact tail h

theorem findCallbacks_bare (c : DispCfg) (cmd : Str) (rest args0 : List Str)
    (hargs : args0.map canonicalName = cmd :: rest)
    (hQ : ∀ Q ∈ c.callbacks, Foreign Q cmd)
    (hdef : c.defaults.lookup cmd = none)
    (himp : ((candsFrom c.disabled cmd c.callbacks 0).filter fun i =>
      (c.important.map canonicalName).contains (canonicalName (nameOf c.callbacks i))).length ≠ 1)
    (hne : candsFrom c.disabled cmd c.callbacks 0 ≠ []) :
    findCallbacks c args0 = .ok ([cmd], candsFrom c.disabled cmd c.callbacks 0) := by
  unfold findCallbacks
  simp only [hargs]
  have hscan := scan_bare c.disabled cmd rest [] c.callbacks 0 [] [] (Or.inl rfl) hQ
  rw [List.append_nil, scan] at hscan
  rw [hscan]
  simp only [hne, if_false, List.nil_append]
  have hf : (List.filter (fun p => decide (p.2 = [cmd]))
      (List.map (fun x => (x, [cmd])) (candsFrom c.disabled cmd c.callbacks 0))).map (·.1) =
      candsFrom c.disabled cmd c.callbacks 0 := by
    rw [List.filter_eq_self.2 (by intro e he; simp at he; obtain ⟨_, _, rfl⟩ := he; simp)]
    rw [List.map_map]
    simp [Function.comp_def]
  rw [hf]
  have hown : (candsFrom c.disabled cmd c.callbacks 0).find?
      (fun i => decide (canonicalName (nameOf c.callbacks i) = cmd)) = none := by
    rw [List.find?_eq_none]
    intro i hi
    obtain ⟨n, Q, rfl, hn⟩ := mem_candsFrom c.disabled cmd c.callbacks 0 i hi
    simp only [Nat.zero_add, nameOf, hn, decide_eq_true_eq]
    exact fun e => (hQ Q (List.mem_of_getElem? hn)).1 e.symm
  rw [hown]
  simp only [hdef]
  split
  · rename_i i heq
    rw [heq] at himp
    simp at himp
  · rfl

theorem findCallbacks_qualified (c : DispCfg) (pre post : List Plugin) (P : Plugin) (p cmd : Str)
    (rest0 args0 : List Str) (hcb : c.callbacks = pre ++ P :: post)
    (hargs : args0.map canonicalName = p :: cmd :: rest0)
    (hP : Addressed c.disabled P p cmd) (hQ : ∀ Q ∈ pre ++ post, Foreign Q p) :
    findCallbacks c args0 = .ok ([p, cmd], [pre.length]) := by
  unfold findCallbacks
  simp only [hargs, hcb]
  -- before `P` only one-word matches; `P` answers with two words; after it nothing as long
  rw [scan_bare c.disabled p (cmd :: rest0) (P :: post) pre 0 [] [] (Or.inl rfl) fun Q hQm => hQ Q (by simp [hQm]),
    scan, getCommand_addressed _ P p cmd rest0 hP]
  simp only
  rw [if_pos ⟨by simp, by split <;> simp⟩, scan_short c.disabled _ post _ _ _ (by simp)
    fun Q hQm => getCommand_foreign _ Q p _ (hQ Q (by simp [hQm]))]
  simp only [List.nil_append, List.filter_append, List.filter_map]
  rw [List.filter_eq_nil_iff.2 (by simp)]
  simp

/-! ### canonicalName is idempotent (so the `assert args == map(canonicalName, args)` of getCommand holds) -/

theorem toNat_ofNat_small (n : Nat) (h : n < 0xD800) : (Char.ofNat n).toNat = n := by
  have hv : n.isValidChar := Or.inl h
  rw [Char.ofNat, dif_pos hv]
  simp [Char.ofNatAux, Char.toNat]

theorem asciiLowerChar_cases (c : Char) :
    (asciiLowerChar c = c ∧ ¬ ('A' ≤ c ∧ c ≤ 'Z')) ∨
    (('A' ≤ c ∧ c ≤ 'Z') ∧ 97 ≤ (asciiLowerChar c).toNat ∧ (asciiLowerChar c).toNat ≤ 122) := by
  unfold asciiLowerChar
  by_cases h : 'A' ≤ c ∧ c ≤ 'Z'
  · right
    rw [if_pos h]
    refine ⟨h, ?_⟩
    have h1 : 65 ≤ c.toNat := by have := h.1; rw [Char.le_def] at this; exact this
    have h2 : c.toNat ≤ 90 := by have := h.2; rw [Char.le_def] at this; exact this
    rw [toNat_ofNat_small _ (by omega)]
    omega
  · left; rw [if_neg h]; exact ⟨rfl, h⟩

/-- what `canonicalName_idem` needs from the extracted string: no ASCII letter is "special" -/
def SpecialOk (sp : Str) : Prop := ∀ c ∈ sp, ¬ (65 ≤ c.toNat ∧ c.toNat ≤ 90) ∧ ¬ (97 ≤ c.toNat ∧ c.toNat ≤ 122)

instance (sp : Str) : Decidable (SpecialOk sp) := by unfold SpecialOk; infer_instance

theorem takeWhile_append_all {α : Type} (p : α → Bool) : ∀ (l1 l2 : List α), (∀ a ∈ l1, p a = true) →
    (∀ a ∈ l2, p a = false) → (l1 ++ l2).takeWhile p = l1 ∧ (l1 ++ l2).dropWhile p = l2
  | [], l2, _, h2 => by
    cases l2 with
    | nil => simp
    | cons b l => simp [h2 b (by simp)]
  | a :: l1, l2, h1, h2 => by
    have := takeWhile_append_all p l1 l2 (fun b hb => h1 b (by simp [hb])) h2
    simp [h1 a (by simp), this.1, this.2]

theorem canonicalName_split (x t : Str) (hx : ∀ c ∈ x, isSpecial c = false) (ht : ∀ c ∈ t, isSpecial c = true) :
    canonicalName (x ++ t) = asciiLower x ++ t := by
  unfold canonicalName
  have h := takeWhile_append_all isSpecial t.reverse x.reverse (by simpa using ht) (by simpa using hx)
  simp only [List.reverse_append, h.1, h.2, List.reverse_reverse]
  congr 2
  rw [List.filter_eq_self]
  intro c hc; simp [hx c hc]

theorem isSpecial_lower (hsp : SpecialOk Gen.canonicalSpecial) (d : Char) (hd : isSpecial d = false) :
    isSpecial (asciiLowerChar d) = false := by
  rcases asciiLowerChar_cases d with ⟨h, _⟩ | ⟨_, h1, h2⟩
  · rw [h]; exact hd
  · cases hs : isSpecial (asciiLowerChar d) with
    | false => rfl
    | true =>
      have hm : asciiLowerChar d ∈ Gen.canonicalSpecial := by simpa [isSpecial] using hs
      exact absurd ⟨h1, h2⟩ (hsp _ hm).2

theorem asciiLowerChar_idem (d : Char) : asciiLowerChar (asciiLowerChar d) = asciiLowerChar d := by
  rcases asciiLowerChar_cases d with ⟨h, _⟩ | ⟨_, h1, h2⟩
  · rw [h, h]
  · generalize asciiLowerChar d = e at h1 h2
    unfold asciiLowerChar
    rw [if_neg]
    intro ⟨_, hz⟩
    rw [Char.le_def] at hz
    have : e.toNat ≤ 90 := hz
    omega

theorem canonicalName_idem' (hsp : SpecialOk Gen.canonicalSpecial) (s : Str) :
    canonicalName (canonicalName s) = canonicalName s := by
  have hcn : canonicalName s =
      asciiLower ((s.reverse.dropWhile isSpecial).reverse.filter fun c => !isSpecial c) ++
        (s.reverse.takeWhile isSpecial).reverse := rfl
  rw [hcn, canonicalName_split]
  · congr 1
    simp only [asciiLower, List.map_map]
    apply List.map_congr_left
    intro d _
    exact asciiLowerChar_idem d
  · intro c hc
    simp only [asciiLower, List.mem_map, List.mem_filter] at hc
    obtain ⟨d, ⟨_, hd⟩, rfl⟩ := hc
    exact isSpecial_lower hsp d (by simpa using hd)
  · intro c hc
    exact List.all_eq_true.1 List.all_takeWhile c (List.mem_reverse.1 hc)

/-! ### the disabled-commands store: what a history of add / remove leaves behind -/

theorem lookupK_cons (e : Str × Bool × List Str) (d : Disabled) (k' : Str) :
    lookupK (e :: d) k' = if e.1 = k' then some e.2 else lookupK d k' := by
  unfold lookupK; rw [List.find?_cons]; by_cases h : e.1 = k' <;> simp [h]

theorem lookupK_setK (d : Disabled) (k k' : Str) (v : Bool × List Str) :
    lookupK (setK d k v) k' = if k' = k then some v else lookupK d k' := by
  induction d with
  | nil => rw [setK, lookupK_cons]; simp only [eq_comm (a := k)]
  | cons e d ih =>
    rw [setK]
    split
    · next hk => subst hk; simp only [lookupK_cons, eq_comm (a := k')]; split <;> rfl
    · next hk =>
      simp only [lookupK_cons, ih]
      split
      · next h => rw [if_neg (h ▸ hk)]
      · rfl

theorem lookupK_delK (d : Disabled) (k k' : Str) :
    lookupK (delK d k) k' = if k' = k then none else lookupK d k' := by
  unfold lookupK delK
  rw [List.find?_filter]
  by_cases h : k' = k
  · subst h; simp
  · rw [if_neg h]; congr 2; funext a; by_cases ha : a.1 = k' <;> simp [ha, h]

/-- the two things the store says about a canonical key `k` (the `K` of `lookupK`, `setK`, …):
`evK`: disabled everywhere, `forK`: disabled for plugin `p` -/
def evK (d : Disabled) (k : Str) : Bool := ((lookupK d k).getD (false, [])).1
def forK (d : Disabled) (k p : Str) : Bool := ((lookupK d k).getD (false, [])).2.contains p

def disabledK (d : Disabled) (k p : Str) : Bool := evK d k || forK d k p

theorem isDisabled_eq (d : Disabled) (command plugin : Str) :
    isDisabled d command plugin = disabledK d (canonicalName command) (canonicalName plugin) := by
  unfold isDisabled disabledK evK forK lookupK
  cases d.find? (fun e => e.1 = canonicalName command) with
  | none => rfl
  | some e => obtain ⟨_, ev, ps⟩ := e; rfl

/-- an entry that says nothing is as good as no entry -/
theorem obs_finK (d : Disabled) (k : Str) (e : Bool × List Str) (k' : Str) :
    (lookupK (finK d k e) k').getD (false, []) = (lookupK (setK d k e) k').getD (false, []) := by
  unfold finK
  obtain ⟨ev, ps⟩ := e
  by_cases h : (!ev && ps.isEmpty) = true
  · rw [if_pos h, lookupK_delK, lookupK_setK]
    by_cases hk : k' = k
    · simp only [hk, if_true, Option.getD_none, Option.getD_some]
      simp only [Bool.and_eq_true, Bool.not_eq_true', List.isEmpty_iff] at h
      rw [h.1, h.2]
    · simp [hk]
  · rw [if_neg h]

/-- operations on canonical names: `add(c)`, `add(c, p)`, `remove(c)`, `remove(c, p)`; a KeyError leaves the store as it is -/
inductive SOp where
  | disableAll (c : Str) | disableFor (p c : Str) | enableAll (c : Str) | enableFor (p c : Str)

def stepK (d : Disabled) : SOp → Disabled
  | .disableAll c => setK d c (true, ((lookupK d c).getD (false, [])).2)
  | .disableFor p c =>
    let e := (lookupK d c).getD (false, [])
    setK d c (e.1, if e.2.contains p then e.2 else e.2 ++ [p])
  | .enableAll c =>
    match lookupK d c with
    | some (true, ps) => finK d c (false, ps)
    | _ => d
  | .enableFor p c =>
    match lookupK d c with
    | some (ev, ps) => if ps.contains p then finK d c (ev, ps.filter fun q => q ≠ p) else d
    | none => d

/-- every operation is a plain update of one of the two observations: nothing else changes -/
theorem evK_step (d : Disabled) (op : SOp) (k : Str) :
    evK (stepK d op) k =
      match op with
      | .disableAll c => if k = c then true else evK d k
      | .enableAll c => if k = c then false else evK d k
      | .disableFor _ _ => evK d k
      | .enableFor _ _ => evK d k := by
  cases op with
  | disableAll c =>
    simp only [stepK, evK, lookupK_setK]
    by_cases h : k = c <;> simp [h]
  | disableFor p c =>
    simp only [stepK, evK, lookupK_setK]
    by_cases h : k = c
    · subst h; simp
    · simp [h]
  | enableAll c =>
    simp only [stepK]
    cases hl : lookupK d c with
    | none =>
      by_cases h : k = c
      · subst h; simp [evK, hl]
      · simp [h]
    | some e =>
      obtain ⟨ev, ps⟩ := e
      cases ev with
      | true =>
        simp only [evK, obs_finK, lookupK_setK]
        by_cases h : k = c <;> simp [h]
      | false =>
        by_cases h : k = c
        · subst h; simp [evK, hl]
        · simp [h]
  | enableFor p c =>
    simp only [stepK]
    cases hl : lookupK d c with
    | none => rfl
    | some e =>
      obtain ⟨ev, ps⟩ := e
      by_cases hc : ps.contains p = true
      · simp only [hc, if_true, evK, obs_finK, lookupK_setK]
        by_cases h : k = c
        · subst h; simp [hl]
        · simp [h]
      · simp only [hc, Bool.false_eq_true, if_false]

theorem forK_step (d : Disabled) (op : SOp) (k q : Str) :
    forK (stepK d op) k q =
      match op with
      | .disableAll _ => forK d k q
      | .enableAll _ => forK d k q
      | .disableFor p c => if k = c ∧ q = p then true else forK d k q
      | .enableFor p c => if k = c ∧ q = p then false else forK d k q := by
  cases op with
  | disableAll c =>
    simp only [stepK, forK, lookupK_setK]
    by_cases h : k = c
    · subst h; simp
    · simp [h]
  | disableFor p c =>
    simp only [stepK, forK, lookupK_setK]
    by_cases h : k = c
    · subst h
      simp only [if_true, Option.getD_some, true_and]
      by_cases hq : q = p
      · subst hq; by_cases hc : q ∈ ((lookupK d k).getD (false, [])).2 <;> simp [hc]
      · by_cases hc : p ∈ ((lookupK d k).getD (false, [])).2 <;> simp [hc, hq]
    · simp [h]
  | enableAll c =>
    simp only [stepK]
    cases hl : lookupK d c with
    | none => rfl
    | some e =>
      obtain ⟨ev, ps⟩ := e
      cases ev with
      | true =>
        simp only [forK, obs_finK, lookupK_setK]
        by_cases h : k = c
        · subst h; simp [hl]
        · simp [h]
      | false => rfl
  | enableFor p c =>
    simp only [stepK]
    cases hl : lookupK d c with
    | none =>
      by_cases h : k = c ∧ q = p
      · obtain ⟨rfl, rfl⟩ := h; simp [forK, hl]
      · simp [h]
    | some e =>
      obtain ⟨ev, ps⟩ := e
      by_cases hc : ps.contains p = true
      · simp only [hc, if_true, forK, obs_finK, lookupK_setK]
        by_cases h : k = c
        · subst h
          simp only [if_true, Option.getD_some, hl, true_and]
          by_cases hq : q = p
          · subst hq; simp
          · simp [hq]
        · simp [h]
      · simp only [hc, Bool.false_eq_true, if_false]
        by_cases h : k = c ∧ q = p
        · obtain ⟨rfl, rfl⟩ := h
          simp only [forK, hl, Option.getD_some, and_self, if_true]
          simpa using hc
        · simp [h]

/-- the store after a history of operations (most recent first), starting from the empty store -/
def runK : List SOp → Disabled
  | [] => []
  | op :: rest => stepK (runK rest) op

/-- the last `disable c` / `enable c` (no plugin) in the history, most recent first, is a disable -/
def saysAll (c : Str) : List SOp → Bool
  | [] => false
  | .disableAll c' :: rest => if c' = c then true else saysAll c rest
  | .enableAll c' :: rest => if c' = c then false else saysAll c rest
  | _ :: rest => saysAll c rest

/-- the last `disable p c` / `enable p c` in the history is a disable -/
def saysFor (p c : Str) : List SOp → Bool
  | [] => false
  | .disableFor p' c' :: rest => if c' = c ∧ p' = p then true else saysFor p c rest
  | .enableFor p' c' :: rest => if c' = c ∧ p' = p then false else saysFor p c rest
  | _ :: rest => saysFor p c rest

theorem evK_run (c : Str) : ∀ h : List SOp, evK (runK h) c = saysAll c h
  | [] => rfl
  | op :: rest => by
    rw [runK, evK_step]
    cases op <;> simp only [saysAll, evK_run c rest, eq_comm (a := c)]

theorem forK_run (p c : Str) : ∀ h : List SOp, forK (runK h) c p = saysFor p c h
  | [] => rfl
  | op :: rest => by
    rw [runK, forK_step]
    cases op <;> simp only [saysFor, forK_run p c rest, eq_comm (a := c), eq_comm (a := p)]

/-- `disable` (`true`) / `enable`, plugin optional as in the source -/
def SOp.of : Bool → Option Str → Str → SOp
  | true, none, c => .disableAll c
  | true, some p, c => .disableFor p c
  | false, none, c => .enableAll c
  | false, some p, c => .enableFor p c

/-- `DisabledCommands.add` / `.remove` are these steps on the canonical names (a KeyError changes nothing) -/
theorem add_eq_step (d : Disabled) (command : Str) (plugin : Option Str) :
    d.add command plugin = stepK d (.of true (plugin.map canonicalName) (canonicalName command)) := by
  cases plugin <;> rfl

theorem remove_eq_step (d : Disabled) (command : Str) (plugin : Option Str) :
    (d.remove command plugin).getD d = stepK d (.of false (plugin.map canonicalName) (canonicalName command)) := by
  cases plugin with
  | none =>
    simp only [Disabled.remove, stepK, Option.map, SOp.of]
    cases lookupK d (canonicalName command) with
    | none => rfl
    | some e => obtain ⟨ev, ps⟩ := e; cases ev <;> rfl
  | some p =>
    simp only [Disabled.remove, stepK, Option.map, SOp.of]
    cases lookupK d (canonicalName command) with
    | none => rfl
    | some e =>
      obtain ⟨ev, ps⟩ := e
      simp only
      split <;> simp

/-! ### the live store and the registry value say the same -/

/-- what the live store says is exactly what `supybot.commands.disabled` lists -/
def Coh (s : OwnerSt) : Prop :=
  (∀ k, evK s.store k = s.conf.contains (none, k)) ∧ (∀ k p, forK s.store k p = s.conf.contains (some p, k))

/-- the names in the registry value are canonical (they went through `canonicalName`) -/
def CanonConf (conf : List ConfName) : Prop :=
  ∀ e ∈ conf, canonicalName e.2 = e.2 ∧ ∀ p, e.1 = some p → canonicalName p = p

theorem contains_insert (l : List ConfName) (x y : ConfName) :
    (if l.contains x then l else l ++ [x]).contains y = (l.contains y || decide (y = x)) := by
  by_cases h : l.contains x = true
  · rw [if_pos h]
    by_cases hy : y = x
    · subst hy; rw [h]; simp
    · simp [hy]
  · rw [if_neg h]
    by_cases hy : y = x <;> simp [hy]

theorem contains_erase (l : List ConfName) (x y : ConfName) :
    (l.filter fun z => z ≠ x).contains y = (l.contains y && !decide (y = x)) := by
  by_cases hy : y = x
  · subst hy; simp
  · simp [hy]

theorem coh_step {d : Disabled} {conf : List ConfName} (on : Bool) (conf' : List ConfName) (pl : Option Str) (c : Str)
    (h : Coh ⟨d, conf⟩)
    (hc : ∀ y, conf'.contains y =
      if on then conf.contains y || decide (y = (pl, c)) else conf.contains y && !decide (y = (pl, c))) :
    Coh ⟨stepK d (.of on pl c), conf'⟩ := by
  constructor
  · intro k
    rw [evK_step, hc, ← h.1 k]
    cases on <;> cases pl <;> simp [SOp.of, Bool.or_comm, Bool.and_comm]
  · intro k q
    rw [forK_step, hc, ← h.2 k q]
    cases on <;> cases pl <;> simp [SOp.of, and_comm, Bool.or_comm, Bool.and_comm]

theorem coh_step_disable (s : OwnerSt) (pl : Option Str) (c : Str) (h : Coh s) :
    Coh ⟨s.store.add c pl, if s.conf.contains (confName pl c) then s.conf else s.conf ++ [confName pl c]⟩ := by
  rw [add_eq_step]
  exact coh_step true _ _ _ h (contains_insert _ _)

theorem coh_step_enable (s : OwnerSt) (pl : Option Str) (c : Str) (h : Coh s) :
    Coh ⟨(s.store.remove c pl).getD s.store, s.conf.filter fun x => x ≠ confName pl c⟩ := by
  rw [remove_eq_step]
  exact coh_step false _ _ _ h (contains_erase _ _)

theorem coh_fromConf : ∀ (conf : List ConfName), CanonConf conf → Coh ⟨fromConf conf, conf⟩
  | [], _ => ⟨fun _ => rfl, fun _ _ => rfl⟩
  | (pl, k) :: rest, hc => by
    have ih := coh_fromConf rest fun e he => hc e (by simp [he])
    obtain ⟨hk, hp⟩ := hc (pl, k) (by simp)
    have hcons : ∀ y, ((pl, k) :: rest).contains y = (rest.contains y || decide (y = (pl, k))) := fun y => by
      simp [Bool.or_comm]
    rw [fromConf, add_eq_step]
    have hpl : pl.map canonicalName = pl := by
      cases pl with
      | none => rfl
      | some p => exact congrArg some (hp p rfl)
    rw [hpl, hk]
    exact coh_step true _ pl k ih hcons
end C14
