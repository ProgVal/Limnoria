/-
C14 — property theorems.
The evaluation theorems hold for *every* dispatch function `disp` and *every* behaviour `beh` of the
command bodies; the dispatch theorems are about the real decision procedure `dispatch`
(`findCallbacksForArgs` + `finalEval`).  `Call.path` is the position of a sub-command in the
original token tree (`[]` = the whole line, `[2, 0]` = first item of the third item).
-/
import LimnoriaModel.C14.Lemmas
import LimnoriaModel.C14.MachineLemmas
namespace C14
open Py

variable (cfg : EvCfg) (disp : List Str → Dispatch) (beh : Str → List Str → List Str → Act) (inv : Nat → List Str → Act)

/-- all sub-commands of a command line in left-to-right post-order (inner first), the line itself last -/
def postOrder (args : List Arg) : List (List Nat) := postPaths [] 0 args ++ [[]]

/-- the post-order lists every sub-command once -/
theorem postOrder_nodup (args : List Arg) : (postOrder args).Nodup := by
  unfold postOrder
  rw [List.nodup_append]
  refine ⟨postPaths_nodup args [] 0, by simp, ?_⟩
  intro a ha b hb
  simp at hb; subst hb
  obtain ⟨j, t, _, rfl⟩ := postPaths_below args [] 0 a ha
  simp

theorem evalTop_logInv (args : List Arg) (st : St) :
    ∃ l, LogInv cfg disp inv 0 [] 0 args st (evalTop cfg disp beh inv args st) l := by
  unfold evalTop
  cases args with
  | nil => exact ⟨[], logInv_invalid cfg disp inv 0 [] 0 st (fun _ => Nat.zero_le _)⟩
  | cons a l => exact evalArgs_logInv cfg disp beh inv (a :: l) 0 [] [] 0 st (fun _ => Nat.zero_le _)

/-- **Exactly once, inner first, left to right** (every tree, every behaviour of the command bodies,
every dispatch function): the sub-commands that run are a sub-sequence of the left-to-right
post-order of the tree — so none runs twice, none runs before a sub-command inside it or to its
left that also runs. -/
theorem eval_order (args : List Arg) (st : St) :
    ∃ l, (evalTop cfg disp beh inv args st).2.log = st.log ++ l ∧
      (l.map (·.path)).Sublist (postOrder args) ∧ (l.map (·.path)).Nodup := by
  obtain ⟨l, h⟩ := evalTop_logInv cfg disp beh inv args st
  exact ⟨l, h.log, h.sublist, h.sublist.nodup (postOrder_nodup args)⟩

/-- **Nothing runs after a stop**: when dispatch raises nothing and an unknown command ends the
evaluation (`NoExc`), the sub-commands that run are a
*prefix* of the post-order: evaluation proceeds strictly in that order and whatever ends it (an
error, a command that stays silent, an unknown or ambiguous command, too much nesting) ends it for
every later sub-command and for every enclosing command. -/
theorem eval_prefix (hne : NoExc cfg disp inv) (args : List Arg) (st : St) :
    ∃ l, (evalTop cfg disp beh inv args st).2.log = st.log ++ l ∧ (l.map (·.path)) <+: postOrder args := by
  obtain ⟨l, h⟩ := evalTop_logInv cfg disp beh inv args st
  exact ⟨l, h.log, (h.isPrefix hne).1⟩

/-- **Every sub-command runs**: under `NoExc`, when evaluation is not stopped (the line's command
replied or called noReply), every sub-command of the tree ran, exactly once, in post-order. -/
theorem eval_complete (hne : NoExc cfg disp inv) (args : List Arg) (st : St)
    (hs : ¬ (evalTop cfg disp beh inv args st).1.isStopped) :
    ∃ l, (evalTop cfg disp beh inv args st).2.log = st.log ++ l ∧ l.map (·.path) = postOrder args := by
  obtain ⟨l, h⟩ := evalTop_logInv cfg disp beh inv args st
  exact ⟨l, h.log, (h.isPrefix hne).2 hs⟩

/-- **Function application**: when every command replies (and no bracket pair is empty, nesting is
within the maximum), the line evaluates like nested function application — every sub-command is
called, in post-order, with each of its own sub-commands replaced by (the first `maximumLength`
characters of) that sub-command's reply text as a single argument, and the line's reply is the
reply of its command applied to the evaluated arguments. -/
theorem eval_postorder (hall : AllReply disp beh) (args : List Arg) (hne : args ≠ []) (hnoempty : NoEmpty args)
    (hdepth : cfg.maxNesting ≠ 0 → depthL args ≤ cfg.maxNesting) (log : List Call) :
    evalTop cfg disp beh inv args ⟨log, false, false⟩ =
      (.replied (textOf disp beh (values cfg disp beh args)),
       ⟨log ++ refCalls cfg disp beh [] 0 args ++ [callOf disp [] (values cfg disp beh args)], false, false⟩) := by
  unfold evalTop
  cases args with
  | nil => exact absurd rfl hne
  | cons a l =>
    exact evalArgs_reply (cfg := cfg) (inv := inv) hall (a :: l) 0 [] [] 0 log hnoempty (by simpa using hdepth)

/-- **Function application, with sub-commands that answer nothing**: when every command either
replies or calls noReply (e.g. `Utilities.ignore`, which also tags the message `ignored`), every
sub-command is called, in post-order, with each of its own sub-commands replaced by that
sub-command's (truncated) reply text as a single argument — or by nothing at all when it did not
reply — and the line answers what its command answers for the evaluated arguments. -/
theorem eval_application (hall : AllAnswer disp beh) (args : List Arg) (hne : args ≠ []) (hnoempty : NoEmpty args)
    (hdepth : cfg.maxNesting ≠ 0 → depthL args ≤ cfg.maxNesting) (log : List Call) :
    (evalTop cfg disp beh inv args ⟨log, false, false⟩).1 = outcomeOf (answerOf disp beh (valuesO cfg disp beh args)) ∧
    (evalTop cfg disp beh inv args ⟨log, false, false⟩).2.log =
      log ++ refCallsO cfg disp beh [] 0 args ++ [callOf disp [] (valuesO cfg disp beh args)] := by
  unfold evalTop
  cases args with
  | nil => exact absurd rfl hne
  | cons a l =>
    obtain ⟨ig, h, _⟩ := (evalArgs_answer (cfg := cfg) (inv := inv) hall (a :: l) 0 [] [] 0 log hnoempty
      (fun _ => Nat.zero_le _)).1 (by simpa using hdepth)
    simp only [h, List.nil_append, and_self]

/-- **Nesting deeper than the maximum is refused**: no sub-command deeper than
`supybot.commands.nested.maximum` ever runs, and a line that contains one is always stopped (never
answered by its command) — for every behaviour of the command bodies. -/
theorem depth_refused (h0 : cfg.maxNesting ≠ 0) (args : List Arg) (st : St) :
    (∃ l, (evalTop cfg disp beh inv args st).2.log = st.log ++ l ∧ ∀ c ∈ l, c.path.length ≤ cfg.maxNesting) ∧
    (depthL args > cfg.maxNesting → (evalTop cfg disp beh inv args st).1.isStopped) := by
  obtain ⟨l, h⟩ := evalTop_logInv cfg disp beh inv args st
  exact ⟨⟨l, h.log, fun c hc => by simpa using h.depth c hc h0⟩, fun hd => h.tooDeep h0 (by omega)⟩

/-- … and when every command replies the user gets exactly the "more nesting than is currently
allowed" error. -/
theorem depth_error (hall : AllReply disp beh) (h0 : cfg.maxNesting ≠ 0) (args : List Arg)
    (hnoempty : NoEmpty args) (hd : depthL args > cfg.maxNesting) (log : List Call) :
    (evalTop cfg disp beh inv args ⟨log, false, false⟩).1 = .stopped .tooDeep := by
  unfold evalTop
  cases args with
  | nil => simp [depthL] at hd
  | cons a l =>
    obtain ⟨st', h⟩ := (evalArgs_answer (cfg := cfg) (inv := inv) hall.allAnswer (a :: l) 0 [] [] 0 log hnoempty
      (fun _ => Nat.zero_le _)).2 h0 (by simpa using hd)
    simp only [h]

/-! ### dispatch -/

/-- fact about the *extracted* `special` string of `canonicalName` on which idempotence rests -/
theorem special_table_ok : SpecialOk Gen.canonicalSpecial := by decide

/-- `canonicalName` is idempotent: `findCallbacksForArgs` canonicalises every argument once, and the
`assert args == list(map(canonicalName, args))` at the top of `getCommand` can never fire. -/
theorem canonicalName_idem (s : Str) : canonicalName (canonicalName s) = canonicalName s :=
  canonicalName_idem' special_table_ok s


/-- `getCommand` returns a prefix of the arguments it was given (so comparing candidates with
`L >= maxL` is comparing lengths, as the source comments). -/
theorem getCommand_prefix (d : Disabled) (P : Plugin) (args L : List Str) (h : getCommand d P args = .ok L) :
    L <+: args := (getCommand_spec d P args L h).1

/-- **A disabled command is never returned by `getCommand`**: the last word of what `getCommand`
returns is a command method of the plugin (or of one of its command groups) that `isDisabled`
rejects neither globally nor for that plugin. -/
theorem getCommand_enabled (d : Disabled) (P : Plugin) (args L : List Str) (c : Str)
    (h : getCommand d P args = .ok L) (hc : L.getLast? = some c) : Owns d P c :=
  (getCommand_spec d P args L h).2 c hc

theorem owns_not_disabled (d : Disabled) (plugin : Str) (methods : List Str) (c : Str)
    (h : isCmd d plugin methods c = true) : isDisabled d c plugin = false := by
  unfold isCmd at h
  simp only [Bool.and_eq_true, Bool.not_eq_true'] at h
  exact h.1.1

/-- **What a history of `disable` / `enable` leaves disabled** (the semantics of the
`DisabledCommands` store since fix 8c1c1e9, starting empty; `h` lists the operations most recent
first, on canonical names): a command `c` is disabled for plugin `p` exactly when the last
`disable c` / `enable c` (no plugin given) was a disable, or the last `disable p c` / `enable p c`
was a disable.  The two are independent: disabling or enabling a command everywhere never touches
what was said about a single plugin, and operations about other commands or plugins never matter. -/
theorem disabled_history (h : List SOp) (command plugin : Str) :
    isDisabled (runK h) command plugin =
      (saysAll (canonicalName command) h || saysFor (canonicalName plugin) (canonicalName command) h) := by
  rw [isDisabled_eq, disabledK, evK_run, forK_run]

/-- **Disabled and not enabled again stays disabled**: after `disable p c`, whatever follows that is
not an `enable p c`, the command stays disabled for `p` — in particular through `disable c` /
`enable c` (before fix 8c1c1e9 `disable p c; disable c; enable c` left `p.c` running). -/
theorem disabled_until_enabled (before after : List SOp) (p c : Str)
    (hno : ∀ op ∈ after, op ≠ .enableFor p c) :
    disabledK (runK (after ++ .disableFor p c :: before)) c p = true := by
  have : saysFor p c (after ++ .disableFor p c :: before) = true := by
    induction after with
    | nil => simp [saysFor]
    | cons op rest ih =>
      have ih' := ih (fun o ho => hno o (by simp [ho]))
      cases op with
      | enableFor p' c' =>
        have : ¬ (c' = c ∧ p' = p) := fun ⟨h1, h2⟩ => hno (.enableFor p' c') (by simp) (by rw [h1, h2])
        simp [saysFor, this, ih']
      | _ => simp [saysFor, ih']
  rw [disabledK, forK_run, this, Bool.or_true]

/-- one operation, from any store: `isDisabled` afterwards in terms of before -/
theorem disabled_step (d : Disabled) (op : SOp) (k p : Str) :
    disabledK (stepK d op) k p =
      ((match op with
        | .disableAll c => if k = c then true else evK d k
        | .enableAll c => if k = c then false else evK d k
        | _ => evK d k) ||
       (match op with
        | .disableFor p' c => if k = c ∧ p = p' then true else forK d k p
        | .enableFor p' c => if k = c ∧ p = p' then false else forK d k p
        | _ => forK d k p)) := by
  rw [disabledK, evK_step, forK_step]
  cases op <;> rfl

/-- **An `enable` that is answered with an error changes nothing** (since fix 6f88b83; before it,
`disable VtOrderB igno` then `enable igno` reported "That command wasn't disabled." but had already
deleted the whole store entry, per-plugin disables included). -/
theorem enable_error_changes_nothing (s : OwnerSt) (pl : Option Str) (c : Str)
    (h : (ownerEnable s pl c).2 = false) : (ownerEnable s pl c).1 = s := by
  unfold ownerEnable at h ⊢
  simp only at h ⊢
  split
  · rename_i hc; rw [if_pos hc] at h; cases h
  · rfl

/-- **The live store and the registry value always say the same** — so what is disabled now is what
is disabled after the next start: the coherence `Coh` holds for the store a (re)started bot builds
(`fromConf`) and is preserved by every `Owner.disable` and `Owner.enable`, successful or not. -/
theorem store_registry_coherent :
    (∀ conf, CanonConf conf → Coh ⟨fromConf conf, conf⟩) ∧
    (∀ s plugin c, Coh s → Coh (ownerDisable s plugin c).1) ∧
    (∀ s pl c, Coh s → Coh (ownerEnable s pl c).1) := by
  refine ⟨coh_fromConf, ?_, ?_⟩
  · intro s plugin c h
    unfold ownerDisable
    split
    · exact h
    · cases plugin with
      | none => simpa using coh_step_disable s none c h
      | some nm =>
        obtain ⟨name, methods⟩ := nm
        simp only
        split
        · simpa using coh_step_disable s (some name) c h
        · exact h
  · intro s pl c h
    unfold ownerEnable
    simp only
    split
    · exact coh_step_enable s pl c h
    · exact h

/-- … hence a restart changes nothing about what is disabled -/
theorem restart_same (s : OwnerSt) (h : Coh s) (hc : CanonConf s.conf) (k p : Str) :
    disabledK (fromConf s.conf) k p = disabledK s.store k p := by
  have h' : Coh ⟨fromConf s.conf, s.conf⟩ := coh_fromConf s.conf hc
  rw [disabledK, disabledK, h.1, h.2, ← h'.1, ← h'.2]

/-- the two former witnesses: after `disable VtOrderB igno`, `enable igno` reports an error and
`VtOrderB.igno` stays disabled; after `disable VtOrderB igno; disable igno; enable igno` it stays
disabled too -/
theorem enable_global_keeps_plugin_entry :
    let s0 : OwnerSt := ⟨[], []⟩
    let b : Str × List Str := (['V', 't', 'O', 'r', 'd', 'e', 'r', 'B'], [['i', 'g', 'n', 'o']])
    let igno : Str := ['i', 'g', 'n', 'o']
    let s1 := (ownerDisable s0 (some b) igno).1
    let s2 := (ownerDisable s1 none igno).1
    isDisabled s1.store igno b.1 = true ∧
    (ownerEnable s1 none igno).2 = false ∧
    isDisabled (ownerEnable s1 none igno).1.store igno b.1 = true ∧
    (ownerEnable s2 none igno).2 = true ∧
    isDisabled (ownerEnable s2 none igno).1.store igno b.1 = true := by
  decide

/-- **A plugin-qualified name reaches that plugin**: with the callbacks `pre ++ P :: post`, `P`
called `p` and having the enabled command `cmd`, and no *other* plugin called `p` or owning a
command group called `p` (nor `P` a group called `p` or `cmd`), the line `p cmd …` runs `cmd` in
`P`, whatever other plugins also have a command `cmd` or `p`, whatever defaultPlugins /
importantPlugins say. -/
theorem dispatch_qualified (c : DispCfg) (pre post : List Plugin) (P : Plugin) (p cmd : Str)
    (rest0 args0 : List Str) (hcb : c.callbacks = pre ++ P :: post)
    (hargs : args0.map canonicalName = p :: cmd :: rest0)
    (hP : Addressed c.disabled P p cmd) (hQ : ∀ Q ∈ pre ++ post, Foreign Q p) :
    dispatch c args0 = .run pre.length P.name [p, cmd] (args0.drop 2) := by
  unfold dispatch
  rw [findCallbacks_qualified c pre post P p cmd rest0 args0 hcb hargs hP hQ]
  simp [nameOf, hcb]

/-- **An ambiguous bare name runs nothing and is reported**: a command name that at least two
loaded plugins have (enabled), that no plugin and no command group is called after, that has no
default plugin, and for which the important plugins do not single out exactly one candidate, is
answered with the ambiguity error naming the candidates … -/
theorem dispatch_ambiguous (c : DispCfg) (cmd : Str) (rest args0 : List Str)
    (hargs : args0.map canonicalName = cmd :: rest)
    (hQ : ∀ Q ∈ c.callbacks, Foreign Q cmd)
    (hdef : c.defaults.lookup cmd = none)
    (himp : ((candsFrom c.disabled cmd c.callbacks 0).filter fun i =>
      (c.important.map canonicalName).contains (canonicalName (nameOf c.callbacks i))).length ≠ 1)
    (htwo : 2 ≤ (candsFrom c.disabled cmd c.callbacks 0).length) :
    dispatch c args0 = .ambiguous [cmd] ((candsFrom c.disabled cmd c.callbacks 0).map (nameOf c.callbacks)) := by
  unfold dispatch
  rw [findCallbacks_bare c cmd rest args0 hargs hQ hdef himp (by intro h; rw [h] at htwo; simp at htwo)]
  match hl : candsFrom c.disabled cmd c.callbacks 0, htwo with
  | a :: b :: t, _ => rfl

/-- … and no command body runs: the log is unchanged and evaluation stops. -/
theorem ambiguous_runs_nothing (nested : Nat) (path : List Nat) (done : List Str) (st : St)
    (cmd names : List Str) (h : disp done = .ambiguous cmd names) :
    finalEval cfg disp beh inv nested path done st = (.stopped (.ambiguous cmd names), st) := by
  simp [finalEval, h]

/-- at most one plugin runs per (sub-)command: `finalEval` adds at most one call to the log -/
theorem dispatch_unique (nested : Nat) (path : List Nat) (done : List Str) (st : St) :
    ∃ l, (finalEval cfg disp beh inv nested path done st).2.log = st.log ++ l ∧ l.length ≤ 1 := by
  rcases finalEval_spec cfg disp beh inv nested path done st with ⟨h, _⟩ | ⟨c, h, _⟩
  · exact ⟨[], by simpa using h, Nat.zero_le _⟩
  · exact ⟨[c], h, Nat.le_refl _⟩

theorem lookup_setDefault (d : List (Str × Str)) (k v : Str) : (setDefault d k v).lookup k = some v := by
  induction d with
  | nil => simp [setDefault]
  | cons e d ih =>
    obtain ⟨k', v'⟩ := e
    by_cases h : k' = k
    · subst h; simp [setDefault]
    · have hb : (k == k') = false := by
        cases hkk : (k == k') with
        | false => rfl
        | true => exact absurd (by simpa using hkk : k = k').symm h
      rw [setDefault, if_neg h, List.lookup_cons, hb]
      exact ih

/-- **`defaultplugin <command> <plugin>` that reports success has made `<plugin>` the default**,
whether or not a default (another one, the same one, an empty one) was registered before — it is
`register` *and* `set` (a re-registration alone keeps the old value). -/
theorem defaultplugin_sets (c : DispCfg) (command name : Str) (methods : List Str)
    (h : (ownerDefaultPlugin c false command (some (name, methods))).2 = .ok) :
    (ownerDefaultPlugin c false command (some (name, methods))).1.defaults.lookup command = some name := by
  unfold ownerDefaultPlugin at h ⊢
  simp only [Bool.false_eq_true, if_false] at h ⊢
  cases hf : findCallbacks c [command] with
  | error e => simp [hf] at h
  | ok r =>
    obtain ⟨maxL, cbs⟩ := r
    cases cbs with
    | nil => simp [hf] at h
    | cons i rest =>
      simp only [hf] at h ⊢
      by_cases hc : isCmdOf c.disabled name methods command = true
      · simp only [hc, if_true]; exact lookup_setDefault _ _ _
      · simp [hc] at h

theorem lookup_filter_ne (l : List (Str × Str)) (k : Str) :
    (l.filter fun e => e.1 ≠ k).lookup k = none := by
  rw [List.lookup_eq_none_iff]
  intro p hp
  have h : p.1 ≠ k := of_decide_eq_true (List.mem_filter.1 hp).2
  exact bne_iff_ne.2 fun e => h e.symm

/-- **`defaultplugin --remove <command>` that reports success leaves no default behind, and the
owner's next choice is the default** — whatever was registered before the removal (a value read from
the configuration file at start-up included: nothing of it survives the removal). -/
theorem defaultplugin_remove_then_set (c : DispCfg) (command name : Str) (methods : List Str)
    (hr : (ownerDefaultPlugin c true command none).2 = .ok)
    (h : (ownerDefaultPlugin (ownerDefaultPlugin c true command none).1 false command
            (some (name, methods))).2 = .ok) :
    (ownerDefaultPlugin c true command none).1.defaults.lookup command = none ∧
    (ownerDefaultPlugin (ownerDefaultPlugin c true command none).1 false command
        (some (name, methods))).1.defaults.lookup command = some name := by
  refine ⟨?_, defaultplugin_sets _ _ _ _ h⟩
  unfold ownerDefaultPlugin at hr ⊢
  simp only [if_true] at hr ⊢
  cases hl : c.defaults.lookup command with
  | none => simp [hl] at hr
  | some v => exact lookup_filter_ne _ _

/-! ### the small-step machine (`Machine.lean`): command bodies that use `irc` any number of times, threads -/

/-- **On the machine, under every thread schedule and for every command body** (any number of
replies, errors, noReplies, exceptions; threaded or not): every logged
call belongs to a proxy that did its `finalEval`, and no sub-command deeper than
`supybot.commands.nested.maximum` ever runs. -/
theorem machine_safety (m : MCfg) (args : List Arg) (ig : Bool) (sched : List Nat) :
    let c := run m sched (initConfig m args ig)
    Covered c.heap c.log ∧ (m.ev.maxNesting ≠ 0 → ∀ call ∈ c.log, call.path.length ≤ m.ev.maxNesting) := by
  obtain ⟨hg0, hc0⟩ := init_inv m args ig
  obtain ⟨hg, hc, _⟩ := run_inv m sched _ hg0 hc0
  refine ⟨hc, fun h0 call hcall => ?_⟩
  obtain ⟨P, hP, hp, _⟩ := hc call hcall
  have := hg P hP
  rw [← hp, this.1]
  exact this.2 h0

/-- … and the call log only grows. -/
theorem machine_log_grows (m : MCfg) (c : Config) (sched : List Nat) (hg : HeapGood m c.heap)
    (hc : Covered c.heap c.log) : c.log <+: (run m sched c).log :=
  (run_inv m sched c hg hc).2.2

/-! Full statement for the machine (FALSE on the pinned tree, known finding
`C14-extra-reply-resumes-enclosing`): "for every body, the sub-commands that run are a prefix of
the post-order (nothing runs after a stop)".  It holds for bodies that use `irc` once
(`eval_prefix`); a body that replies twice breaks it: -/

/-- a concrete machine: `nosuch` is no command, `duni` replies twice, anything else replies once -/
def exM : MCfg :=
  { ev := ⟨10, 100, false, ['E'], fun _ => ['H'], ['I']⟩,
    disp := fun a => match a with
      | [] => .exc .indexError
      | cmd :: rest => if cmd = ['n', 'o', 's', 'u', 'c', 'h'] then .none else .run 0 ['P'] [cmd] rest,
    beh := fun _ c _ => if c = [['d', 'u', 'n', 'i']] then ⟨[.reply ['a'], .reply ['b']], none⟩ else ⟨[.reply ['z']], none⟩,
    inv := fun _ _ _ => ⟨false, .error ['?']⟩,
    threaded := fun _ => false, nestText := [], ambigText := fun _ _ => [], assertText := [] }

def exWitness : List Arg :=
  [.str ['r', 't', 'w', 'o'], .sub [.str ['n', 'o', 's', 'u', 'c', 'h'], .sub [.str ['d', 'u', 'n', 'i']]]]

theorem exWitness_run :
    let c := runFirst exM 100 (initConfig exM exWitness false)
    c.log.map (·.path) = [[1, 1], []] ∧ c.out = [.error ['?'], .reply ['z']] ∧ c.threads.all (·.isEmpty) = true := by
  decide +kernel

/-- the witness `rtwo [nosuch [duni]]`, `duni` replying twice: the group `nosuch …` is reported as
invalid (an error goes out), then `duni`'s second reply is passed up to the line's proxy, stands in
for the failed group, and `rtwo` runs — the calls `[1,1], []` are not a prefix of the post-order
`[1,1], [1], []`. -/
theorem extra_reply_witness :
    let c := runFirst exM 100 (initConfig exM exWitness false)
    c.log.map (·.path) = [[1, 1], []] ∧ c.out = [.error ['?'], .reply ['z']] ∧
    ¬ ([[1, 1], []] <+: postOrder exWitness) := by
  have hp : postOrder exWitness = [[1, 1], [1], []] := by simp [postOrder, postPaths, exWitness]
  refine ⟨exWitness_run.1, exWitness_run.2.1, ?_⟩
  rw [hp]; decide

/-- a machine with a threaded plugin `T` (command `c`); `b` replies twice -/
def exR : MCfg :=
  { ev := ⟨10, 100, false, ['E'], fun _ => ['H'], ['I']⟩,
    disp := fun a => match a with
      | [] => .exc .indexError
      | cmd :: rest => .run 0 (if cmd = ['c'] then ['T'] else ['P']) [cmd] rest,
    beh := fun _ c _ => if c = [['b']] then ⟨[.reply ['x'], .reply ['y']], none⟩ else ⟨[.reply ['z']], none⟩,
    inv := fun _ _ _ => ⟨false, .error ['?']⟩,
    threaded := fun p => p = ['T'], nestText := [], ambigText := fun _ _ => [], assertText := ['A'] }

/-- `a [b] [c] [d]` -/
def exRace : List Arg := [.str ['a'], .sub [.str ['b']], .sub [.str ['c']], .sub [.str ['d']]]

/-- main thread up to the hand-off of `c`; then the thread's reply and `b`'s second reply reach the
line's proxy together, both resume its `evalArgs`, both find `[d]` unevaluated -/
def exRaceSchedule : List Nat :=
  [0, 0, 0, 0, 0, 0, 0, 0, 0, 0, 0, 1, 1, 0, 0, 1, 0, 1, 0, 1, 0, 0, 1, 1]

/-- … and next to a threaded sub-command the same extra reply makes "exactly once" depend on the
schedule: in `a [b] [c] [d]` with `b` replying twice and `c` threaded there is a schedule under
which `d` runs twice (both threads resume the line's `evalArgs` and both find `[d]` unevaluated).
(A statement about the machine; the interleaving cannot be forced on the real threads from outside.) -/
theorem race_runs_twice :
    ((run exR exRaceSchedule (initConfig exR exRace false)).log.map (·.path)) = [[1], [2], [3], [3]] := by
  decide +kernel

/-! ### non-vacuity: concrete instances meeting the hypotheses -/

section Examples

/-- a dispatch that raises nothing (`NoExc`), and one under which every command replies (`AllReply`) -/
def exDisp : List Str → Dispatch := fun a => .run 0 ['P'] (a.take 1) (a.drop 1)
def exBeh : Str → List Str → List Str → Act := fun _ c r => ⟨false, .reply (joinChar ',' (c ++ r))⟩
def exCfgE : EvCfg := ⟨2, 100, false, ['E'], fun _ => ['H'], ['I']⟩

def exInv : Nat → List Str → Act := fun _ _ => ⟨false, .error ['?']⟩
example : NoExc exCfgE exDisp exInv := ⟨fun _ _ h => by simp [exDisp] at h, fun _ _ _ => trivial⟩
example : AllReply exDisp exBeh := fun a => ⟨0, ['P'], a.take 1, a.drop 1, _, rfl, rfl⟩
example : AllAnswer exDisp (fun p c r => if c = [['n']] then ⟨true, .noReply⟩ else exBeh p c r) := fun a => by
  refine ⟨0, ['P'], a.take 1, a.drop 1, rfl, ?_⟩
  by_cases h : a.take 1 = [['n']]
  · exact Or.inr ⟨true, by simp [h]⟩
  · exact Or.inl ⟨joinChar ',' (a.take 1 ++ a.drop 1), by simp [h, exBeh]⟩

/-- `f [g x] y` : not empty, no empty brackets, depth 1 ≤ 2; evaluated by `eval_postorder` -/
def exLine : List Arg := [.str ['f'], .sub [.str ['g'], .str ['x']], .str ['y']]
example : exLine ≠ [] ∧ NoEmpty exLine ∧ (exCfgE.maxNesting ≠ 0 → depthL exLine ≤ exCfgE.maxNesting) := by
  refine ⟨by simp [exLine], by simp [exLine, NoEmpty], by simp [exLine, depthL, exCfgE]⟩
example : (evalTop exCfgE exDisp exBeh exInv exLine ⟨[], false, false⟩).1 = .replied ['f', ',', 'g', ',', 'x', ',', 'y'] := by
  rw [eval_postorder exCfgE exDisp exBeh exInv (fun a => ⟨0, ['P'], a.take 1, a.drop 1, _, rfl, rfl⟩) exLine
    (by simp [exLine]) (by simp [exLine, NoEmpty]) (by simp [exLine, depthL, exCfgE])]
  simp [exLine, values, textOf, exDisp, exBeh, exCfgE, joinChar]

/-- a line nested three deep under maximum 2 is refused (`depth_refused`, `depth_error`) -/
def exDeep : List Arg := [.str ['f'], .sub [.str ['g'], .sub [.str ['h'], .sub [.str ['k']]]]]
example : exCfgE.maxNesting ≠ 0 ∧ NoEmpty exDeep ∧ depthL exDeep > exCfgE.maxNesting := by
  refine ⟨by simp [exCfgE], by simp [exDeep, NoEmpty], by simp [exDeep, depthL, exCfgE]⟩

/-- two plugins with an overlapping command -/
def exA : Plugin := .mk ['A', 'a'] [['r', 'o', 'n', 'e'], ['r', 't', 'w', 'o']] [] false
def exB : Plugin := .mk ['B', 'b'] [['r', 'o', 'n', 'e'], ['r', 'b', 'e', 'e']] [] false
def exDC : DispCfg := ⟨[exA, exB], [], [], []⟩

/-- `aa rone x` reaches plugin `Aa` although `Bb` has `rone` too (hypotheses of `dispatch_qualified`) -/
example : dispatch exDC [['A', 'a'], ['r', 'o', 'n', 'e'], ['x']] =
    .run 0 ['A', 'a'] [['a', 'a'], ['r', 'o', 'n', 'e']] [['x']] :=
  dispatch_qualified exDC [] [exB] exA ['a', 'a'] ['r', 'o', 'n', 'e'] [['x']] _ rfl (by decide)
    ⟨by decide, by decide, by simp [exA, Plugin.subs]⟩
    (by intro Q hQ; simp at hQ; subst hQ; exact ⟨by decide, by simp [exB, Plugin.subs]⟩)

/-- bare `rone` is ambiguous between the two (hypotheses of `dispatch_ambiguous`) -/
example : dispatch exDC [['r', 'o', 'n', 'e'], ['x']] = .ambiguous [['r', 'o', 'n', 'e']] [['A', 'a'], ['B', 'b']] :=
  dispatch_ambiguous exDC ['r', 'o', 'n', 'e'] [['x']] _ (by decide)
    (by intro Q hQ; simp [exDC] at hQ; rcases hQ with rfl | rfl
        · exact ⟨by decide, by simp [exA, Plugin.subs]⟩
        · exact ⟨by decide, by simp [exB, Plugin.subs]⟩)
    rfl (by decide) (by decide)

/-- with `rone` disabled in `Bb`, `getCommand` of `Bb` no longer returns it (`getCommand_enabled`) -/
example : getCommand [(['r', 'o', 'n', 'e'], (false, [['b', 'b']]))] exB [['r', 'o', 'n', 'e']] = .ok [] := by
  rw [exB, getCommand_cons]
  simp only [getCommandSubs]
  rw [if_neg (by decide)]
  rw [if_neg (by decide)]

end Examples

end C14
