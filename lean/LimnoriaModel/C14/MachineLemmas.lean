/-
C14 — invariants of the small-step machine that hold for every schedule and every command body.
-/
import LimnoriaModel.C14.Machine
namespace C14
open Py

/-- every proxy sits at the nesting level its position says, within the maximum -/
def Proxy.Good (m : MCfg) (P : Proxy) : Prop :=
  P.path.length = P.nested ∧ (m.ev.maxNesting ≠ 0 → P.nested ≤ m.ev.maxNesting)

def HeapGood (m : MCfg) (h : List Proxy) : Prop := ∀ P ∈ h, P.Good m

theorem mem_setProxy {h : List Proxy} {p : Nat} {f : Proxy → Proxy} {P' : Proxy} (hm : P' ∈ setProxy h p f) :
    ∃ P ∈ h, P' = P ∨ P' = f P := by
  unfold setProxy at hm
  rw [List.mem_mapIdx] at hm
  obtain ⟨i, hi, rfl⟩ := hm
  refine ⟨h[i], List.getElem_mem hi, ?_⟩
  split
  · exact Or.inr rfl
  · exact Or.inl rfl

/-- every logged call belongs to a proxy that exists and has done its `finalEval` -/
def Covered (h : List Proxy) (log : List Call) : Prop :=
  ∀ call ∈ log, ∃ P ∈ h, P.path = call.path ∧ P.finalEvaled = true

/-- an update that keeps a proxy's position and level and never clears `finalEvaled` -/
def Safe (f : Proxy → Proxy) : Prop :=
  ∀ P, (f P).path = P.path ∧ (f P).nested = P.nested ∧ (P.finalEvaled = true → (f P).finalEvaled = true)

/-- all a step ever does to the heap and the log: update a proxy in a `Safe` way, append a `Good`
child, log a call for a proxy that has done its `finalEval` -/
inductive Grows (m : MCfg) : List Proxy → List Call → List Proxy → List Call → Prop
  | refl (h : List Proxy) (log : List Call) : Grows m h log h log
  | set {h log h' log'} (p : Nat) (f : Proxy → Proxy) :
      Safe f → Grows m (setProxy h p f) log h' log' → Grows m h log h' log'
  | spawn {h log h' log'} (P : Proxy) : P.Good m → Grows m (h ++ [P]) log h' log' → Grows m h log h' log'
  | call {h log h' log'} (P : Proxy) (plugin : Str) (cmd rest : List Str) : P ∈ h → P.finalEvaled = true →
      Grows m h (log ++ [⟨P.path, plugin, cmd, rest⟩]) h' log' → Grows m h log h' log'

theorem setProxy_getElem? (h : List Proxy) (p : Nat) (f : Proxy → Proxy) (i : Nat) :
    (setProxy h p f)[i]? = (h[i]?).map fun x => if i = p then f x else x := by
  unfold setProxy
  simp [List.getElem?_mapIdx]

theorem heapGood_setProxy {m : MCfg} {h : List Proxy} (hg : HeapGood m h) (p : Nat) (f : Proxy → Proxy)
    (hs : Safe f) : HeapGood m (setProxy h p f) := by
  intro P' hm
  obtain ⟨P, hP, e | e⟩ := mem_setProxy hm
  · rw [e]; exact hg P hP
  · rw [e]
    have := hg P hP
    unfold Proxy.Good at this ⊢
    rw [(hs P).1, (hs P).2.1]; exact this

theorem covered_setProxy {h : List Proxy} {log : List Call} (hc : Covered h log) (p : Nat) (f : Proxy → Proxy)
    (hs : Safe f) : Covered (setProxy h p f) log := by
  intro call hcall
  obtain ⟨P, hP, h1, h2⟩ := hc call hcall
  obtain ⟨i, hi, rfl⟩ := List.getElem_of_mem hP
  have hi' : (setProxy h p f)[i]? = some (if i = p then f h[i] else h[i]) := by
    rw [setProxy_getElem?]; simp [hi]
  refine ⟨_, List.mem_of_getElem? hi', ?_⟩
  split
  · exact ⟨(hs _).1.trans h1, (hs _).2.2 h2⟩
  · exact ⟨h1, h2⟩

theorem Grows.heapGood {m : MCfg} {h h' : List Proxy} {log log' : List Call} (g : Grows m h log h' log')
    (hg : HeapGood m h) : HeapGood m h' := by
  induction g with
  | refl => exact hg
  | set p f hs _ ih => exact ih (heapGood_setProxy hg p f hs)
  | spawn P hP _ ih =>
    refine ih fun Q hQ => ?_
    rcases List.mem_append.1 hQ with hQ | hQ
    · exact hg Q hQ
    · rw [List.mem_singleton.1 hQ]; exact hP
  | call _ _ _ _ _ _ _ ih => exact ih hg

theorem Grows.covered {m : MCfg} {h h' : List Proxy} {log log' : List Call} (g : Grows m h log h' log')
    (hc : Covered h log) : Covered h' log' := by
  induction g with
  | refl => exact hc
  | set p f hs _ ih => exact ih (covered_setProxy hc p f hs)
  | spawn P _ _ ih =>
    refine ih fun call hcall => ?_
    obtain ⟨Q, hQ, hq⟩ := hc call hcall
    exact ⟨Q, List.mem_append_left _ hQ, hq⟩
  | call P _ _ _ hP hf _ ih =>
    refine ih fun call hcall => ?_
    rcases List.mem_append.1 hcall with hcall | hcall
    · exact hc call hcall
    · rw [List.mem_singleton.1 hcall]; exact ⟨P, hP, rfl, hf⟩

theorem Grows.log_prefix {m : MCfg} {h h' : List Proxy} {log log' : List Call} (g : Grows m h log h' log') :
    log <+: log' := by
  induction g with
  | refl => exact List.prefix_refl _
  | set _ _ _ _ ih => exact ih
  | spawn _ _ _ ih => exact ih
  | call _ _ _ _ _ _ _ ih => exact (List.prefix_append _ _).trans ih

theorem step_grows (m : MCfg) (c : Config) (tid : Nat) (hg : HeapGood m c.heap) :
    Grows m c.heap c.log (step m c tid).heap (step m c tid).log := by
  have safe : ∀ (g : Proxy → Proxy),
      (∀ P, (g P).path = P.path ∧ (g P).nested = P.nested ∧ (g P).finalEvaled = P.finalEvaled) → Safe g :=
    fun g hk P => ⟨(hk P).1, (hk P).2.1, fun h => (hk P).2.2 ▸ h⟩
  unfold step
  split
  · exact .refl _ _
  · exact .refl _ _
  · rename_i f stack _
    cases f with
    | evalArgs p =>
      simp only
      split
      · exact .refl _ _
      · rename_i P hP
        have hPg : P.Good m := hg P (List.mem_of_getElem? hP)
        split
        · exact .set p (fun x => { x with counter := x.counter + 1, repliedTo := false })
            (safe _ fun _ => ⟨rfl, rfl, rfl⟩) (.refl _ _)
        · rename_i i l _
          refine .set p (fun x => { x with repliedTo := false }) (safe _ fun _ => ⟨rfl, rfl, rfl⟩) ?_
          split
          · exact .refl _ _
          · rename_i hdeep
            have hchild : ∀ a fe, (⟨some p, P.path ++ [i], P.nested + 1, a, 0, fe, false⟩ : Proxy).Good m := by
              intro a fe
              refine ⟨by simp [hPg.1], fun h0 => ?_⟩
              exact Nat.le_of_not_gt fun hc => hdeep ⟨h0, hc⟩
            split <;> exact .spawn _ (hchild _ _) (.refl _ _)
        · split
          · exact .refl _ _
          · refine .set p (fun x => { x with finalEvaled := true }) (fun _ => ⟨rfl, rfl, fun _ => rfl⟩) ?_
            split
            · exact .refl _ _
            · exact .refl _ _
            · exact .refl _ _
            · rename_i plugin cmd rest _
              have hp : (setProxy c.heap p fun x => { x with finalEvaled := true })[p]? =
                  some { P with finalEvaled := true } := by
                rw [setProxy_getElem?]; simp [hP]
              refine .call { P with finalEvaled := true } plugin cmd rest (List.mem_of_getElem? hp) rfl ?_
              split <;> exact .refl _ _
    | body p cmd acts fin k =>
      cases acts with
      | nil => simp only; repeat' split
               all_goals exact .refl _ _
      | cons a acts => simp only; cases a <;> exact .refl _ _
    | reply p s =>
      simp only
      split
      · exact .refl _ _
      · refine .set p (fun x => { x with repliedTo := true }) (safe _ fun _ => ⟨rfl, rfl, rfl⟩) ?_
        split
        · split <;> exact .refl _ _
        · split
          · exact .set p (fun x => { x with args := popAt x.args x.counter }) (safe _ fun _ => ⟨rfl, rfl, rfl⟩) (.refl _ _)
          · exact .set p (fun x => { x with args := setAt x.args x.counter (.str s) }) (safe _ fun _ => ⟨rfl, rfl, rfl⟩)
              (.refl _ _)
    | noReply p =>
      simp only
      split
      · exact .refl _ _
      · refine .set p (fun x => { x with repliedTo := true }) (safe _ fun _ => ⟨rfl, rfl, rfl⟩) ?_
        split
        · split <;> exact .refl _ _
        · exact .set p (fun x => { x with args := popAt x.args x.counter }) (safe _ fun _ => ⟨rfl, rfl, rfl⟩) (.refl _ _)
    | error p s =>
      simp only
      split
      · exact .refl _ _
      · refine .set p (fun x => { x with repliedTo := true }) (safe _ fun _ => ⟨rfl, rfl, rfl⟩) ?_
        split
        · exact .refl _ _
        · split <;> exact .refl _ _

theorem run_inv (m : MCfg) : ∀ (sched : List Nat) (c : Config), HeapGood m c.heap → Covered c.heap c.log →
    HeapGood m (run m sched c).heap ∧ Covered (run m sched c).heap (run m sched c).log ∧ c.log <+: (run m sched c).log
  | [], c, hg, hc => ⟨hg, hc, List.prefix_refl _⟩
  | tid :: sched, c, hg, hc => by
    have g := step_grows m c tid hg
    have := run_inv m sched (step m c tid) (g.heapGood hg) (g.covered hc)
    exact ⟨this.1, this.2.1, g.log_prefix.trans this.2.2⟩

theorem init_inv (m : MCfg) (args : List Arg) (ig : Bool) :
    HeapGood m (initConfig m args ig).heap ∧ Covered (initConfig m args ig).heap (initConfig m args ig).log := by
  unfold initConfig
  split
  · refine ⟨?_, fun _ h => by simp at h⟩
    intro P hP; simp at hP; subst hP; exact ⟨rfl, fun _ => Nat.zero_le _⟩
  · refine ⟨?_, fun _ h => by simp at h⟩
    intro P hP; simp at hP; subst hP; exact ⟨rfl, fun _ => Nat.zero_le _⟩

end C14
