/-
C18 — helper lemmas: registration ids are handed out consecutively (so no id is registered twice).
-/
import LimnoriaModel.C18.Cons
namespace C18
open Py List

/-- the registrations of these events are exactly the ids from `s.nextRid` up to `s'.nextRid` -/
def Fresh (s s' : Sched) (evs : List Ev) : Prop :=
  s.nextRid ≤ s'.nextRid ∧ regOf evs = range' s.nextRid (s'.nextRid - s.nextRid)

theorem Fresh.refl (s : Sched) : Fresh s s [] := ⟨Nat.le_refl _, by simp [regOf]⟩

theorem Fresh.of_same {s s' : Sched} {evs : List Ev} (h : s'.nextRid = s.nextRid) (hr : regOf evs = []) :
    Fresh s s' evs := ⟨by omega, by rw [hr, h]; simp⟩

theorem Fresh.nodup {s s' : Sched} {evs : List Ev} (h : Fresh s s' evs) : (regOf evs).Nodup := by
  rw [h.2]
  exact nodup_range'

theorem Fresh.trans {s s1 s2 : Sched} {e1 e2 : List Ev} (h1 : Fresh s s1 e1) (h2 : Fresh s1 s2 e2) :
    Fresh s s2 (e1 ++ e2) := by
  obtain ⟨a1, b1⟩ := h1
  obtain ⟨a2, b2⟩ := h2
  refine ⟨Nat.le_trans a1 a2, ?_⟩
  rw [regOf_append, b1, b2, show s2.nextRid - s.nextRid = (s1.nextRid - s.nextRid) + (s2.nextRid - s1.nextRid) by omega,
    ← range'_append_1, Nat.add_sub_cancel' a1]

theorem freshLifts : LiftsOps Fresh where
  refl := Fresh.refl
  trans := Fresh.trans
  add s f t name args := by
    obtain ⟨c, nm, ⟨_, h⟩ | ⟨_, h⟩⟩ := addEvent_cases s f t name args <;> rw [h]
    · exact Fresh.of_same rfl rfl
    · exact ⟨Nat.le_succ _, by simp [regOf]⟩
  remove s n := by
    rcases removeOp_cases s n with ⟨_, h⟩ | ⟨_, h⟩ <;> rw [h]
    · exact Fresh.of_same rfl rfl
    · exact Fresh.of_same rfl (removed_reg _)
  resched s n t := by
    rcases reschedOp_cases s n t with ⟨_, h⟩ | ⟨f, _, h⟩ <;> rw [h]
    · exact Fresh.of_same rfl rfl
    · split
      · exact Fresh.of_same rfl (by rw [regOf_append, removed_reg]; rfl)
      · exact ⟨Nat.le_succ _, by simp [regOf]⟩
  raised _ := Fresh.of_same rfl rfl
  pop _ _ _ _ _ _ _ _ := Fresh.of_same rfl rfl
  fireNow _ _ _ := Fresh.of_same rfl rfl
  tick _ _ := Fresh.of_same rfl rfl
  reset _ := Fresh.of_same rfl rfl

end C18
