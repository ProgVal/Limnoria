/-
C18 — the Scheduler-plugin model refines the core scheduler model.

`Plugin.lean` carries its own copy of the schedule (`PState.sched`, `counter`, `now`), driven by
`addEv` / `removeEv` / the pops of `runP`.  Here that copy is shown to be the core model (`Model.lean`)
driven through its API: a simulation `Sim s c` (same due times and names in the same order, same
counter, same clock, and the core invariant) is kept by every plugin operation, each of which
corresponds to a sequence of core calls — `addEvent`, `removeEvent`, the head of an iteration of
`run()` (a valid pick: due, of minimal due time), a clock tick, a new process.  So the two models are
linked by a theorem, and the core name invariant holds of the plugin's schedule.
-/
import LimnoriaModel.C18.PluginLemmas
import LimnoriaModel.C18.Lemmas
namespace C18
open Py List Plug

def pshape (l : List PEntry) : List (Nat × Name) := l.map (fun e => (e.t, e.name))
def cshape (l : List Entry) : List (Nat × Name) := l.map (fun e => (e.t, e.name))

structure Sim (s : PState) (c : Sched) : Prop where
  shape : pshape s.sched = cshape c.sched
  counter : s.counter = c.counter
  now : s.now = c.now
  inv : NameInv c

/-- calls of the core API -/
inductive CoreCall where
  | add (f : FnRef) (t : Nat) (name : Option Name) (args : Args)
  | remove (n : Name)
  | pop (p : Name)            -- `run()`: heappop + `self.events.pop(name)` of one iteration
  | tick (dt : Nat)
  | fresh                     -- a new process: `Schedule()` with nothing scheduled, counter 0
deriving Repr

def coreStep (c : Sched) : CoreCall → Option Sched
  | .add f t name args => some (addEvent c f t name args none).1.1
  | .remove n => some (removeOp c n).1
  | .pop p =>
    if !loopCond c then none else
    match c.sched.find? (fun e => e.name = p ∧ some e.t = minDue c.sched) with
    | none => none
    | some e =>
      match dictPop c.events p with
      | none => none
      | some (_, d) => some { c with sched := c.sched.erase e, events := d }
  | .tick dt => some { c with now := c.now + dt }
  | .fresh => some { c with sched := [], events := [], counter := 0 }

def coreRun : Sched → List CoreCall → Option Sched
  | c, [] => some c
  | c, x :: xs => match coreStep c x with
    | none => none
    | some c' => coreRun c' xs

theorem coreRun_append : ∀ (xs ys : List CoreCall) (c c' : Sched), coreRun c xs = some c' →
    coreRun c (xs ++ ys) = coreRun c' ys
  | [], ys, c, c', h => by cases h; rfl
  | x :: xs, ys, c, c', h => by
    simp only [coreRun, cons_append] at *
    split at h
    · cases h
    · rename_i c1 h1
      exact coreRun_append xs ys c1 c' h

/-- `∃ calls` packaged: `c'` is reached from `c` through the core API -/
def Reach (c c' : Sched) : Prop := ∃ calls, coreRun c calls = some c'

theorem Reach.refl (c : Sched) : Reach c c := ⟨[], rfl⟩
theorem Reach.trans {a b c : Sched} (h1 : Reach a b) (h2 : Reach b c) : Reach a c := by
  obtain ⟨x, hx⟩ := h1; obtain ⟨y, hy⟩ := h2
  exact ⟨x ++ y, by rw [coreRun_append x y a b hx]; exact hy⟩
theorem Reach.one {c c' : Sched} (x : CoreCall) (h : coreStep c x = some c') : Reach c c' :=
  ⟨[x], by simp [coreRun, h]⟩

theorem snames_eq {s : PState} {c : Sched} (h : Sim s c) : snames s.sched = names c.sched := by
  have := congrArg (List.map Prod.snd) h.shape
  simpa [pshape, cshape, snames, names, Function.comp_def] using this

theorem Sim.mem_iff {s : PState} {c : Sched} (h : Sim s c) (n : Name) :
    n ∈ snames s.sched ↔ hasKey c.events n = true := by
  rw [snames_eq h, hasKey_iff, h.inv.same]

theorem Sim.of_eq {s s' : PState} {c : Sched} (h : Sim s c) (h1 : s'.sched = s.sched)
    (h2 : s'.counter = s.counter) (h3 : s'.now = s.now) : Sim s' c :=
  ⟨by rw [h1]; exact h.shape, by rw [h2]; exact h.counter, by rw [h3]; exact h.now, h.inv⟩

theorem shape_snoc {l : List PEntry} {l' : List Entry} (h : pshape l = cshape l') (t : Nat) (nm : Name)
    (fn : PFn) (args : Args) (rid : Nat) : pshape (l ++ [⟨t, nm, fn⟩]) = cshape (l' ++ [⟨t, nm, args, rid⟩]) := by
  rw [pshape, cshape, map_append, map_append]
  exact congrArg (· ++ [(t, nm)]) h

theorem sim_addEv {s : PState} {c : Sched} (h : Sim s c) (mk : Name → PFn) (f : FnRef) (t : Nat)
    (name : Option Name) (args : Args) :
    Sim (addEv s mk t name).1 (addEvent c f t name args none).1.1 := by
  have hinv := addEvent_inv c f t name args h.inv
  unfold addEv
  unfold addEvent at hinv ⊢
  cases name with
  | none =>
    dsimp only at hinv ⊢
    rw [← h.counter] at hinv ⊢
    by_cases hk : hasKey c.events (.num s.counter) = true
    · rw [if_pos hk] at hinv ⊢
      rw [if_pos ((h.mem_iff _).mpr hk)]
      exact ⟨h.shape, rfl, h.now, hinv⟩
    · rw [if_neg hk] at hinv ⊢
      rw [if_neg (mt (h.mem_iff _).mp hk)]
      exact ⟨shape_snoc h.shape _ _ _ _ _, rfl, h.now, hinv⟩
  | some n =>
    dsimp only at hinv ⊢
    by_cases hk : hasKey c.events n = true
    · rw [if_pos hk] at hinv ⊢
      rw [if_pos ((h.mem_iff _).mpr hk)]
      exact ⟨h.shape, h.counter, h.now, hinv⟩
    · rw [if_neg hk] at hinv ⊢
      rw [if_neg (mt (h.mem_iff _).mp hk)]
      exact ⟨shape_snoc h.shape _ _ _ _ _, h.counter, h.now, hinv⟩

theorem Sim.key {s : PState} {c : Sched} (h : Sim s c) {n : Name} (hn : n ∈ snames s.sched) : n ∈ keys c.events :=
  (hasKey_iff _ _).mp ((h.mem_iff n).mp hn)

theorem sim_without {s : PState} {c : Sched} (h : Sim s c) (n : Name) :
    Sim { s with sched := dropName s.sched n } (without c n) :=
  have hs := congrArg (List.filter (fun p => !(p.2 = n))) h.shape
  ⟨by rwa [pshape, cshape, filter_map, filter_map] at hs, h.counter, h.now, h.inv.without n⟩

theorem reach_removeEv {s s' : PState} {c : Sched} (h : Sim s c) (n : Name) (hr : removeEv s n = some s') :
    ∃ c', Reach c c' ∧ Sim s' c' := by
  unfold removeEv at hr
  split at hr
  · rename_i hn
    cases hr
    rcases removeOp_cases c n with ⟨hk, _⟩ | ⟨_, e⟩
    · exact absurd (h.key hn) hk
    · exact ⟨without c n, Reach.one (.remove n) (congrArg (fun r : Res => some r.1) e), sim_without h n⟩
  · cases hr

theorem minT_eq_minDue : ∀ {l : List PEntry} {l' : List Entry}, pshape l = cshape l' → minT l = minDue l'
  | [], [], _ => rfl
  | [], _ :: _, h => nomatch h
  | _ :: _, [], h => nomatch h
  | x :: xs, y :: ys, h => by
    injection h with h1 h2
    rw [minT, minDue, minT_eq_minDue h2, (Prod.mk.inj h1).1]
    rfl

theorem reach_pop {s : PState} {c : Sched} (h : Sim s c) (p : Name) (e : PEntry) (hd : due s = true)
    (hf : s.sched.find? (fun e => e.name = p ∧ some e.t = minT s.sched) = some e) :
    ∃ c', Reach c c' ∧ Sim { s with sched := dropName s.sched p } c' := by
  have hmin : minT s.sched = minDue c.sched := minT_eq_minDue h.shape
  have hloop : loopCond c = true := by
    unfold due at hd; unfold loopCond
    rw [← hmin, ← h.now]; exact hd
  obtain ⟨hmem, hp, hp2⟩ := find?_decide hf
  have hpair : (e.t, e.name) ∈ cshape c.sched := h.shape ▸ mem_map.mpr ⟨e, hmem, rfl⟩
  obtain ⟨e', he'mem, he'eq⟩ := mem_map.mp hpair
  injection he'eq with ht hn
  cases hfc : c.sched.find? (fun x => x.name = p ∧ some x.t = minDue c.sched) with
  | none =>
    exact absurd (decide_eq_true ⟨hn.trans hp, by rw [ht, ← hmin]; exact hp2⟩) (find?_eq_none.mp hfc e' he'mem)
  | some e2 =>
    obtain ⟨h2mem, h2⟩ := find?_decide hfc
    cases hdp : dictPop c.events p with
    | none => exact absurd (h.key (mem_snames.mpr ⟨e, hmem, hp⟩)) ((dictPop_none_iff _ _).mp hdp)
    | some fd =>
      obtain ⟨f, d⟩ := fd
      refine ⟨without c p, Reach.one (.pop p) ?_, sim_without h p⟩
      rw [coreStep, if_neg (by simp [hloop]), hfc, hdp]
      dsimp only
      rw [← h2.1]
      exact congrArg some (pop_eq_without h.inv h2mem (h2.1 ▸ hdp))

/-- from `c` the core API leads to a state that simulates `s` -/
def Refines (s : PState) (c : Sched) : Prop := ∃ c', Reach c c' ∧ Sim s c'

theorem Refines.of_sim {s : PState} {c : Sched} (h : Sim s c) : Refines s c := ⟨c, Reach.refl c, h⟩

theorem Refines.bind {s s' : PState} {c : Sched} (h : Refines s c) (f : ∀ c', Sim s c' → Refines s' c') :
    Refines s' c := by
  obtain ⟨c1, r1, s1⟩ := h
  obtain ⟨c2, r2, s2⟩ := f c1 s1
  exact ⟨c2, r1.trans r2, s2⟩

theorem Refines.of_eq {s s' : PState} {c : Sched} (h : Refines s c) (h1 : s'.sched = s.sched)
    (h2 : s'.counter = s.counter) (h3 : s'.now = s.now) : Refines s' c := by
  obtain ⟨c1, r1, s1⟩ := h
  exact ⟨c1, r1, s1.of_eq h1 h2 h3⟩

/-- whatever is done to the rest of the state after `addEvent` returned; the core call may be of `.plain 0`
without arguments: `Sim` compares due times and names only -/
theorem addEv_ref {s : PState} {c : Sched} (h : Sim s c) {mk : Name → PFn} {t : Nat} {name : Option Name}
    {a : PState × Option Name} (heq : addEv s mk t name = a) {s' : PState} (h1 : s'.sched = a.1.sched)
    (h2 : s'.counter = a.1.counter) (h3 : s'.now = a.1.now) : Refines s' c := by
  subst heq
  exact Refines.of_eq ⟨_, Reach.one (.add (.plain 0) t name []) rfl, sim_addEv h mk (.plain 0) t name []⟩ h1 h2 h3

theorem unschedule_ref : ∀ (ks : List Key) (s : PState) (c : Sched), Sim s c → Refines (unschedule s ks) c
  | [], _, _, h => .of_sim h
  | k :: ks, s, c, h => by
    unfold unschedule
    split
    · exact unschedule_ref ks s c h
    · rename_i s1 hr
      exact Refines.bind (reach_removeEv h _ hr) (fun c' h' => unschedule_ref ks s1 c' h')

theorem flush_sim {s : PState} {c : Sched} (h : Sim s c) : Sim (flush s) c := by
  unfold flush
  split
  · exact h.of_eq rfl rfl rfl
  · exact h

theorem restoreOne_ref {s : PState} {c : Sched} (h : Sim s c) (k : Key) (r : Rec) :
    Refines (restoreOne s k r).1 c := by
  unfold restoreOne
  split
  · dsimp only
    split <;> rename_i heq <;> exact addEv_ref h heq rfl rfl rfl
  · split <;> rename_i heq <;> exact addEv_ref h heq rfl rfl rfl

theorem restore_ref : ∀ (tb : Table) (s : PState) (c : Sched), Sim s c → Refines (restore s tb).1 c
  | [], _, _, h => .of_sim h
  | (k, r) :: rest, s, c, h => by
    unfold restore
    exact Refines.bind (restoreOne_ref h k r) (fun c' h' => restore_ref rest _ c' h')

theorem load_ref {s : PState} {c : Sched} (h : Sim s c) : Refines (load s).1 c := by
  unfold load
  split
  · exact .of_sim h
  · exact restore_ref _ _ c (h.of_eq rfl rfl rfl)

theorem respects_ref : Respects (fun s s' _ => ∀ c, Sim s c → Refines s' c) where
  refl := fun _ _ h => .of_sim h
  trans := fun h1 h2 c h => (h1 c h).bind h2
  cmdAdd := fun s sec cmd c h => by
    unfold cmdAdd
    split
    · exact .of_sim h
    · split <;> rename_i heq <;> exact addEv_ref h heq rfl rfl rfl
  cmdRemove := fun s k c h => by
    unfold cmdRemove
    split
    · exact .of_sim h
    · split
      · exact .of_sim h
      · dsimp only
        split
        · exact .of_sim (h.of_eq rfl rfl rfl)
        · rename_i s2 hr
          exact reach_removeEv (h.of_eq (s' := { s with table := tdel s.table k }) rfl rfl rfl) _ hr
  cmdRepeat := fun s name period cmd delay c h => by
    unfold cmdRepeat
    split
    · exact .of_sim h
    · split
      · exact .of_sim h
      · split <;> rename_i heq <;> exact addEv_ref h heq rfl rfl rfl
  flush := fun _ _ h => .of_sim (flush_sim h)
  die := fun _ _ c h => (unschedule_ref _ _ c (flush_sim h)).of_eq rfl rfl rfl
  load := fun _ _ _ h => load_ref h
  boot := fun s _ c h =>
    Refines.bind (s := { s with sched := [], counter := 0 })
      ⟨{ c with sched := [], events := [], counter := 0 }, Reach.one .fresh rfl,
        ⟨rfl, rfl, h.now, NameInv.empty rfl rfl⟩⟩
      (fun _ h2 => load_ref h2)
  foreignAdd := fun _ _ _ _ h => addEv_ref h rfl rfl rfl rfl
  tick := fun _ dt c h => ⟨{ c with now := c.now + dt }, Reach.one (.tick dt) rfl,
    ⟨h.shape, h.counter, congrArg (· + dt) h.now, h.inv.congr rfl rfl⟩⟩
  fire := fun _ p e hd hf _ h => by
    refine Refines.bind (reach_pop h p e hd hf) (fun _ h1 => ?_)
    unfold fire
    split
    · split
      · split
        · exact .of_sim h1
        · exact .of_sim (h1.of_eq rfl rfl rfl)
      · exact .of_sim h1
    · exact addEv_ref h1 rfl rfl rfl rfl
    · exact .of_sim h1

theorem prun_ref (ops : List POp) (s : PState) (c : Sched) (r : PState × List PEv) (h : Sim s c)
    (hr : prun s ops = some r) : Refines r.1 c :=
  respects_ref.prun ops s r hr c h

theorem pinit_sim (now : Nat) : Sim (pinit now) (init now) :=
  ⟨rfl, rfl, rfl, init_nameInv now⟩

end C18
