/-
C18 — the whole-history law of the Scheduler plugin layer: one-shot commands added =
ran + removed + pending (helper lemmas).
-/
import LimnoriaModel.C18.PluginLemmas
namespace C18.Plug
open Py List

/-- the commands of the one-shot entries of a table -/
def singles : Table → List Nat
  | [] => []
  | (.id _, r) :: tb => r.cmd :: singles tb
  | (.name _, _) :: tb => singles tb

theorem singles_append (a b : Table) : singles (a ++ b) = singles a ++ singles b := by
  induction a with
  | nil => rfl
  | cons p a ih => obtain ⟨k, r⟩ := p; cases k <;> simp [singles, ih]

/-- what is still to run: the live table, or the saved one while the plugin is not loaded -/
def pendingCmds (s : PState) : List Nat :=
  if s.loaded then singles s.table else singles (s.pickle.getD [])

def addedCmds : List PEv → List Nat
  | [] => []
  | .added (.id _) c :: r => c :: addedCmds r
  | _ :: r => addedCmds r

def ranCmds : List PEv → List Nat
  | [] => []
  | .ran (.id _) c _ :: r => c :: ranCmds r
  | _ :: r => ranCmds r

def removedCmds : List PEv → List Nat
  | [] => []
  | .removed (.id _) c :: r => c :: removedCmds r
  | _ :: r => removedCmds r

theorem addedCmds_append (a b : List PEv) : addedCmds (a ++ b) = addedCmds a ++ addedCmds b := by
  induction a with
  | nil => rfl
  | cons e r ih =>
    cases e with
    | added k c => cases k <;> simp [addedCmds, ih]
    | _ => simp [addedCmds, ih]

theorem ranCmds_append (a b : List PEv) : ranCmds (a ++ b) = ranCmds a ++ ranCmds b := by
  induction a with
  | nil => rfl
  | cons e r ih =>
    cases e with
    | ran k c t => cases k <;> simp [ranCmds, ih]
    | _ => simp [ranCmds, ih]

theorem removedCmds_append (a b : List PEv) : removedCmds (a ++ b) = removedCmds a ++ removedCmds b := by
  induction a with
  | nil => rfl
  | cons e r ih =>
    cases e with
    | removed k c => cases k <;> simp [removedCmds, ih]
    | _ => simp [removedCmds, ih]

/-- the books of one step balance -/
def Bal (s s' : PState) (evs : List PEv) : Prop :=
  ∀ x, count x (pendingCmds s) + count x (addedCmds evs)
      = count x (ranCmds evs) + count x (removedCmds evs) + count x (pendingCmds s')

theorem Bal.refl (s : PState) : Bal s s [] := by intro x; simp [addedCmds, ranCmds, removedCmds]

theorem Bal.trans {s s1 s2 : PState} {e1 e2 : List PEv} (h1 : Bal s s1 e1) (h2 : Bal s1 s2 e2) :
    Bal s s2 (e1 ++ e2) := by
  intro x
  have a := h1 x; have b := h2 x
  simp only [addedCmds_append, ranCmds_append, removedCmds_append, count_append] at *
  omega

theorem Bal.of_pending {s s' : PState} (h : pendingCmds s' = pendingCmds s) : Bal s s' [] := by
  intro x; rw [h]; simp [addedCmds, ranCmds, removedCmds]

/-- what an entry contributes to the one-shot commands -/
def kcost (x : Nat) : Key → Rec → Nat
  | .id _, r => one x r.cmd
  | .name _, _ => 0

theorem singles_split (tb : Table) (p : Key × Rec → Bool) (x : Nat) :
    count x (singles tb) = count x (singles (tb.filter p)) + count x (singles (tb.filter (fun q => !p q))) := by
  induction tb with
  | nil => rfl
  | cons q tb ih =>
    obtain ⟨k, r⟩ := q
    cases h : p (k, r) <;> cases k <;>
      simp only [filter_cons, h, singles, count_cons_one, Bool.not_true, Bool.not_false, if_true, if_false,
        Bool.false_eq_true] <;> omega

theorem singles_tdel {tb : Table} (hn : (tkeys tb).Nodup) {k : Key} {r : Rec} (hm : (k, r) ∈ tb) (x : Nat) :
    count x (singles tb) = count x (singles (tdel tb k)) + kcost x k r := by
  have := singles_split tb (fun q => decide (q.1 = k)) x
  rw [filter_key_eq (f := Prod.fst) hn hm] at this
  cases k <;> simp only [singles, kcost, count_cons_one, count_nil, tdel] at * <;> omega

/-- the same for the command counts of the plugin -/
macro "pcnt" : tactic =>
  `(tactic| (simp only [addedCmds, ranCmds, removedCmds, singles, singles_append, count_append,
      count_cons_one, count_nil, kcost] at * <;> omega))

theorem restore_singles : ∀ (rest : Table) (s : PState), RInv s rest → ∀ x,
    count x (singles (restore s rest).1.table) = count x (singles s.table) + count x (singles rest)
  | [], s, _, x => by simp [restore, singles]
  | (k, r) :: rest, s, h, x => by
    have ih := restore_singles rest _ (restoreOne_rinv s k r rest h).1 x
    have hkt : k ∉ tkeys s.table := h.disj k mem_cons_self
    have hkn : k.toName ∉ snames s.sched := h.notSched k mem_cons_self
    rw [restore]
    dsimp only
    rw [ih]
    cases k with
    | name nm =>
      rw [restoreOne_name s nm r hkn hkt]
      pcnt
    | id i =>
      by_cases hlt : i < s.counter
      · rw [restoreOne_kept s i r hlt hkn hkt]
        pcnt
      · rw [restoreOne_new s i r hlt h.pinv]
        pcnt

theorem load_bal (s : PState) (h : LoadPre s) : Bal s (load s).1 (load s).2.1 := by
  have hr := fresh_rinv h
  obtain ⟨a, _, c⟩ := restore_rinv _ _ hr
  have hs := restore_singles _ _ hr
  rw [load_eq h.unloaded]
  intro x
  have hx : count x (singles (restore (fresh s) (s.pickle.getD [])).1.table)
      = count x (singles ([] : Table)) + count x (singles (s.pickle.getD [])) := hs x
  simp only [pendingCmds, h.unloaded, a.loaded, c, if_true, Bool.false_eq_true, if_false]
  rw [hx]
  pcnt

theorem respects_bal : Respects (fun s s' evs => Inv s → Inv s' ∧ Bal s s' evs) where
  refl := fun s h => ⟨h, Bal.refl s⟩
  trans := fun h1 h2 h => ⟨(h2 (h1 h).1).1, (h1 h).2.trans (h2 (h1 h).1).2⟩
  cmdAdd := fun s sec cmd h => by
    refine ⟨(respects_inv.cmdAdd s sec cmd h).1, ?_⟩
    rcases cmdAdd_cases h.1 sec cmd with ⟨rep, e⟩ | ⟨hl, e⟩ <;> rw [e]
    · exact Bal.refl s
    · intro x
      simp only [pendingCmds, hl, if_true]
      pcnt
  cmdRemove := fun s k h => by
    refine ⟨(respects_inv.cmdRemove s k h).1, ?_⟩
    rcases cmdRemove_cases h.1 k with ⟨rep, e⟩ | ⟨r, hl, hm, e⟩ <;> rw [e]
    · exact Bal.refl s
    · intro x
      have := singles_tdel h.1.keys hm x
      simp only [pendingCmds, hl, if_true]
      cases k <;> pcnt
  cmdRepeat := fun s nm period cmd delay h => by
    refine ⟨(respects_inv.cmdRepeat s nm period cmd delay h).1, ?_⟩
    rcases cmdRepeat_cases s nm period cmd delay with ⟨rep, e⟩ | ⟨hl, _, _, e⟩ <;> rw [e]
    · exact Bal.refl s
    · intro x
      simp only [pendingCmds, hl, if_true]
      pcnt
  flush := fun s h => by
    refine ⟨(respects_inv.flush s h).1, Bal.of_pending ?_⟩
    unfold flush
    cases hl : s.loaded <;> simp [pendingCmds, hl]
  die := fun s hl h => by
    refine ⟨(respects_inv.die s hl h).1, Bal.of_pending ?_⟩
    rw [die_eq hl]
    simp only [pendingCmds, died, hl, if_true, Bool.false_eq_true, if_false, Option.getD_some]
  load := fun s hu h => ⟨(load_inv s (.of_inv h hu)).1, load_bal s (.of_inv h hu)⟩
  boot := fun s hu h => by
    refine ⟨(load_inv _ (.boot h hu)).1, fun x => ?_⟩
    have hx := load_bal _ (.boot h hu) x
    simp only [pendingCmds, hu, Bool.false_eq_true, if_false] at hx ⊢
    exact hx
  foreignAdd := fun s tag t h => by
    refine ⟨(respects_inv.foreignAdd s tag t h).1, Bal.of_pending ?_⟩
    unfold foreignAdd
    rw [addEv_none_fresh (num_fresh h.1)]
    rfl
  tick := fun s dt h => ⟨(respects_inv.tick s dt h).1, Bal.of_pending rfl⟩
  fire := fun s p e hd hf h => by
    obtain ⟨he, rfl, _⟩ := find?_decide hf
    refine ⟨(respects_inv.fire s e.name e hd hf h).1, ?_⟩
    cases hfn : e.fn with
    | single inst id cmd =>
      obtain ⟨o1, _, _, o4⟩ := (h.1.own e he).single hfn
      rw [fire_single h.1 he hfn]
      intro x
      have := singles_tdel h.1.keys o4 x
      simp only [pendingCmds, o1, if_true]
      pcnt
    | repeating inst nm period cmd =>
      rw [fire_repeating h.1 he hfn]
      exact Bal.of_pending rfl
    | foreign tag =>
      rw [fire_foreign _ hfn]
      exact Bal.of_pending rfl

theorem prun_bal (ops : List POp) (s : PState) (r : PState × List PEv) (h : Inv s) (hr : prun s ops = some r) :
    Bal s r.1 r.2 :=
  (respects_bal.prun ops s r hr h).2

end C18.Plug
