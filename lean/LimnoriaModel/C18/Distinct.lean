/-
C18 — lists whose elements are told apart by a key, `(l.map f).Nodup`: the heap by the names of its
entries, the `events` dict by its keys, the plugin's schedule and table likewise.  Also what the two
conservation laws (core, plugin) count with.
-/
namespace C18
open List

variable {α β : Type} {f : α → β}

theorem find?_decide {p : α → Prop} [DecidablePred p] {l : List α} {a : α}
    (h : l.find? (fun x => decide (p x)) = some a) : a ∈ l ∧ p a :=
  ⟨mem_of_find?_eq_some h, of_decide_eq_true (find?_some (p := fun x => decide (p x)) h)⟩

theorem eq_of_map_nodup {l : List α} (hn : (l.map f).Nodup) {a b : α} (ha : a ∈ l) (hb : b ∈ l)
    (h : f a = f b) : a = b :=
  have hp := pairwise_map.mp hn
  Pairwise.forall_of_forall_of_flip (R := fun a b => f a = f b → a = b) (fun _ _ _ => rfl)
    (hp.imp fun hne he => absurd he hne) (hp.imp fun hne he => absurd he.symm hne) ha hb h

theorem map_snoc_nodup {l : List α} {x : α} (h : (l.map f).Nodup) (hx : f x ∉ l.map f) :
    ((l ++ [x]).map f).Nodup := by
  rw [map_append, map_cons, map_nil]
  refine nodup_append.mpr ⟨h, pairwise_singleton _ _, ?_⟩
  intro a ha b hb hab
  exact hx (mem_singleton.mp hb ▸ hab ▸ ha)

theorem filter_key_eq [DecidableEq β] {l : List α} (hn : (l.map f).Nodup) {e : α} (he : e ∈ l) :
    l.filter (fun x => decide (f x = f e)) = [e] := by
  induction l with
  | nil => cases he
  | cons x xs ih =>
    rw [map_cons, nodup_cons] at hn
    rcases mem_cons.mp he with rfl | he'
    · have : xs.filter (fun y => decide (f y = f e)) = [] :=
        filter_eq_nil_iff.mpr (fun y hy h => hn.1 (mem_map.mpr ⟨y, hy, of_decide_eq_true h⟩))
      rw [filter_cons, if_pos (decide_eq_true rfl), this]
    · have hne : ¬ f x = f e := fun h => hn.1 (mem_map.mpr ⟨e, he', h.symm⟩)
      rw [filter_cons, if_neg (by simpa using hne)]
      exact ih hn.2 he'

theorem erase_eq_filter_key [DecidableEq α] [DecidableEq β] {l : List α} (hn : (l.map f).Nodup) {e : α}
    (he : e ∈ l) : l.erase e = l.filter (fun x => !decide (f x = f e)) := by
  rw [Nodup.erase_eq_filter ((pairwise_map.mp hn).imp fun hne h => hne (congrArg f h))]
  exact filter_congr fun x hx =>
    congrArg (!·) (decide_eq_decide.mpr ⟨congrArg f, eq_of_map_nodup hn hx he⟩)

/-- `count x [r]`, opaque for `omega` -/
def one (x r : Nat) : Nat := count x [r]

theorem count_cons_one (x r : Nat) (l : List Nat) : count x (r :: l) = one x r + count x l := by
  simp [one, count_cons]; omega

end C18
