/-
C18 — what the scheduler calls compute; how a relation between state before, state after and trace
is inherited from the calls by bodies, stored functions, `run()` and whole histories (`Lifts`,
`LiftsOps`); first instance: the name invariant (heap names = dict keys, no name twice), and with
it: `run()` never raises.
-/
import LimnoriaModel.C18.Model
import LimnoriaModel.C18.Distinct
namespace C18
open Py List

def names (l : List Entry) : List Name := l.map (·.name)
def keys (d : List (Name × FnRef)) : List Name := d.map (·.1)

/-- every scheduled name is a key of `events` and vice versa; no name occurs twice -/
structure NameInv (s : Sched) : Prop where
  schedNodup : (names s.sched).Nodup
  keysNodup : (keys s.events).Nodup
  same : ∀ n, n ∈ names s.sched ↔ n ∈ keys s.events

theorem hasKey_iff (d : List (Name × FnRef)) (n : Name) : hasKey d n = true ↔ n ∈ keys d := by
  simp [hasKey, keys]

theorem dictPop_none_iff (d : List (Name × FnRef)) (n : Name) : dictPop d n = none ↔ n ∉ keys d := by
  have hfind : d.find? (fun p => p.1 = n) = none ↔ n ∉ keys d := by
    simp only [find?_eq_none, decide_eq_true_eq, keys, mem_map, not_exists, not_and]
  rw [← hfind]
  unfold dictPop
  split <;> simp [*]

theorem dictPop_some {d d' : List (Name × FnRef)} {n : Name} {f : FnRef} (h : dictPop d n = some (f, d')) :
    (n, f) ∈ d ∧ d' = d.filter (fun q => !(q.1 = n)) := by
  unfold dictPop at h
  split at h
  · cases h
  · rename_i p hf
    injection h with h; injection h with h1 h2
    obtain ⟨hm, hp⟩ := find?_decide hf
    subst h1 hp
    exact ⟨hm, h2.symm⟩

theorem keys_filter (d : List (Name × FnRef)) (n : Name) :
    keys (d.filter (fun q => !(q.1 = n))) = (keys d).filter (fun k => !(k = n)) := by
  simp [keys, filter_map, Function.comp_def]

theorem names_filter (l : List Entry) (n : Name) :
    names (l.filter (fun e => !(e.name = n))) = (names l).filter (fun k => !(k = n)) := by
  simp [names, filter_map, Function.comp_def]

theorem keys_unique {d : List (Name × FnRef)} (hn : (keys d).Nodup) {n : Name} {f f' : FnRef}
    (h1 : (n, f) ∈ d) (h2 : (n, f') ∈ d) : f = f' :=
  congrArg Prod.snd (eq_of_map_nodup hn h1 h2 rfl)

theorem NameInv.remove {s : Sched} (hi : NameInv s) (n : Name) (s' : Sched)
    (h1 : s'.sched = s.sched.filter (fun e => !(e.name = n)))
    (h2 : s'.events = s.events.filter (fun q => !(q.1 = n))) : NameInv s' := by
  refine ⟨?_, ?_, ?_⟩
  · rw [h1, names_filter]; exact hi.schedNodup.filter _
  · rw [h2, keys_filter]; exact hi.keysNodup.filter _
  · intro k
    rw [h1, h2, names_filter, keys_filter]
    simp only [mem_filter, hi.same k]

theorem NameInv.add {s : Sched} (hi : NameInv s) (e : Entry) (f : FnRef) (hn : e.name ∉ keys s.events)
    (s' : Sched) (h1 : s'.sched = s.sched ++ [e]) (h2 : s'.events = s.events ++ [(e.name, f)]) :
    NameInv s' := by
  refine ⟨?_, ?_, ?_⟩
  · rw [h1]; exact map_snoc_nodup hi.schedNodup (fun h => hn ((hi.same _).mp h))
  · rw [h2]; exact map_snoc_nodup (x := (e.name, f)) hi.keysNodup hn
  · intro k
    have := hi.same k
    simp only [names, keys] at this
    simp only [h1, h2, names, keys, map_append, mem_append, map_cons, map_nil, mem_singleton, this]

theorem NameInv.congr {s s' : Sched} (hi : NameInv s) (h1 : s'.sched = s.sched) (h2 : s'.events = s.events) :
    NameInv s' :=
  ⟨by rw [h1]; exact hi.schedNodup, by rw [h2]; exact hi.keysNodup, by rw [h1, h2]; exact hi.same⟩

theorem NameInv.empty {s : Sched} (h1 : s.sched = []) (h2 : s.events = []) : NameInv s :=
  ⟨by simp [h1, names], by simp [h2, keys], by simp [h1, h2, names, keys]⟩

/-- the state `removeEvent s n` leaves -/
def without (s : Sched) (n : Name) : Sched :=
  { s with events := s.events.filter (fun q => !(q.1 = n)), sched := s.sched.filter (fun e => !(e.name = n)) }

/-- the entries it takes out -/
def gone (s : Sched) (n : Name) : List Entry := s.sched.filter (fun e => e.name = n)

theorem NameInv.without {s : Sched} (hi : NameInv s) (n : Name) : NameInv (without s n) :=
  hi.remove n _ rfl rfl

/-- the state after the pop of an iteration of `run()` -/
abbrev afterPop (s : Sched) (e : Entry) (d : List (Name × FnRef)) : Sched :=
  { s with sched := s.sched.erase e, events := d }

theorem pop_eq_without {s : Sched} (hi : NameInv s) {e : Entry} (he : e ∈ s.sched) {f : FnRef}
    {d : List (Name × FnRef)} (hp : dictPop s.events e.name = some (f, d)) :
    afterPop s e d = without s e.name := by
  rw [afterPop, erase_eq_filter_key hi.schedNodup he, (dictPop_some hp).2]
  rfl

theorem NameInv.pop {s : Sched} (hi : NameInv s) {e : Entry} (he : e ∈ s.sched) {f : FnRef}
    {d : List (Name × FnRef)} (hp : dictPop s.events e.name = some (f, d)) :
    NameInv (afterPop s e d) := by
  rw [pop_eq_without hi he hp]
  exact hi.without _

theorem removeEvent_cases (s : Sched) (n : Name) :
    (n ∉ keys s.events ∧ removeEvent s n = (s, none, [])) ∨
    ∃ f, (n, f) ∈ s.events ∧ removeEvent s n = (without s n, some f, gone s n) := by
  unfold removeEvent
  cases hp : dictPop s.events n with
  | none => exact Or.inl ⟨(dictPop_none_iff _ _).mp hp, rfl⟩
  | some fd =>
    obtain ⟨f, d⟩ := fd
    obtain ⟨hf, rfl⟩ := dictPop_some hp
    exact Or.inr ⟨f, hf, rfl⟩

theorem removeOp_cases (s : Sched) (n : Name) :
    (n ∉ keys s.events ∧ removeOp s n = (s, [.failed .keyError], some .keyError)) ∨
    (n ∈ keys s.events ∧ removeOp s n = (without s n, (gone s n).map (fun e => .removed e.rid), none)) := by
  rcases removeEvent_cases s n with ⟨hk, h⟩ | ⟨f, hf, h⟩
  · exact Or.inl ⟨hk, by simp only [removeOp, h]⟩
  · exact Or.inr ⟨mem_map.mpr ⟨_, hf, rfl⟩, by simp only [removeOp, h]⟩

theorem reschedOp_cases (s : Sched) (n : Name) (t : Nat) :
    (n ∉ keys s.events ∧ reschedOp s n t = (s, [.failed .keyError], some .keyError)) ∨
    ∃ f, (n, f) ∈ s.events ∧ reschedOp s n t =
      match (gone s n).getLast? with
      | some e =>
        ({ without s n with events := (without s n).events ++ [(n, f)],
                            sched := (without s n).sched ++ [⟨t, n, e.args, e.rid⟩] },
          (gone s n).dropLast.map (fun g => .removed g.rid) ++ [.rescheduled e.rid t], none)
      | none =>
        ({ without s n with events := (without s n).events ++ [(n, f)],
                            sched := (without s n).sched ++ [⟨t, n, [], s.nextRid⟩],
                            nextRid := s.nextRid + 1 },
          [.registered s.nextRid n t f []], none) := by
  rcases removeEvent_cases s n with ⟨hk, h⟩ | ⟨f, hf, h⟩
  · exact Or.inl ⟨hk, by simp only [reschedOp, h]⟩
  · refine Or.inr ⟨f, hf, ?_⟩
    have hk : hasKey (s.events.filter (fun q => !(q.1 = n))) n = false := by simp [hasKey]
    simp only [reschedOp, h]
    cases (gone s n).getLast? <;> simp [addEvent, hk, without]

theorem addEvent_cases (s : Sched) (f : FnRef) (t : Nat) (name : Option Name) (args : Args) :
    ∃ c nm,
      (nm ∈ keys s.events ∧ (addEvent s f t name args none).1 =
        ({ s with counter := c }, [.failed .assertion], some .assertion)) ∨
      (nm ∉ keys s.events ∧ (addEvent s f t name args none).1 =
        ({ s with counter := c, events := s.events ++ [(nm, f)], sched := s.sched ++ [⟨t, nm, args, s.nextRid⟩],
                  nextRid := s.nextRid + 1 },
          [.registered s.nextRid nm t f args], none)) := by
  simp only [← hasKey_iff]
  cases name with
  | none =>
    refine ⟨s.counter + 1, .num s.counter, ?_⟩
    cases hk : hasKey s.events (.num s.counter) <;> simp [addEvent, hk]
  | some n =>
    refine ⟨s.counter, n, ?_⟩
    cases hk : hasKey s.events n <;> simp [addEvent, hk]

theorem execActs_cons_ok {s s1 : Sched} {a : Act} {ev : List Ev} (he : execAct s a = (s1, ev, none))
    (rest : List Act) :
    execActs s (a :: rest) = ((execActs s1 rest).1, ev ++ (execActs s1 rest).2.1, (execActs s1 rest).2.2) := by
  rw [execActs, he]

theorem execActs_append : ∀ (xs ys : List Act) (s : Sched), (execActs s xs).2.2 = none →
    execActs s (xs ++ ys) =
      ((execActs (execActs s xs).1 ys).1, (execActs s xs).2.1 ++ (execActs (execActs s xs).1 ys).2.1,
        (execActs (execActs s xs).1 ys).2.2)
  | [], ys, s, _ => by simp [execActs]
  | a :: xs, ys, s, h => by
    rcases he : execAct s a with ⟨s1, ev, _ | e⟩
    · rw [execActs_cons_ok he] at h
      rw [cons_append, execActs_cons_ok he, execActs_cons_ok he, execActs_append xs ys s1 h, append_assoc]
    · rw [execActs, he] at h
      cases h

def fnOf : FnRef → Nat
  | .plain fn => fn
  | .wrapper fn _ _ _ _ => fn

/-- the arguments a stored function is called with: a periodic wrapper ignores the entry's -/
def firedArgs : FnRef → Args → Args
  | .plain _, args => args
  | .wrapper _ _ _ wargs _, _ => wargs

theorem fired_shape (f : FnRef) (args : Args) :
    (f = .plain (fnOf f) ∧ firedArgs f args = args) ∨ ∃ p n c, f = .wrapper (fnOf f) p n (firedArgs f args) c := by
  cases f with
  | plain fn => exact Or.inl ⟨rfl, rfl⟩
  | wrapper fn p n wargs c => exact Or.inr ⟨p, n, c, rfl⟩

/-- `R` holds of what a body of calls does -/
structure Lifts (R : Sched → Sched → List Ev → Prop) : Prop where
  refl : ∀ s, R s s []
  trans : ∀ {s s1 s2 e1 e2}, R s s1 e1 → R s1 s2 e2 → R s s2 (e1 ++ e2)
  add : ∀ s f t name args, R s (addEvent s f t name args none).1.1 (addEvent s f t name args none).1.2.1
  remove : ∀ s n, R s (removeOp s n).1 (removeOp s n).2.1
  resched : ∀ s n t, R s (reschedOp s n t).1 (reschedOp s n t).2.1
  raised : ∀ s, R s s [.failed .raised]

section
variable {R : Sched → Sched → List Ev → Prop}

theorem execAct_lift (L : Lifts R) (s : Sched) (a : Act) : R s (execAct s a).1 (execAct s a).2.1 := by
  cases a with
  | add fn t name args => exact L.add _ _ _ _ _
  | remove n => exact L.remove s n
  | resched n t => exact L.resched s n _
  | addPeriodic fn period name args count => exact L.add _ _ _ _ _
  | raise => exact L.raised s

theorem execActs_lift (L : Lifts R) : ∀ (acts : List Act) (s : Sched),
    R s (execActs s acts).1 (execActs s acts).2.1
  | [], s => L.refl s
  | a :: rest, s => by
    have h1 := execAct_lift L s a
    unfold execActs
    split
    · rename_i s1 ev e h; rw [h] at h1; exact h1
    · rename_i s1 ev h; rw [h] at h1; exact L.trans h1 (execActs_lift L rest s1)

theorem call_lift (L : Lifts R) (P : Prog) (s : Sched) (f : FnRef) (rid : Option Nat) (due : Nat) (args : Args) :
    ∃ rest, (call P s f rid due args).2.1 = .fired rid due s.now (fnOf f) (firedArgs f args) :: rest ∧
      R s (call P s f rid due args).1 rest := by
  cases f with
  | plain fn => exact ⟨_, rfl, execActs_lift L _ s⟩
  | wrapper fn period name wargs count =>
    simp only [call]
    split
    · exact ⟨_, rfl, L.trans (execActs_lift L _ s) (L.add _ _ _ _ _)⟩
    · exact ⟨_, rfl, execActs_lift L _ s⟩

end

theorem addEvent_inv (s : Sched) (f : FnRef) (t : Nat) (name : Option Name) (args : Args) (hi : NameInv s) :
    NameInv (addEvent s f t name args none).1.1 := by
  obtain ⟨c, nm, ⟨_, h⟩ | ⟨hn, h⟩⟩ := addEvent_cases s f t name args <;> rw [h]
  · exact hi.congr rfl rfl
  · exact hi.add ⟨t, nm, args, s.nextRid⟩ f hn _ rfl rfl

theorem removeOp_inv (s : Sched) (n : Name) (hi : NameInv s) : NameInv (removeOp s n).1 := by
  rcases removeOp_cases s n with ⟨_, h⟩ | ⟨_, h⟩ <;> rw [h]
  · exact hi
  · exact hi.without n

theorem nameLifts : Lifts (fun s s' _ => NameInv s → NameInv s') where
  refl _ hi := hi
  trans h1 h2 hi := h2 (h1 hi)
  add := addEvent_inv
  remove := removeOp_inv
  resched s n t hi := by
    rcases reschedOp_cases s n t with ⟨_, h⟩ | ⟨f, _, h⟩ <;> rw [h]
    · exact hi
    · have hn : n ∉ keys (without s n).events := by simp [without, keys_filter]
      split <;> exact (hi.without n).add ⟨t, n, _, _⟩ f hn _ rfl rfl
  raised _ hi := hi

theorem minDue_none_iff (l : List Entry) : minDue l = none ↔ l = [] := by
  cases l with
  | nil => simp [minDue]
  | cons e es => simp only [minDue]; split <;> simp

theorem minDue_le : ∀ (l : List Entry) (m : Nat), minDue l = some m → ∀ e ∈ l, m ≤ e.t
  | [], _, h => by cases h
  | x :: xs, m, h => by
    simp only [minDue] at h
    refine forall_mem_cons.mpr ?_
    split at h <;> cases h
    · rename_i hn
      rw [(minDue_none_iff xs).mp hn]
      exact ⟨Nat.le_refl _, nofun⟩
    · rename_i m' hm
      exact ⟨by split <;> omega, fun e he => by have := minDue_le xs m' hm e he; split <;> omega⟩

theorem minDue_attained : ∀ (l : List Entry) (m : Nat), minDue l = some m → ∃ e ∈ l, e.t = m
  | [], _, h => by cases h
  | x :: xs, m, h => by
    simp only [minDue] at h
    split at h
    · injection h with h; exact ⟨x, mem_cons_self, h⟩
    · rename_i m' hm
      injection h with h
      split at h
      · exact ⟨x, mem_cons_self, h⟩
      · obtain ⟨e, he, het⟩ := minDue_attained xs m' hm
        exact ⟨e, mem_cons_of_mem _ he, by omega⟩

theorem minDue_of_least (l : List Entry) (x : Entry) (hx : x ∈ l) (hmin : ∀ y ∈ l, x.t ≤ y.t) :
    minDue l = some x.t := by
  cases hm : minDue l with
  | none => rw [(minDue_none_iff l).mp hm] at hx; cases hx
  | some m =>
    have h1 := minDue_le l m hm x hx
    obtain ⟨e, he, het⟩ := minDue_attained l m hm
    have h2 := hmin e he
    congr 1; omega

theorem pick_due {s : Sched} {e : Entry} (hl : loopCond s = true) (hmin : some e.t = minDue s.sched) :
    e.t < s.now := by
  unfold loopCond at hl
  rw [← hmin] at hl
  simpa using hl

theorem loopCond_false {s : Sched} (h : loopCond s = false) : ∀ e ∈ s.sched, s.now ≤ e.t := by
  intro e he
  unfold loopCond at h
  split at h
  · rename_i hn
    rw [(minDue_none_iff _).mp hn] at he; cases he
  · rename_i m hm
    have := minDue_le _ m hm e he
    simp only [decide_eq_false_iff_not, Nat.not_lt] at h
    omega

theorem runPicks_nil_ok {P : Prog} {s s' : Sched} {evs : List Ev} (h : runPicks P s [] = .ok s' evs) :
    loopCond s = false ∧ s' = s ∧ evs = [] := by
  unfold runPicks at h
  split at h
  · cases h
  · rename_i hl
    injection h with h1 h2
    exact ⟨by simpa using hl, h1.symm, h2.symm⟩

theorem prepend_eq_ok {x : RunRes} {a : List Ev} {s' : Sched} {evs : List Ev}
    (h : x.prepend a = .ok s' evs) : ∃ evs2, x = .ok s' evs2 ∧ evs = a ++ evs2 := by
  cases x with
  | ok s2 e2 => cases h; exact ⟨e2, rfl, rfl⟩
  | crashed s2 e2 => cases h
  | invalid => cases h

theorem runPicks_cons (P : Prog) (s : Sched) (p : Name) (ps : List Name) :
    runPicks P s (p :: ps) = .invalid ∨
    ∃ e, loopCond s = true ∧ e ∈ s.sched ∧ e.name = p ∧ some e.t = minDue s.sched ∧
      ((dictPop s.events p = none ∧ runPicks P s (p :: ps) = .crashed { s with sched := s.sched.erase e } []) ∨
       ∃ f d, dictPop s.events p = some (f, d) ∧
        runPicks P s (p :: ps) =
          (runPicks P (call P (afterPop s e d) f (some e.rid) e.t e.args).1 ps).prepend
            (call P (afterPop s e d) f (some e.rid) e.t e.args).2.1) := by
  rw [runPicks]
  split
  · exact Or.inl rfl
  · rename_i hl
    split
    · exact Or.inl rfl
    · rename_i e hf
      obtain ⟨hm, hn, hmin⟩ := find?_decide hf
      refine Or.inr ⟨e, by simpa using hl, hm, hn, hmin, ?_⟩
      dsimp only
      split
      · rename_i hpop; exact Or.inl ⟨hpop, rfl⟩
      · rename_i f d hpop; exact Or.inr ⟨f, d, hpop, rfl⟩

theorem runPicks_cons_ok {P : Prog} {s : Sched} {p : Name} {ps : List Name} {s' : Sched} {evs : List Ev}
    (h : runPicks P s (p :: ps) = .ok s' evs) :
    ∃ e f d evs2, loopCond s = true ∧ e ∈ s.sched ∧ e.name = p ∧ some e.t = minDue s.sched ∧
      dictPop s.events p = some (f, d) ∧
      runPicks P (call P (afterPop s e d) f (some e.rid) e.t e.args).1 ps
        = .ok s' evs2 ∧
      evs = (call P (afterPop s e d) f (some e.rid) e.t e.args).2.1 ++ evs2 := by
  rcases runPicks_cons P s p ps with h' | ⟨e, hl, hmem, hn, hmin, ⟨_, h'⟩ | ⟨f, d, hpop, h'⟩⟩
  · rw [h'] at h; cases h
  · rw [h'] at h; cases h
  · rw [h'] at h
    obtain ⟨evs2, h1, h2⟩ := prepend_eq_ok h
    exact ⟨e, f, d, evs2, hl, hmem, hn, hmin, hpop, h1, h2⟩

/-- the run ended normally in a state satisfying `Q` (or the picks were not an execution) -/
def RunRes.Good (Q : Sched → Prop) : RunRes → Prop
  | .ok s' _ => Q s'
  | .crashed _ _ => False
  | .invalid => True

theorem RunRes.good_prepend (Q : Sched → Prop) (x : RunRes) (a : List Ev) :
    RunRes.Good Q (x.prepend a) ↔ RunRes.Good Q x := by
  cases x <;> rfl

theorem runPicks_inv (P : Prog) : ∀ (picks : List Name) (s : Sched), NameInv s →
    RunRes.Good NameInv (runPicks P s picks)
  | [], s, hi => by
    unfold runPicks; split
    · trivial
    · exact hi
  | p :: ps, s, hi => by
    rcases runPicks_cons P s p ps with h | ⟨e, _, hmem, hn, _, ⟨hpop, _⟩ | ⟨f, d, hpop, h⟩⟩
    · rw [h]; trivial
    · -- impossible: the name of a scheduled entry is a key of `events`
      exact absurd ((hi.same p).mp (mem_map.mpr ⟨e, hmem, hn⟩)) ((dictPop_none_iff _ _).mp hpop)
    · rw [h, RunRes.good_prepend]
      subst hn
      obtain ⟨_, _, hr⟩ := call_lift nameLifts P (afterPop s e d) f (some e.rid) e.t e.args
      exact runPicks_inv P ps _ (hr (hi.pop hmem hpop))

theorem runPicks_not_crashed {P : Prog} {s : Sched} (hi : NameInv s) {picks : List Name} {s' : Sched}
    {evs : List Ev} : runPicks P s picks ≠ .crashed s' evs := by
  intro h
  have := runPicks_inv P picks s hi
  rw [h] at this
  exact this

/-- and of the pop of an iteration of `run()` -/
structure LiftsRun (R : Sched → Sched → List Ev → Prop) : Prop extends Lifts R where
  pop : ∀ (s : Sched) (e : Entry) (f : FnRef) (d : List (Name × FnRef)), e ∈ s.sched →
    dictPop s.events e.name = some (f, d) → some e.t = minDue s.sched → loopCond s = true →
    R s (afterPop s e d) [.fired (some e.rid) e.t s.now (fnOf f) (firedArgs f e.args)]

/-- and of the top-level operations -/
structure LiftsOps (R : Sched → Sched → List Ev → Prop) : Prop extends LiftsRun R where
  fireNow : ∀ s fn a, R s s [.fired none s.now s.now fn a]   -- `addPeriodicEvent(now=True)` calls at once
  tick : ∀ s dt, R s { s with now := s.now + dt } []
  reset : ∀ s, R s { s with sched := [], events := [] } [.discarded (s.sched.map (·.rid))]

section
variable {R : Sched → Sched → List Ev → Prop}

theorem runPicks_lift (L : LiftsRun R) (P : Prog) : ∀ (picks : List Name) (s s' : Sched) (evs : List Ev),
    runPicks P s picks = .ok s' evs → R s s' evs
  | [], s, s', evs, h => by
    obtain ⟨_, rfl, rfl⟩ := runPicks_nil_ok h
    exact L.refl _
  | p :: ps, s, s', evs, h => by
    obtain ⟨e, f, d, evs2, hl, hmem, rfl, hmin, hpop, hrec, rfl⟩ := runPicks_cons_ok h
    obtain ⟨rest, hc, hr⟩ := call_lift L.toLifts P (afterPop s e d) f
      (some e.rid) e.t e.args
    rw [hc]
    show R s s' ([_] ++ (rest ++ evs2))
    exact L.trans (L.pop s e f d hmem hpop hmin hl) (L.trans hr (runPicks_lift L P ps _ s' evs2 hrec))

theorem step_lift (L : LiftsOps R) {P : Prog} {s : Sched} {op : Op} {r : Res} (h : step P s op = some r)
    (hi : NameInv s) : R s r.1 r.2.1 := by
  cases op with
  | add fn t name args => cases h; exact L.add _ _ _ _ _
  | remove n => cases h; exact L.remove s n
  | resched n t => cases h; exact L.resched s n _
  | addPeriodic fn period name now args count =>
    simp only [step] at h
    split at h
    · cases h
      obtain ⟨rest, hc, hr⟩ := call_lift L.toLifts P s (.wrapper fn period name args count) none s.now []
      rw [hc]
      show R s _ ([_] ++ rest)
      exact L.trans (L.fireNow s _ _) hr
    · cases h; exact L.add _ _ _ _ _
  | run picks =>
    simp only [step] at h
    split at h
    · rename_i s' evs hr
      cases h
      exact runPicks_lift L.toLiftsRun P picks s s' evs hr
    · rename_i s' evs hr
      exact absurd hr (runPicks_not_crashed hi)
    · cases h
  | tick dt => cases h; exact L.tick s dt
  | reset => cases h; exact L.reset s

end

theorem nameLiftsOps : LiftsOps (fun s s' _ => NameInv s → NameInv s') where
  toLifts := nameLifts
  pop _ _ _ _ hmem hpop _ _ hi := hi.pop hmem hpop
  fireNow _ _ _ hi := hi
  tick _ _ hi := hi.congr rfl rfl
  reset _ _ := NameInv.empty rfl rfl

theorem step_nameInv (P : Prog) (s : Sched) (op : Op) (r : Res) (h : step P s op = some r) (hi : NameInv s) :
    NameInv r.1 :=
  step_lift nameLiftsOps h hi hi

theorem runOps_lift {R : Sched → Sched → List Ev → Prop} (L : LiftsOps R) (P : Prog) :
    ∀ (ops : List Op) (s : Sched) (r : Sched × List Ev), runOps P s ops = some r → NameInv s → R s r.1 r.2
  | [], s, r, h, _ => by cases h; exact L.refl s
  | op :: ops, s, r, h, hi => by
    unfold runOps at h
    split at h
    · cases h
    · rename_i r1 h1
      split at h
      · cases h
      · rename_i r2 h2
        cases h
        exact L.trans (step_lift L h1 hi) (runOps_lift L P ops r1.1 r2 h2 (step_nameInv P s op r1 h1 hi))

theorem init_nameInv (now : Nat) : NameInv (init now) := NameInv.empty rfl rfl

end C18
