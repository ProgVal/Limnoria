/-
C18 — the Scheduler plugin layer: the table/schedule invariant, what each operation of the model
computes in a state that satisfies it, and that every operation keeps it.
-/
import LimnoriaModel.C18.Plugin
import LimnoriaModel.C18.Distinct
namespace C18.Plug
open Py List

/-! ### the dict, the schedule -/

theorem mem_tkeys {tb : Table} {k : Key} : k ∈ tkeys tb ↔ ∃ r, (k, r) ∈ tb := by
  simp [tkeys]

theorem mem_tkeys_snoc {tb : Table} {k x : Key} {r : Rec} : x ∈ tkeys (tb ++ [(k, r)]) ↔ x ∈ tkeys tb ∨ x = k := by
  simp [tkeys]

theorem mem_tdel {tb : Table} {k : Key} {p : Key × Rec} : p ∈ tdel tb k ↔ p ∈ tb ∧ p.1 ≠ k := by
  simp [tdel]

theorem tkeys_tdel_nodup {tb : Table} (h : (tkeys tb).Nodup) (k : Key) : (tkeys (tdel tb k)).Nodup :=
  h.sublist (filter_sublist.map _)

theorem tget_cons (q : Key × Rec) (tb : Table) (x : Key) :
    tget (q :: tb) x = if q.1 = x then some q.2 else tget tb x := by
  unfold tget
  rw [find?_cons]
  by_cases h : q.1 = x <;> simp [h]

theorem tget_tset (tb : Table) (k : Key) (r : Rec) (x : Key) :
    tget (tset tb k r) x = if k = x then some r else tget tb x := by
  induction tb with
  | nil => exact tget_cons (k, r) [] x
  | cons q tb ih =>
    unfold tset
    split <;> grind [tget_cons]

theorem mem_tkeys_tset {tb : Table} {k x : Key} {r : Rec} :
    x ∈ tkeys (tset tb k r) ↔ x = k ∨ x ∈ tkeys tb := by
  induction tb with
  | nil => simp [tset, tkeys]
  | cons q tb ih =>
    unfold tset
    split
    · rename_i hq
      simp [tkeys, hq]
    · simp only [tkeys, map_cons, mem_cons] at ih ⊢
      rw [ih]
      exact or_left_comm

theorem tset_append {tb : Table} {k : Key} (r : Rec) (h : k ∉ tkeys tb) : tset tb k r = tb ++ [(k, r)] := by
  induction tb with
  | nil => rfl
  | cons q tb ih =>
    have hq : ¬ q.1 = k := fun e => h (e ▸ mem_cons_self)
    unfold tset
    rw [if_neg hq, ih (fun hm => h (mem_cons_of_mem _ hm)), cons_append]

theorem tkeys_tset_nodup {tb : Table} (h : (tkeys tb).Nodup) (k : Key) (r : Rec) :
    (tkeys (tset tb k r)).Nodup := by
  induction tb with
  | nil => exact pairwise_singleton _ _
  | cons q tb ih =>
    rw [tkeys, map_cons, nodup_cons] at h
    unfold tset
    split
    · rename_i hq
      rw [tkeys, map_cons, nodup_cons]
      exact hq ▸ h
    · rename_i hq
      rw [tkeys, map_cons, nodup_cons]
      exact ⟨fun hm => (mem_tkeys_tset.mp hm).elim hq h.1, ih h.2⟩

theorem tget_some {tb : Table} {k : Key} {r : Rec} (h : tget tb k = some r) : (k, r) ∈ tb := by
  obtain ⟨p, hf, rfl⟩ := Option.map_eq_some_iff.mp h
  obtain ⟨hm, rfl⟩ := find?_decide hf
  exact hm

theorem tget_none {tb : Table} {k : Key} (h : tget tb k = none) : k ∉ tkeys tb := by
  unfold tget at h
  intro hm
  obtain ⟨r, hr⟩ := mem_tkeys.mp hm
  exact find?_eq_none.mp (Option.map_eq_none_iff.mp h) _ hr (decide_eq_true rfl)

theorem tget_of_mem {tb : Table} (hn : (tkeys tb).Nodup) {k : Key} {r : Rec} (h : (k, r) ∈ tb) :
    tget tb k = some r := by
  cases hg : tget tb k with
  | none => exact absurd (mem_tkeys.mpr ⟨r, h⟩) (tget_none hg)
  | some r' => exact congrArg (fun p => some p.2) (eq_of_map_nodup hn (tget_some hg) h rfl)

theorem toName_inj {a b : Key} : a.toName = b.toName ↔ a = b := by
  cases a <;> cases b <;> simp [Key.toName]

theorem tdel_eq_filter (tb : Table) (k : Key) :
    tdel tb k = tb.filter (fun q => !(q.1.toName = k.toName)) :=
  filter_congr (fun q _ => by simp only [toName_inj])

def tnames (tb : Table) : List Name := (tkeys tb).map Key.toName

theorem mem_snames {l : List PEntry} {n : Name} : n ∈ snames l ↔ ∃ e ∈ l, e.name = n := mem_map

theorem mem_snames_snoc {l : List PEntry} {e : PEntry} {n : Name} :
    n ∈ snames (l ++ [e]) ↔ n ∈ snames l ∨ n = e.name := by
  simp [snames]

/-- a schedule without the entries named `n`: what `removeEvent` and the pop of `run()` leave -/
abbrev dropName (l : List PEntry) (n : Name) : List PEntry := l.filter (fun e => !(e.name = n))

theorem mem_dropName {l : List PEntry} {n : Name} {x : PEntry} :
    x ∈ dropName l n ↔ x ∈ l ∧ x.name ≠ n := by
  simp

theorem dropName_eq_self {l : List PEntry} {n : Name} (h : n ∉ snames l) :
    dropName l n = l := by
  apply filter_eq_self.mpr
  intro e he
  simp only [Bool.not_eq_true', decide_eq_false_iff_not]
  exact fun hn => h (mem_snames.mpr ⟨e, he, hn⟩)

theorem addEv_some_fresh {s : PState} {n : Name} (h : n ∉ snames s.sched) (mk : Name → PFn) (t : Nat) :
    addEv s mk t (some n) = ({ s with sched := s.sched ++ [⟨t, n, mk n⟩] }, some n) := by
  simp only [addEv, h, if_false]

theorem addEv_some_taken {s : PState} {n : Name} (h : n ∈ snames s.sched) (mk : Name → PFn) (t : Nat) :
    addEv s mk t (some n) = (s, none) := by
  simp only [addEv, h, if_true]

theorem addEv_none_fresh {s : PState} (h : Name.num s.counter ∉ snames s.sched) (mk : Name → PFn) (t : Nat) :
    addEv s mk t none =
      ({ s with counter := s.counter + 1, sched := s.sched ++ [⟨t, .num s.counter, mk (.num s.counter)⟩] },
        some (.num s.counter)) := by
  simp only [addEv, h, if_false]

theorem removeEv_mem {s : PState} {n : Name} (h : n ∈ snames s.sched) :
    removeEv s n = some { s with sched := dropName s.sched n } := by
  simp only [removeEv, h, if_true]

theorem removeEv_not_mem {s : PState} {n : Name} (h : n ∉ snames s.sched) : removeEv s n = none := by
  simp only [removeEv, h, if_false]

/-! ### the invariant -/

/-- ids of the one-shot entries, in table order -/
def ids : Table → List Nat
  | [] => []
  | (.id i, _) :: tb => i :: ids tb
  | (.name _, _) :: tb => ids tb

theorem mem_ids {tb : Table} {i : Nat} : i ∈ ids tb ↔ ∃ r, (Key.id i, r) ∈ tb := by
  induction tb with
  | nil => simp [ids]
  | cons p tb ih =>
    obtain ⟨k, r⟩ := p
    cases k <;> simp [ids, ih, exists_or]

theorem ids_append (a b : Table) : ids (a ++ b) = ids a ++ ids b := by
  induction a with
  | nil => rfl
  | cons p a ih => obtain ⟨k, r⟩ := p; cases k <;> simp [ids, ih]

theorem ids_sublist {a b : Table} (h : a.Sublist b) : (ids a).Sublist (ids b) := by
  induction h with
  | slnil => exact Sublist.slnil
  | cons p _ ih =>
    obtain ⟨k, r⟩ := p
    cases k with
    | id i => exact ih.cons _
    | name nm => exact ih
  | cons_cons p _ ih =>
    obtain ⟨k, r⟩ := p
    cases k with
    | id i => exact ih.cons_cons _
    | name nm => exact ih

/-- what a scheduled closure of the plugin needs from the live instance's table -/
def Own (s : PState) (e : PEntry) : Prop :=
  match e.fn with
  | .single inst id cmd =>
    s.loaded = true ∧ inst = s.inst ∧ e.name = .num id ∧ (Key.id id, (⟨e.t, cmd, 0⟩ : Rec)) ∈ s.table
  | .repeating inst nm p cmd =>
    s.loaded = true ∧ inst = s.inst ∧ e.name = .str nm ∧ ∃ fr, (Key.name nm, (⟨p, cmd, fr⟩ : Rec)) ∈ s.table
  | .foreign _ => True

/-- `asc`: ids ascending; `unl`: unloaded, no table; `town`: a key's closure is scheduled -/
structure PInv (s : PState) : Prop where
  names : (snames s.sched).Nodup
  numLt : ∀ e ∈ s.sched, ∀ n, e.name = .num n → n < s.counter
  keys : (tkeys s.table).Nodup
  idLt : ∀ i r, (Key.id i, r) ∈ s.table → i < s.counter ∧ r.firstRun = 0
  asc : (ids s.table).Pairwise (· < ·)
  own : ∀ e ∈ s.sched, Own s e
  unl : s.loaded = false → s.table = []
  town : ∀ k ∈ tkeys s.table, ∃ e ∈ s.sched, e.name = k.toName ∧ ∀ tag, e.fn ≠ .foreign tag

/-- the saved table is well formed; while the plugin is not loaded none of its events is scheduled
and the counter is past the saved ids -/
def PickleInv (s : PState) : Prop :=
  ∀ tb, s.pickle = some tb →
    (tkeys tb).Nodup ∧ (ids tb).Pairwise (· < ·) ∧ (∀ i r, (Key.id i, r) ∈ tb → r.firstRun = 0) ∧
    (s.loaded = false → (∀ k ∈ tkeys tb, k.toName ∉ snames s.sched) ∧ ∀ i ∈ ids tb, i < s.counter)

theorem PInv.sch {s : PState} (h : PInv s) : ∀ k ∈ tkeys s.table, k.toName ∈ snames s.sched := by
  intro k hk
  obtain ⟨e, he, hn, _⟩ := h.town k hk
  exact mem_snames.mpr ⟨e, he, hn⟩

theorem Own.mono {s s' : PState} {e : PEntry} (h : Own s e) (hl : s'.loaded = s.loaded) (hi : s'.inst = s.inst)
    (ht : ∀ p ∈ s.table, p.1.toName = e.name → p ∈ s'.table) : Own s' e := by
  unfold Own at h ⊢
  split at h
  · exact ⟨hl.trans h.1, h.2.1.trans hi.symm, h.2.2.1, ht _ h.2.2.2 h.2.2.1.symm⟩
  · obtain ⟨a, b, c, fr, d⟩ := h
    exact ⟨hl.trans a, b.trans hi.symm, c, fr, ht _ d c.symm⟩
  · trivial

theorem Own.backed {s : PState} {e : PEntry} (h : Own s e) :
    (∃ tag, e.fn = .foreign tag) ∨ (s.loaded = true ∧ e.name ∈ tnames s.table) := by
  unfold Own at h
  split at h
  · exact Or.inr ⟨h.1, mem_map.mpr ⟨_, mem_tkeys.mpr ⟨_, h.2.2.2⟩, h.2.2.1.symm⟩⟩
  · obtain ⟨a, _, c, fr, d⟩ := h
    exact Or.inr ⟨a, mem_map.mpr ⟨_, mem_tkeys.mpr ⟨_, d⟩, c.symm⟩⟩
  · rename_i tag hf
    exact Or.inl ⟨tag, hf⟩

theorem Own.single {s : PState} {e : PEntry} {inst id cmd : Nat} (h : Own s e) (hf : e.fn = .single inst id cmd) :
    s.loaded = true ∧ inst = s.inst ∧ e.name = .num id ∧ (Key.id id, (⟨e.t, cmd, 0⟩ : Rec)) ∈ s.table := by
  unfold Own at h
  rwa [hf] at h

theorem Own.repeating {s : PState} {e : PEntry} {inst p cmd : Nat} {nm : Str} (h : Own s e)
    (hf : e.fn = .repeating inst nm p cmd) :
    s.loaded = true ∧ inst = s.inst ∧ e.name = .str nm ∧ ∃ fr, (Key.name nm, (⟨p, cmd, fr⟩ : Rec)) ∈ s.table := by
  unfold Own at h
  rwa [hf] at h

theorem num_fresh {s : PState} (hi : PInv s) : Name.num s.counter ∉ snames s.sched := by
  intro h
  obtain ⟨e, he, hn⟩ := mem_snames.mp h
  exact Nat.lt_irrefl _ (hi.numLt e he _ hn)

theorem id_fresh {s : PState} (hi : PInv s) : Key.id s.counter ∉ tkeys s.table := by
  intro h
  obtain ⟨r, hr⟩ := mem_tkeys.mp h
  exact Nat.lt_irrefl _ (hi.idLt _ r hr).1

theorem ids_lt {s : PState} (hi : PInv s) : ∀ j ∈ ids s.table, j < s.counter := by
  intro j hj
  obtain ⟨r, hr⟩ := mem_ids.mp hj
  exact (hi.idLt j r hr).1

theorem PInv.with_sched {s : PState} (hi : PInv s) {l : List PEntry} {c : Nat} (now : Nat) (hc : s.counter ≤ c)
    (hn : (snames l).Nodup) (hlt : ∀ e ∈ l, ∀ n, e.name = .num n → n < c) (hown : ∀ e ∈ l, Own s e)
    (hkeep : ∀ e ∈ s.sched, (∀ tag, e.fn ≠ .foreign tag) → ∃ e' ∈ l, e'.name = e.name ∧ e'.fn = e.fn) :
    PInv { s with sched := l, counter := c, now := now } := by
  refine ⟨hn, hlt, hi.keys, fun i r hm => (hi.idLt i r hm).imp_left (Nat.lt_of_lt_of_le · hc), hi.asc,
    fun e he => (hown e he).mono rfl rfl (fun _ hp _ => hp), hi.unl, ?_⟩
  · intro k hk
    obtain ⟨x, hx, hxn, hxf⟩ := hi.town k hk
    obtain ⟨e', he', hn', hf'⟩ := hkeep x hx hxf
    exact ⟨e', he', hn'.trans hxn, fun tag h => hxf tag (hf'.symm.trans h)⟩

theorem PInv.filter {s : PState} (hi : PInv s) (p : Name → Bool) :
    PInv { s with sched := s.sched.filter (fun e => p e.name),
                  table := s.table.filter (fun q => p q.1.toName) } := by
  refine ⟨hi.names.sublist (filter_sublist.map _), fun x hx => hi.numLt x (mem_filter.mp hx).1,
    hi.keys.sublist (filter_sublist.map _), fun i r hm => hi.idLt i r (mem_filter.mp hm).1,
    hi.asc.sublist (ids_sublist filter_sublist), ?_, fun h => congrArg (List.filter _) (hi.unl h), ?_⟩
  · intro x hx
    obtain ⟨hx1, hx2⟩ := mem_filter.mp hx
    exact (hi.own x hx1).mono rfl rfl (fun q hq hn => mem_filter.mpr ⟨hq, hn ▸ hx2⟩)
  · intro k hk
    obtain ⟨r, hr⟩ := mem_tkeys.mp hk
    obtain ⟨h1, h2⟩ := mem_filter.mp hr
    obtain ⟨x, hx, hn, hf⟩ := hi.town k (mem_tkeys.mpr ⟨r, h1⟩)
    exact ⟨x, mem_filter.mpr ⟨hx, hn ▸ h2⟩, hn, hf⟩

theorem PInv.remove_key {s : PState} (hi : PInv s) (k : Key) :
    PInv { s with sched := dropName s.sched k.toName, table := tdel s.table k } := by
  rw [tdel_eq_filter]
  exact hi.filter (fun n => !(n = k.toName))

/-- the closure instance `inst` schedules for the table entry `(k, r)`, due at `t` -/
def closure (inst t : Nat) : Key → Rec → PEntry
  | .id i, r => ⟨t, .num i, .single inst i r.cmd⟩
  | .name nm, r => ⟨t, .str nm, .repeating inst nm r.time r.cmd⟩

theorem closure_name (inst t : Nat) (k : Key) (r : Rec) : (closure inst t k r).name = k.toName := by
  cases k <;> rfl

theorem closure_not_foreign (inst t : Nat) (k : Key) (r : Rec) (tag : Nat) : (closure inst t k r).fn ≠ .foreign tag := by
  cases k <;> nofun

theorem closure_own {s : PState} (hl : s.loaded = true) {k : Key} {r : Rec} {t : Nat} (hm : (k, r) ∈ s.table)
    (hid : ∀ i, k = .id i → r.time = t ∧ r.firstRun = 0) : Own s (closure s.inst t k r) := by
  cases k with
  | name nm => exact ⟨hl, rfl, rfl, _, hm⟩
  | id i =>
    obtain ⟨rt, rc, rf⟩ := r
    obtain ⟨rfl, rfl⟩ : rt = t ∧ rf = 0 := hid i rfl
    exact ⟨hl, rfl, rfl, hm⟩

theorem PInv.add_entry {s : PState} (hi : PInv s) (hl : s.loaded = true) (k : Key) (r : Rec) (t : Nat) {c : Nat}
    (hc : s.counter ≤ c) (hfresh : k.toName ∉ snames s.sched) (hk : k ∉ tkeys s.table)
    (hid : ∀ i, k = .id i → (r.time = t ∧ r.firstRun = 0) ∧ i < c ∧ ∀ j ∈ ids s.table, j < i) :
    PInv { s with sched := s.sched ++ [closure s.inst t k r], table := s.table ++ [(k, r)], counter := c } := by
  refine ⟨map_snoc_nodup hi.names (closure_name .. ▸ hfresh),
    forall_mem_append.mpr ⟨fun x hx n hn => Nat.lt_of_lt_of_le (hi.numLt x hx n hn) hc, forall_mem_singleton.mpr ?_⟩,
    map_snoc_nodup hi.keys hk, ?_, ?_,
    forall_mem_append.mpr ⟨fun x hx => (hi.own x hx).mono rfl rfl (fun p hp _ => mem_append_left _ hp),
      forall_mem_singleton.mpr ?_⟩,
    fun h => (by cases hl.symm.trans h), ?_⟩
  · intro n hn
    rw [closure_name] at hn
    cases k with
    | id i => injection hn with hn; exact hn ▸ (hid i rfl).2.1
    | name nm => cases hn
  · intro i r' hm
    rcases mem_append.mp hm with h | h
    · exact (hi.idLt i r' h).imp_left (Nat.lt_of_lt_of_le · hc)
    · obtain ⟨rfl, rfl⟩ := Prod.mk.inj (mem_singleton.mp h)
      exact ⟨(hid i rfl).2.1, (hid i rfl).1.2⟩
  · show (ids (s.table ++ [(k, r)])).Pairwise (· < ·)
    rw [ids_append]
    cases k with
    | name nm => simpa only [ids, append_nil] using hi.asc
    | id i =>
      refine pairwise_append.mpr ⟨hi.asc, pairwise_singleton _ _, ?_⟩
      intro a ha b hb
      rw [mem_singleton.mp hb]
      exact (hid i rfl).2.2 a ha
  · exact closure_own (s := { s with sched := _, table := _, counter := c }) hl
      mem_concat_self (fun i hi => (hid i hi).1)
  · intro k' hk'
    rcases mem_tkeys_snoc.mp hk' with h | h
    · obtain ⟨x, hx, h1, h2⟩ := hi.town k' h
      exact ⟨x, mem_append_left _ hx, h1, h2⟩
    · rw [h]
      exact ⟨_, mem_concat_self, closure_name .., closure_not_foreign _ _ _ _⟩

theorem PInv.of_foreign {s : PState} (hn : (snames s.sched).Nodup)
    (hlt : ∀ e ∈ s.sched, ∀ n, e.name = .num n → n < s.counter)
    (hf : ∀ e ∈ s.sched, ∃ tag, e.fn = .foreign tag) (ht : s.table = []) : PInv s := by
  cases s
  cases ht
  refine ⟨hn, hlt, nodup_nil, nofun, Pairwise.nil, fun e he => ?_, fun _ => rfl, nofun⟩
  obtain ⟨tag, h⟩ := hf e he
  unfold Own
  rw [h]
  trivial

def Inv (s : PState) : Prop := PInv s ∧ PickleInv s

theorem PickleInv.mono {s s' : PState} (h : PickleInv s) (hp : s'.pickle = s.pickle)
    (hs : s'.loaded = false → s.loaded = false ∧ s.counter ≤ s'.counter ∧
      ∀ n ∈ snames s'.sched, n ∈ snames s.sched ∨ ∃ j, n = .num j ∧ s.counter ≤ j) :
    PickleInv s' := by
  intro tb htb
  rw [hp] at htb
  obtain ⟨a, b, c, d⟩ := h tb htb
  refine ⟨a, b, c, ?_⟩
  intro hu
  obtain ⟨hl, hc, hsub⟩ := hs hu
  obtain ⟨d1, d2⟩ := d hl
  refine ⟨?_, fun i hi => Nat.lt_of_lt_of_le (d2 i hi) hc⟩
  intro k hk hn
  rcases hsub _ hn with h1 | ⟨j, h1, h2⟩
  · exact d1 k hk h1
  · cases k with
    | name nm => cases h1
    | id i =>
      injection h1 with h1
      obtain ⟨r, hr⟩ := mem_tkeys.mp hk
      have := d2 i (mem_ids.mpr ⟨r, hr⟩)
      omega

theorem PickleInv.of_loaded {s s' : PState} (h : PickleInv s) (hp : s'.pickle = s.pickle)
    (hl : s'.loaded = true) : PickleInv s' :=
  h.mono hp (fun hu => by cases hl.symm.trans hu)

/-! ### relations that every operation respects -/

/-- The operations of which the others are made: `unload` is `die`; `reload` is `die`, then `load`; a
restart is `die`, then `load` in a new process; `run()` pops and fires. -/
structure Respects (R : PState → PState → List PEv → Prop) : Prop where
  refl : ∀ s, R s s []
  trans : ∀ {a b c : PState} {e1 e2 : List PEv}, R a b e1 → R b c e2 → R a c (e1 ++ e2)
  cmdAdd : ∀ s sec cmd, R s (cmdAdd s sec cmd).1 (cmdAdd s sec cmd).2.1
  cmdRemove : ∀ s k, R s (cmdRemove s k).1 (cmdRemove s k).2.1
  cmdRepeat : ∀ s nm p c d, R s (cmdRepeat s nm p c d).1 (cmdRepeat s nm p c d).2.1
  flush : ∀ s, R s (flush s) []
  die : ∀ s, s.loaded = true → R s (die s) []
  load : ∀ s, s.loaded = false → R s (load s).1 (load s).2.1
  boot : ∀ s, s.loaded = false →
    R s (Plug.load { s with sched := [], counter := 0 }).1 (Plug.load { s with sched := [], counter := 0 }).2.1
  foreignAdd : ∀ s tag t, R s (foreignAdd s tag t).1 []
  tick : ∀ s dt, R s { s with now := s.now + dt } []
  fire : ∀ s p e, due s = true → s.sched.find? (fun e => e.name = p ∧ some e.t = minT s.sched) = some e →
    R s (fire { s with sched := dropName s.sched p } e).1
      (fire { s with sched := dropName s.sched p } e).2

theorem Respects.runP {R : PState → PState → List PEv → Prop} (hR : Respects R) :
    ∀ (picks : List Name) (s : PState) (r : PState × List PEv), runP s picks = some r → R s r.1 r.2
  | [], s, r, h => by
    unfold Plug.runP at h
    split at h
    · cases h
    · cases h; exact hR.refl s
  | p :: ps, s, r, h => by
    unfold Plug.runP at h
    split at h
    · cases h
    · rename_i hd
      split at h
      · cases h
      · rename_i e hf
        dsimp only at h
        split at h
        · cases h
        · rename_i r2 h2
          cases h
          exact hR.trans (hR.fire s p e (by simpa using hd) hf) (hR.runP ps _ r2 h2)

theorem Respects.pstep {R : PState → PState → List PEv → Prop} (hR : Respects R) {s : PState} {op : POp}
    {r : PRes} (h : pstep s op = some r) : R s r.1 r.2.1 := by
  cases op with
  | add sec cmd => cases h; exact hR.cmdAdd s sec cmd
  | remove k => cases h; exact hR.cmdRemove s k
  | repeat_ nm p c d => cases h; exact hR.cmdRepeat s nm p c d
  | list =>
    cases h
    unfold cmdList
    split <;> exact hR.refl s
  | flush => cases h; exact hR.flush s
  | load =>
    cases h
    cases hl : s.loaded
    · exact hR.load s hl
    · unfold Plug.load
      rw [if_pos hl]
      exact hR.refl s
  | unload =>
    cases h
    unfold unload
    split
    · exact hR.refl s
    · rename_i hl
      exact hR.die s (by simpa using hl)
  | reload =>
    cases h
    unfold reload
    split
    · exact hR.refl s
    · rename_i hl
      exact hR.trans (hR.die s (by simpa using hl)) (hR.load (Plug.die s) rfl)
  | restart =>
    cases h
    unfold restart
    cases hl : s.loaded
    · simp only [Bool.false_eq_true, if_false]
      exact hR.boot s hl
    · simp only [if_true]
      exact hR.trans (hR.die s hl) (hR.boot (Plug.die s) rfl)
  | foreign tag t => cases h; exact hR.foreignAdd s tag t
  | tick dt => cases h; exact hR.tick s dt
  | run picks =>
    simp only [Plug.pstep, Option.map_eq_some_iff] at h
    obtain ⟨r2, h2, rfl⟩ := h
    exact hR.runP picks s r2 h2

theorem Respects.prun {R : PState → PState → List PEv → Prop} (hR : Respects R) :
    ∀ (ops : List POp) (s : PState) (r : PState × List PEv), prun s ops = some r → R s r.1 r.2
  | [], s, r, h => by cases h; exact hR.refl s
  | op :: ops, s, r, h => by
    unfold Plug.prun at h
    split at h
    · cases h
    · rename_i r1 h1
      split at h
      · cases h
      · rename_i r2 h2
        cases h
        exact hR.trans (hR.pstep h1) (hR.prun ops r1.1 r2 h2)

/-! ### commands -/

theorem cmdAdd_cases {s : PState} (hi : PInv s) (sec cmd : Nat) :
    (∃ rep, cmdAdd s sec cmd = (s, [], rep)) ∨
    (s.loaded = true ∧ cmdAdd s sec cmd =
      ({ s with counter := s.counter + 1,
                sched := s.sched ++ [⟨s.now + sec, .num s.counter, .single s.inst s.counter cmd⟩],
                table := s.table ++ [(.id s.counter, ⟨s.now + sec, cmd, 0⟩)] },
        [.added (.id s.counter) cmd], .added s.counter)) := by
  unfold cmdAdd
  rcases Bool.eq_false_or_eq_true s.loaded with hl | hl
  · refine Or.inr ⟨hl, ?_⟩
    rw [if_neg (by simp [hl]), addEv_none_fresh (num_fresh hi)]
    simp only [idOf, tset_append _ (id_fresh hi)]
  · exact Or.inl ⟨_, if_pos (by simp [hl])⟩

/-- under the invariant the name of a key is scheduled, so `removeEvent` does not raise -/
theorem cmdRemove_cases {s : PState} (hi : PInv s) (k : Key) :
    (∃ rep, cmdRemove s k = (s, [], rep)) ∨
    (∃ r, s.loaded = true ∧ (k, r) ∈ s.table ∧ cmdRemove s k =
      ({ s with sched := dropName s.sched k.toName, table := tdel s.table k },
        [.removed k r.cmd], .ok)) := by
  unfold cmdRemove
  rcases Bool.eq_false_or_eq_true s.loaded with hl | hl
  · rw [if_neg (by simp [hl])]
    cases hg : tget s.table k with
    | none => exact Or.inl ⟨_, rfl⟩
    | some r =>
      refine Or.inr ⟨r, hl, tget_some hg, ?_⟩
      dsimp only
      rw [removeEv_mem (s := { s with table := tdel s.table k }) (hi.sch k (mem_tkeys.mpr ⟨r, tget_some hg⟩))]
  · exact Or.inl ⟨_, if_pos (by simp [hl])⟩

theorem cmdRepeat_cases (s : PState) (nm : Str) (period cmd delay : Nat) :
    (∃ rep, cmdRepeat s nm period cmd delay = (s, [], rep)) ∨
    (s.loaded = true ∧ Key.name nm ∉ tkeys s.table ∧ Name.str nm ∉ snames s.sched ∧
      cmdRepeat s nm period cmd delay =
        ({ s with sched := s.sched ++ [⟨s.now + delay, .str nm, .repeating s.inst nm period cmd⟩],
                  table := s.table ++ [(.name nm, ⟨period, cmd, s.now + delay⟩)] },
          [.added (.name nm) cmd], .silent)) := by
  unfold cmdRepeat
  rcases Bool.eq_false_or_eq_true s.loaded with hl | hl
  · rw [if_neg (by simp [hl])]
    cases hg : tget s.table (.name nm) with
    | some r => exact Or.inl ⟨_, rfl⟩
    | none =>
      dsimp only
      by_cases hfresh : Name.str nm ∈ snames s.sched
      · rw [addEv_some_taken hfresh]
        exact Or.inl ⟨_, rfl⟩
      · rw [addEv_some_fresh hfresh]
        refine Or.inr ⟨hl, tget_none hg, hfresh, ?_⟩
        simp only [tset_append _ (tget_none hg)]
  · exact Or.inl ⟨_, if_pos (by simp [hl])⟩

/-! ### run -/

theorem fire_single {s : PState} (hi : PInv s) {e : PEntry} (he : e ∈ s.sched) {inst id cmd : Nat}
    (hf : e.fn = .single inst id cmd) :
    fire { s with sched := dropName s.sched e.name } e =
      ({ s with sched := dropName s.sched e.name, table := tdel s.table (.id id) },
        [.ran (.id id) cmd s.now]) := by
  obtain ⟨o1, o2, _, o4⟩ := (hi.own e he).single hf
  unfold fire
  rw [hf]
  dsimp only
  rw [if_pos (by simp [o1, o2]), tget_of_mem hi.keys o4]

theorem fire_repeating {s : PState} (hi : PInv s) {e : PEntry} (he : e ∈ s.sched) {inst period cmd : Nat}
    {nm : Str} (hf : e.fn = .repeating inst nm period cmd) :
    fire { s with sched := dropName s.sched e.name } e =
      ({ s with sched := dropName s.sched e.name ++
            [⟨s.now + period, .str nm, .repeating inst nm period cmd⟩] },
        [.ran (.name nm) cmd s.now]) := by
  obtain ⟨o1, o2, o3, _⟩ := (hi.own e he).repeating hf
  have hfresh : Name.str nm ∉ snames ({ s with sched := dropName s.sched e.name } : PState).sched := by
    intro hm
    obtain ⟨x, hx, hn⟩ := mem_snames.mp hm
    exact (mem_dropName.mp hx).2 (hn.trans o3.symm)
  unfold fire
  rw [hf]
  dsimp only
  rw [addEv_some_fresh hfresh, if_pos (by simp [o1, o2])]

theorem fire_foreign (s : PState) {e : PEntry} {tag : Nat} (hf : e.fn = .foreign tag) : fire s e = (s, []) := by
  unfold fire
  rw [hf]

/-- the entry `run()` popped stays out (`l = []`) or comes back under its name (`[x]`) -/
theorem PInv.popped {s : PState} (hi : PInv s) {e : PEntry} (he : e ∈ s.sched) (l : List PEntry)
    (hl : ∀ x ∈ l, x.name = e.name ∧ x.fn = e.fn ∧ Own s x) (hn : (snames l).Nodup)
    (hback : (∀ tag, e.fn ≠ .foreign tag) → ∃ x, x ∈ l) :
    PInv { s with sched := dropName s.sched e.name ++ l } := by
  refine hi.with_sched s.now (Nat.le_refl _) ?_ ?_ ?_ ?_
  · rw [snames, map_append]
    refine nodup_append.mpr ⟨hi.names.sublist (filter_sublist.map _), hn, ?_⟩
    · intro a ha b hb hab
      obtain ⟨x, hx, hxa⟩ := mem_snames.mp ha
      obtain ⟨y, hy, hyb⟩ := mem_snames.mp hb
      exact (mem_dropName.mp hx).2 (hxa.trans (hab.trans (hyb.symm.trans (hl y hy).1)))
  · exact forall_mem_append.mpr ⟨fun x hx => hi.numLt x (mem_dropName.mp hx).1,
      fun x hx n hxn => hi.numLt e he n ((hl x hx).1.symm.trans hxn)⟩
  · exact forall_mem_append.mpr ⟨fun x hx => hi.own x (mem_dropName.mp hx).1, fun x hx => (hl x hx).2.2⟩
  · intro x hx hxf
    by_cases hxe : x.name = e.name
    · have hxe' : x = e := eq_of_map_nodup hi.names hx he hxe
      obtain ⟨y, hy⟩ := hback (hxe' ▸ hxf)
      exact ⟨y, mem_append_right _ hy, (hl y hy).1.trans hxe.symm, (hl y hy).2.1.trans (hxe' ▸ rfl)⟩
    · exact ⟨x, mem_append_left _ (mem_dropName.mpr ⟨hx, hxe⟩), rfl, rfl⟩

/-! ### die -/

theorem unschedule_cons (s : PState) (k : Key) (ks : List Key) :
    unschedule s (k :: ks) = unschedule { s with sched := dropName s.sched k.toName } ks := by
  rw [unschedule]
  by_cases hn : k.toName ∈ snames s.sched
  · rw [removeEv_mem hn]
  · rw [removeEv_not_mem hn, dropName_eq_self hn]

theorem unschedule_eq : ∀ (ks : List Key) (s : PState),
    unschedule s ks = { s with sched := s.sched.filter (fun e => !(decide (e.name ∈ ks.map Key.toName))) }
  | [], s => by
    have : s.sched.filter (fun e => !(decide (e.name ∈ ([] : List Key).map Key.toName))) = s.sched :=
      filter_eq_self.mpr (fun _ _ => rfl)
    rw [unschedule, this]
  | k :: ks, s => by
    rw [unschedule_cons, unschedule_eq ks, filter_filter]
    congr 1
    apply filter_congr
    intro e _
    simp only [map_cons, mem_cons, Bool.decide_or, Bool.not_or]
    exact Bool.and_comm _ _

def died (s : PState) : PState :=
  { s with sched := s.sched.filter (fun e => !(decide (e.name ∈ tnames s.table))),
           loaded := false, table := [], pickle := some s.table }

theorem die_eq {s : PState} (hl : s.loaded = true) : die s = died s := by
  unfold die flush
  simp only [hl, if_true]
  rw [unschedule_eq]
  rfl

/-! ### restoring the saved events -/

/-- loop invariant of `_restoreEvents`: `R` is what is still to be restored -/
structure RInv (s : PState) (R : Table) : Prop where
  pinv : PInv s
  loaded : s.loaded = true
  notSched : ∀ k ∈ tkeys R, k.toName ∉ snames s.sched
  rkeys : (tkeys R).Nodup
  rasc : (ids R).Pairwise (· < ·)
  below : ∀ i ∈ ids s.table, ∀ j ∈ ids R, i < j
  disj : ∀ k ∈ tkeys R, k ∉ tkeys s.table

/-- the entry `_restoreEvents` schedules for a saved event whose id is still below the counter -/
def entryOf (inst now : Nat) (p : Key × Rec) : PEntry :=
  match p.1 with
  | .id i => ⟨p.2.time, .num i, .single inst i p.2.cmd⟩
  | .name nm => ⟨now + nextRunIn p.2.firstRun now p.2.time, .str nm, .repeating inst nm p.2.time p.2.cmd⟩

theorem entryOf_name (inst now : Nat) (p : Key × Rec) : (entryOf inst now p).name = p.1.toName := by
  obtain ⟨k, r⟩ := p; cases k <;> rfl

theorem restoreOne_kept (s : PState) (i : Nat) (r : Rec) (hlt : i < s.counter)
    (hf : Name.num i ∉ snames s.sched) (hk : Key.id i ∉ tkeys s.table) :
    restoreOne s (.id i) r =
      ({ s with sched := s.sched ++ [⟨r.time, .num i, .single s.inst i r.cmd⟩],
                table := s.table ++ [(.id i, ⟨r.time, r.cmd, 0⟩)] }, []) := by
  unfold restoreOne
  dsimp only
  rw [if_pos hlt, addEv_some_fresh hf]
  simp only [idOf, tset_append _ hk]

theorem restoreOne_new (s : PState) (i : Nat) (r : Rec) (hge : ¬ i < s.counter) (hi : PInv s) :
    restoreOne s (.id i) r =
      ({ s with counter := s.counter + 1,
                sched := s.sched ++ [⟨r.time, .num s.counter, .single s.inst s.counter r.cmd⟩],
                table := s.table ++ [(.id s.counter, ⟨r.time, r.cmd, 0⟩)] }, []) := by
  unfold restoreOne
  dsimp only
  rw [if_neg hge, addEv_none_fresh (num_fresh hi)]
  simp only [idOf, tset_append _ (id_fresh hi)]

theorem restoreOne_name (s : PState) (nm : Str) (r : Rec) (hf : Name.str nm ∉ snames s.sched)
    (hk : Key.name nm ∉ tkeys s.table) :
    restoreOne s (.name nm) r =
      ({ s with sched := s.sched ++ [⟨s.now + nextRunIn r.firstRun s.now r.time, .str nm,
                                      .repeating s.inst nm r.time r.cmd⟩],
                table := s.table ++ [(.name nm, ⟨r.time, r.cmd, r.firstRun⟩)] }, []) := by
  unfold restoreOne
  dsimp only
  rw [addEv_some_fresh hf]
  simp only [tset_append _ hk]

theorem RInv.tail {s : PState} {p : Key × Rec} {rest : Table} (h : RInv s (p :: rest)) :
    p.1 ∉ tkeys rest ∧ (tkeys rest).Nodup ∧ (ids rest).Pairwise (· < ·) ∧ ∀ j ∈ ids rest, j ∈ ids (p :: rest) :=
  ⟨(nodup_cons.mp h.rkeys).1, (nodup_cons.mp h.rkeys).2, h.rasc.sublist (ids_sublist (sublist_cons_self _ _)),
    fun _ hj => (ids_sublist (sublist_cons_self _ _)).subset hj⟩

theorem RInv.step {s : PState} {p : Key × Rec} {rest : Table} (h : RInv s (p :: rest)) (k' : Key) (r' : Rec) (t : Nat)
    {c : Nat} (hc : s.counter ≤ c) (hfresh : k'.toName ∉ snames s.sched) (hk : k' ∉ tkeys s.table)
    (hrest : k' ∉ tkeys rest)
    (hid : ∀ i, k' = .id i → ((r'.time = t ∧ r'.firstRun = 0) ∧ i < c ∧ ∀ j ∈ ids s.table, j < i) ∧
      ∀ j ∈ ids rest, i < j) :
    RInv { s with sched := s.sched ++ [closure s.inst t k' r'], table := s.table ++ [(k', r')], counter := c } rest := by
  obtain ⟨_, t2, t3, t4⟩ := h.tail
  refine ⟨h.pinv.add_entry h.loaded k' r' t hc hfresh hk (fun i hi => (hid i hi).1), h.loaded, ?_, t2, t3, ?_, ?_⟩
  · intro k hk' hm
    rcases mem_snames_snoc.mp hm with hm | hm
    · exact h.notSched k (mem_cons_of_mem _ hk') hm
    · exact hrest (toName_inj.mp (hm.trans (closure_name ..)) ▸ hk')
  · intro i hi j hj
    rcases mem_append.mp (ids_append _ _ ▸ hi) with hi | hi
    · exact h.below i hi j (t4 j hj)
    · cases k' with
      | name nm => cases hi
      | id i' =>
        rw [mem_singleton.mp hi]
        exact (hid i' rfl).2 j hj
  · intro k hk' hm
    rcases mem_tkeys_snoc.mp hm with hm | hm
    · exact h.disj k (mem_cons_of_mem _ hk') hm
    · exact hrest (hm ▸ hk')

theorem restoreOne_rinv (s : PState) (k : Key) (r : Rec) (rest : Table) (h : RInv s ((k, r) :: rest)) :
    RInv (restoreOne s k r).1 rest ∧ (restoreOne s k r).1.pickle = s.pickle ∧ (restoreOne s k r).2 = [] := by
  have hkt : k ∉ tkeys s.table := h.disj k mem_cons_self
  have hkn : k.toName ∉ snames s.sched := h.notSched k mem_cons_self
  obtain ⟨t1, _, _, _⟩ := h.tail
  cases k with
  | name nm =>
    rw [restoreOne_name s nm r hkn hkt]
    exact ⟨h.step (.name nm) ⟨r.time, r.cmd, r.firstRun⟩ _ (Nat.le_refl _) hkn hkt t1 nofun, rfl, rfl⟩
  | id i =>
    have hrest : ∀ j ∈ ids rest, i < j := (pairwise_cons.mp h.rasc).1
    by_cases hlt : i < s.counter
    · rw [restoreOne_kept s i r hlt hkn hkt]
      exact ⟨h.step (.id i) ⟨r.time, r.cmd, 0⟩ r.time (Nat.le_refl _) hkn hkt t1
        (fun _ hi' => Key.id.inj hi' ▸ ⟨⟨⟨rfl, rfl⟩, hlt, fun j hj => h.below j hj i mem_cons_self⟩, hrest⟩), rfl, rfl⟩
    · have hci : ∀ j ∈ ids rest, s.counter < j := fun j hj => Nat.lt_of_le_of_lt (Nat.le_of_not_lt hlt) (hrest j hj)
      rw [restoreOne_new s i r hlt h.pinv]
      refine ⟨h.step (.id s.counter) ⟨r.time, r.cmd, 0⟩ r.time (Nat.le_succ _) (num_fresh h.pinv) (id_fresh h.pinv) ?_ ?_, rfl, rfl⟩
      · intro hm
        obtain ⟨r', hr'⟩ := mem_tkeys.mp hm
        exact Nat.lt_irrefl _ (hci _ (mem_ids.mpr ⟨r', hr'⟩))
      · exact fun _ hi' => Key.id.inj hi' ▸ ⟨⟨⟨rfl, rfl⟩, Nat.lt_succ_self _, ids_lt h.pinv⟩, hci⟩

theorem restore_rinv : ∀ (rest : Table) (s : PState), RInv s rest →
    RInv (restore s rest).1 [] ∧ (restore s rest).1.pickle = s.pickle ∧ (restore s rest).2 = []
  | [], _, h => ⟨h, rfl, rfl⟩
  | (k, r) :: rest, s, h => by
    obtain ⟨h1, h2, h3⟩ := restoreOne_rinv s k r rest h
    obtain ⟨a, b, c⟩ := restore_rinv rest _ h1
    rw [restore]
    exact ⟨a, b.trans h2, by rw [h3, c]; rfl⟩

/-! ### load / reload / restart -/

/-- what loading needs: the plugin is not loaded, nothing of it is scheduled, the pickle is well formed -/
structure LoadPre (s : PState) : Prop where
  unloaded : s.loaded = false
  names : (snames s.sched).Nodup
  numLt : ∀ e ∈ s.sched, ∀ n, e.name = .num n → n < s.counter
  foreign : ∀ e ∈ s.sched, ∃ tag, e.fn = .foreign tag
  pickle : ∀ tb, s.pickle = some tb → (tkeys tb).Nodup ∧ (ids tb).Pairwise (· < ·) ∧
    (∀ i r, (Key.id i, r) ∈ tb → r.firstRun = 0) ∧ ∀ k ∈ tkeys tb, k.toName ∉ snames s.sched

theorem LoadPre.of_inv {s : PState} (h : Inv s) (hu : s.loaded = false) : LoadPre s := by
  refine ⟨hu, h.1.names, h.1.numLt, ?_, ?_⟩
  · intro e he
    exact (h.1.own e he).backed.resolve_right (fun hb => by cases hb.1.symm.trans hu)
  · intro tb htb
    obtain ⟨a, b, c, d⟩ := h.2 tb htb
    exact ⟨a, b, c, (d hu).1⟩

theorem LoadPre.boot {s : PState} (h : Inv s) (hu : s.loaded = false) :
    LoadPre { s with sched := [], counter := 0 } := by
  refine ⟨hu, nodup_nil, nofun, nofun, ?_⟩
  intro tb htb
  obtain ⟨a, b, c, _⟩ := h.2 tb htb
  exact ⟨a, b, c, fun _ _ => not_mem_nil⟩

/-- the new instance before it restores anything -/
def fresh (s : PState) : PState := { s with loaded := true, inst := s.inst + 1, table := [] }

theorem load_eq {s : PState} (hu : s.loaded = false) :
    load s = ((restore (fresh s) (s.pickle.getD [])).1, (restore (fresh s) (s.pickle.getD [])).2, .ok) := by
  unfold load
  rw [if_neg (by simp [hu])]
  rfl

theorem fresh_rinv {s : PState} (h : LoadPre s) : RInv (fresh s) (s.pickle.getD []) := by
  have hp : PInv (fresh s) := PInv.of_foreign h.names h.numLt h.foreign rfl
  cases hpk : s.pickle with
  | none => exact ⟨hp, rfl, nofun, nodup_nil, Pairwise.nil, fun _ _ _ => nofun, nofun⟩
  | some tb =>
    obtain ⟨a, b, _, d⟩ := h.pickle tb hpk
    exact ⟨hp, rfl, d, a, b, nofun, fun _ _ => not_mem_nil⟩

theorem load_inv (s : PState) (h : LoadPre s) :
    Inv (load s).1 ∧ (load s).1.loaded = true ∧ (load s).2.1 = [] := by
  obtain ⟨a, b, c⟩ := restore_rinv _ _ (fresh_rinv h)
  rw [load_eq h.unloaded]
  refine ⟨⟨a.pinv, ?_⟩, a.loaded, c⟩
  intro tb htb
  rw [b] at htb
  obtain ⟨x, y, z, _⟩ := h.pickle tb htb
  exact ⟨x, y, z, fun hl => by cases a.loaded.symm.trans hl⟩

/-! ### every operation keeps the invariant -/

/-- no closure runs on behalf of a dead instance, none finds its table entry gone -/
def PEv.clean : PEv → Bool
  | .ranStale _ _ => false
  | .skipped _ => false
  | _ => true

theorem respects_inv : Respects (fun s s' evs => Inv s → Inv s' ∧ ∀ ev ∈ evs, ev.clean = true) where
  refl := fun _ h => ⟨h, nofun⟩
  trans := fun h1 h2 h =>
    ⟨(h2 (h1 h).1).1, fun ev hev => (mem_append.mp hev).elim ((h1 h).2 ev) ((h2 (h1 h).1).2 ev)⟩
  cmdAdd := fun s sec cmd h => by
    rcases cmdAdd_cases h.1 sec cmd with ⟨rep, e⟩ | ⟨hl, e⟩ <;> rw [e]
    · exact ⟨h, nofun⟩
    · refine ⟨⟨?_, h.2.of_loaded rfl hl⟩, by simp [PEv.clean]⟩
      exact h.1.add_entry hl (.id s.counter) ⟨s.now + sec, cmd, 0⟩ (s.now + sec) (Nat.le_succ _) (num_fresh h.1)
        (id_fresh h.1) (fun _ hi => Key.id.inj hi ▸ ⟨⟨rfl, rfl⟩, Nat.lt_succ_self _, ids_lt h.1⟩)
  cmdRemove := fun s k h => by
    rcases cmdRemove_cases h.1 k with ⟨rep, e⟩ | ⟨r, hl, _, e⟩ <;> rw [e]
    · exact ⟨h, nofun⟩
    · exact ⟨⟨h.1.remove_key k, h.2.of_loaded rfl hl⟩, by simp [PEv.clean]⟩
  cmdRepeat := fun s nm period cmd delay h => by
    rcases cmdRepeat_cases s nm period cmd delay with ⟨rep, e⟩ | ⟨hl, hk, hfresh, e⟩ <;> rw [e]
    · exact ⟨h, nofun⟩
    · refine ⟨⟨?_, h.2.of_loaded rfl hl⟩, by simp [PEv.clean]⟩
      exact h.1.add_entry hl (.name nm) ⟨period, cmd, s.now + delay⟩ (s.now + delay) (Nat.le_refl _) hfresh hk nofun
  flush := fun s h => by
    refine ⟨?_, nofun⟩
    obtain ⟨hi, hp⟩ := h
    unfold flush
    split
    · rename_i hl
      refine ⟨{ hi with }, ?_⟩
      intro tb htb
      cases htb
      exact ⟨hi.keys, hi.asc, fun i r hr => (hi.idLt i r hr).2, fun h' => by cases hl.symm.trans h'⟩
    · exact ⟨hi, hp⟩
  die := fun s hl h => by
    refine ⟨?_, nofun⟩
    obtain ⟨hi, hp⟩ := h
    rw [die_eq hl]
    have hsub : ∀ x, x ∈ (died s).sched → x ∈ s.sched ∧ x.name ∉ tnames s.table := by
      intro x hx
      simpa using mem_filter.mp hx
    constructor
    · refine PInv.of_foreign (hi.names.sublist (filter_sublist.map _)) (fun x hx => hi.numLt x (hsub x hx).1) ?_ rfl
      intro x hx
      exact (hi.own x (hsub x hx).1).backed.resolve_right (fun hb => (hsub x hx).2 hb.2)
    · intro tb htb
      cases htb
      refine ⟨hi.keys, hi.asc, fun i r hr => (hi.idLt i r hr).2, fun _ => ⟨?_, ids_lt hi⟩⟩
      intro k hk hn
      obtain ⟨x, hx, hxn⟩ := mem_snames.mp hn
      exact (hsub x hx).2 (hxn ▸ mem_map.mpr ⟨k, hk, rfl⟩)
  load := fun s hu h => ⟨(load_inv s (.of_inv h hu)).1, (load_inv s (.of_inv h hu)).2.2 ▸ nofun⟩
  boot := fun s hu h => ⟨(load_inv _ (.boot h hu)).1, (load_inv _ (.boot h hu)).2.2 ▸ nofun⟩
  foreignAdd := fun s tag t h => by
    refine ⟨?_, nofun⟩
    obtain ⟨hi, hp⟩ := h
    unfold foreignAdd
    rw [addEv_none_fresh (num_fresh hi)]
    refine ⟨hi.with_sched s.now (Nat.le_succ _) (map_snoc_nodup hi.names (num_fresh hi))
      (forall_mem_append.mpr ⟨fun x hx n hn => Nat.lt_succ_of_lt (hi.numLt x hx n hn), forall_mem_singleton.mpr ?_⟩)
      (forall_mem_append.mpr ⟨hi.own, forall_mem_singleton.mpr trivial⟩) ?_, hp.mono rfl ?_⟩
    · intro n hn
      injection hn with hn
      exact hn ▸ Nat.lt_succ_self _
    · intro x hx _
      exact ⟨x, mem_append_left _ hx, rfl, rfl⟩
    · intro hu
      refine ⟨hu, Nat.le_succ _, ?_⟩
      intro n hn
      rcases mem_snames_snoc.mp hn with hn | hn
      · exact Or.inl hn
      · exact Or.inr ⟨s.counter, hn, Nat.le_refl _⟩
  tick := fun s dt h =>
    ⟨⟨{ h.1 with }, h.2.mono rfl (fun hu => ⟨hu, Nat.le_refl _, fun _ hn => Or.inl hn⟩)⟩, nofun⟩
  fire := fun s p e _ hf h => by
    obtain ⟨he, rfl, _⟩ := find?_decide hf
    obtain ⟨hi, hp⟩ := h
    cases hfn : e.fn with
    | single inst id cmd =>
      obtain ⟨o1, _, o3, _⟩ := (hi.own e he).single hfn
      rw [fire_single hi he hfn, o3]
      exact ⟨⟨hi.remove_key (.id id), hp.of_loaded rfl o1⟩, by simp [PEv.clean]⟩
    | repeating inst nm period cmd =>
      obtain ⟨o1, o2, o3, o4⟩ := (hi.own e he).repeating hfn
      rw [fire_repeating hi he hfn]
      refine ⟨⟨hi.popped he _ ?_ (pairwise_singleton _ _) (fun _ => ⟨_, mem_singleton_self _⟩),
        hp.of_loaded rfl o1⟩, by simp [PEv.clean]⟩
      intro x hx
      rw [mem_singleton.mp hx]
      exact ⟨o3.symm, hfn.symm, o1, o2, rfl, o4⟩
    | foreign tag =>
      rw [fire_foreign _ hfn]
      refine ⟨⟨?_, hp.mono rfl ?_⟩, nofun⟩
      · have := hi.popped he [] nofun nodup_nil (fun hnf => absurd hfn (hnf tag))
        rwa [append_nil] at this
      · exact fun hu => ⟨hu, Nat.le_refl _, fun n hn => Or.inl ((filter_sublist.map _).subset hn)⟩

theorem pstep_inv (s : PState) (op : POp) (r : PRes) (h : Inv s) (hr : pstep s op = some r) :
    Inv r.1 ∧ ∀ ev ∈ r.2.1, ev.clean = true :=
  respects_inv.pstep hr h

theorem prun_inv (ops : List POp) (s : PState) (r : PState × List PEv) (h : Inv s) (hr : prun s ops = some r) :
    Inv r.1 ∧ ∀ ev ∈ r.2, ev.clean = true :=
  respects_inv.prun ops s r hr h

theorem reload_inv (s : PState) (h : Inv s) : Inv (reload s).1 := (pstep_inv s .reload _ h rfl).1

theorem pinit_inv (now : Nat) : Inv (pinit now) :=
  ⟨PInv.of_foreign nodup_nil nofun nofun rfl, nofun⟩

/-! ### reload, exactly -/

/-- restoring events whose ids are all below the counter re-creates exactly the saved table and
schedules exactly one entry per saved event -/
theorem restore_exact : ∀ (rest : Table) (s : PState), RInv s rest → (∀ i ∈ ids rest, i < s.counter) →
    (∀ i r, (Key.id i, r) ∈ rest → r.firstRun = 0) →
    (restore s rest).1 = { s with sched := s.sched ++ rest.map (entryOf s.inst s.now), table := s.table ++ rest }
  | [], s, _, _, _ => by
    rw [restore, map_nil, append_nil, append_nil]
  | (k, r) :: rest, s, h, hlt, hfr => by
    obtain ⟨h1, _⟩ := restoreOne_rinv s k r rest h
    have hkt : k ∉ tkeys s.table := h.disj k mem_cons_self
    have hkn : k.toName ∉ snames s.sched := h.notSched k mem_cons_self
    have hfr' : ∀ i r', (Key.id i, r') ∈ rest → r'.firstRun = 0 := fun i r' hm => hfr i r' (mem_cons_of_mem _ hm)
    rw [restore]
    dsimp only
    cases k with
    | name nm =>
      rw [restoreOne_name s nm r hkn hkt] at h1 ⊢
      rw [restore_exact rest _ h1 (fun i hi => hlt i hi) hfr']
      simp only [map_cons, entryOf, append_assoc, singleton_append]
    | id i =>
      have hr : (⟨r.time, r.cmd, 0⟩ : Rec) = r := by
        rw [← hfr i r mem_cons_self]
      rw [restoreOne_kept s i r (hlt i mem_cons_self) hkn hkt, hr] at h1 ⊢
      rw [restore_exact rest _ h1 (fun j hj => hlt j (mem_cons_of_mem _ hj)) hfr']
      simp only [map_cons, entryOf, append_assoc, singleton_append]

/-- the state after `reload Scheduler`: same table, same counter, a new instance; the schedule keeps
the other plugins' entries and has exactly one new entry per saved event -/
def reloaded (s : PState) : PState :=
  { s with inst := s.inst + 1, pickle := some s.table,
           sched := s.sched.filter (fun e => !(decide (e.name ∈ tnames s.table))) ++
             s.table.map (entryOf (s.inst + 1) s.now) }

theorem reload_exact (s : PState) (h : Inv s) (hl : s.loaded = true) : (reload s).1 = reloaded s := by
  have hr : RInv (fresh (died s)) s.table := by
    have := fresh_rinv (LoadPre.of_inv (respects_inv.die s hl h).1 rfl)
    rw [die_eq hl] at this
    exact this
  unfold reload
  rw [if_neg (by simp [hl]), die_eq hl, load_eq rfl]
  show (restore (fresh (died s)) s.table).1 = _
  rw [restore_exact s.table _ hr (ids_lt h.1) (fun i r hr' => (h.1.idLt i r hr').2)]
  unfold reloaded fresh died
  rw [hl]
  rfl

end C18.Plug
