/-
C18 — threads: `run()` racing with addEvent / removeEvent / reset from other threads.
Since the repair every method of `Schedule` touches the heap and the dict only inside
`with self.lock:` (the placement is extracted: `Gen.schedLock`), and event functions run outside
it.  So whatever the threads do, the shared state goes through a sequence of *atoms*: one critical
section each.  `run()` contributes one atom per loop iteration (pop from the heap and the dict);
the function it then calls is just another thread making scheduler calls.  A `rescheduleEvent` is a
read, then `remove`, then `add`: three critical sections.
-/
import LimnoriaModel.C18.Fresh
namespace C18
open Py List

/-- one critical section -/
inductive Atom where
  | add (f : FnRef) (t : Nat) (name : Option Name) (args : Args)   -- addEvent
  | remove (n : Name)                                              -- removeEvent
  | pop (p : Name)                                                 -- one iteration of run(): `with self.lock: …`
  | reset
  | tick (dt : Nat)                                                -- time passes
deriving DecidableEq, Repr

inductive AtomRes where
  | ok (s : Sched) (evs : List Ev) (exc : Option Exc)   -- `exc`: the exception the calling thread sees
  | crashed (s : Sched)                                 -- KeyError inside run(): the driver dies
  | disabled                                            -- this atom cannot happen now (loop condition false, bad pick)
deriving DecidableEq, Repr

/-- one iteration of `run()`: `with self.lock: heappop; self.events.pop(name)` -/
def popAtom (s : Sched) (p : Name) : AtomRes :=
  if !loopCond s then .disabled else
  match s.sched.find? (fun e => e.name = p ∧ some e.t = minDue s.sched) with
  | none => .disabled
  | some e =>
    match dictPop s.events p with
    | none => .crashed { s with sched := s.sched.erase e }
    | some (f, d) =>
      .ok { s with sched := s.sched.erase e, events := d } [.fired (some e.rid) e.t s.now (fnOf f) e.args] none

def astep (s : Sched) : Atom → AtomRes
  | .add f t name args =>
    .ok (addEvent s f t name args none).1.1 (addEvent s f t name args none).1.2.1 (addEvent s f t name args none).1.2.2
  | .remove n => .ok (removeOp s n).1 (removeOp s n).2.1 (removeOp s n).2.2
  | .pop p => popAtom s p
  | .reset => .ok { s with sched := [], events := [] } [.discarded (s.sched.map (·.rid))] none
  | .tick dt => .ok { s with now := s.now + dt } [] none

/-- the step kept the invariant and the books; it did not kill `run()` -/
def AtomRes.Good (s : Sched) : AtomRes → Prop
  | .ok s1 evs _ => NameInv s1 ∧ Conserves s s1 evs ∧ Fresh s s1 evs
  | .crashed _ => False
  | .disabled => True

inductive ARun where
  | ok (s : Sched) (evs : List Ev)
  | crashed
  | disabled
deriving DecidableEq, Repr

/-- an interleaving: the critical sections in the order the lock was granted -/
def arun : Sched → List Atom → ARun
  | s, [] => .ok s []
  | s, a :: as =>
    match astep s a with
    | .disabled => .disabled
    | .crashed _ => .crashed
    | .ok s1 evs _ =>
      match arun s1 as with
      | .ok s2 evs2 => .ok s2 (evs ++ evs2)
      | .crashed => .crashed
      | .disabled => .disabled

theorem popAtom_good (s : Sched) (p : Name) (hi : NameInv s) : (popAtom s p).Good s := by
  unfold popAtom
  split
  · trivial
  · rename_i hl
    split
    · trivial
    · rename_i e hf
      obtain ⟨hmem, rfl, hmin⟩ := find?_decide hf
      split
      · rename_i hpop
        exact absurd ((hi.same _).mp (mem_map.mpr ⟨e, hmem, rfl⟩)) ((dictPop_none_iff _ _).mp hpop)
      · rename_i f d hpop
        exact ⟨hi.pop hmem hpop, conservesLifts.pop s e f d hmem hpop hmin (by simpa using hl),
          Fresh.of_same rfl rfl⟩

theorem astep_good (s : Sched) (a : Atom) (hi : NameInv s) : (astep s a).Good s := by
  cases a with
  | add f t name args =>
    exact ⟨addEvent_inv _ _ _ _ _ hi, conservesLifts.add _ _ _ _ _, freshLifts.add _ _ _ _ _⟩
  | remove n => exact ⟨removeOp_inv s n hi, conservesLifts.remove s n, freshLifts.remove s n⟩
  | pop p => exact popAtom_good s p hi
  | reset => exact ⟨NameInv.empty rfl rfl, conservesLifts.reset s, freshLifts.reset s⟩
  | tick dt => exact ⟨hi.congr rfl rfl, conservesLifts.tick s dt, freshLifts.tick s dt⟩

def ARun.Good (s : Sched) : ARun → Prop
  | .ok s' evs => NameInv s' ∧ Conserves s s' evs ∧ Fresh s s' evs
  | .crashed => False
  | .disabled => True

/-- every interleaving of critical sections keeps the invariant at every lock release, never makes
`run()` raise, and conserves registrations -/
theorem arun_good : ∀ (as : List Atom) (s : Sched), NameInv s → (arun s as).Good s
  | [], s, hi => ⟨hi, Conserves.refl s, Fresh.refl s⟩
  | a :: as, s, hi => by
    have h1 := astep_good s a hi
    unfold arun
    cases he : astep s a with
    | disabled => trivial
    | crashed s1 => rw [he] at h1; exact h1
    | ok s1 evs exc =>
      rw [he] at h1
      have h2 := arun_good as s1 h1.1
      dsimp only
      cases he2 : arun s1 as with
      | ok s2 evs2 =>
        rw [he2] at h2
        exact ⟨h2.1, Conserves.trans h1.2.1 h2.2.1, Fresh.trans h1.2.2 h2.2.2⟩
      | crashed => rw [he2] at h2; exact h2
      | disabled => trivial

end C18
