/-
C18 — the driver loop around the scheduler.

`supybot.schedule.schedule` is itself a driver: `drivers.run()` calls `driver.run()` for every
driver not in `_deadDrivers` inside `try: … except: log.exception(...); _deadDrivers.add(name)` and
then deletes the dead ones from `_drivers`.  Nothing ever adds the Schedule driver again, so one
exception out of `Schedule.run()` would end all scheduling for the life of the process (reconnects,
the Scheduler plugin, registry flushes, …).  This file puts that loop on top of the scheduler model:
`alive` is "`'Schedule'` is in `_drivers` and not in `_deadDrivers`".
-/
import LimnoriaModel.C18.Run
namespace C18
open Py List

structure Loop where
  s : Sched
  alive : Bool
deriving DecidableEq, Repr

inductive LOp where
  /-- any call of the schedule API from a plugin, a driver or the core (also a direct `run()`) -/
  | op (o : Op)
  /-- one round of `drivers.run()`; `picks` = what the heap handed out during `Schedule.run()` -/
  | driversRun (picks : List Name)
deriving DecidableEq, Repr

/-- the Schedule driver's share of one `drivers.run()` -/
def driversRun (P : Prog) (l : Loop) (picks : List Name) : Option (Loop × List Ev) :=
  if !l.alive then (if picks.isEmpty then some (l, []) else none) else    -- `if name not in _deadDrivers`
  match runPicks P l.s picks with
  | .ok s' evs => some (⟨s', true⟩, evs)
  | .crashed s' evs => some (⟨s', false⟩, evs ++ [.failed .keyError])   -- `except: _deadDrivers.add(name)`
  | .invalid => none

def lstep (P : Prog) (l : Loop) : LOp → Option (Loop × List Ev)
  | .op o =>
    match step P l.s o with
    | none => none
    | some r => some (⟨r.1, l.alive⟩, r.2.1)
  | .driversRun picks => driversRun P l picks

def lrun (P : Prog) : Loop → List LOp → Option (Loop × List Ev)
  | l, [] => some (l, [])
  | l, o :: os =>
    match lstep P l o with
    | none => none
    | some r =>
      match lrun P r.1 os with
      | none => none
      | some r2 => some (r2.1, r.2 ++ r2.2)

def linit (now : Nat) : Loop := ⟨init now, true⟩

theorem driversRun_keeps (P : Prog) (l : Loop) (picks : List Name) (r : Loop × List Ev)
    (h : driversRun P l picks = some r) (ha : l.alive = true) (hi : NameInv l.s) :
    r.1.alive = true ∧ NameInv r.1.s ∧ r.1.s.now = l.s.now ∧ (∀ e ∈ r.1.s.sched, l.s.now ≤ e.t) := by
  unfold driversRun at h
  rw [ha] at h
  simp only [Bool.not_true, Bool.false_eq_true, if_false] at h
  split at h
  · rename_i s' evs hr
    cases h
    have hg := runPicks_inv P picks l.s hi
    rw [hr] at hg
    have ht := runPicks_times P picks l.s s' evs hr
    exact ⟨rfl, hg, ht.1, ht.2.1⟩
  · rename_i s' evs hr
    exact absurd hr (runPicks_not_crashed hi)
  · cases h

theorem lstep_keeps (P : Prog) (l : Loop) (o : LOp) (r : Loop × List Ev)
    (h : lstep P l o = some r) (ha : l.alive = true) (hi : NameInv l.s) :
    r.1.alive = true ∧ NameInv r.1.s := by
  cases o with
  | op o =>
    simp only [lstep] at h
    split at h
    · cases h
    · rename_i r1 h1
      cases h
      exact ⟨ha, step_nameInv P l.s o r1 h1 hi⟩
  | driversRun picks =>
    have := driversRun_keeps P l picks r h ha hi
    exact ⟨this.1, this.2.1⟩

theorem lrun_keeps (P : Prog) : ∀ (os : List LOp) (l : Loop) (r : Loop × List Ev),
    lrun P l os = some r → l.alive = true → NameInv l.s → r.1.alive = true ∧ NameInv r.1.s
  | [], l, r, h, ha, hi => by cases h; exact ⟨ha, hi⟩
  | o :: os, l, r, h, ha, hi => by
    unfold lrun at h
    split at h
    · cases h
    · rename_i r1 h1
      split at h
      · cases h
      · rename_i r2 h2
        cases h
        have := lstep_keeps P l o r1 h1 ha hi
        exact lrun_keeps P os r1.1 r2 h2 this.1 this.2

end C18
