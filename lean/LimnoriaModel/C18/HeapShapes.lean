/-
C18 — using the heap model to direct the search: the heap shapes on which a cheaper `removeEvent`
("move the last entry into the freed slot and restore the heap from there downwards only", i.e.
`heapq._siftup(heap, i)` without the matching sift towards the root) breaks the heap invariant.
`removeEvent` rebuilds the heap with `heapify` (proved correct: `heap_heapify_ok`); the shapes listed
here are exactly the inputs on which an implementation that does less goes wrong, so the harness
replays every one of them (small scope: all insertion orders of up to 8 distinct due times, every
removed position) against the real scheduler and checks that `run()` still fires in due-time order.
-/
import LimnoriaModel.C18.Heap
namespace C18.Heap
open Py List

def isHeap (h : H) : Bool :=
  (List.range h.length).all fun j => j == 0 || !lt (at_ h j) (at_ h (par j))

/-- the shortcut: last entry into the hole, `_siftup` from there (never towards the root) -/
def removeAtLazy (h : H) (i : Nat) : H :=
  let last := at_ h (h.length - 1)
  let h' := h.dropLast
  if i < h'.length then siftup (h'.set i last) i else h'

def insertAll (x : Nat) : List Nat → List (List Nat)
  | [] => [[x]]
  | y :: ys => (x :: y :: ys) :: (insertAll x ys).map (y :: ·)

def perms : List Nat → List (List Nat)
  | [] => [[]]
  | x :: xs => (perms xs).flatMap (insertAll x)

/-- the heap after `addEvent`s with these due times, in this order -/
def build (order : List Nat) : H := order.foldl (fun h d => heappush h ⟨d, .num d, [], d⟩) []

/-- (insertion order, due time of the removed event) on which the shortcut leaves a non-heap -/
def fragile (n : Nat) : List (List Nat × Nat) :=
  (perms (List.range n)).flatMap fun o =>
    let h := build o
    (List.range n).filterMap fun i =>
      if !isHeap (removeAtLazy h i) then some (o, (at_ h i).t) else none

/-- there is no such shape with five events or fewer -/
example : fragile 5 = [] := by decide +kernel

/-- the reported shape (due times ranked): adds in this order, then the one due last (heap slot 3) removed -/
example : isHeap (removeAtLazy (build [1, 6, 0, 3, 4, 5, 2]) 3) = false := by decide +kernel

/-- … while what `removeEvent` does (filter, `heapify`) yields a heap there -/
example : isHeap (heapify ((build [1, 6, 0, 3, 4, 5, 2]).filter (fun e => e.t != 6))) = true := by decide +kernel

end C18.Heap
