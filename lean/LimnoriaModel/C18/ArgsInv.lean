/-
C18 — helper lemmas: every scheduled entry carries the arguments, and `events` the function, of
its registration; so an event fires with what it was registered with (also after rescheduleEvent).
-/
import LimnoriaModel.C18.Run
namespace C18
open Py List

/-- (registration id, function, arguments) of every `registered` event -/
def regTable : List Ev → List (Nat × FnRef × Args)
  | [] => []
  | .registered r _ _ f a :: t => (r, f, a) :: regTable t
  | _ :: t => regTable t

theorem regTable_append (a b : List Ev) : regTable (a ++ b) = regTable a ++ regTable b := by
  induction a with
  | nil => rfl
  | cons e r ih => cases e <;> simp [regTable, ih]

def ArgsInv (s : Sched) (G : List (Nat × FnRef × Args)) : Prop :=
  ∀ e ∈ s.sched, ∃ f, (e.rid, f, e.args) ∈ G ∧ (e.name, f) ∈ s.events

theorem ArgsInv.mono {s : Sched} {G : List (Nat × FnRef × Args)} (h : ArgsInv s G)
    (X : List (Nat × FnRef × Args)) : ArgsInv s (G ++ X) := by
  intro e he
  obtain ⟨f, h1, h2⟩ := h e he
  exact ⟨f, mem_append_left _ h1, h2⟩

theorem ArgsInv.remove {s : Sched} {G : List (Nat × FnRef × Args)} (ha : ArgsInv s G) (n : Name)
    (s' : Sched) (h1 : s'.sched = s.sched.filter (fun e => !(e.name = n)))
    (h2 : s'.events = s.events.filter (fun q => !(q.1 = n))) : ArgsInv s' G := by
  intro e he
  rw [h1] at he
  simp only [mem_filter, Bool.not_eq_true', decide_eq_false_iff_not] at he
  obtain ⟨f, g1, g2⟩ := ha e he.1
  refine ⟨f, g1, ?_⟩
  rw [h2]
  simp only [mem_filter, Bool.not_eq_true', decide_eq_false_iff_not]
  exact ⟨g2, he.2⟩

theorem ArgsInv.add {s : Sched} {G : List (Nat × FnRef × Args)} (ha : ArgsInv s G) (e : Entry) (f : FnRef)
    (hr : (e.rid, f, e.args) ∈ G) (s' : Sched) (h1 : s'.sched = s.sched ++ [e])
    (h2 : s'.events = s.events ++ [(e.name, f)]) : ArgsInv s' G := by
  unfold ArgsInv
  rw [h1, h2]
  exact forall_mem_append.mpr ⟨fun x hx => (ha x hx).imp fun _ g => ⟨g.1, mem_append_left _ g.2⟩,
    forall_mem_singleton.mpr ⟨f, hr, mem_concat_self⟩⟩

theorem ArgsInv.pop {s : Sched} {G : List (Nat × FnRef × Args)} (ha : ArgsInv s G) (hi : NameInv s)
    {e : Entry} (he : e ∈ s.sched) {f : FnRef} {d : List (Name × FnRef)}
    (hp : dictPop s.events e.name = some (f, d)) :
    ArgsInv (afterPop s e d) G := by
  rw [pop_eq_without hi he hp]
  exact ha.remove _ _ rfl rfl

/-- what fires in a run fires with the function and arguments of its registration -/
def FiredOk (G : List (Nat × FnRef × Args)) (evs : List Ev) : Prop :=
  ∀ r due now fn a, Ev.fired (some r) due now fn a ∈ evs →
    ∃ f regArgs, (r, f, regArgs) ∈ G ∧ ((f = .plain fn ∧ a = regArgs) ∨ ∃ p n c, f = .wrapper fn p n a c)

theorem FiredOk.of_quiet {evs : List Ev} (h : ∀ e ∈ evs, e.isFired = false) (G : List (Nat × FnRef × Args)) :
    FiredOk G evs := by
  intro r due now fn a hm
  have := h _ hm
  cases this

theorem FiredOk.mono_left {G : List (Nat × FnRef × Args)} {evs : List Ev} (h : FiredOk G evs)
    (X : List (Nat × FnRef × Args)) : FiredOk (G ++ X) evs := by
  intro r due now fn a hm
  obtain ⟨f, ra, g1, g2⟩ := h r due now fn a hm
  exact ⟨f, ra, mem_append_left _ g1, g2⟩

/-- under the name invariant (which it keeps), a step keeps `ArgsInv` for the table extended by its
registrations, and what it fires is in that table -/
def ArgsStep (s s' : Sched) (evs : List Ev) : Prop :=
  NameInv s → NameInv s' ∧ ∀ G, ArgsInv s G → ArgsInv s' (G ++ regTable evs) ∧ FiredOk (G ++ regTable evs) evs

theorem ArgsStep.of_quiet {s s' : Sched} {evs : List Ev} (hq : Quiet s s' evs) (hn : NameInv s → NameInv s')
    (h : NameInv s → ∀ G, ArgsInv s G → ArgsInv s' (G ++ regTable evs)) : ArgsStep s s' evs :=
  fun hi => ⟨hn hi, fun G ha => ⟨h hi G ha, FiredOk.of_quiet hq.2 _⟩⟩

theorem argsLifts : LiftsOps ArgsStep where
  refl s hi := ⟨hi, fun G ha => ⟨ha.mono _, FiredOk.of_quiet (by simp) _⟩⟩
  trans h1 h2 hi := by
    obtain ⟨i1, a1⟩ := h1 hi
    obtain ⟨i2, a2⟩ := h2 i1
    refine ⟨i2, fun G ha => ?_⟩
    obtain ⟨b1, c1⟩ := a1 G ha
    obtain ⟨b2, c2⟩ := a2 _ b1
    rw [regTable_append, ← append_assoc]
    exact ⟨b2, fun r due now fn a hm =>
      (mem_append.mp hm).elim (c1.mono_left _ r due now fn a) (c2 r due now fn a)⟩
  add s f t name args := by
    refine .of_quiet (quietLifts.add s f t name args) (nameLifts.add s f t name args) ?_
    intro _ G ha
    obtain ⟨c, nm, ⟨_, h⟩ | ⟨_, h⟩⟩ := addEvent_cases s f t name args <;> rw [h]
    · exact ha.mono _
    · exact (ha.mono _).add ⟨t, nm, args, s.nextRid⟩ f (by simp [regTable]) _ rfl rfl
  remove s n := by
    refine .of_quiet (quietLifts.remove s n) (nameLifts.remove s n) ?_
    intro _ G ha
    rcases removeOp_cases s n with ⟨_, h⟩ | ⟨_, h⟩ <;> rw [h]
    · exact ha.mono _
    · exact (ha.remove n _ rfl rfl).mono _
  resched s n t := by
    refine .of_quiet (quietLifts.resched s n t) (nameLifts.resched s n t) ?_
    intro hi G ha
    rcases reschedOp_cases s n t with ⟨_, h⟩ | ⟨f, hf, h⟩ <;> rw [h]
    · exact ha.mono _
    · have ha1 : ArgsInv (without s n) G := ha.remove n _ rfl rfl
      split
      · rename_i e hl
        -- the entry whose arguments are kept: its function is the one the dict had for `n`
        have hmem : e ∈ gone s n := mem_of_getLast? hl
        simp only [gone, mem_filter, decide_eq_true_eq] at hmem
        obtain ⟨fe, g1, g2⟩ := ha e hmem.1
        rw [hmem.2] at g2
        rw [keys_unique hi.keysNodup g2 hf] at g1
        exact (ha1.mono _).add ⟨t, n, e.args, e.rid⟩ f (mem_append_left _ g1) _ rfl rfl
      · exact (ha1.mono _).add ⟨t, n, [], s.nextRid⟩ f (by simp [regTable]) _ rfl rfl
  raised s := .of_quiet (quietLifts.raised s) id (fun _ G ha => ha.mono _)
  pop s e f d hmem hpop _ _ hi := by
    refine ⟨hi.pop hmem hpop, fun G ha => ⟨(ha.pop hi hmem hpop).mono _, ?_⟩⟩
    intro r due now fn a hm
    injection mem_singleton.mp hm with e1 _ _ e4 e5
    injection e1 with e1
    subst e1 e4 e5
    -- the function popped from the dict is the one `ArgsInv` records for the entry
    obtain ⟨fe, g1, g2⟩ := ha e hmem
    rw [keys_unique hi.keysNodup g2 (dictPop_some hpop).1] at g1
    exact ⟨f, e.args, mem_append_left _ g1, fired_shape f e.args⟩
  fireNow s fn a hi := by
    refine ⟨hi, fun G ha => ⟨ha.mono _, ?_⟩⟩
    intro r due now fn' a' hm
    injection mem_singleton.mp hm with e1
    cases e1
  tick s dt hi := ⟨hi.congr rfl rfl, fun G ha => ⟨ha.mono _, FiredOk.of_quiet (by simp) _⟩⟩
  reset s _ :=
    ⟨NameInv.empty rfl rfl, fun G _ => ⟨fun e he => (nomatch he), FiredOk.of_quiet (by simp [Ev.isFired]) _⟩⟩

theorem runOps_args (P : Prog) (ops : List Op) (s : Sched) (r : Sched × List Ev)
    (G : List (Nat × FnRef × Args)) (h : runOps P s ops = some r) (hi : NameInv s) (ha : ArgsInv s G) :
    ArgsInv r.1 (G ++ regTable r.2) ∧ FiredOk (G ++ regTable r.2) r.2 :=
  (runOps_lift argsLifts P ops s r h hi hi).2 G ha

end C18
