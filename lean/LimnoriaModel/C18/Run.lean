/-
C18 — helper lemmas about `run()`: the scheduler calls neither move the clock nor report anything
as fired; nothing fires early, nothing due is left.
-/
import LimnoriaModel.C18.Lemmas
namespace C18
open Py List

def Ev.isFired : Ev → Bool
  | .fired _ _ _ _ _ => true
  | _ => false

/-- the clock is not touched and nothing is reported as fired -/
def Quiet (s s' : Sched) (evs : List Ev) : Prop :=
  s'.now = s.now ∧ ∀ e ∈ evs, e.isFired = false

theorem removed_quiet (l : List Entry) : ∀ e ∈ l.map (fun g => Ev.removed g.rid), e.isFired = false :=
  forall_mem_map.mpr (fun _ _ => rfl)

theorem quietLifts : Lifts Quiet where
  refl s := ⟨rfl, nofun⟩
  trans h1 h2 := ⟨h2.1.trans h1.1, forall_mem_append.mpr ⟨h1.2, h2.2⟩⟩
  add s f t name args := by
    obtain ⟨c, nm, ⟨_, h⟩ | ⟨_, h⟩⟩ := addEvent_cases s f t name args <;> rw [h] <;>
      exact ⟨rfl, by simp [Ev.isFired]⟩
  remove s n := by
    rcases removeOp_cases s n with ⟨_, h⟩ | ⟨_, h⟩ <;> rw [h]
    · exact ⟨rfl, by simp [Ev.isFired]⟩
    · exact ⟨rfl, removed_quiet _⟩
  resched s n t := by
    rcases reschedOp_cases s n t with ⟨_, h⟩ | ⟨f, _, h⟩ <;> rw [h]
    · exact ⟨rfl, by simp [Ev.isFired]⟩
    · split
      · exact ⟨rfl, forall_mem_append.mpr ⟨removed_quiet _, forall_mem_singleton.mpr rfl⟩⟩
      · exact ⟨rfl, by simp [Ev.isFired]⟩
  raised s := ⟨rfl, by simp [Ev.isFired]⟩

/-- the clock is not touched, and whatever fired was fired by `run()` for a registration whose due
time had passed -/
def Timely (s s' : Sched) (evs : List Ev) : Prop :=
  s'.now = s.now ∧ ∀ rid due now fn a, Ev.fired rid due now fn a ∈ evs → due < now ∧ now = s.now ∧ rid ≠ none

theorem Quiet.timely {s s' : Sched} {evs : List Ev} (h : Quiet s s' evs) : Timely s s' evs :=
  ⟨h.1, by intro rid due now fn a hm; have := h.2 _ hm; cases this⟩

theorem timelyLifts : LiftsRun Timely where
  refl s := (quietLifts.refl s).timely
  trans h1 h2 := ⟨h2.1.trans h1.1, by
    intro rid due now fn a hm
    rcases mem_append.mp hm with hm | hm
    · exact h1.2 _ _ _ _ _ hm
    · rw [← h1.1]; exact h2.2 _ _ _ _ _ hm⟩
  add s f t name args := (quietLifts.add s f t name args).timely
  remove s n := (quietLifts.remove s n).timely
  resched s n t := (quietLifts.resched s n t).timely
  raised s := (quietLifts.raised s).timely
  pop s e f d _ _ hmin hl := ⟨rfl, by
    intro rid due now fn a hm
    injection mem_singleton.mp hm with e1 e2 e3
    subst e1 e2 e3
    exact ⟨pick_due hl hmin, rfl, by simp⟩⟩

theorem runPicks_done (P : Prog) : ∀ (picks : List Name) (s s' : Sched) (evs : List Ev),
    runPicks P s picks = .ok s' evs → loopCond s' = false
  | [], s, s', evs, h => by
    obtain ⟨hl, rfl, _⟩ := runPicks_nil_ok h
    exact hl
  | p :: ps, s, s', evs, h => by
    obtain ⟨e, f, d, evs2, _, _, _, _, _, hrec, _⟩ := runPicks_cons_ok h
    exact runPicks_done P ps _ s' evs2 hrec

/-- **nothing fires before its due time has passed; when the loop ends nothing due is left** -/
theorem runPicks_times (P : Prog) (picks : List Name) (s s' : Sched) (evs : List Ev)
    (h : runPicks P s picks = .ok s' evs) :
    s'.now = s.now ∧ (∀ e ∈ s'.sched, s.now ≤ e.t) ∧
    (∀ rid due now fn a, Ev.fired rid due now fn a ∈ evs → due < now ∧ now = s.now ∧ rid ≠ none) := by
  obtain ⟨h1, h2⟩ := runPicks_lift timelyLifts P picks s s' evs h
  exact ⟨h1, h1 ▸ loopCond_false (runPicks_done P picks s s' evs h), h2⟩

end C18
