/-
C18 — CPython's heapq keeps the heap invariant; the root of a heap is a minimum (`heap_min`) and `heappop` takes
the root (`heappop_cons_concat`).  Both sift loops move a hole:
the list is a heap up to one entry (`Hole`), and a step moves the position of that entry (`Hole.move`).
-/
import LimnoriaModel.C18.Heap
namespace C18.Heap
open Py List

theorem at_eq_getElem (h : H) (i : Nat) (hi : i < h.length) : at_ h i = h[i] := by
  simp [at_, List.getD_eq_getElem?_getD, hi]

theorem at_set_eq {h : H} {i : Nat} {v : Entry} (hi : i < h.length) : at_ (h.set i v) i = v := by
  simp [at_, List.getD_eq_getElem?_getD, hi]

theorem at_set_ne {h : H} {i j : Nat} {v : Entry} (hij : i ≠ j) : at_ (h.set i v) j = at_ h j := by
  simp [at_, List.getD_eq_getElem?_getD, hij]

theorem set_at_self (h : H) (i : Nat) (hi : i < h.length) : h.set i (at_ h i) = h := by
  rw [at_eq_getElem h i hi]
  exact set_getElem_self hi

theorem at_append_left (h : H) (x : Entry) (j : Nat) (hj : j < h.length) : at_ (h ++ [x]) j = at_ h j := by
  simp [at_, List.getD_eq_getElem?_getD, List.getElem?_append_left hj]

theorem swap_length (h : H) (i j : Nat) : (swap h i j).length = h.length := by simp [swap]

theorem at_swap {h : H} {i j : Nat} (hi : i < h.length) (hj : j < h.length) (k : Nat) :
    at_ (swap h i j) k = if k = j then at_ h i else if k = i then at_ h j else at_ h k := by
  unfold swap
  by_cases e1 : k = j
  · rw [if_pos e1, e1, at_set_eq (by rw [length_set]; exact hj)]
  · rw [if_neg e1, at_set_ne (Ne.symm e1)]
    by_cases e2 : k = i
    · rw [if_pos e2, e2, at_set_eq hi]
    · rw [if_neg e2, at_set_ne (Ne.symm e2)]

theorem swap_perm (h : H) (i j : Nat) (hi : i < h.length) (hj : j < h.length) : (swap h i j).Perm h := by
  unfold swap
  rw [at_eq_getElem h j hj, at_eq_getElem h i hi]
  exact set_set_perm hi hj

theorem par_lt {i : Nat} (h : 1 ≤ i) : par i < i := by unfold par; omega
theorem par_le (i : Nat) : par i ≤ i := by unfold par; omega
theorem par_eq_iff {j p : Nat} (h : 1 ≤ j) : par j = p ↔ j = 2 * p + 1 ∨ j = 2 * p + 2 := by unfold par; omega
theorem par_left (p : Nat) : par (2 * p + 1) = p := (par_eq_iff (Nat.succ_pos _)).mpr (Or.inl rfl)
theorem par_right (p : Nat) : par (2 * p + 2) = p := (par_eq_iff (Nat.succ_pos _)).mpr (Or.inr rfl)

/-- the parent is not later than the child -/
def Rel (h : H) (j : Nat) : Prop := (at_ h (par j)).t ≤ (at_ h j).t

/-- heap invariant for all parent/child pairs whose parent is at or after `k` -/
def HeapFrom (h : H) (k : Nat) : Prop := ∀ j, 1 ≤ j → j < h.length → k ≤ par j → Rel h j

/-- `pos` lies in the subtree rooted at `start` -/
inductive Sub (start : Nat) : Nat → Prop where
  | refl : Sub start start
  | child {p c : Nat} (hp : Sub start p) (hc : par c = p) (h1 : 1 ≤ c) : Sub start c

theorem Sub.le {start pos : Nat} (h : Sub start pos) : start ≤ pos := by
  induction h with
  | refl => exact Nat.le_refl _
  | child hp hc h1 ih => rw [← hc] at ih; exact Nat.le_trans ih (par_le _)

theorem Sub.up {start pos : Nat} (h : Sub start pos) (hne : pos ≠ start) :
    Sub start (par pos) ∧ start ≤ par pos ∧ 1 ≤ pos := by
  cases h with
  | refl => exact absurd rfl hne
  | child hp hc h1 => rw [hc]; exact ⟨hp, hp.le, h1⟩

theorem Sub.zero : ∀ (n : Nat), Sub 0 n := by
  intro n
  induction n using Nat.strongRecOn with
  | _ n ih =>
    by_cases h : n = 0
    · subst h; exact Sub.refl
    · exact Sub.child (ih (par n) (par_lt (by omega))) rfl (by omega)

theorem Sub.min {h : H} {k i : Nat} (hs : Sub k i) (hh : HeapFrom h k) (hi : i < h.length) :
    (at_ h k).t ≤ (at_ h i).t := by
  induction hs with
  | refl => exact Nat.le_refl _
  | child hp hc h1 ih =>
    subst hc
    exact Nat.le_trans (ih (Nat.lt_of_le_of_lt (par_le _) hi)) (hh _ h1 hi hp.le)

theorem heap_min (h : H) (hh : HeapFrom h 0) (i : Nat) (hi : i < h.length) : (at_ h 0).t ≤ (at_ h i).t :=
  (Sub.zero i).min hh hi

/-- `v` is not later than any child of `pos` -/
def LeChildren (h : H) (pos : Nat) (v : Entry) : Prop :=
  ∀ j, 1 ≤ j → j < h.length → par j = pos → v.t ≤ (at_ h j).t

/-- The one place where the pairs of a list written at `pos` are told apart: `pos` under its parent, the
children of `pos`, all others. -/
theorem heapFrom_set {start pos : Nat} {h : H} (hp : pos < h.length) (v : Entry)
    (hrest : ∀ j, 1 ≤ j → j < h.length → start ≤ par j → j ≠ pos → par j ≠ pos → Rel h j)
    (hup : start < pos → (at_ h (par pos)).t ≤ v.t) (hdown : LeChildren h pos v) :
    HeapFrom (h.set pos v) start := by
  intro j hj1 hjn hdom
  rw [length_set] at hjn
  have hjl := par_lt hj1
  unfold Rel
  by_cases e1 : j = pos
  · subst e1
    rw [at_set_eq hp, at_set_ne (Nat.ne_of_gt hjl)]
    exact hup (Nat.lt_of_le_of_lt hdom hjl)
  · by_cases e2 : par j = pos
    · rw [e2, at_set_eq hp, at_set_ne (Ne.symm e1)]
      exact hdown j hj1 hjn e2
    · rw [at_set_ne (Ne.symm e2), at_set_ne (Ne.symm e1)]
      exact hrest j hj1 hjn hdom e1 e2

/-- The state of both sift loops: up to the entry at `pos`, `h` is a heap from `start` on. -/
structure Hole (start : Nat) (h : H) (pos : Nat) : Prop where
  sub : Sub start pos
  lt : pos < h.length
  heap : ∃ v, HeapFrom (h.set pos v) start

section
variable {start pos : Nat} {h : H}

theorem HeapFrom.below {v : Entry} (hv : HeapFrom (h.set pos v) start)
    (hp : pos < h.length) (hs : start ≤ pos) : LeChildren h pos v := by
  intro j hj1 hjn hpj
  have b : Rel (h.set pos v) j := hv j hj1 (by rw [length_set]; exact hjn) (by rw [hpj]; exact hs)
  unfold Rel at b
  rw [hpj, at_set_eq hp, at_set_ne (hpj ▸ Nat.ne_of_lt (par_lt hj1))] at b
  exact b

theorem Hole.bridge (hp : Hole start h pos) (hs : start < pos) :
    LeChildren h pos (at_ h (par pos)) := by
  obtain ⟨v, hv⟩ := hp.heap
  obtain ⟨_, hdom, h1⟩ := hp.sub.up (Nat.ne_of_gt hs)
  have a : Rel (h.set pos v) pos := hv pos h1 (by rw [length_set]; exact hp.lt) hdom
  unfold Rel at a
  rw [at_set_eq hp.lt, at_set_ne (Nat.ne_of_gt (par_lt h1))] at a
  exact fun j hj1 hjn hpj => Nat.le_trans a (hv.below hp.lt hp.sub.le j hj1 hjn hpj)

theorem Hole.fill (hp : Hole start h pos) (v : Entry) (hup : start < pos → (at_ h (par pos)).t ≤ v.t)
    (hdown : LeChildren h pos v) : HeapFrom (h.set pos v) start := by
  obtain ⟨w, hw⟩ := hp.heap
  refine heapFrom_set hp.lt v (fun j hj1 hjn hdom e1 e2 => ?_) hup hdown
  have hr : Rel (h.set pos w) j := hw j hj1 (by rw [length_set]; exact hjn) hdom
  unfold Rel at hr ⊢
  rw [at_set_ne (Ne.symm e2), at_set_ne (Ne.symm e1)] at hr
  exact hr

theorem swap_refill (h : H) (i j : Nat) (hij : i ≠ j) (hj : j < h.length) :
    (swap h i j).set j (at_ h j) = h.set i (at_ h j) := by
  unfold swap
  rw [set_set, set_comm _ _ hij, set_at_self h j hj]

theorem Hole.move {q : Nat} (hp : Hole start h pos) (hq : Sub start q) (hqn : q < h.length) (hne : pos ≠ q)
    (hup : start < pos → (at_ h (par pos)).t ≤ (at_ h q).t) (hdown : LeChildren h pos (at_ h q)) :
    Hole start (swap h pos q) q ∧ LeChildren (swap h pos q) q (at_ h q) := by
  have hqn' : q < (swap h pos q).length := by rw [swap_length]; exact hqn
  have hm : HeapFrom ((swap h pos q).set q (at_ h q)) start := by
    rw [swap_refill h pos q hne hqn]
    exact hp.fill _ hup hdown
  exact ⟨⟨hq, hqn', _, hm⟩, hm.below hqn' hq.le⟩

end

theorem siftdown_ok (start : Nat) : ∀ (f : Nat) (h : H) (pos : Nat), pos < f → Hole start h pos →
    LeChildren h pos (at_ h pos) → HeapFrom (siftdown start f h pos) start
  | 0, _, _, hf, _, _ => absurd hf (Nat.not_lt_zero _)
  | f + 1, h, pos, hf, hp, hk => by
    unfold siftdown
    split
    · rename_i hc
      simp only [Bool.and_eq_true, decide_eq_true_eq, lt] at hc
      obtain ⟨hsp, hlt⟩ := hc
      obtain ⟨hsub', hsp', h1⟩ := hp.sub.up (Nat.ne_of_gt hsp)
      have hpl : par pos < pos := par_lt h1
      have hpn : par pos < h.length := Nat.lt_trans hpl hp.lt
      obtain ⟨hm, hb⟩ := hp.move hsub' hpn (Nat.ne_of_gt hpl) (fun _ => Nat.le_refl _) (hp.bridge hsp)
      apply siftdown_ok start f _ (par pos) (by omega) hm
      -- the entry moved up was earlier than the parent's, which is not later than its children
      intro j hj1 hjn hpj
      rw [at_swap hp.lt hpn, if_pos rfl]
      exact Nat.le_trans (Nat.le_of_lt hlt) (hb j hj1 hjn hpj)
    · rename_i hc
      simp only [Bool.and_eq_true, decide_eq_true_eq, lt, not_and, Nat.not_lt] at hc
      rw [← set_at_self h pos hp.lt]
      exact hp.fill _ hc hk

theorem siftdown_perm (start : Nat) : ∀ (f : Nat) (h : H) (pos : Nat), pos < h.length →
    (siftdown start f h pos).Perm h
  | 0, h, _, _ => Perm.refl h
  | f + 1, h, pos, hp => by
    unfold siftdown
    split
    · have hpp : par pos < h.length := Nat.lt_of_le_of_lt (par_le pos) hp
      exact (siftdown_perm start f _ (par pos) (by rw [swap_length]; exact hpp)).trans (swap_perm h pos (par pos) hp hpp)
    · exact Perm.refl h

/-- `childpos` once `_siftup` has compared the two children of `pos` -/
def minChild (h : H) (pos : Nat) : Nat :=
  if 2 * pos + 1 + 1 < h.length && !(lt (at_ h (2 * pos + 1)) (at_ h (2 * pos + 1 + 1))) then 2 * pos + 1 + 1
  else 2 * pos + 1

theorem descend_succ (f : Nat) (h : H) (pos : Nat) : descend (f + 1) h pos =
    if 2 * pos + 1 < h.length then descend f (swap h pos (minChild h pos)) (minChild h pos) else (h, pos) := rfl

theorem minChild_spec (h : H) (pos : Nat) (hc : 2 * pos + 1 < h.length) :
    pos < minChild h pos ∧ minChild h pos < h.length ∧ par (minChild h pos) = pos ∧
      LeChildren h pos (at_ h (minChild h pos)) := by
  unfold minChild
  split
  · rename_i hr
    simp only [Bool.and_eq_true, decide_eq_true_eq, Bool.not_eq_true', lt, decide_eq_false_iff_not,
      Nat.not_lt] at hr
    refine ⟨by omega, hr.1, par_right pos, fun j hj1 _ hpj => ?_⟩
    rcases (par_eq_iff hj1).mp hpj with rfl | rfl
    · exact hr.2
    · exact Nat.le_refl _
  · rename_i hr
    simp only [Bool.and_eq_true, decide_eq_true_eq, Bool.not_eq_true', lt, decide_eq_false_iff_not,
      Nat.not_lt, not_and, Nat.not_le] at hr
    refine ⟨by omega, hc, par_left pos, fun j hj1 hjn hpj => ?_⟩
    rcases (par_eq_iff hj1).mp hpj with rfl | rfl
    · exact Nat.le_refl _
    · exact Nat.le_of_lt (hr hjn)

theorem descend_ok (start : Nat) : ∀ (f : Nat) (h : H) (pos : Nat), h.length ≤ pos + f → Hole start h pos →
    Hole start (descend f h pos).1 (descend f h pos).2 ∧
      (descend f h pos).1.length ≤ 2 * (descend f h pos).2 + 1
  | 0, h, pos, hf, hp => by have := hp.lt; omega
  | f + 1, h, pos, hf, hp => by
    rw [descend_succ]
    split
    · rename_i hc
      obtain ⟨hpc, hcn, hpar, hmin⟩ := minChild_spec h pos hc
      have hc1 : 1 ≤ minChild h pos := Nat.zero_lt_of_lt hpc
      exact descend_ok start f _ _ (by rw [swap_length]; omega)
        (hp.move (Sub.child hp.sub hpar hc1) hcn (Nat.ne_of_lt hpc) (fun hs => hp.bridge hs _ hc1 hcn hpar) hmin).1
    · rename_i hc
      exact ⟨hp, Nat.le_of_not_lt hc⟩

theorem descend_perm : ∀ (f : Nat) (h : H) (pos : Nat), pos < h.length →
    (descend f h pos).1.Perm h ∧ (descend f h pos).2 < (descend f h pos).1.length
  | 0, h, _, hp => ⟨Perm.refl h, hp⟩
  | f + 1, h, pos, hp => by
    rw [descend_succ]
    split
    · rename_i hc
      have hcn := (minChild_spec h pos hc).2.1
      have ih := descend_perm f (swap h pos (minChild h pos)) (minChild h pos) (by rw [swap_length]; exact hcn)
      exact ⟨ih.1.trans (swap_perm h pos _ hp hcn), ih.2⟩
    · exact ⟨Perm.refl h, hp⟩

theorem siftup_hole (h : H) (i : Nat) (hp : Hole i h i) : HeapFrom (siftup h i) i := by
  unfold siftup
  dsimp only
  obtain ⟨hd, hleaf⟩ := descend_ok i h.length h i (by omega) hp
  apply siftdown_ok i _ _ _ (Nat.lt_succ_self _) hd
  intro j hj1 hjn hpj
  have := (par_eq_iff hj1).mp hpj
  omega

/-- the hole is filled by a placeholder due at 0 (`dflt.t = 0`) -/
theorem siftup_ok (h : H) (i : Nat) (hi : i < h.length) (hh : HeapFrom h (i + 1)) : HeapFrom (siftup h i) i :=
  siftup_hole h i ⟨Sub.refl, hi, dflt, heapFrom_set hi dflt
    (fun j hj1 hjn hdom _ hne => hh j hj1 hjn (Nat.lt_of_le_of_ne hdom (Ne.symm hne)))
    (fun hlt => absurd hlt (Nat.lt_irrefl i)) (fun _ _ _ _ => Nat.zero_le _)⟩

theorem siftup_perm (h : H) (pos : Nat) (hp : pos < h.length) : (siftup h pos).Perm h := by
  unfold siftup
  dsimp only
  obtain ⟨a, b⟩ := descend_perm h.length h pos hp
  exact (siftdown_perm pos _ _ _ b).trans a

theorem heappush_perm (h : H) (x : Entry) : (heappush h x).Perm (x :: h) := by
  unfold heappush
  exact (siftdown_perm 0 _ _ _ (by simp)).trans (perm_append_comm)

theorem heappush_length (h : H) (x : Entry) : (heappush h x).length = h.length + 1 :=
  (heappush_perm h x).length_eq

theorem heappush_ok (h : H) (x : Entry) (hh : HeapFrom h 0) : HeapFrom (heappush h x) 0 := by
  unfold heappush
  have hlen : (h ++ [x]).length = h.length + 1 := length_append
  have hkids : ∀ v, LeChildren (h ++ [x]) h.length v := by
    intro v j hj1 hjn hpj
    have := par_lt hj1
    omega
  -- with its parent's entry in place of `x` the list is a heap
  refine siftdown_ok 0 _ _ _ (Nat.lt_succ_self _) ⟨Sub.zero _, by omega, at_ (h ++ [x]) (par h.length),
    heapFrom_set (by omega) _ (fun j hj1 hjn _ hne _ => ?_) (fun _ => Nat.le_refl _) (hkids _)⟩ (hkids _)
  have hjn' : j < h.length := by omega
  unfold Rel
  rw [at_append_left h x j hjn', at_append_left h x _ (Nat.lt_of_le_of_lt (par_le j) hjn')]
  exact hh j hj1 hjn' (Nat.zero_le _)

theorem heapifyFrom_ok : ∀ (i : Nat) (h : H), i ≤ h.length → HeapFrom h i →
    HeapFrom (heapifyFrom i h) 0 ∧ (heapifyFrom i h).Perm h
  | 0, h, _, hh => ⟨hh, Perm.refl h⟩
  | i + 1, h, hi, hh => by
    unfold heapifyFrom
    have hs := siftup_perm h i (by omega)
    have ih := heapifyFrom_ok i (siftup h i) (by rw [hs.length_eq]; omega) (siftup_ok h i (by omega) hh)
    exact ⟨ih.1, ih.2.trans hs⟩

theorem heapFrom_half (h : H) : HeapFrom h (h.length / 2) := by
  intro j hj1 hjn hdom
  unfold par at hdom
  omega

theorem heapify_perm (h : H) : (heapify h).Perm h :=
  (heapifyFrom_ok _ h (Nat.div_le_self _ _) (heapFrom_half h)).2

theorem heapify_ok (h : H) : HeapFrom (heapify h) 0 :=
  (heapifyFrom_ok _ h (Nat.div_le_self _ _) (heapFrom_half h)).1

theorem HeapFrom.of_concat {h : H} {x : Entry} {k : Nat} (hh : HeapFrom (h ++ [x]) k) : HeapFrom h k := by
  intro j hj1 hjn hdom
  have := hh j hj1 (by rw [length_append]; exact Nat.lt_succ_of_lt hjn) hdom
  unfold Rel at this ⊢
  rw [at_append_left h x j hjn, at_append_left h x _ (Nat.lt_of_le_of_lt (par_le j) hjn)] at this
  exact this

theorem heappop_cons_concat (a last : Entry) (tl : H) :
    heappop (a :: (tl ++ [last])) = some (a, siftup (last :: tl) 0) := by
  rw [← cons_append]
  unfold heappop
  rw [getLast?_concat, dropLast_concat]
  rfl

end C18.Heap
