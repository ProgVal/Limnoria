/-
C18 — property theorems.

Vocabulary: `P` = the bodies of the event functions (each a list of scheduler calls, possibly
ending in a raise); `runOps P s ops = some (s', tr)` = the operations `ops` (addEvent,
removeEvent, rescheduleEvent, addPeriodicEvent, run — with whatever choices the heap made among
equal due times —, clock ticks, reset) lead from `s` to `s'` emitting the trace `tr`;
every successful `addEvent` gets a registration id (`registered`), kept by `rescheduleEvent`.
-/
import LimnoriaModel.C18.ArgsInv
import LimnoriaModel.C18.PluginCons
import LimnoriaModel.C18.Threads
import LimnoriaModel.C18.HeapLemmas
import LimnoriaModel.C18.HeapHole
import LimnoriaModel.C18.Refine
import LimnoriaModel.C18.Loop
import LimnoriaModel.Gen.SchedLock
namespace C18
open Py List

/-! ## the heap and the dict stay consistent; `run()` never raises -/

/-- **Invariant of every reachable state**: the scheduled names are exactly the keys of `events`
and no name is scheduled twice — whatever the event functions do while running. -/
theorem name_invariant (P : Prog) (now : Nat) (ops : List Op) (r : Sched × List Ev)
    (h : runOps P (init now) ops = some r) : NameInv r.1 :=
  runOps_lift nameLiftsOps P ops _ r h (init_nameInv now) (init_nameInv now)

/-- **`run()` never raises** (so `drivers.run` never removes the Schedule driver): in a state
satisfying the invariant, `self.events.pop(name)` always finds the function — for every order
in which the heap hands out the due entries and every program of event functions. -/
theorem run_never_raises (P : Prog) (s : Sched) (hi : NameInv s) (picks : List Name) (s' : Sched)
    (evs : List Ev) : runPicks P s picks ≠ .crashed s' evs :=
  runPicks_not_crashed hi

/-! ## exactly once -/

/-- **Conservation of registrations**: over any history from a fresh schedule, the registrations
made are exactly (as multisets) those that fired, those removed, those discarded by `reset()` and
those still scheduled. -/
theorem conservation (P : Prog) (now : Nat) (ops : List Op) (r : Sched × List Ev)
    (h : runOps P (init now) ops = some r) :
    (regOf r.2).Perm (firedOf r.2 ++ removedOf r.2 ++ discOf r.2 ++ rids r.1.sched) :=
  (runOps_lift conservesLifts P ops _ r h (init_nameInv now)).perm rfl

/-- registration ids are handed out consecutively: none is used twice -/
theorem registrations_distinct (P : Prog) (now : Nat) (ops : List Op) (r : Sched × List Ev)
    (h : runOps P (init now) ops = some r) : (regOf r.2).Nodup :=
  (runOps_lift freshLifts P ops _ r h (init_nameInv now)).nodup

/-- **Exactly once.**  Every registration is in exactly one of these places, once: fired,
removed, discarded by `reset()`, still scheduled.  In particular no event fires twice, a removed
event never fires, and an event that is still scheduled has not fired. -/
theorem exactly_once (P : Prog) (now : Nat) (ops : List Op) (r : Sched × List Ev)
    (h : runOps P (init now) ops = some r) :
    (firedOf r.2 ++ removedOf r.2 ++ discOf r.2 ++ rids r.1.sched).Nodup :=
  (conservation P now ops r h).nodup_iff.mp (registrations_distinct P now ops r h)

theorem removed_never_run (P : Prog) (now : Nat) (ops : List Op) (r : Sched × List Ev)
    (h : runOps P (init now) ops = some r) (x : Nat) (hx : x ∈ removedOf r.2) : x ∉ firedOf r.2 := by
  have := exactly_once P now ops r h
  simp only [append_assoc] at this
  have := (nodup_append.mp this).2.2
  intro hf
  exact this x hf x (by simp [hx]) rfl

theorem fired_at_most_once (P : Prog) (now : Nat) (ops : List Op) (r : Sched × List Ev)
    (h : runOps P (init now) ops = some r) : (firedOf r.2).Nodup := by
  have := exactly_once P now ops r h
  simp only [append_assoc] at this
  exact (nodup_append.mp this).1

/-- every registration that fired was registered -/
theorem fired_were_registered (P : Prog) (now : Nat) (ops : List Op) (r : Sched × List Ev)
    (h : runOps P (init now) ops = some r) (x : Nat) (hx : x ∈ firedOf r.2) : x ∈ regOf r.2 :=
  (conservation P now ops r h).mem_iff.mpr (by simp [hx])

/-! ## not early, nothing due left behind -/

/-- **One `run()`**: whatever the heap's choices among equal due times, every event fired by the
loop had its due time strictly before the current time (never early), each pick was an entry of
minimal due time (`runPicks` accepts nothing else — time order), the clock is untouched, and when
the loop ends no scheduled event is due: every event due before `now` — also those added or
rescheduled into the past by the functions that ran — has run. -/
theorem run_not_early_and_complete (P : Prog) (s s' : Sched) (picks : List Name) (evs : List Ev)
    (h : runPicks P s picks = .ok s' evs) :
    s'.now = s.now ∧ (∀ e ∈ s'.sched, s.now ≤ e.t) ∧
    (∀ rid due now fn a, Ev.fired rid due now fn a ∈ evs → due < now ∧ now = s.now ∧ rid ≠ none) :=
  runPicks_times P picks s s' evs h

/-- **Time order**: the entry an iteration of the loop fires has the least due time of all
scheduled entries at that moment; the rest of the run starts from the state its function left. -/
theorem run_fires_minimum (P : Prog) (s : Sched) (p : Name) (ps : List Name) (s' : Sched) (evs : List Ev)
    (h : runPicks P s (p :: ps) = .ok s' evs) :
    ∃ e f d evs2, e ∈ s.sched ∧ e.name = p ∧ e.t < s.now ∧ (∀ x ∈ s.sched, e.t ≤ x.t) ∧
      dictPop s.events p = some (f, d) ∧
      runPicks P (call P { s with sched := s.sched.erase e, events := d } f (some e.rid) e.t e.args).1 ps
        = .ok s' evs2 ∧
      evs = (call P { s with sched := s.sched.erase e, events := d } f (some e.rid) e.t e.args).2.1 ++ evs2 := by
  obtain ⟨e, f, d, evs2, hl, hmem, hn, hmin, hp, hrec, hev⟩ := runPicks_cons_ok h
  exact ⟨e, f, d, evs2, hmem, hn, pick_due hl hmin, minDue_le _ _ hmin.symm, hp, hrec, hev⟩

/-! ## raising functions, periodic events -/

/-- **A function that raises ends only its own body**: the calls it made before the raise stay
in effect, nothing after the raise happens — and (`run_fires_minimum`) the loop goes on with
the next due entry from exactly that state: `except Exception` swallows it. -/
theorem raise_ends_only_its_body : ∀ (acts rest : List Act) (s : Sched),
    (execActs s acts).2.2 = none →
    execActs s (acts ++ Act.raise :: rest) =
      ((execActs s acts).1, (execActs s acts).2.1 ++ [Ev.failed .raised], some .raised) :=
  fun acts rest s h => by
    rw [execActs_append acts _ s h]
    rfl

/-- **A periodic event keeps recurring even when its function raises**: when the wrapper runs
with occurrences left (`count` None or > 1), whatever its function's body did — completed or
raised — it registers its next occurrence at `now + period` under its name with the count
decreased, and returns normally, provided the name is free at that moment (its own function has
not taken it). -/
theorem periodic_recurs (P : Prog) (s : Sched) (fn period : Nat) (name : Option Name) (wargs : Args)
    (count : Option Nat) (rid : Option Nat) (due : Nat) (args : Args)
    (hagain : count = none ∨ ∃ c, count = some c ∧ 1 < c)
    (hfree : hasKey (execActs s (body P fn)).1.events
      (match name with
        | none => .num (execActs s (body P fn)).1.counter
        | some n => n) = false) :
    let res := call P s (.wrapper fn period name wargs count) rid due args
    let nm : Name := match name with
      | none => .num (execActs s (body P fn)).1.counter
      | some n => n
    res.2.2 = none ∧ (nm, FnRef.wrapper fn period name wargs (count.map (· - 1))) ∈ res.1.events ∧
    ∃ e ∈ res.1.sched, e.name = nm ∧ e.t = s.now + period := by
  have hnow := (execActs_lift quietLifts (body P fn) s).1
  have hag : again (count.map (· - 1)) = true := by
    rcases hagain with rfl | ⟨c, rfl, hc⟩
    · rfl
    · simp [again]; omega
  -- with occurrences left and the name free, `call` and `addEvent` compute to the new entry
  cases name <;> simp [call, hag, addEvent, hfree, hnow]

/-! ## with the arguments it was registered with -/

/-- **An event fires with the function and the arguments of its registration** — also after any
number of `rescheduleEvent` calls (which, since the repair, carry the arguments over).  For a
periodic wrapper the function and arguments are those given to `addPeriodicEvent`.
(Registration ids are unique, `registrations_distinct`, so "its registration" is well defined.) -/
theorem args_preserved (P : Prog) (now : Nat) (ops : List Op) (r : Sched × List Ev)
    (h : runOps P (init now) ops = some r) (rid due t fn : Nat) (a : Args)
    (hf : Ev.fired (some rid) due t fn a ∈ r.2) :
    ∃ f regArgs, (rid, f, regArgs) ∈ regTable r.2 ∧
      ((f = .plain fn ∧ a = regArgs) ∨ ∃ p n c, f = .wrapper fn p n a c) := by
  have := (runOps_args P ops (init now) r [] h (init_nameInv now) nofun).2
  simp only [nil_append] at this
  exact this rid due t fn a hf

/-- … and the scheduled entries always carry the arguments of their registration, `events` its
function (the invariant behind `args_preserved`) -/
theorem scheduled_match_registration (P : Prog) (now : Nat) (ops : List Op) (r : Sched × List Ev)
    (h : runOps P (init now) ops = some r) : ArgsInv r.1 (regTable r.2) := by
  have := (runOps_args P ops (init now) r [] h (init_nameInv now) nofun).1
  simpa using this

/-- **A rescheduled event runs once, at the new time.**  In a reachable state, rescheduling a
scheduled event succeeds and changes exactly that entry: same registration (so, by `exactly_once`,
it still fires at most once), same arguments, the new due time (so, by
`run_not_early_and_complete`, it fires only after the new time has passed and is not left behind
once it has); every other entry is untouched. -/
theorem reschedule_moves_entry (s : Sched) (hi : NameInv s) (e : Entry) (he : e ∈ s.sched) (t : Nat) :
    (reschedOp s e.name t).2.2 = none ∧
    (reschedOp s e.name t).2.1 = [Ev.rescheduled e.rid t] ∧
    (reschedOp s e.name t).1.sched =
      s.sched.filter (fun x => !(x.name = e.name)) ++ [⟨t, e.name, e.args, e.rid⟩] := by
  have hgone : gone s e.name = [e] := filter_key_eq hi.schedNodup he
  rcases reschedOp_cases s e.name t with ⟨hk, _⟩ | ⟨f, _, h⟩
  · exact absurd ((hi.same _).mp (mem_map.mpr ⟨e, he, rfl⟩)) hk
  · rw [h, hgone]
    exact ⟨rfl, rfl, rfl⟩

/-! ## non-vacuity -/

/-- fn0 re-adds an overdue one-shot and reschedules "b"; fn1 raises after scheduling; fn2 is quiet -/
def exProg : Prog :=
  [[.add 2 (.abs 990) (some (.str ['z'])) [['q']], .resched (.str ['b']) (.rel 5)],
   [.add 2 (.rel 1) none [], .raise, .remove (.str ['b'])],
   []]

def exOps : List Op :=
  [.add 0 (.rel 2) (some (.str ['a'])) [['x']],
   .add 1 (.rel 2) (some (.str ['b'])) [['y'], ['*', '*', 'k', '=', 'v']],
   .add 2 (.rel 2) none [],
   .addPeriodic 1 3 (some (.str ['p'])) false [['w']] (some 2),
   .resched (.str ['b']) (.abs 1001),
   .remove (.num 0),
   .tick 3,
   .run [.str ['b'], .str ['a'], .str ['z']],
   .tick 2,
   .run [.str ['p'], .num 1],
   .tick 10,
   .run [.num 2, .str ['p']]]

-- the example history is an execution (ties resolved as listed) …
example : (runOps exProg (init 1000) exOps).isSome = true := by decide
-- … in which a rescheduled event with arguments, an overdue event added during the run, a raising
-- function and a periodic event (twice) all fire, and one event is removed:
example : (runOps exProg (init 1000) exOps).map (fun r => (firedOf r.2, removedOf r.2, rids r.1.sched)) =
    some ([1, 0, 5, 3, 4, 6, 7], [2], [8]) := by decide
example : (runOps exProg (init 1000) exOps).map (fun r => regOf r.2) = some [0, 1, 2, 3, 4, 5, 6, 7, 8] := by
  decide
-- `args_preserved`: registration 1 fired with the arguments given to addEvent, after being rescheduled
example : ∃ r, runOps exProg (init 1000) exOps = some r ∧
    Ev.fired (some 1) 1001 1003 1 [['y'], ['*', '*', 'k', '=', 'v']] ∈ r.2 := by
  refine ⟨(runOps exProg (init 1000) exOps).get (by decide), by simp, by decide⟩
-- `periodic_recurs`: a wrapper whose function raises, with occurrences left and a free name
example : (execActs (init 1000) (body exProg 1)).2.2 = some .raised ∧
    hasKey (execActs (init 1000) (body exProg 1)).1.events (.str ['p']) = false := by decide
-- `raise_ends_only_its_body`: a body with a successful prefix before its raise
example : (execActs (init 1000) [Act.add 2 (.rel 1) none []]).2.2 = none := by decide
-- `run_never_raises` / `name_invariant` hypotheses are met by `init`; `run_fires_minimum` and
-- `run_not_early_and_complete` by the runs above:
example : ∃ s' evs, runPicks exProg
    ((runOps exProg (init 1000) (exOps.take 7)).get (by decide)).1 [.str ['b'], .str ['a'], .str ['z']]
      = .ok s' evs := by
  have h : (match runPicks exProg ((runOps exProg (init 1000) (exOps.take 7)).get (by decide)).1
      [.str ['b'], .str ['a'], .str ['z']] with
    | .ok _ _ => true
    | _ => false) = true := by decide
  split at h
  · exact ⟨_, _, by assumption⟩
  · cases h

/-! ## heapq

`Heap.lean` models CPython's `heappush`, `heappop`, `heapify` (`_siftdown`, `_siftup`) on the list
of schedule entries with `mytuple`'s comparison (due times only).  `HeapFrom h 0` is the heap
invariant: no entry is earlier than its parent. -/

/-- **`heappush` keeps the heap invariant** and adds exactly the new entry -/
theorem heap_push_ok (h : Heap.H) (x : Entry) (hh : Heap.HeapFrom h 0) :
    Heap.HeapFrom (Heap.heappush h x) 0 ∧ (Heap.heappush h x).Perm (x :: h) :=
  ⟨Heap.heappush_ok h x hh, Heap.heappush_perm h x⟩

/-- **`heapify` makes a heap out of any list** (what `removeEvent` relies on after filtering) -/
theorem heap_heapify_ok (h : Heap.H) : Heap.HeapFrom (Heap.heapify h) 0 ∧ (Heap.heapify h).Perm h :=
  ⟨Heap.heapify_ok h, Heap.heapify_perm h⟩

/-- **`heappop` returns a minimum and keeps the invariant**: the entry it returns is not later than
any entry of the heap, the rest is a heap again and, with that entry, a permutation of the heap -/
theorem heap_pop_ok (h : Heap.H) (hh : Heap.HeapFrom h 0) (x : Entry) (h2 : Heap.H)
    (hp : Heap.heappop h = some (x, h2)) :
    Heap.HeapFrom h2 0 ∧ (∀ y ∈ h, x.t ≤ y.t) ∧ h.Perm (x :: h2) := by
  have hmin : ∀ y ∈ h, (Heap.at_ h 0).t ≤ y.t := by
    intro y hy
    obtain ⟨i, hi, e⟩ := mem_iff_getElem.mp hy
    rw [← e, ← Heap.at_eq_getElem h i hi]
    exact Heap.heap_min h hh i hi
  rcases h with _ | ⟨a, r⟩
  · cases hp
  · rcases eq_nil_or_concat r with e | ⟨tl, last, e⟩
    · subst e
      cases hp
      exact ⟨fun j _ hjn => absurd hjn (Nat.not_lt_zero j), hmin, Perm.refl _⟩
    · rw [e, concat_eq_append] at hp hmin hh ⊢
      rw [Heap.heappop_cons_concat] at hp
      cases hp
      have hlt : 0 < (last :: tl).length := Nat.succ_pos _
      -- with `x` back at the root, the list to be sifted is the heap without its last entry
      have hx : Heap.HeapFrom ((last :: tl).set 0 x) 0 := Heap.HeapFrom.of_concat (h := x :: tl) hh
      exact ⟨Heap.siftup_hole _ 0 ⟨Heap.Sub.refl, hlt, x, hx⟩, hmin,
        Perm.cons x (perm_append_comm.trans (Heap.siftup_perm _ 0 hlt).symm)⟩

/-- **The heap's choice is a valid pick**: when the heap holds the schedule, what `heappop` hands
to `run()` is an entry of the schedule of minimal due time — the condition `runPicks` and `popAtom`
put on a pick — so "heappop returns a minimum" is a theorem about the modelled heapq, not an
assumption; `run_fires_minimum` applies to every run of the real loop. -/
theorem heap_choice_is_valid_pick (h : Heap.H) (sched : List Entry) (hh : Heap.HeapFrom h 0)
    (hperm : h.Perm sched) (x : Entry) (h2 : Heap.H) (hp : Heap.heappop h = some (x, h2)) :
    x ∈ sched ∧ some x.t = minDue sched ∧ Heap.HeapFrom h2 0 ∧ h2.Perm (sched.erase x) := by
  obtain ⟨a, b, c⟩ := heap_pop_ok h hh x h2 hp
  have hxs : x ∈ sched := hperm.mem_iff.mp (c.mem_iff.mpr mem_cons_self)
  have hmin : ∀ y ∈ sched, x.t ≤ y.t := fun y hy => b y (hperm.mem_iff.mpr hy)
  exact ⟨hxs, (minDue_of_least sched x hxs hmin).symm, a,
    Perm.cons_inv ((c.symm.trans hperm).trans (perm_cons_erase hxs))⟩

-- a heap of five entries: push keeps it a heap, pop hands out the earliest
example : Heap.heappop (Heap.heappush (Heap.heapify [⟨5, .num 0, [], 0⟩, ⟨3, .num 1, [], 1⟩, ⟨9, .num 2, [], 2⟩,
      ⟨3, .num 3, [], 3⟩]) ⟨1, .num 4, [], 4⟩) =
    some (⟨1, .num 4, [], 4⟩, [⟨3, .num 3, [], 3⟩, ⟨3, .num 1, [], 1⟩, ⟨9, .num 2, [], 2⟩, ⟨5, .num 0, [], 0⟩]) := by
  decide

/-- **`heapq` as it is written** (Lib/heapq.py: `_siftdown` / `_siftup` move a hole and write the item
back once) computes the same lists as the swap model the theorems above are about: they are theorems
about the code as written; the driver of the differential heap stream runs the literal transcription. -/
theorem heapq_as_written (h : Heap.H) (x : Entry) :
    Heap.heappushC h x = Heap.heappush h x ∧ Heap.heappopC h = Heap.heappop h ∧
    Heap.heapifyC h = Heap.heapify h :=
  ⟨Heap.heappushC_eq h x, Heap.heappopC_eq h, Heap.heapifyC_eq h⟩

/-! ## threads and the lock -/

/-- **Where the lock is** (extracted from src/schedule.py on every run).  First conjunct: an operation is
inside `with self.lock:` iff it is not the call of the event function.  Then: the operations of `addEvent`,
`removeEvent`, `rescheduleEvent`, `reset` and `run` on the heap, the `events` dict and the counter that the
atoms of `Threads.lean` stand for are all there, locked. -/
theorem lock_placement_ok :
    Gen.schedLock.all (fun r => (r.2.1 == ['c', 'a', 'l', 'l']) != r.2.2) = true ∧
    Gen.schedLock.contains (['a', 'd', 'd', 'E', 'v', 'e', 'n', 't'], ['e', 'v', 'e', 'n', 't', 's', '.', 'c', 'o', 'n', 't', 'a', 'i', 'n', 's'], true) = true ∧
    Gen.schedLock.contains (['a', 'd', 'd', 'E', 'v', 'e', 'n', 't'], ['e', 'v', 'e', 'n', 't', 's', '.', 's', 'e', 't'], true) = true ∧
    Gen.schedLock.contains (['a', 'd', 'd', 'E', 'v', 'e', 'n', 't'], ['h', 'e', 'a', 'p', '.', 'h', 'e', 'a', 'p', 'p', 'u', 's', 'h'], true) = true ∧
    Gen.schedLock.contains (['r', 'e', 'm', 'o', 'v', 'e', 'E', 'v', 'e', 'n', 't'], ['e', 'v', 'e', 'n', 't', 's', '.', 'p', 'o', 'p'], true) = true ∧
    Gen.schedLock.contains (['r', 'e', 'm', 'o', 'v', 'e', 'E', 'v', 'e', 'n', 't'], ['h', 'e', 'a', 'p', '.', 'h', 'e', 'a', 'p', 'i', 'f', 'y'], true) = true ∧
    Gen.schedLock.contains (['r', 'u', 'n'], ['h', 'e', 'a', 'p', '.', 'p', 'e', 'e', 'k'], true) = true ∧
    Gen.schedLock.contains (['r', 'u', 'n'], ['h', 'e', 'a', 'p', '.', 'h', 'e', 'a', 'p', 'p', 'o', 'p'], true) = true ∧
    Gen.schedLock.contains (['r', 'u', 'n'], ['e', 'v', 'e', 'n', 't', 's', '.', 'p', 'o', 'p'], true) = true ∧
    Gen.schedLock.contains (['r', 'u', 'n'], ['c', 'a', 'l', 'l'], false) = true := by decide

/-- **`run()` racing with other threads**: for every interleaving of critical sections
(`addEvent`, `removeEvent`, iterations of `run()`, `reset`, by any number of threads, in the order
the lock is granted) the name invariant holds at every lock release — every prefix of an
interleaving is an interleaving —, `self.events.pop` inside `run()` never raises, and the books
balance: registrations are pairwise distinct and each is fired, removed, discarded or still
scheduled, exactly once; an iteration of `run()` tests "due" and pops in one critical section, so it
never fires early.  (False before the repairs of the lock placement: `removeEvent` popped the dict
before taking the lock, `addEvent` checked the name and `run` the due time before taking it.) -/
theorem threads_safe (now : Nat) (as : List Atom) :
    match arun (init now) as with
    | .ok s' evs => NameInv s' ∧ (firedOf evs ++ removedOf evs ++ discOf evs ++ rids s'.sched).Nodup
    | .crashed => False
    | .disabled => True := by
  have h := arun_good as (init now) (init_nameInv now)
  cases he : arun (init now) as with
  | disabled => trivial
  | crashed => rw [he] at h; exact h
  | ok s' evs =>
    rw [he] at h
    exact ⟨h.1, (h.2.1.perm rfl).nodup_iff.mp h.2.2.nodup⟩

-- a two-thread history: thread A removes "x" while thread B's run() pops it; whichever gets the lock
-- first, nothing breaks
example : (match arun (init 1000) [.add (.plain 0) 1005 (some (.str ['x'])) [], .tick 10, .pop (.str ['x']),
      .remove (.str ['x'])] with
    | .ok s' evs => decide (s'.sched = [] ∧ firedOf evs = [0])
    | _ => false) = true := by decide

/-! ## the driver loop -/

/-- **The Schedule driver is never removed**: `drivers.run()` drops a driver whose `run()` lets an
exception escape, for good.  Over every history of schedule API calls (from plugins, drivers, event
functions) and rounds of `drivers.run()` from a fresh schedule, `Schedule.run()` never raises, so
the driver is still in `drivers._drivers` at the end, and the name invariant holds. -/
theorem schedule_driver_stays (P : Prog) (now : Nat) (os : List LOp) (r : Loop × List Ev)
    (h : lrun P (linit now) os = some r) : r.1.alive = true ∧ NameInv r.1.s :=
  lrun_keeps P os (linit now) r h rfl (init_nameInv now)

/-- **Every round of `drivers.run()` completes the due work**: while the driver is in the loop, one
round leaves no scheduled event due — whatever the functions that ran scheduled meanwhile — and
the driver stays. -/
theorem drivers_round_completes (P : Prog) (l : Loop) (picks : List Name) (r : Loop × List Ev)
    (h : driversRun P l picks = some r) (ha : l.alive = true) (hi : NameInv l.s) :
    r.1.alive = true ∧ (∀ e ∈ r.1.s.sched, l.s.now ≤ e.t) :=
  have := driversRun_keeps P l picks r h ha hi
  ⟨this.1, this.2.2.2⟩

/-! ## the Scheduler plugin on top of the schedule

`Plug.prun s ops` runs commands of the plugin (`scheduler add/remind/remove/repeat/list`), plugin
life-cycle operations (load, unload, reload, a restart of the bot, `_flush`), other plugins'
scheduling, clock ticks and `schedule.run()` on the model of plugins/Scheduler/plugin.py
(`Plugin.lean`); keys of the plugin's table are `Key.id n` (the string `str(n)` of a one-shot
event's integer id, scheduled under the *integer* name `Name.num n`) or `Key.name s` (a repeating
event, scheduled under the *string* `Name.str s`). -/

open Plug in
/-- **Invariant of every reachable state of bot + plugin** (`Plug.PInv`, `Plug.PickleInv`): the
scheduled names are pairwise distinct; counter names and table ids are below the counter; the
table's keys are distinct and its ids ascending; every scheduled closure of the plugin belongs to
the *live* instance, sits under the name of its key (`int` for one-shot events) and has its entry —
with its due time and command — in that instance's table; every table entry has its closure
scheduled; an unloaded plugin has nothing scheduled and its saved table is well formed. -/
theorem plugin_invariant (now : Nat) (ops : List Plug.POp) (r : Plug.PState × List Plug.PEv)
    (h : Plug.prun (Plug.pinit now) ops = some r) : Plug.Inv r.1 :=
  (prun_inv ops _ r (pinit_inv now) h).1

open Plug in
/-- **The id discipline**: in every reachable state — in particular right after `_restoreEvents`,
after a reload as after a restart of the bot — every integer name in the schedule and every integer
id in the plugin's table is below `schedule.counter` (a restored id is kept only when the counter is
already past it; otherwise the event gets a new id and the counter moves on). -/
theorem ids_below_counter (now : Nat) (ops : List Plug.POp) (r : Plug.PState × List Plug.PEv)
    (h : Plug.prun (Plug.pinit now) ops = some r) :
    (∀ e ∈ r.1.sched, ∀ n, e.name = .num n → n < r.1.counter) ∧
    (∀ i rec, (Key.id i, rec) ∈ r.1.table → i < r.1.counter) :=
  have hi := (plugin_invariant now ops r h).1
  ⟨hi.numLt, fun i rec hm => (hi.idLt i rec hm).1⟩

open Plug in
/-- … hence **an anonymous `schedule.addEvent(f, t)` by any component never fails** (its
`assert name not in self.events` cannot fire): the counter name it takes is free, whatever was
restored before. -/
theorem anonymous_add_never_fails (now : Nat) (ops : List Plug.POp) (r : Plug.PState × List Plug.PEv)
    (h : Plug.prun (Plug.pinit now) ops = some r) (mk : Name → PFn) (t : Nat) :
    (addEv r.1 mk t none).2 = some (.num r.1.counter) := by
  rw [addEv_none_fresh (num_fresh (plugin_invariant now ops r h).1)]

open Plug in
/-- **No command runs on behalf of a dead plugin instance, none finds its table entry gone**
(the two ways the pinned tree ran events twice or not at all around reloads). -/
theorem plugin_no_stale_runs (now : Nat) (ops : List Plug.POp) (r : Plug.PState × List Plug.PEv)
    (h : Plug.prun (Plug.pinit now) ops = some r) :
    ∀ ev ∈ r.2, (∀ c t, ev ≠ .ranStale c t) ∧ (∀ c, ev ≠ .skipped c) := by
  intro ev hev
  have := (prun_inv ops _ r (pinit_inv now) h).2 ev hev
  constructor
  · intro c t e; subst e; cases this
  · intro c e; subst e; cases this

open Plug in
/-- **`reload Scheduler` with events pending** leaves the table as it was (same keys, same
records, same order), the counter untouched, the other plugins' entries in place, and schedules
exactly one new entry per saved event, owned by the new instance: a one-shot event `str(n)` under
the integer name `n` with its due time, a repeating event under its string name. -/
theorem reload_keeps_events (s : Plug.PState) (h : Plug.Inv s) (hl : s.loaded = true) :
    (Plug.reload s).1 = Plug.reloaded s ∧ Plug.Inv (Plug.reload s).1 :=
  ⟨reload_exact s h hl, reload_inv s h⟩

open Plug in
/-- … so every pending event is scheduled **exactly once** after the reload: the entries of the
schedule carrying the name of a table key are exactly one, the one built from that key's record. -/
theorem reload_each_exactly_once (s : Plug.PState) (h : Plug.Inv s) (hl : s.loaded = true)
    (k : Plug.Key) (r : Plug.Rec) (hk : (k, r) ∈ s.table) :
    (Plug.reload s).1.sched.filter (fun e => decide (e.name = k.toName))
      = [Plug.entryOf (s.inst + 1) s.now (k, r)] := by
  have hinv := reload_inv s h
  rw [reload_exact s h hl] at hinv ⊢
  have := filter_key_eq hinv.1.names (e := entryOf (s.inst + 1) s.now (k, r))
    (mem_append_right _ (mem_map.mpr ⟨(k, r), hk, rfl⟩))
  rwa [entryOf_name] at this

open Plug in
/-- the same for unload followed by load, and for any load of a saved table: the invariant holds
again, so each restored event is scheduled once, by the live instance (`plugin_invariant` covers
every interleaving; this is the single step) -/
theorem load_restores_invariant (s : Plug.PState) (h : Plug.Inv s) :
    Plug.Inv (Plug.load s).1 ∧ Plug.Inv (Plug.unload s).1 ∧ Plug.Inv (Plug.restart s).1 :=
  ⟨(pstep_inv s .load _ h rfl).1, (pstep_inv s .unload _ h rfl).1, (pstep_inv s .restart _ h rfl).1⟩

open Plug in
/-- **The whole-history law of the plugin layer**: over any interleaving of `scheduler
add/remind/remove/repeat/list`, load, unload, reload, restarts of the bot, `_flush`, other plugins'
scheduling, clock advances and `run()`, the one-shot commands users added are exactly (as
multisets) those that ran, those that were removed and those still pending — in the live table,
or in the saved one while the plugin is not loaded. -/
theorem plugin_conservation (now : Nat) (ops : List Plug.POp) (r : Plug.PState × List Plug.PEv)
    (h : Plug.prun (Plug.pinit now) ops = some r) :
    (Plug.addedCmds r.2).Perm (Plug.ranCmds r.2 ++ Plug.removedCmds r.2 ++ Plug.pendingCmds r.1) := by
  rw [perm_iff_count]
  intro x
  have := prun_bal ops _ r (pinit_inv now) h x
  simp only [count_append, pendingCmds, pinit, if_true, singles, count_nil] at *
  omega

open Plug in
/-- **Each added, never removed one-shot command runs exactly once** — at most once along the
way, and once it is neither pending nor removed it has run: when users give every command its own
text (`Nodup`), the commands that ran, were removed or are pending are pairwise distinct and are
exactly the added ones. -/
theorem plugin_exactly_once (now : Nat) (ops : List Plug.POp) (r : Plug.PState × List Plug.PEv)
    (h : Plug.prun (Plug.pinit now) ops = some r) (hd : (Plug.addedCmds r.2).Nodup) :
    (Plug.ranCmds r.2 ++ Plug.removedCmds r.2 ++ Plug.pendingCmds r.1).Nodup ∧
    ∀ c ∈ Plug.addedCmds r.2, c ∉ Plug.removedCmds r.2 → c ∉ Plug.pendingCmds r.1 → c ∈ Plug.ranCmds r.2 := by
  have hp := plugin_conservation now ops r h
  refine ⟨hp.nodup_iff.mp hd, fun c hc h1 h2 => ?_⟩
  exact (mem_append.mp ((mem_append.mp (hp.mem_iff.mp hc)).resolve_right h2)).resolve_right h1

/-! ### non-vacuity (plugin layer) -/

def exPlugOps : List Plug.POp :=
  [.add 10 1, .add 30 2, .repeat_ ['r', 'a'] 7 3 4, .foreign 9 1005, .reload, .remove (.id 0), .tick 12,
   .run [.num 2, .str ['r', 'a']], .unload, .tick 30, .run [], .load, .tick 1, .run [.num 1],
   .restart, .add 5 4, .tick 9, .run [.num 0]]

-- the history is an execution; event 1 (cmd 2) survives reload, unload/load (it is overdue when the
-- plugin comes back) and runs once; the removed event 0 (cmd 1) never runs; the repeating one runs
-- and is re-scheduled by every (re)load
example : (Plug.prun (Plug.pinit 1000) exPlugOps).map (fun r => r.2.filterMap fun
      | .ran _ c _ => some c
      | _ => none) = some [3, 2, 4] := by decide
-- `plugin_exactly_once`: the added commands of that history are pairwise distinct
example : (Plug.prun (Plug.pinit 1000) exPlugOps).map (fun r => (Plug.addedCmds r.2, Plug.removedCmds r.2)) =
    some ([1, 2, 4], [1]) := by decide
-- `reload_keeps_events` / `reload_each_exactly_once`: a loaded state with three pending events
example : ((Plug.prun (Plug.pinit 1000) (exPlugOps.take 4)).map fun r => (r.1.loaded, Plug.tkeys r.1.table)) =
    some (true, [.id 0, .id 1, .name ['r', 'a']]) := by decide

/-! ## `repeat`: when the next run is due -/

open Plug in
/-- **`_getNextRunIn`** (what `_restoreEvents` uses for a repeating event after a reload or restart):
the restored event is due strictly in the future, on the grid `first_run + k · period`. -/
theorem nextRunIn_on_grid (first now period : Nat) (hp : 0 < period) (hf : first ≤ now) :
    0 < nextRunIn first now period ∧
    (((now : Int) + (nextRunIn first now period : Nat)) - first) % (period : Int) = 0 := by
  have hpi : (0 : Int) < period := by omega
  have hm0 := Int.emod_nonneg ((now : Int) - first) (by omega : (period : Int) ≠ 0)
  have hm1 := Int.emod_lt_of_pos ((now : Int) - first) hpi
  have hd := Int.mul_ediv_add_emod ((now : Int) - first) period
  generalize hq : ((now : Int) - first) / period = q at hd
  generalize hm : ((now : Int) - first) % period = m at hd hm0 hm1
  unfold nextRunIn
  simp only [hm]
  by_cases h5 : (period : Int) - m < 5
  · simp only [h5, if_true]
    refine ⟨by omega, ?_⟩
    have : ((now : Int) + (((period : Int) - m + period).toNat : Nat)) - first
        = (period : Int) * (q + 2) := by
      rw [Int.mul_add]; omega
    rw [this]; exact Int.mul_emod_right _ _
  · simp only [h5, if_false]
    refine ⟨by omega, ?_⟩
    have : ((now : Int) + (((period : Int) - m).toNat : Nat)) - first = (period : Int) * (q + 1) := by
      rw [Int.mul_add]; omega
    rw [this]; exact Int.mul_emod_right _ _

-- **but a running repeat event is not kept on that grid**: the periodic wrapper re-schedules itself
-- `period` after the moment it RAN (`time.time() + t`), not after the moment it was due; `run()` called
-- 3 s late (the driver loop polls) moves this and every later run by 3 s (finding C18-repeat-drifts):
-- "every 10 s from 1000" runs at 1003 and is then due at 1013, not 1010
example : (Plug.prun (Plug.pinit 1000) [.repeat_ ['r'] 10 1 0, .tick 3, .run [.str ['r']]]).map
      (fun r => r.1.sched.map (·.t)) = some [1013] := by decide
-- … until the next reload or restart, which puts it back on the grid (1010)
example : (Plug.prun (Plug.pinit 1000) [.repeat_ ['r'] 10 1 0, .tick 3, .run [.str ['r']], .tick 1, .reload]).map
      (fun r => r.1.sched.map (·.t)) = some [1010] := by decide

/-! ## the plugin model refines the core scheduler model -/

open Plug in
/-- **Refinement**: the schedule inside the plugin model is the core scheduler driven through its API.
For every history of plugin operations from a fresh bot there is a sequence of core calls —
`addEvent`, `removeEvent`, heads of iterations of `run()` (each a *valid* pick of the core model: due
and of minimal due time), clock ticks, a new process at each restart — from the fresh core scheduler
to a core state with the same due times and names in the same order, the same counter and the same
clock (`Sim`); the core invariant holds there. -/
theorem plugin_refines_core (now : Nat) (ops : List Plug.POp) (r : Plug.PState × List Plug.PEv)
    (h : Plug.prun (Plug.pinit now) ops = some r) :
    ∃ calls c, coreRun (init now) calls = some c ∧ Sim r.1 c := by
  obtain ⟨c, ⟨calls, hc⟩, hs⟩ := prun_ref ops _ _ r (pinit_sim now) h
  exact ⟨calls, c, hc, hs⟩

open Plug in
/-- … hence what the core invariant says holds of the plugin's schedule, by transfer rather than by
a proof of its own: no name is scheduled twice. -/
theorem plugin_names_unique_by_refinement (now : Nat) (ops : List Plug.POp) (r : Plug.PState × List Plug.PEv)
    (h : Plug.prun (Plug.pinit now) ops = some r) : (snames r.1.sched).Nodup := by
  obtain ⟨_, c, _, hs⟩ := plugin_refines_core now ops r h
  rw [snames_eq hs]
  exact hs.inv.schedNodup

end C18
