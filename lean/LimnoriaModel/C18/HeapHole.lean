/-
C18 — CPython's `heapq` as written (Lib/heapq.py): `_siftdown` and `_siftup` keep the item being moved
in a local variable and shift the others into the "hole" it leaves, writing it back once at the end.
`Heap.lean` models the same walks with swaps.  Here the hole-moving code is modelled literally and
proved to produce the same list, so the theorems about the swap model (heap invariant kept, `heappop`
returns a minimum, permutation) are theorems about `heapq` as it is written — the differential heap
stream of the harness is then a check of the transcription only.
-/
import LimnoriaModel.C18.HeapLemmas
namespace C18.Heap
open Py List

/-- the `while pos > startpos` loop of `_siftdown`: `x` is `newitem`, `pos` the hole -/
def holeUp (startpos : Nat) (x : Entry) : Nat → H → Nat → H
  | 0, h, pos => h.set pos x
  | f + 1, h, pos =>
    if startpos < pos && lt x (at_ h (par pos)) then
      holeUp startpos x f (h.set pos (at_ h (par pos))) (par pos)     -- heap[pos] = parent; pos = parentpos
    else h.set pos x                                                   -- heap[pos] = newitem

/-- `_siftdown(heap, startpos, pos)` as written -/
def siftdownC (startpos fuel : Nat) (h : H) (pos : Nat) : H := holeUp startpos (at_ h pos) fuel h pos

/-- the `while childpos < endpos` loop of `_siftup`: returns the list and where the hole ended -/
def holeDown : Nat → H → Nat → H × Nat
  | 0, h, pos => (h, pos)
  | f + 1, h, pos =>
    let c := 2 * pos + 1
    if c < h.length then
      let c' := if c + 1 < h.length && !(lt (at_ h c) (at_ h (c + 1))) then c + 1 else c
      holeDown f (h.set pos (at_ h c')) c'                            -- heap[pos] = heap[childpos]; pos = childpos
    else (h, pos)

/-- `_siftup(heap, pos)` as written -/
def siftupC (h : H) (pos : Nat) : H :=
  let x := at_ h pos
  let r := holeDown h.length h pos
  siftdownC pos (r.2 + 1) (r.1.set r.2 x) r.2       -- heap[pos] = newitem; _siftdown(heap, startpos, pos)

def heappushC (h : H) (x : Entry) : H := siftdownC 0 (h.length + 1) (h ++ [x]) h.length

def heappopC (h : H) : Option (Entry × H) :=
  match h.getLast? with
  | none => none
  | some last =>
    let h' := h.dropLast
    if h'.isEmpty then some (last, []) else some (at_ h' 0, siftupC (h'.set 0 last) 0)

def heapifyFromC : Nat → H → H
  | 0, h => h
  | i + 1, h => heapifyFromC i (siftupC h i)

def heapifyC (h : H) : H := heapifyFromC (h.length / 2) h

theorem swap_set (h : H) (x : Entry) (i j : Nat) (hi : i < h.length) (hij : i ≠ j) :
    swap (h.set i x) i j = (h.set i (at_ h j)).set j x := by
  unfold swap
  rw [at_set_eq hi, at_set_ne hij, List.set_set]

theorem holeUp_eq (startpos : Nat) (x : Entry) : ∀ (f : Nat) (h : H) (pos : Nat), pos < h.length →
    holeUp startpos x f h pos = siftdown startpos f (h.set pos x) pos
  | 0, h, pos, _ => rfl
  | f + 1, h, pos, hp => by
    unfold holeUp siftdown
    rw [at_set_eq hp]
    by_cases hs : startpos < pos
    · have hpp : par pos < pos := par_lt (by omega)
      rw [at_set_ne (Nat.ne_of_gt hpp), swap_set h x pos (par pos) hp (Nat.ne_of_gt hpp),
        holeUp_eq startpos x f _ (par pos) (by rw [length_set]; omega)]
    · simp only [hs, decide_false, Bool.false_and, Bool.false_eq_true, if_false]

theorem siftdownC_eq (startpos f : Nat) (h : H) (pos : Nat) (hp : pos < h.length) :
    siftdownC startpos f h pos = siftdown startpos f h pos := by
  unfold siftdownC
  rw [holeUp_eq startpos _ f h pos hp, set_at_self h pos hp]

theorem holeDown_succ (f : Nat) (h : H) (pos : Nat) : holeDown (f + 1) h pos =
    if 2 * pos + 1 < h.length then holeDown f (h.set pos (at_ h (minChild h pos))) (minChild h pos)
    else (h, pos) := rfl

theorem minChild_set (h : H) (x : Entry) (pos : Nat) : minChild (h.set pos x) pos = minChild h pos := by
  unfold minChild
  rw [length_set, at_set_ne (j := 2 * pos + 1) (by omega), at_set_ne (j := 2 * pos + 1 + 1) (by omega)]

theorem holeDown_eq (x : Entry) : ∀ (f : Nat) (h : H) (pos : Nat), pos < h.length →
    descend f (h.set pos x) pos = (((holeDown f h pos).1).set (holeDown f h pos).2 x, (holeDown f h pos).2)
  | 0, h, pos, _ => rfl
  | f + 1, h, pos, hp => by
    rw [descend_succ, holeDown_succ, minChild_set, length_set]
    by_cases hc : 2 * pos + 1 < h.length
    · obtain ⟨hpc, hcn, _, _⟩ := minChild_spec h pos hc
      rw [if_pos hc, if_pos hc, swap_set h x pos _ hp (by omega)]
      exact holeDown_eq x f _ _ (by rw [length_set]; exact hcn)
    · rw [if_neg hc, if_neg hc]

theorem siftupC_eq (h : H) (pos : Nat) (hp : pos < h.length) : siftupC h pos = siftup h pos := by
  have hd := holeDown_eq (at_ h pos) h.length h pos hp
  have hlt := (descend_perm h.length h pos hp).2
  rw [set_at_self h pos hp] at hd
  rw [hd] at hlt
  unfold siftupC siftup
  dsimp only
  rw [hd]
  exact siftdownC_eq _ _ _ _ hlt

theorem heappushC_eq (h : H) (x : Entry) : heappushC h x = heappush h x :=
  siftdownC_eq _ _ _ _ (by simp)

theorem heappopC_eq (h : H) : heappopC h = heappop h := by
  unfold heappopC heappop
  cases hl : h.getLast? with
  | none => rfl
  | some last =>
    dsimp only
    split
    · rfl
    · rename_i hne
      have : 0 < h.dropLast.length := length_pos_iff.mpr (fun e => hne (isEmpty_iff.mpr e))
      rw [siftupC_eq _ 0 (by rw [length_set]; exact this)]

theorem heapifyFromC_eq : ∀ (i : Nat) (h : H), i ≤ h.length → heapifyFromC i h = heapifyFrom i h
  | 0, _, _ => rfl
  | i + 1, h, hi => by
    unfold heapifyFromC heapifyFrom
    rw [siftupC_eq h i (by omega)]
    exact heapifyFromC_eq i _ (by rw [(siftup_perm h i (by omega)).length_eq]; omega)

theorem heapifyC_eq (h : H) : heapifyC h = heapify h :=
  heapifyFromC_eq _ h (Nat.div_le_self _ _)

end C18.Heap
