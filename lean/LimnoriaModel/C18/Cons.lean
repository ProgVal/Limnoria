/-
C18 — helper lemmas: conservation of registrations (registered = fired + removed + discarded +
still scheduled).
-/
import LimnoriaModel.C18.Lemmas
namespace C18
open Py List

def rids (l : List Entry) : List Nat := l.map (·.rid)

def regOf : List Ev → List Nat
  | [] => []
  | .registered r _ _ _ _ :: t => r :: regOf t
  | _ :: t => regOf t

def firedOf : List Ev → List Nat
  | [] => []
  | .fired (some r) _ _ _ _ :: t => r :: firedOf t
  | _ :: t => firedOf t

def removedOf : List Ev → List Nat
  | [] => []
  | .removed r :: t => r :: removedOf t
  | _ :: t => removedOf t

def discOf : List Ev → List Nat
  | [] => []
  | .discarded rs :: t => rs ++ discOf t
  | _ :: t => discOf t

/-- every way a registration leaves the schedule -/
def goneOf : List Ev → List Nat
  | [] => []
  | .fired (some r) _ _ _ _ :: t => r :: goneOf t
  | .removed r :: t => r :: goneOf t
  | .discarded rs :: t => rs ++ goneOf t
  | _ :: t => goneOf t

theorem regOf_append (a b : List Ev) : regOf (a ++ b) = regOf a ++ regOf b := by
  induction a with
  | nil => rfl
  | cons e r ih => cases e <;> simp [regOf, ih]

theorem goneOf_append (a b : List Ev) : goneOf (a ++ b) = goneOf a ++ goneOf b := by
  induction a with
  | nil => rfl
  | cons e r ih =>
    cases e with
    | fired rid _ _ _ _ => cases rid <;> simp [goneOf, ih]
    | _ => simp [goneOf, ih]

theorem firedOf_append (a b : List Ev) : firedOf (a ++ b) = firedOf a ++ firedOf b := by
  induction a with
  | nil => rfl
  | cons e r ih =>
    cases e with
    | fired rid _ _ _ _ => cases rid <;> simp [firedOf, ih]
    | _ => simp [firedOf, ih]

theorem removedOf_append (a b : List Ev) : removedOf (a ++ b) = removedOf a ++ removedOf b := by
  induction a with
  | nil => rfl
  | cons e r ih => cases e <;> simp [removedOf, ih]

theorem discOf_append (a b : List Ev) : discOf (a ++ b) = discOf a ++ discOf b := by
  induction a with
  | nil => rfl
  | cons e r ih => cases e <;> simp [discOf, ih]

theorem goneOf_count (x : Nat) (tr : List Ev) :
    count x (goneOf tr) = count x (firedOf tr) + count x (removedOf tr) + count x (discOf tr) := by
  induction tr with
  | nil => rfl
  | cons e r ih =>
    cases e with
    | fired rid _ _ _ _ =>
      cases rid <;> simp only [goneOf, firedOf, removedOf, discOf, count_cons_one, ih] <;> omega
    | _ => simp only [goneOf, firedOf, removedOf, discOf, count_cons_one, count_append, ih] <;> omega

/-- `count` of the projections of a trace, over `++` and `::`: linear for `omega` -/
macro "cnt" : tactic =>
  `(tactic| (simp only [rids, regOf, goneOf, regOf_append, goneOf_append, map_append, map_cons, map_nil,
      count_append, count_cons_one, count_nil] at * <;> omega))

/-- scheduled-before + registered = gone + scheduled-after (per registration id) -/
def Conserves (s : Sched) (s' : Sched) (evs : List Ev) : Prop :=
  ∀ x : Nat, count x (rids s.sched) + count x (regOf evs) = count x (goneOf evs) + count x (rids s'.sched)

theorem Conserves.refl (s : Sched) : Conserves s s [] := by intro x; cnt

theorem Conserves.trans {s s1 s2 : Sched} {e1 e2 : List Ev} (h1 : Conserves s s1 e1)
    (h2 : Conserves s1 s2 e2) : Conserves s s2 (e1 ++ e2) := by
  intro x
  have a := h1 x; have b := h2 x
  simp only [regOf_append, goneOf_append, count_append] at *
  omega

theorem Conserves.of_sched_eq {s s' : Sched} {evs : List Ev} (h : s'.sched = s.sched)
    (h1 : regOf evs = []) (h2 : goneOf evs = []) : Conserves s s' evs := by
  intro x; rw [h, h1, h2]; simp

theorem Conserves.perm {s s' : Sched} {evs : List Ev} (h : Conserves s s' evs) (h0 : s.sched = []) :
    (regOf evs).Perm (firedOf evs ++ removedOf evs ++ discOf evs ++ rids s'.sched) := by
  rw [perm_iff_count]
  intro x
  have hc := h x
  have hg := goneOf_count x evs
  simp only [count_append, h0, rids, map_nil, count_nil] at *
  omega

theorem count_filter_split (l : List Entry) (p : Entry → Bool) (x : Nat) :
    count x (rids l) = count x (rids (l.filter p)) + count x (rids (l.filter (fun e => !p e))) := by
  induction l with
  | nil => rfl
  | cons e es ih =>
    cases h : p e <;> simp only [rids, filter_cons, h, map_cons, count_cons_one, Bool.not_false,
      Bool.not_true, if_true, if_false, Bool.false_eq_true] at * <;> omega

theorem count_gone_without (s : Sched) (n : Name) (x : Nat) :
    count x (rids s.sched) = count x (rids (gone s n)) + count x (rids (without s n).sched) :=
  count_filter_split s.sched (fun e => decide (e.name = n)) x

theorem count_erase (l : List Entry) (e : Entry) (he : e ∈ l) (x : Nat) :
    count x (rids l) = one x e.rid + count x (rids (l.erase e)) := by
  have := ((perm_cons_erase he).map (·.rid)).count_eq x
  simpa only [rids, map_cons, count_cons_one] using this

theorem dropLast_getLast {l : List Entry} {e : Entry} (h : l.getLast? = some e) : l.dropLast ++ [e] = l := by
  obtain ⟨ys, rfl⟩ := getLast?_eq_some_iff.mp h
  rw [dropLast_concat]

theorem removed_gone (l : List Entry) (x : Nat) :
    count x (goneOf (l.map fun e => Ev.removed e.rid)) = count x (rids l) := by
  induction l with
  | nil => rfl
  | cons a l ih => simp only [map_cons, goneOf, rids, count_cons_one] at *; omega

theorem removed_reg (l : List Entry) : regOf (l.map fun e => Ev.removed e.rid) = [] := by
  induction l with
  | nil => rfl
  | cons a l ih => simpa [regOf] using ih

/-- every operation conserves registrations; the pick of an iteration of `run()` counts as fired -/
theorem conservesLifts : LiftsOps Conserves where
  refl := Conserves.refl
  trans := Conserves.trans
  add s f t name args := by
    obtain ⟨c, nm, ⟨_, h⟩ | ⟨_, h⟩⟩ := addEvent_cases s f t name args <;> rw [h]
    · exact Conserves.of_sched_eq rfl rfl rfl
    · intro x; cnt
  remove s n := by
    rcases removeOp_cases s n with ⟨_, h⟩ | ⟨_, h⟩ <;> rw [h]
    · exact Conserves.of_sched_eq rfl rfl rfl
    · intro x
      have := count_gone_without s n x
      simp only [removed_gone, removed_reg]
      cnt
  resched s n t := by
    rcases reschedOp_cases s n t with ⟨_, h⟩ | ⟨f, _, h⟩ <;> rw [h]
    · exact Conserves.of_sched_eq rfl rfl rfl
    · intro x
      have h1 := count_gone_without s n x
      split
      · rename_i e hl
        -- the entry that comes back is the last of those taken out
        have h2 := congrArg (fun l => count x (rids l)) (dropLast_getLast hl)
        simp only [regOf_append, goneOf_append, count_append, removed_gone, removed_reg] at *
        cnt
      · rename_i hl
        rw [getLast?_eq_none_iff.mp hl] at h1
        cnt
  raised s := Conserves.of_sched_eq rfl rfl rfl
  pop s e f d hmem _ _ _ := by
    intro x
    have := count_erase s.sched e hmem x
    cnt
  fireNow s fn a := Conserves.of_sched_eq rfl rfl rfl
  tick s dt := Conserves.of_sched_eq rfl rfl rfl
  reset s := by intro x; cnt

end C18
