/-
C04 — "two accounts can never own overlapping masks" as an invariant of every history:
no operation leaves two different accounts with masks that have a hostmask (without LF) in common.
-/
import LimnoriaModel.C04.Footprint
import LimnoriaModel.C04.Glob
namespace C04
open Py C03

/-- every mask of `b` is a mask of the same account in `a` -/
def MasksFrom (a b : List User) : Prop :=
  ∀ u' ∈ b, ∀ m ∈ u'.hostmasks, ∃ u ∈ a, u.id = u'.id ∧ m ∈ u.hostmasks

/-- no hostmask (without LF — IRC prefixes have none) is matched by masks of two different accounts -/
def NoCommon (l : List User) : Prop :=
  ∀ u ∈ l, ∀ v ∈ l, u.id ≠ v.id → ∀ p ∈ u.hostmasks, ∀ q ∈ v.hostmasks,
    ∀ s, '\n' ∉ s → ¬ (glob p s = true ∧ glob q s = true)

/-- the same, for the pairs that do not involve account `id` -/
def NoCommonExcept (l : List User) (id : Nat) : Prop :=
  ∀ u ∈ l, ∀ v ∈ l, u.id ≠ v.id → u.id ≠ id → v.id ≠ id → ∀ p ∈ u.hostmasks, ∀ q ∈ v.hostmasks,
    ∀ s, '\n' ∉ s → ¬ (glob p s = true ∧ glob q s = true)

theorem NoCommon.except {l : List User} (h : NoCommon l) (id : Nat) : NoCommonExcept l id :=
  fun u hu v hv hne _ _ => h u hu v hv hne

theorem masksFrom_refl (a : List User) : MasksFrom a a := fun u' hu m hm => ⟨u', hu, rfl, hm⟩

theorem masksFrom_trans {a b c : List User} (h1 : MasksFrom a b) (h2 : MasksFrom b c) : MasksFrom a c := by
  intro u' hu m hm
  obtain ⟨v, hv, hid, hmv⟩ := h2 u' hu m hm
  obtain ⟨w, hw, hid', hmw⟩ := h1 v hv m hmv
  exact ⟨w, hw, hid'.trans hid, hmw⟩

theorem noCommon_of_masksFrom {a b : List User} (h : NoCommon a) (hm : MasksFrom a b) : NoCommon b := by
  intro u hu v hv hne p hp q hq s hs
  obtain ⟨u0, hu0, e1, hp0⟩ := hm u hu p hp
  obtain ⟨v0, hv0, e2, hq0⟩ := hm v hv q hq
  exact h u0 hu0 v0 hv0 (by rw [e1, e2]; exact hne) p hp0 q hq0 s hs

theorem noCommon_of_masksFrom_except {a b : List User} {id : Nat} (h : NoCommonExcept a id)
    (hm : MasksFrom a b) (hid : ∀ u ∈ b, u.id ≠ id) : NoCommon b := by
  intro u hu v hv hne p hp q hq s hs
  obtain ⟨u0, hu0, e1, hp0⟩ := hm u hu p hp
  obtain ⟨v0, hv0, e2, hq0⟩ := hm v hv q hq
  exact h u0 hu0 v0 hv0 (by rw [e1, e2]; exact hne) (by rw [e1]; exact hid u hu) (by rw [e2]; exact hid v hv)
    p hp0 q hq0 s hs

theorem masksFrom_put {l : List User} {u : User}
    (h : ∀ m ∈ u.hostmasks, ∃ v ∈ l, v.id = u.id ∧ m ∈ v.hostmasks) : MasksFrom l (putUser l u) := by
  intro u' hu m hm
  rcases C03.mem_putUser hu with e | e
  · subst e; exact h m hm
  · exact ⟨u', e, rfl, hm⟩

theorem removeOffending_masks (us : List User) (ids : List (Nat × CH)) :
    MasksFrom us (removeOffending us ids).1 :=
  removeOffending_induct (P := MasksFrom us)
    (fun _ u _ h hu hsub => masksFrom_trans h (masksFrom_put fun m hm => ⟨u, hu, rfl, hsub m hm⟩))
    (masksFrom_refl us) ids

theorem getUserId_masks (st : St) (s : Str) : MasksFrom st.db.users (getUserId st s).1.db.users := by
  rcases (getUserId_effect st s).2.2 with e | ⟨_, _, e, _⟩ <;> rw [e]
  · exact masksFrom_refl _
  · exact removeOffending_masks _ _

theorem afterNameLookup_masks (st : St) (u : User) : MasksFrom st.db.users (afterNameLookup st u).db.users :=
  getUserId_masks _ _

theorem finalRecord_masks (r : St) (u : User) (live : Bool) :
    ∀ m ∈ (finalRecord r u live).hostmasks,
      (∃ v ∈ r.db.users, v.id = u.id ∧ m ∈ v.hostmasks) ∨ m ∈ u.hostmasks := by
  intro m hm
  rcases finalRecord_cases r u live with e | e
  · exact Or.inr (e ▸ hm)
  · exact Or.inl ⟨_, e.1, e.2, hm⟩

theorem overlaps_false {users : List User} {t now : Int} {u : User} (h : overlaps users t now u = false) :
    ∀ hm ∈ u.hostmasks, ∀ v ∈ users, v.id ≠ u.id →
      maskHitsUser v t now hm = false ∧ ∀ o ∈ v.hostmasks, glob hm o = false ∧ intersect hm o = false := by
  unfold overlaps at h
  intro hm hhm
  simpa using List.any_eq_false.1 h hm hhm

/-- **`setUser` keeps the accounts' masks disjoint**: if, before the call, the masks of the
accounts other than `u.id` are pairwise disjoint, then afterwards all accounts' masks are — when it
accepts (the overlap test covered the stored record against everybody else), and also when it
refuses, provided the masks were disjoint including the stored record of `u.id`. -/
theorem setUser_noCommon {st : St} (hr : RecInv st) (u : User) (live : Bool)
    (hex : NoCommonExcept st.db.users u.id)
    (hfail : (setUser st u live).2 ≠ .ok () → NoCommon st.db.users) :
    NoCommon (setUser st u live).1.db.users := by
  have hm := afterNameLookup_masks st u
  have hinv := afterNameLookup_inv hr u
  rcases setUser_outcome st u live with ⟨_, hres, e⟩ | ⟨hres, e⟩ | ⟨_, e, hov⟩
  · rw [e]; exact hfail hres
  · rw [e]; exact noCommon_of_masksFrom (hfail hres) hm
  · rw [e]
    have hwid := finalRecord_id (afterNameLookup st u) u live
    -- masks of the final record against another account: the overlap test
    have hnew : ∀ v ∈ (afterNameLookup st u).db.users, v.id ≠ u.id →
        ∀ p ∈ (finalRecord (afterNameLookup st u) u live).hostmasks, ∀ q ∈ v.hostmasks,
        ∀ s, '\n' ∉ s → ¬ (glob p s = true ∧ glob q s = true) := by
      intro v hv hne p hp q hq s hs ⟨h1, h2⟩
      have := ((overlaps_false hov p hp v hv (hwid ▸ hne)).2 q hq).2
      rw [intersect_complete hs h1 h2] at this
      cases this
    intro x hx y hy hne p hp q hq s hs hboth
    rcases mem_putUser' hinv.recs.nodup hx with ex | ⟨hx', hxid⟩ <;>
      rcases mem_putUser' hinv.recs.nodup hy with ey | ⟨hy', hyid⟩
    · rw [ex, ey] at hne; exact hne rfl
    · rw [ex] at hp
      exact hnew y hy' (by rw [← hwid]; exact hyid) p hp q hq s hs hboth
    · rw [ey] at hq
      exact hnew x hx' (by rw [← hwid]; exact hxid) q hq p hp s hs ⟨hboth.2, hboth.1⟩
    · obtain ⟨x0, hx0, e1, hp0⟩ := hm x hx' p hp
      obtain ⟨y0, hy0, e2, hq0⟩ := hm y hy' q hq
      exact hex x0 hx0 y0 hy0 (by rw [e1, e2]; exact hne) (by rw [e1, ← hwid]; exact hxid)
        (by rw [e2, ← hwid]; exact hyid) p hp0 q hq0 s hs hboth

theorem setUser_masksFrom {st : St} {u : User} (hu : u ∈ st.db.users) (live : Bool) :
    MasksFrom st.db.users (setUser st u live).1.db.users := by
  have hm := afterNameLookup_masks st u
  rcases setUser_outcome st u live with ⟨_, _, e⟩ | ⟨_, e⟩ | ⟨_, e, _⟩ <;> rw [e]
  · exact masksFrom_refl _
  · exact hm
  · intro u' hu' m hmm
    rcases C03.mem_putUser hu' with e1 | e1
    · subst e1
      rw [finalRecord_id]
      rcases finalRecord_masks _ u live m hmm with ⟨v, hv, hid, hmv⟩ | h
      · obtain ⟨w, hw, hwid, hmw⟩ := hm v hv m hmv
        exact ⟨w, hw, hwid.trans hid, hmw⟩
      · exact ⟨u, hu, rfl, h⟩
    · exact hm u' e1 m hmm

theorem noCommonExcept_put {l : List User} (hnd : (l.map (fun u => u.id)).Nodup) (h : NoCommon l)
    (u : User) : NoCommonExcept (putUser l u) u.id := by
  intro x hx y hy hne hxid hyid p hp q hq s hs
  rcases mem_putUser' hnd hx with e | ⟨hx', _⟩
  · rw [e] at hxid; exact absurd rfl hxid
  · rcases mem_putUser' hnd hy with e | ⟨hy', _⟩
    · rw [e] at hyid; exact absurd rfl hyid
    · exact h x hx' y hy' hne p hp q hq s hs

theorem noCommon_put_sub {l : List User} (h : NoCommon l) {u : User}
    (hsub : ∀ m ∈ u.hostmasks, ∃ v ∈ l, v.id = u.id ∧ m ∈ v.hostmasks) : NoCommon (putUser l u) :=
  noCommon_of_masksFrom h (masksFrom_put hsub)

theorem delUser_masks (st : St) (id : Nat) : MasksFrom st.db.users (delUser st id).1.db.users := by
  rw [delUser_users]
  exact fun u' hu m hm => ⟨u', (List.mem_filter.1 hu).1, rfl, hm⟩

theorem delUser_no_id (st : St) (id : Nat) : ∀ u ∈ (delUser st id).1.db.users, u.id ≠ id := by
  rw [delUser_users]
  exact fun u hu => by simpa using (List.mem_filter.1 hu).2

theorem put_setUser_noCommon {st : St} (hnc : NoCommon st.db.users) (u1 : User) (live : Bool)
    (hrec : RecInv { st with db := st.db.putUser u1 })
    (hsub : ∀ m ∈ u1.hostmasks, ∃ v ∈ st.db.users, v.id = u1.id ∧ m ∈ v.hostmasks) :
    NoCommon (setUser { st with db := st.db.putUser u1 } u1 live).1.db.users := by
  have h1 : NoCommon ({ st with db := st.db.putUser u1 } : St).db.users := noCommon_put_sub hnc hsub
  exact setUser_noCommon hrec u1 live (h1.except _) (fun _ => h1)

theorem prim_noCommon {g : Grant} (hg : g.masks = []) {st st' : St} (hi : Inv st)
    (hnc : NoCommon st.db.users) (hp : Prim g st st') : NoCommon st'.db.users := by
  cases hp with
  | lookup s => exact noCommon_of_masksFrom hnc (getUserId_masks st s)
  | inval h => rw [(invalidateHost_db st h).1]; exact hnc
  | tick dt => exact hnc
  | del id _ => exact noCommon_of_masksFrom hnc (delUser_masks st id)
  | new hn _ =>
    rw [newNamed_eq hi.recs]
    refine noCommon_of_masksFrom hnc fun u' hu m hm => ?_
    rcases List.mem_append.1 hu with e | e
    · exact ⟨u', e, rfl, hm⟩
    · rw [List.mem_singleton.1 e] at hm; cases hm
  | set live _ _ => exact setUser_noCommon hi.recs _ live (hnc.except _) (fun _ => hnc)
  | @edit u u1 hu hid _ hm hn =>
    have hn1 : hasLineBreak u1.name = false := hn.elim (fun e => e ▸ hi.recs.names u hu) (·.1)
    refine put_setUser_noCommon hnc u1 true (recInv_put hi.recs hu hid hn1) fun m hmm => ?_
    exact ⟨u, hu, hid.symm, (hm m hmm).resolve_right (by rw [hg]; exact List.not_mem_nil)⟩
  | weak hu hid _ _ hm => exact noCommon_put_sub hnc fun m hmm => ⟨_, hu, hid.symm, hm m hmm⟩

/-- a stored record is changed to `u1` (any masks), then `setUser`: accepted, the overlap test has
covered `u1`; refused, the masks left are those of the changed records, disjoint apart from `u.id` -/
theorem put_setUser_cases {st : St} (hi : Inv st) (hnc : NoCommon st.db.users) {u u1 : User}
    (hu : u ∈ st.db.users) (hid : u1.id = u.id) (hnm : u1.name = u.name) :
    ((setUser { st with db := st.db.putUser u1 } u1).2 = .ok () ∧
      NoCommon (setUser { st with db := st.db.putUser u1 } u1).1.db.users) ∨
    ((setUser { st with db := st.db.putUser u1 } u1).2 ≠ .ok () ∧
      Inv (setUser { st with db := st.db.putUser u1 } u1).1 ∧
      NoCommonExcept (putUser st.db.users u1) u.id ∧
      MasksFrom (putUser st.db.users u1) (setUser { st with db := st.db.putUser u1 } u1).1.db.users) := by
  have hn1 : hasLineBreak u1.name = false := hnm ▸ hi.recs.names u hu
  have hrec := recInv_put hi.recs hu hid hn1
  have hex := noCommonExcept_put hi.recs.nodup hnc u1
  by_cases hres : (setUser { st with db := st.db.putUser u1 } u1).2 = .ok ()
  · exact Or.inl ⟨hres, setUser_noCommon hrec u1 true hex (fun hne => absurd hres hne)⟩
  · exact Or.inr ⟨hres, setUser_inv hrec u1 hn1, hid ▸ hex,
      setUser_masksFrom (st := { st with db := st.db.putUser u1 }) (mem_putUser_self _ _) true⟩

theorem registerTail_noCommon {st1 : St} (hi1 : Inv st1) (hnc : NoCommon st1.db.users) (u0 : User)
    (hu0 : u0 ∈ st1.db.users) (h : Option Str) : NoCommon (registerTail st1 u0 h).1.db.users := by
  unfold registerTail
  cases h with
  | none =>
    dsimp only
    have hs : NoCommon (setUser st1 u0).1.db.users :=
      setUser_noCommon hi1.recs u0 true (hnc.except _) (fun _ => hnc)
    split
    · exact hs
    · exact noCommon_of_masksFrom hs (delUser_masks _ _)
  | some h =>
    dsimp only
    cases ha : addHostmask u0 h with
    | error e => exact noCommon_of_masksFrom hnc (delUser_masks _ _)
    | ok u1 =>
      dsimp only
      cases addHostmask_ok ha
      rcases put_setUser_cases (u1 := { u0 with hostmasks := masksAdd u0.hostmasks h }) hi1 hnc hu0 rfl rfl
        with ⟨hok, hs⟩ | ⟨hres, _, hex, hmasks⟩
      · rw [hok]; exact hs
      · split
        · rename_i hok; rw [hok] at hres; exact absurd rfl hres
        · exact noCommon_of_masksFrom_except hex (masksFrom_trans hmasks (delUser_masks _ _))
            (delUser_no_id _ _)

/-- `user hostmask add`: a refused mask is removed again from the stored record, with every
other spelling of it -/
theorem addHost_noCommon {st : St} (hi : Inv st) (hnc : NoCommon st.db.users) (id : Nat) (h : Str) :
    NoCommon (step st (.addHost id h)).1.db.users := by
  simp only [step]
  unfold withUser
  split
  case h_2 => exact hnc
  rename_i u hget
  obtain ⟨hu, huid⟩ := getUserById_spec hget
  dsimp only
  cases ha : addHostmask u h with
  | error e => exact hnc
  | ok u1 =>
    dsimp only
    cases addHostmask_ok ha
    rcases put_setUser_cases (u1 := { u with hostmasks := masksAdd u.hostmasks h }) hi hnc hu rfl rfl
      with ⟨hok, hs⟩ | ⟨hres, hsinv, _, hmasks⟩
    · rw [hok]; exact hs
    · -- a list whose masks come from the refused state, without a spelling of `h` in account `id`,
      -- has only masks from before
      have hfinal : ∀ (l : List User),
          MasksFrom (setUser { st with db := st.db.putUser { u with hostmasks := masksAdd u.hostmasks h } }
            { u with hostmasks := masksAdd u.hostmasks h }).1.db.users l →
          (∀ x ∈ l, x.id = id → ∀ m ∈ x.hostmasks, maskEq m h = false) → NoCommon l := by
        intro l h1 h2
        refine noCommon_of_masksFrom hnc fun x hx m hm => ?_
        obtain ⟨v, hv, hvid, hmv⟩ := masksFrom_trans hmasks h1 x hx m hm
        rcases C03.mem_putUser hv with e | e
        · subst e
          rcases mem_masksAdd hmv with e1 | e1
          · exact ⟨u, hu, hvid, e1⟩
          · have := h2 x hx (hvid.symm.trans huid) m hm
            rw [e1] at this
            simp [maskEq] at this
        · exact ⟨v, e, hvid, hmv⟩
      split
      · rename_i hok; rw [hok] at hres; exact absurd rfl hres
      · split
        · rename_i hnone
          refine hfinal _ (masksFrom_refl _) fun x hx hxid => ?_
          exact absurd hxid (by simpa using List.find?_eq_none.1 hnone x hx)
        · rename_i u' hu'
          obtain ⟨hm', hid'⟩ := getUserById_spec hu'
          split
          · rename_i u2 hr
            obtain ⟨ms, hms, e⟩ := removeHostmask_ok hr
            subst e
            refine hfinal _ (masksFrom_put fun m hm => ⟨u', hm', rfl, (masksRemove_sub hms m hm).1⟩)
              fun x hx hxid m hm => ?_
            rcases mem_putUser' hsinv.recs.nodup hx with e | ⟨_, hne⟩
            · subst e; exact (masksRemove_sub hms m hm).2
            · exact absurd (hxid.trans hid'.symm) hne
          · rename_i e hr
            refine hfinal _ (masksFrom_refl _) fun x hx hxid m hm => ?_
            have hxu : x = u' := users_id_inj hsinv.recs.nodup hx hm' (hxid.trans hid'.symm)
            exact removeHostmask_error hr m (hxu ▸ hm)

/-- `addHost` and `register` grant a mask: when `setUser` refuses it they remove the mask, resp.
the account, again, which no single update shows; the others go along their path. -/
theorem step_noCommon {st : St} (hi : Inv st) (hnc : NoCommon st.db.users) (op : Op) :
    NoCommon (step st op).1.db.users := by
  have along : masksOf st op = [] → NoCommon (step st op).1.db.users := fun hg =>
    ((step_path st op).preserves (P := fun s => Inv s ∧ NoCommon s.db.users)
      (fun h hp => ⟨prim_inv h.1 hp, prim_noCommon hg h.1 h.2 hp⟩) ⟨hi, hnc⟩).2
  cases op with
  | addHost id h => exact addHost_noCommon hi hnc id h
  | register name h =>
    cases h with
    | none => exact along rfl
    | some h =>
      simp only [step]
      split
      · exact hnc
      · rename_i hlb
        -- the blank account alone: its update is within a grant without masks
        have hp : Prim { names := [(st.nextId + 1, name)] } st
            { (newUser st).1 with db := (newUser st).1.db.putUser { id := (newUser st).2, name := name } } :=
          .new (by simpa using hlb) (List.mem_singleton.2 rfl)
        exact registerTail_noCommon (prim_inv hi hp) (prim_noCommon rfl hi hnc hp) _
          (mem_putUser_self _ _) (some h)
  | _ => exact along rfl

end C04
