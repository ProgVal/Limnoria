/-
C04 — the footprint of a dictionary operation (`step_path`): the primitive updates it is made of
and what they may add to the records (`Grant`).  Invariants: once per primitive (`prim_*`).
-/
import LimnoriaModel.C04.Lemmas
namespace C04
open Py C03

/-- what an operation may add to the records — every item comes with the id of the account it
goes to — and whether it may delete accounts -/
structure Grant where
  auth : List (Nat × (Int × Str)) := []
  masks : List (Nat × Str) := []
  names : List (Nat × Str) := []
  dels : Bool := false

/-- The updates operations are made of.  `edit` is what the plugins do to a stored record `u`:
change the live object to `u1`, then `setUser`; `set` is `setUser` alone (registration, the
users.conf loader); `weak` stores a copy that carries no more masks or logins than `u` without
calling `setUser`; `new` is `newUser()` followed by `user.name = name`. -/
inductive Prim (g : Grant) (st : St) : St → Prop
  | lookup (s : Str) : Prim g st (getUserId st s).1
  | inval (h : Str) : Prim g st (invalidateHost st h)
  | tick (dt : Nat) : Prim g st { st with now := st.now + dt }
  | del (id : Nat) (hd : g.dels = true) : Prim g st (delUser st id).1
  | new {name : Str} (hn : hasLineBreak name = false) (hg : (st.nextId + 1, name) ∈ g.names) :
      Prim g st { (newUser st).1 with
        db := (newUser st).1.db.putUser { id := (newUser st).2, name := name } }
  | set {u : User} (live : Bool)
      (ha : ∀ e ∈ u.auth, (∃ v ∈ st.db.users, v.id = u.id ∧ e ∈ v.auth) ∨ (u.id, e) ∈ g.auth)
      (hn : (u.id, u.name) ∈ sig st.db.users ∨ (u.id, u.name) ∈ g.names) :
      Prim g st (setUser st u live).1
  | edit {u u1 : User} (hu : u ∈ st.db.users) (hid : u1.id = u.id)
      (ha : ∀ e ∈ u1.auth, e ∈ u.auth ∨ (u.id, e) ∈ g.auth)
      (hm : ∀ m ∈ u1.hostmasks, m ∈ u.hostmasks ∨ (u.id, m) ∈ g.masks)
      (hn : u1.name = u.name ∨ (hasLineBreak u1.name = false ∧ (u.id, u1.name) ∈ g.names)) :
      Prim g st (setUser { st with db := st.db.putUser u1 } u1).1
  | weak {u u1 : User} (hu : u ∈ st.db.users) (hid : u1.id = u.id) (hn : u1.name = u.name)
      (ha : ∀ e ∈ u1.auth, e ∈ u.auth) (hm : ∀ m ∈ u1.hostmasks, m ∈ u.hostmasks) :
      Prim g st { st with db := st.db.putUser u1 }

inductive Path (g : Grant) : St → St → Prop
  | nil (st : St) : Path g st st
  | cons {a b c : St} : Prim g a b → Path g b c → Path g a c

theorem Path.one {g : Grant} {a b : St} (h : Prim g a b) : Path g a b := .cons h (.nil b)

theorem Path.trans {g : Grant} {a b c : St} (h1 : Path g a b) (h2 : Path g b c) : Path g a c := by
  induction h1 with
  | nil => exact h2
  | cons hp _ ih => exact .cons hp (ih h2)

theorem Path.preserves {g : Grant} {P : St → Prop} (hstep : ∀ {a b}, P a → Prim g a b → P b)
    {a c : St} (hp : Path g a c) (h : P a) : P c := by
  induction hp with
  | nil => exact h
  | cons hab _ ih => exact ih (hstep h hab)

/-- the logins an operation may add: `identify` one, `followNick` the moved ones, every other
operation none -/
def extraOf (st : St) : Op → List (Nat × (Int × Str))
  | .identify id h => [(id, (st.now, h))]
  | .followNick id old new =>
    match st.db.getUserById id with
    | some u => (u.auth.filter (fun a => strEqual old a.2)).map (fun a => (id, (a.1, new)))
    | none => []
  | _ => []

def masksOf (st : St) : Op → List (Nat × Str)
  | .register _ (some h) => [(st.nextId + 1, h)]
  | .addHost id h => [(id, h)]
  | _ => []

def namesOf (st : St) : Op → List (Nat × Str)
  | .register name _ => [(st.nextId + 1, name)]
  | .rename id name | .setName id name | .load id name _ _ => [(id, name)]
  | _ => []

def grantOf (st : St) (op : Op) : Grant :=
  { auth := extraOf st op, masks := masksOf st op, names := namesOf st op,
    dels := match op with | .register _ _ | .delUser _ => true | _ => false }

theorem withUser_path {g : Grant} {st : St} {id : Nat} {f : User → St × Out}
    (hf : ∀ u, st.db.getUserById id = some u → u ∈ st.db.users → u.id = id → Path g st (f u).1) :
    Path g st (withUser st id f).1 := by
  unfold withUser
  split
  · rename_i u hu
    exact hf u hu (getUserById_spec hu).1 (getUserById_spec hu).2
  · exact .nil st

theorem clearAuth_fold_path (g : Grant) (st : St) (l : List (Int × Str)) :
    Path g st (l.foldl (fun s e => invalidateHost s e.2) st) := by
  induction l generalizing st with
  | nil => exact .nil st
  | cons e es ih => exact .cons (.inval e.2) (ih _)

theorem registerTail_path {g : Grant} {st1 : St} {u0 : User} (hu0 : u0 ∈ st1.db.users) (h : Option Str)
    (hg : ∀ m ∈ h, (u0.id, m) ∈ g.masks) (hd : g.dels = true) : Path g st1 (registerTail st1 u0 h).1 := by
  unfold registerTail
  cases h with
  | none =>
    dsimp only
    refine .cons (.set true (fun e he => Or.inl ⟨u0, hu0, rfl, he⟩) (Or.inl (mem_sig hu0))) ?_
    split
    · exact .nil _
    · exact .one (.del _ hd)
  | some h =>
    dsimp only
    cases ha : addHostmask u0 h with
    | error e => exact .one (.del _ hd)
    | ok u1 =>
      dsimp only
      cases addHostmask_ok ha
      refine .cons (.edit (u1 := { u0 with hostmasks := masksAdd u0.hostmasks h }) hu0 rfl (fun e he => Or.inl he) (fun m hm => ?_) (Or.inl rfl)) ?_
      · exact (mem_masksAdd hm).imp_right (fun e => by rw [e]; exact hg h rfl)
      · split
        · exact .nil _
        · exact .one (.del _ hd)

theorem step_path (st : St) (op : Op) : Path (grantOf st op) st (step st op).1 := by
  cases op with
  | register name h =>
    simp only [step]
    split
    · exact .nil st
    · rename_i hlb
      refine .cons (.new (by simpa using hlb) (List.mem_singleton.2 rfl)) ?_
      refine registerTail_path (mem_putUser_self _ _) h (fun m hm => ?_) rfl
      cases hm
      exact List.mem_singleton.2 rfl
  | addHost id h =>
    simp only [step]
    refine withUser_path fun u _ hu huid => ?_
    cases ha : addHostmask u h with
    | error e => exact .nil st
    | ok u1 =>
      dsimp only
      cases addHostmask_ok ha
      refine .cons (.edit (u1 := { u with hostmasks := masksAdd u.hostmasks h }) hu rfl (fun e he => Or.inl he) (fun m hm => ?_) (Or.inl rfl)) ?_
      · exact (mem_masksAdd hm).imp_right (fun e => by rw [e, huid]; exact List.mem_singleton.2 rfl)
      · split
        · exact .nil _
        · -- rollback on the stored record
          split
          · exact .nil _
          · rename_i u' hu'
            split
            · rename_i u2 hr
              obtain ⟨ms, hms, e⟩ := removeHostmask_ok hr
              subst e
              exact .one (.weak (u1 := { u' with hostmasks := ms }) (getUserById_spec hu').1 rfl rfl (fun e he => he)
                (fun m hm => (masksRemove_sub hms m hm).1))
            · exact .nil _
  | rmHost id h =>
    simp only [step]
    refine withUser_path fun u _ hu _ => ?_
    cases ha : removeHostmask u h with
    | error e => exact .nil st
    | ok u1 =>
      obtain ⟨ms, hms, e⟩ := removeHostmask_ok ha
      subst e
      exact .one (.edit (u1 := { u with hostmasks := ms }) hu rfl (fun e he => Or.inl he)
        (fun m hm => Or.inl (masksRemove_sub hms m hm).1) (Or.inl rfl))
  | identify id h =>
    simp only [step]
    refine withUser_path fun u _ hu huid => ?_
    cases ha : addAuth u st.db.timeout st.now h with
    | error e => exact .nil st
    | ok u1 =>
      cases addAuth_ok ha
      refine .one (.edit (u1 := { u with auth := dedupLast (u.auth ++ [(st.now, h)]) }) hu rfl (fun e he => ?_) (fun m hm => Or.inl hm) (Or.inl rfl))
      refine (List.mem_append.1 (mem_dedupLast he)).imp_right (fun e1 => ?_)
      rw [List.mem_singleton.1 e1, huid]
      exact List.mem_singleton.2 rfl
  | unidentify id =>
    simp only [step]
    refine withUser_path fun u _ hu _ => ?_
    refine (clearAuth_fold_path _ st u.auth).trans (.one ?_)
    exact .edit (u := u) (u1 := { u with auth := [] }) (by rw [invalidate_fold_db]; exact hu) rfl
      (fun e he => by cases he) (fun m hm => Or.inl hm) (Or.inl rfl)
  | logout id =>
    simp only [step]
    refine withUser_path fun u _ hu _ => ?_
    refine (clearAuth_fold_path _ st u.auth).trans (.one ?_)
    exact .weak (u := u) (u1 := { u with auth := [] }) (by rw [invalidate_fold_db]; exact hu) rfl rfl
      (fun e he => by cases he) (fun m hm => hm)
  | rename id name =>
    simp only [step]
    refine withUser_path fun _ _ _ _ => ?_
    refine .cons (.lookup name) ?_
    split
    · exact .nil _
    · split
      · exact .nil _
      · rename_i hlb
        refine withUser_path fun u _ hu huid => ?_
        exact .one (.edit (u1 := { u with name := name }) hu rfl (fun e he => Or.inl he)
          (fun m hm => Or.inl hm) (Or.inr ⟨by simpa using hlb, by rw [huid]; exact List.mem_singleton.2 rfl⟩))
    · exact .nil _
  | secure id b =>
    simp only [step]
    refine withUser_path fun u _ hu _ => ?_
    exact .one (.edit (u1 := { u with secure := b }) hu rfl (fun e he => Or.inl he)
      (fun m hm => Or.inl hm) (Or.inl rfl))
  | clearHosts id =>
    simp only [step]
    refine withUser_path fun u _ hu _ => ?_
    exact .one (.edit (u1 := { u with hostmasks := [] }) hu rfl (fun e he => Or.inl he)
      (fun m hm => by cases hm) (Or.inl rfl))
  | setName id name =>
    simp only [step]
    refine withUser_path fun u _ hu huid => ?_
    split
    · exact .nil st
    · rename_i hlb
      exact .one (.edit (u1 := { u with name := name }) hu rfl (fun e he => Or.inl he)
        (fun m hm => Or.inl hm) (Or.inr ⟨by simpa using hlb, by rw [huid]; exact List.mem_singleton.2 rfl⟩))
  | load id name sec masks =>
    simp only [step]
    refine .cons (.set (u := { id := id, name := name, secure := sec, hostmasks := masks.foldl masksAdd [] })
      false (fun e he => absurd he List.not_mem_nil) (Or.inr (List.mem_singleton.2 rfl))) ?_
    split
    · exact .nil _
    · exact .one (.set (u := { id := id, name := name, secure := sec }) false
        (fun e he => absurd he List.not_mem_nil) (Or.inr (List.mem_singleton.2 rfl)))
  | followNick id old new =>
    simp only [step]
    refine withUser_path fun u hg hu huid => ?_
    -- a rewritten login is one of `extraOf`; the others were there before
    have key : ∀ {auth' : List (Int × Str)},
        (∀ e ∈ auth', e ∈ pruneScan st.db.timeout st.now old u.auth ∨
          ∃ a ∈ pruneScan st.db.timeout st.now old u.auth, strEqual old a.2 = true ∧ e = (a.1, new)) →
        Prim (grantOf st (.followNick id old new)) st
          (setUser { st with db := st.db.putUser { u with auth := auth' } } { u with auth := auth' }).1 := by
      intro auth' h
      refine .edit hu rfl (fun e he => ?_) (fun m hm => Or.inl hm) (Or.inl rfl)
      rcases h e he with h1 | ⟨a, ha, hm, hea⟩
      · exact Or.inl (pruneScan_sub _ _ _ _ _ h1)
      · right
        simp only [grantOf, extraOf, hg, List.mem_map]
        exact ⟨a, List.mem_filter.2 ⟨pruneScan_sub _ _ _ _ _ ha, hm⟩, by rw [hea, huid]⟩
    split
    · exact .nil st
    · split
      · exact .one (key (followFirst_mem old new _))
      · exact .one (key (followAuth_mem old new _))
  | delUser id => exact .one (.del id rfl)
  | tick dt => exact .one (.tick dt)
  | lookup s => exact .one (.lookup s)
  | pruned id kept =>
    simp only [step]
    refine withUser_path fun u _ hu _ => ?_
    split
    · exact .one (.weak (u1 := { u with auth := u.auth.filter (fun e => kept.contains e) }) hu rfl rfl
        (fun e he => (List.mem_filter.1 he).1) (fun m hm => hm))
    · exact .nil st
  | order id masks =>
    simp only [step]
    refine withUser_path fun u _ hu _ => ?_
    split
    · rename_i hcond
      simp only [Bool.and_eq_true, List.all_eq_true] at hcond
      exact .one (.weak (u1 := { u with hostmasks := masks }) hu rfl rfl (fun e he => he)
        (fun m hm => by simpa using hcond.1.2 m hm))
    · exact .nil st

theorem prim_inv {g : Grant} {st st' : St} (hi : Inv st) (hp : Prim g st st') : Inv st' := by
  cases hp with
  | lookup s => exact getUserId_inv hi s
  | inval h => exact invalidateHost_inv hi h
  | tick dt => exact tick_inv hi dt
  | del id _ => exact delUser_inv hi id
  | new hn _ => rw [newNamed_eq hi.recs]; exact inv_append_blank hi _ hn
  | set live _ _ => exact setUser_inv' hi _ live
  | @edit u u1 hu hid _ _ hn =>
    -- `setUser` rebuilds the caches: only the records matter
    have hn1 : hasLineBreak u1.name = false := hn.elim (fun e => e ▸ hi.recs.names u hu) (·.1)
    exact setUser_inv (recInv_put hi.recs hu hid hn1) u1 hn1
  | weak hu hid hn ha hm => exact inv_put_weaker hi hu hid hn ha hm

theorem step_inv {st : St} (hi : Inv st) (op : Op) : Inv (step st op).1 :=
  (step_path st op).preserves prim_inv hi

theorem init_inv (t : Int) : Inv { db := { timeout := t } } := by
  refine ⟨⟨by simp, ?_, ?_⟩, cacheInv_empty rfl rfl⟩
  · intro u hu; cases hu
  · intro u hu; cases hu

theorem run_preserves {P : St → Prop} (hstep : ∀ st op, P st → P (step st op).1) {st : St} (h : P st)
    (ops : List Op) : P (run st ops) := by
  induction ops generalizing st with
  | nil => exact h
  | cons o os ih => exact ih (hstep st o h)

theorem run_inv {st : St} (hi : Inv st) (ops : List Op) : Inv (run st ops) :=
  run_preserves (P := Inv) (fun _ op h => step_inv h op) hi ops

theorem prim_revOK {g : Grant} {st st' : St} (h : RevOK st.hc) (hp : Prim g st st') : RevOK st'.hc := by
  cases hp with
  | lookup s => exact revOK_getUserId h s
  | inval x => exact revOK_invalidateHost h x
  | del id _ => exact revOK_delUser h id
  | set live _ _ => exact revOK_setUser h _ live
  | @edit _ u1 _ _ _ _ _ => exact revOK_setUser (st := { st with db := st.db.putUser u1 }) h u1
  | tick | new | weak => exact h

theorem revOK_step {st : St} (h : RevOK st.hc) (op : Op) : RevOK (step st op).1.hc :=
  (step_path st op).preserves prim_revOK h

theorem revOK_run {st : St} (h : RevOK st.hc) (ops : List Op) : RevOK (run st ops).hc :=
  run_preserves (P := fun s => RevOK s.hc) (fun _ op h => revOK_step h op) h ops

end C04
