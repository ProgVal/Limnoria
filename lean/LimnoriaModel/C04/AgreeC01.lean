/-
C04 ↔ C01 — the two places where the models of C01 (gate / dispatcher) and of C03/C04
describe the same code agree.  Kept out of `C04/Props.lean` so that neither check depends on the
other's files; built and reported (not part of the verdict) by `harness/c04.py`.
-/
import LimnoriaModel.C01.Model
import LimnoriaModel.C04.Props
namespace C04
open Py C03

/-- `DefaultCapabilities.setValue` without `--allow-default-owner`: C01's `setDefaults false` is the
default set of C03's `Db.setDefaults` -/
theorem setDefaults_agree (db : Db) (v : List Str) :
    C01.setDefaults false v = (db.setDefaults v).map (fun d => d.defaults) := by
  unfold C01.setDefaults Db.setDefaults
  cases CapSet.ofList v with
  | error e => rfl
  | ok s =>
    simp only [Bool.not_false, Bool.and_true]
    by_cases h : antiOwnerS ∈ s
    · simp [h, Except.map]
    · simp only [h, decide_false, Bool.not_false, if_true, if_false]
      cases CapSet.add s antiOwnerS <;> rfl

/-- the bot's first lookup of a sender that matches two accounts: whenever C04's stateful
`getUserId` raises DuplicateHostmask in a reachable state, C01's `checkIgnored` (on the same
records) raises it too and C01's dispatcher reports `crashed` -/
theorem duplicate_agree {st : St} (hr : Reachable st) (ig : C01.IgnoreDb) (dI : Bool) (p : Str)
    (hp : isUserHostmask p = true) (hdup : (getUserId st p).2 = .error .value) :
    C01.checkIgnored st.db ig dI st.now p = .error .value ∧
    C01.ownerDoPrivmsg st.db ig dI st.now p = .crashed .value := by
  have ha := cache_transparent hr p
  rw [hdup] at ha
  have hl : st.db.lookup st.now p = .duplicate := by
    cases h : st.db.lookup st.now p with
    | found u => rw [h] at ha; cases ha
    | missing => rw [h] at ha; cases ha
    | duplicate => rfl
  have h1 : C01.checkIgnored st.db ig dI st.now p = .error .value := by
    unfold C01.checkIgnored C01.ignoredGlobal
    simp [hp, hl]
  refine ⟨h1, ?_⟩
  unfold C01.ownerDoPrivmsg
  simp [hp, h1]

end C04
