/-
C04 — dictionaries, the cache invariant and its preservation by each method of
`UsersDictionary` (`getUserId`, `setUser`, `delUser`, `invalidateCache`, record changes), agreement
of the cached lookup with the cache-free one.  `C04/Footprint.lean` assembles the operations.
-/
import LimnoriaModel.C04.Model
import LimnoriaModel.C03.Props
namespace C04
open Py C03

/-! ### dictionaries, caches as data -/

theorem mem_dset {κ ν} [BEq κ] {l : List (κ × ν)} {k : κ} {v : ν} {p : κ × ν}
    (h : p ∈ dset l k v) : p = (k, v) ∨ p ∈ l := by
  induction l with
  | nil => exact Or.inl (List.mem_singleton.1 h)
  | cons q qs ih =>
    simp only [dset] at h
    split at h <;> rcases List.mem_cons.1 h with e | e
    · exact Or.inl e
    · exact Or.inr (List.mem_cons_of_mem _ e)
    · exact Or.inr (e ▸ List.mem_cons_self)
    · exact (ih e).imp_right (List.mem_cons_of_mem _)

theorem mem_ddel {κ ν} [BEq κ] [LawfulBEq κ] {l : List (κ × ν)} {k : κ} {p : κ × ν}
    (h : p ∈ ddel l k) : p ∈ l ∧ p.1 ≠ k := by
  simpa [ddel] using h

theorem lookup_dset {κ ν} [BEq κ] [LawfulBEq κ] (l : List (κ × ν)) (k k' : κ) (v : ν) :
    (dset l k v).lookup k' = if k' == k then some v else l.lookup k' := by
  induction l with
  | nil => cases h : k' == k <;> simp [dset, List.lookup, h]
  | cons q qs ih =>
    obtain ⟨k2, v2⟩ := q
    simp only [dset]
    split
    · rename_i h2
      rw [eq_of_beq h2]
      cases h : k' == k <;> simp [List.lookup, h]
    · rename_i h2
      simp only [List.lookup, ih]
      cases h3 : k' == k2 <;> simp only []
      rw [eq_of_beq h3, Bool.eq_false_iff.2 h2]; rfl

theorem lookup_dset_self {κ ν} [BEq κ] [LawfulBEq κ] (l : List (κ × ν)) (k : κ) (v : ν) :
    (dset l k v).lookup k = some v := by
  rw [lookup_dset, beq_self_eq_true]; rfl

theorem lookup_dset_ne {κ ν} [BEq κ] [LawfulBEq κ] (l : List (κ × ν)) {k k' : κ} (v : ν)
    (hne : k' ≠ k) : (dset l k v).lookup k' = l.lookup k' := by
  rw [lookup_dset, beq_eq_false_iff_ne.2 hne]; rfl

theorem lookup_ddel_ne {κ ν} [BEq κ] [LawfulBEq κ] (l : List (κ × ν)) {k k' : κ} (hne : k' ≠ k) :
    (ddel l k).lookup k' = l.lookup k' := by
  unfold ddel
  induction l with
  | nil => rfl
  | cons q qs ih =>
    obtain ⟨k2, v2⟩ := q
    simp only [List.filter_cons]
    by_cases h2 : k2 = k
    · subst h2
      have : (k' == k2) = false := by simp [hne]
      simp [List.lookup, this, ih]
    · have : (k2 == k) = false := by simp [h2]
      simp only [this, Bool.not_false, if_true, List.lookup]
      split
      · rfl
      · exact ih

theorem room_cases (hc : HCache) : hc.room = hc ∨ hc.room = {} := by
  unfold HCache.room; split
  · exact Or.inr rfl
  · exact Or.inl rfl

theorem nroom_cases (nc : NCache) : nc.room = nc ∨ nc.room = {} := by
  unfold NCache.room; split
  · exact Or.inr rfl
  · exact Or.inl rfl

theorem room_fwd_sub (hc : HCache) {p : Str × Nat} (h : p ∈ hc.room.fwd) : p ∈ hc.fwd := by
  rcases room_cases hc with e | e <;> rw [e] at h
  · exact h
  · cases h

theorem nroom_fwd_sub (nc : NCache) {p : Str × Nat} (h : p ∈ nc.room.fwd) : p ∈ nc.fwd := by
  rcases nroom_cases nc with e | e <;> rw [e] at h
  · exact h
  · cases h

theorem nroom_rev (nc : NCache) {p : Str × Nat} (h : p ∈ nc.room.fwd) : nc.room.rev = nc.rev := by
  rcases nroom_cases nc with e | e
  · rw [e]
  · rw [e] at h; cases h

theorem cacheInsert_fwd {hc : HCache} {s : Str} {id : Nat} {p : Str × Nat}
    (h : p ∈ (cacheInsert hc s id).fwd) : p = (s, id) ∨ p ∈ hc.fwd := by
  unfold cacheInsert at h
  simp only at h
  have key : ∀ q, q ∈ (hc.setFwd s id).fwd → q = (s, id) ∨ q ∈ hc.fwd := by
    intro q hq
    unfold HCache.setFwd at hq
    rcases mem_dset hq with e | e
    · exact Or.inl e
    · exact Or.inr (room_fwd_sub hc e)
  split at h
  · exact key p h
  · unfold HCache.setRev at h
    exact key p (room_fwd_sub _ h)

/-! ### one record: matching, mutations -/

theorem truthy_eq (u : User) (t now : Int) (h : Str) (ua : Bool) :
    (checkHostmask u t now h ua).truthy = u.checkHostmask t now h ua := by
  unfold checkHostmask User.checkHostmask
  cases hm : (ua && u.authMatch t now h)
  · simp only [Bool.false_eq_true, if_false, Bool.false_or]
    cases u.patMatch h <;> rfl
  · simp only [if_true, Bool.true_or]; rfl

theorem patMatch_some {u : User} {h p : Str} (hf : u.patMatch h = some p) :
    ∃ p ∈ u.hostmasks, glob p h = true :=
  ⟨p, List.mem_of_find?_eq_some hf, by simpa using List.find?_some hf⟩

theorem authLive_of_later {t now now' : Int} {e : Int × Str} (hle : now ≤ now')
    (h : authLive t now' e = true) : authLive t now e = true := by
  unfold authLive at h ⊢
  simp only [Bool.not_eq_true', Bool.and_eq_false_iff, bne_eq_false_iff_eq, decide_eq_false_iff_not] at h ⊢
  rcases h with h | h
  · exact Or.inl h
  · right; omega

theorem checkHostmask_of_later {u : User} {t now now' : Int} {h : Str} {ua : Bool} (hle : now ≤ now')
    (hm : u.checkHostmask t now' h ua = true) : u.checkHostmask t now h ua = true := by
  unfold User.checkHostmask at hm ⊢
  simp only [Bool.or_eq_true, Bool.and_eq_true] at hm ⊢
  rcases hm with ⟨h1, h2⟩ | h2
  · left
    refine ⟨h1, ?_⟩
    unfold User.authMatch at h2 ⊢
    rw [List.any_eq_true] at h2 ⊢
    obtain ⟨e, he, hp⟩ := h2
    simp only [Bool.and_eq_true] at hp
    exact ⟨e, he, by simp only [Bool.and_eq_true]; exact ⟨authLive_of_later hle hp.1, hp.2⟩⟩
  · exact Or.inr h2

theorem isUserHostmask_glob_nil {h : Str} (hh : isUserHostmask h = true) : glob [] h = false := by
  cases h with
  | nil => simp [isUserHostmask, userHostBody] at hh
  | cons c cs =>
    cases cs with
    | nil =>
      simp [isUserHostmask] at hh
      split at hh <;> simp [userHostBody] at hh
    | cons d ds => simp [glob]

/-- for a user hostmask the truth value of `checkHostmask` is "a live login from it, or some
pattern matches" — independent of the enumeration order of the patterns -/
theorem checkHostmask_any {h : Str} (hh : isUserHostmask h = true) (u : User) (t now : Int) (ua : Bool) :
    u.checkHostmask t now h ua = ((ua && u.authMatch t now h) || u.hostmasks.any (fun p => glob p h)) := by
  unfold User.checkHostmask User.patMatch
  congr 1
  cases hf : u.hostmasks.find? (fun p => glob p h) with
  | none =>
    simp only
    rw [List.find?_eq_none] at hf
    symm
    rw [List.any_eq_false]
    intro p hp; simpa using hf p hp
  | some p =>
    simp only
    have hg : glob p h = true := by have := List.find?_some hf; simpa using this
    have hne : p ≠ [] := by
      intro e; rw [e, isUserHostmask_glob_nil hh] at hg; cases hg
    have : u.hostmasks.any (fun p => glob p h) = true :=
      List.any_eq_true.2 ⟨p, List.mem_of_find?_eq_some hf, hg⟩
    rw [this]
    cases p with
    | nil => exact absurd rfl hne
    | cons _ _ => rfl

theorem blank_user_matches_nothing (id : Nat) (name : Str) (t now : Int) (h : Str) (ua : Bool) :
    ({ id := id, name := name } : User).checkHostmask t now h ua = false := by
  simp [User.checkHostmask, User.authMatch, User.patMatch]

theorem addHostmask_ok {u u1 : User} {h : Str} (e : addHostmask u h = .ok u1) :
    u1 = { u with hostmasks := masksAdd u.hostmasks h } := by
  unfold addHostmask at e
  split at e
  · cases e
  · split at e
    · cases e
    · injection e with e; exact e.symm

theorem removeHostmask_ok {u u1 : User} {h : Str} (e : removeHostmask u h = .ok u1) :
    ∃ ms, masksRemove u.hostmasks h = some ms ∧ u1 = { u with hostmasks := ms } := by
  unfold removeHostmask at e
  split at e
  · rename_i ms hms
    injection e with e
    exact ⟨ms, hms, e.symm⟩
  · cases e

theorem removeHostmask_error {u : User} {h : Str} {e : Err} (hr : removeHostmask u h = .error e) :
    ∀ m ∈ u.hostmasks, maskEq m h = false := by
  unfold removeHostmask masksRemove at hr
  split at hr
  · cases hr
  · rename_i hms
    split at hms
    · cases hms
    · rename_i hany
      intro m hm
      simpa using List.any_eq_false.1 (by simpa using hany) m hm

theorem addAuth_ok {u u1 : User} {t now : Int} {h : Str} (e : addAuth u t now h = .ok u1) :
    u1 = { u with auth := dedupLast (u.auth ++ [(now, h)]) } := by
  unfold addAuth at e
  split at e
  · injection e with e; exact e.symm
  · cases e

theorem masksRemove_sub {ms ms' : List Str} {m : Str} (h : masksRemove ms m = some ms') :
    ∀ x ∈ ms', x ∈ ms ∧ maskEq x m = false := by
  unfold masksRemove at h
  split at h
  · injection h with h; subst h
    intro x hx
    have := List.mem_filter.1 hx
    exact ⟨this.1, by simpa using this.2⟩
  · cases h

theorem mem_masksAdd {ms : List Str} {h m : Str} (hm : m ∈ masksAdd ms h) : m ∈ ms ∨ m = h := by
  unfold masksAdd at hm
  split at hm
  · exact Or.inl hm
  · rcases List.mem_append.1 hm with e | e
    · exact Or.inl e
    · exact Or.inr (List.mem_singleton.1 e)

theorem mem_dedupLast {l : List (Int × Str)} {e : Int × Str} (h : e ∈ dedupLast l) : e ∈ l := by
  induction l with
  | nil => cases h
  | cons x xs ih =>
    simp only [dedupLast] at h
    split at h
    · exact List.mem_cons_of_mem _ (ih h)
    · rcases List.mem_cons.1 h with e1 | e1
      · exact e1 ▸ List.mem_cons_self
      · exact List.mem_cons_of_mem _ (ih e1)

theorem pruneScan_sub (timeout now : Int) (h : Str) (l : List (Int × Str)) :
    ∀ e ∈ pruneScan timeout now h l, e ∈ l := by
  induction l with
  | nil => intro e he; cases he
  | cons a rest ih =>
    intro e he
    unfold pruneScan at he
    split at he
    · exact List.mem_cons_of_mem _ (ih e he)
    · split at he
      · exact he
      · rcases List.mem_cons.1 he with h1 | h1
        · exact h1 ▸ List.mem_cons_self
        · exact List.mem_cons_of_mem _ (ih e h1)

theorem followAuth_mem (old new : Str) (l : List (Int × Str)) :
    ∀ e ∈ followAuth old new l, e ∈ l ∨ ∃ a ∈ l, strEqual old a.2 = true ∧ e = (a.1, new) := by
  intro e he
  simp only [followAuth, List.mem_map] at he
  obtain ⟨a, ha, hea⟩ := he
  by_cases hm : strEqual old a.2 = true
  · rw [if_pos hm] at hea
    exact Or.inr ⟨a, ha, hm, hea.symm⟩
  · rw [if_neg hm] at hea
    exact Or.inl (hea ▸ ha)

theorem followFirst_mem (old new : Str) (l : List (Int × Str)) :
    ∀ e ∈ followFirst old new l, e ∈ l ∨ ∃ a ∈ l, strEqual old a.2 = true ∧ e = (a.1, new) := by
  induction l with
  | nil => intro e he; cases he
  | cons a rest ih =>
    intro e he
    unfold followFirst at he
    by_cases hm : strEqual old a.2 = true
    · rw [if_pos hm] at he
      rcases List.mem_cons.1 he with h | h
      · exact Or.inr ⟨a, List.mem_cons_self, hm, h⟩
      · exact Or.inl (List.mem_cons_of_mem _ h)
    · rw [if_neg hm] at he
      rcases List.mem_cons.1 he with h | h
      · exact Or.inl (h ▸ List.mem_cons_self)
      · rcases ih e h with h1 | ⟨b, hb, hbm, hbe⟩
        · exact Or.inl (List.mem_cons_of_mem _ h1)
        · exact Or.inr ⟨b, List.mem_cons_of_mem _ hb, hbm, hbe⟩

/-! ### the invariant; cached and cache-free lookup agree -/

theorem scan_eq (st : St) (s : Str) :
    scan st s = (st.db.users.filter (fun u => u.checkHostmask st.db.timeout st.now s true)).map
      (fun u => (u.id, checkHostmask u st.db.timeout st.now s true)) := by
  unfold scan
  induction st.db.users with
  | nil => rfl
  | cons u us ih =>
    simp only [List.filterMap_cons, List.filter_cons, truthy_eq] at ih ⊢
    by_cases hc : u.checkHostmask st.db.timeout st.now s true = true
    · simp only [hc, if_true, List.map_cons, ih]
    · simp only [hc, Bool.false_eq_true, if_false, ih]

/-- a cached lookup and the cache-free lookup agree -/
def agrees : Lookup → R Nat → Prop
  | .found u, .ok id => u.id = id
  | .missing, .error .key => True
  | .duplicate, .error .value => True
  | .duplicate, .error .key => True     -- `removeHostmask(True)` interrupts the removal loop
  | _, _ => False

theorem slowPath_agrees (st : St) (s : Str) (hs : isUserHostmask s = true) :
    agrees (st.db.lookup st.now s) (slowPath st s).2 := by
  unfold Db.lookup slowPath
  simp only [hs, if_true, scan_eq]
  cases hf : st.db.users.filter (fun u => u.checkHostmask st.db.timeout st.now s true) with
  | nil => simp [agrees]
  | cons u us =>
    cases us with
    | nil => simp [agrees]
    | cons v vs =>
      simp only [List.map_cons]
      split <;> simp [agrees]

/-- the records: distinct ids, no line break in a stored name, `nextId` bounds the ids -/
structure RecInv (st : St) : Prop where
  nodup : (st.db.users.map (fun u => u.id)).Nodup
  names : ∀ u ∈ st.db.users, hasLineBreak u.name = false
  ids : ∀ u ∈ st.db.users, u.id ≤ st.nextId

/-- the caches: a cached hostmask is a user hostmask that no *other* user matches now; a cached
name is the name under which the first user of that (lowered) name is found; the reverse entry of
every cached name exists -/
structure CacheInv (st : St) : Prop where
  host : ∀ p ∈ st.hc.fwd, isUserHostmask p.1 = true ∧
    ∀ v ∈ st.db.users, v.id ≠ p.2 → v.checkHostmask st.db.timeout st.now p.1 true = false
  name : ∀ p ∈ st.nc.fwd, ∃ u, st.db.users.find? (fun u => asciiLower u.name == p.1) = some u ∧ u.id = p.2
  rev : ∀ p ∈ st.nc.fwd, st.nc.rev.lookup p.2 = some p.1

structure Inv (st : St) : Prop where
  recs : RecInv st
  cache : CacheInv st

theorem getUserById_spec {db : Db} {id : Nat} {u : User} (h : db.getUserById id = some u) :
    u ∈ db.users ∧ u.id = id :=
  ⟨List.mem_of_find?_eq_some h, by simpa [Db.getUserById] using List.find?_some h⟩

theorem filter_singleton {l : List User} (hnd : (l.map (fun u => u.id)).Nodup) {u : User}
    (hu : u ∈ l) {p : User → Bool} (hp : p u = true)
    (ho : ∀ v ∈ l, v.id ≠ u.id → p v = false) : l.filter p = [u] := by
  induction l with
  | nil => cases hu
  | cons x xs ih =>
    simp only [List.map_cons, List.nodup_cons, List.mem_map, not_exists, not_and] at hnd
    by_cases hx : x = u
    · subst hx
      have : xs.filter p = [] := by
        rw [List.filter_eq_nil_iff]
        intro v hv
        have hne : v.id ≠ x.id := fun e => hnd.1 v hv e
        simp [ho v (List.mem_cons_of_mem _ hv) hne]
      simp [hp, this]
    · have hu' : u ∈ xs := by
        rcases List.mem_cons.1 hu with e | e
        · exact absurd e.symm hx
        · exact e
      have hne : x.id ≠ u.id := fun e => hnd.1 u hu' e.symm
      have hpx : p x = false := ho x List.mem_cons_self hne
      simp only [List.filter_cons, hpx, Bool.false_eq_true, if_false]
      exact ih hnd.2 hu' (fun v hv => ho v (List.mem_cons_of_mem _ hv))

theorem invalidateId_db (st : St) (id : Nat) :
    (invalidateId st id).db = st.db ∧ (invalidateId st id).now = st.now ∧
    (invalidateId st id).nextId = st.nextId := by
  unfold invalidateId; simp

theorem invalidateHost_db (st : St) (h : Str) :
    (invalidateHost st h).db = st.db ∧ (invalidateHost st h).now = st.now ∧
    (invalidateHost st h).nextId = st.nextId := by
  unfold invalidateHost
  split
  · exact ⟨rfl, rfl, rfl⟩
  · have := invalidateId_db
    simp [this]

theorem invalidate_fold_db (st : St) (l : List (Int × Str)) :
    (l.foldl (fun s e => invalidateHost s e.2) st).db = st.db := by
  induction l generalizing st with
  | nil => rfl
  | cons e es ih => simp only [List.foldl_cons]; rw [ih, (invalidateHost_db st e.2).1]

/-- **the cached lookup answers what the cache-free lookup answers** (one state) -/
theorem getUserId_agrees {st : St} (hr : RecInv st) (hc : CacheInv st) (s : Str) :
    agrees (st.db.lookup st.now s) (getUserId st s).2 := by
  unfold getUserId
  by_cases hs : isUserHostmask s = true
  · simp only [hs, if_true]
    unfold getUserIdHost
    cases hl : st.hc.fwd.lookup s with
    | none => exact slowPath_agrees st s hs
    | some id =>
      simp only
      cases hg : st.db.getUserById id with
      | none => exact slowPath_agrees st s hs
      | some u =>
        simp only [truthy_eq]
        obtain ⟨hmem, hid⟩ := getUserById_spec hg
        by_cases hm : u.checkHostmask st.db.timeout st.now s true = true
        · simp only [hm, if_true]
          have hcache := (hc.host (s, id) (lookup_mem hl)).2
          have hf : st.db.users.filter (fun u => u.checkHostmask st.db.timeout st.now s true) = [u] :=
            filter_singleton hr.nodup hmem hm (fun v hv hne => hcache v hv (by rw [← hid]; exact hne))
          unfold Db.lookup
          simp only [hs, if_true, hf]
          exact hid
        · simp only [hm, Bool.false_eq_true, if_false]
          have := slowPath_agrees (invalidateHost st s) s hs
          rwa [(invalidateHost_db st s).1, (invalidateHost_db st s).2.1] at this
  · simp only [hs, Bool.false_eq_true, if_false]
    unfold getUserIdName Db.lookup
    simp only [hs, Bool.false_eq_true, if_false]
    cases hl : st.nc.fwd.lookup (asciiLower s) with
    | some id =>
      obtain ⟨u, hf, hid⟩ := hc.name (asciiLower s, id) (lookup_mem hl)
      simp only at hf
      simp only [hf]
      exact hid
    | none =>
      simp only
      cases hf : st.db.users.find? (fun u => asciiLower u.name == asciiLower s) with
      | some u => simp [agrees]
      | none => simp [agrees]

/-! ### `putUser`, the (id, name) signature -/

/-- what `RecInv` and the name cache depend on -/
def sig (l : List User) : List (Nat × Str) := l.map (fun u => (u.id, u.name))

theorem ids_of_sig (l : List User) : l.map (fun u => u.id) = (sig l).map (fun p => p.1) := by
  simp [sig, List.map_map, Function.comp_def]

theorem sig_putUser_same {l : List User} {u : User}
    (h : ∃ v ∈ l, v.id = u.id ∧ v.name = u.name) (hnd : (l.map (fun u => u.id)).Nodup) :
    sig (putUser l u) = sig l := by
  induction l with
  | nil => obtain ⟨v, hv, _⟩ := h; cases hv
  | cons x xs ih =>
    simp only [List.map_cons, List.nodup_cons, List.mem_map, not_exists, not_and] at hnd
    simp only [putUser]
    by_cases hx : x.id = u.id
    · simp only [hx, if_true, sig, List.map_cons]
      obtain ⟨v, hv, hvid, hvn⟩ := h
      rcases List.mem_cons.1 hv with e | e
      · subst e; rw [hvn]
      · exact absurd (hvid.trans hx.symm) (hnd.1 v e)
    · simp only [hx, if_false, sig, List.map_cons]
      obtain ⟨v, hv, hvid, hvn⟩ := h
      have hv' : v ∈ xs := by
        rcases List.mem_cons.1 hv with e | e
        · subst e; exact absurd hvid hx
        · exact e
      have := ih ⟨v, hv', hvid, hvn⟩ hnd.2
      simp only [sig] at this
      rw [this]

theorem putUser_ids {l : List User} {u : User} :
    (putUser l u).map (fun u => u.id) =
      if u.id ∈ l.map (fun u => u.id) then l.map (fun u => u.id) else l.map (fun u => u.id) ++ [u.id] := by
  induction l with
  | nil => simp [putUser]
  | cons x xs ih =>
    by_cases hx : x.id = u.id
    · simp [putUser, hx]
    · have : ¬ u.id = x.id := fun e => hx e.symm
      by_cases hm : u.id ∈ xs.map (fun u => u.id) <;> simp [putUser, hx, ih, hm, this]

theorem putUser_nodup {l : List User} {u : User} (hnd : (l.map (fun u => u.id)).Nodup) :
    ((putUser l u).map (fun u => u.id)).Nodup := by
  rw [putUser_ids]
  split
  · exact hnd
  · rename_i hm
    rw [List.nodup_append]
    exact ⟨hnd, by simp, by
      intro a ha b hb
      rw [List.mem_singleton] at hb
      subst hb
      intro e; subst e; exact hm ha⟩

theorem mem_putUser' {l : List User} {u v : User} (hnd : (l.map (fun u => u.id)).Nodup)
    (h : v ∈ putUser l u) : v = u ∨ (v ∈ l ∧ v.id ≠ u.id) := by
  induction l with
  | nil => exact Or.inl (List.mem_singleton.1 h)
  | cons x xs ih =>
    simp only [List.map_cons, List.nodup_cons, List.mem_map, not_exists, not_and] at hnd
    simp only [putUser] at h
    split at h <;> rcases List.mem_cons.1 h with e | e
    · exact Or.inl e
    · rename_i hx
      exact Or.inr ⟨List.mem_cons_of_mem _ e, fun hv => hnd.1 v e (hv.trans hx.symm)⟩
    · rename_i hx
      exact Or.inr ⟨e ▸ List.mem_cons_self, e ▸ hx⟩
    · exact (ih hnd.2 e).imp_right fun e' => ⟨List.mem_cons_of_mem _ e'.1, e'.2⟩

theorem mem_putUser_self (l : List User) (u : User) : u ∈ putUser l u := by
  induction l with
  | nil => simp [putUser]
  | cons x xs ih =>
    simp only [putUser]
    split
    · exact List.mem_cons_self
    · exact List.mem_cons_of_mem _ ih

theorem putUser_twice_fresh {l : List User} {a b : User} (h : b.id ∉ l.map (fun u => u.id))
    (hab : a.id = b.id) : putUser (putUser l a) b = l ++ [b] := by
  induction l with
  | nil => simp [putUser, hab]
  | cons y ys ih =>
    simp only [List.map_cons, List.mem_cons, not_or] at h
    have h2 : ¬ y.id = b.id := fun e => h.1 e.symm
    have h1 : ¬ y.id = a.id := hab ▸ h2
    simp only [putUser, h1, h2, if_false, List.cons_append, ih h.2]

theorem mem_sig {l : List User} {u : User} (h : u ∈ l) : (u.id, u.name) ∈ sig l :=
  List.mem_map.2 ⟨u, h, rfl⟩

theorem of_mem_sig {l : List User} {p : Nat × Str} (h : p ∈ sig l) : ∃ u ∈ l, u.id = p.1 ∧ u.name = p.2 := by
  obtain ⟨u, hu, e⟩ := List.mem_map.1 h
  exact ⟨u, hu, by rw [← e], by rw [← e]⟩

theorem recInv_of_sig {st st' : St} (h : RecInv st) (hs : sig st'.db.users = sig st.db.users)
    (hn : st.nextId ≤ st'.nextId) : RecInv st' := by
  refine ⟨?_, ?_, ?_⟩
  · rw [ids_of_sig, hs, ← ids_of_sig]; exact h.nodup
  · intro u hu
    have := mem_sig hu
    rw [hs] at this
    obtain ⟨v, hv, _, hvn⟩ := of_mem_sig this
    simp only at hvn
    rw [← hvn]; exact h.names v hv
  · intro u hu
    have := mem_sig hu
    rw [hs] at this
    obtain ⟨v, hv, hvi, _⟩ := of_mem_sig this
    have := h.ids v hv
    simp only at hvi
    omega

theorem findName_sig {l l' : List User} (hs : sig l = sig l') (n : Str) (k : Nat)
    (h : ∃ u, l.find? (fun u => asciiLower u.name == n) = some u ∧ u.id = k) :
    ∃ u, l'.find? (fun u => asciiLower u.name == n) = some u ∧ u.id = k := by
  -- the search by name can be run on the signature
  have key : ∀ l : List User, (∃ u, l.find? (fun u => asciiLower u.name == n) = some u ∧ u.id = k) ↔
      ((sig l).find? (fun p => asciiLower p.2 == n)).map (·.1) = some k := by
    intro l
    simp [sig, List.find?_map, Function.comp_def]
  rw [key] at h ⊢
  rw [← hs]; exact h

theorem users_id_inj {l : List User} (hnd : (l.map (fun u => u.id)).Nodup) {u v : User}
    (hu : u ∈ l) (hv : v ∈ l) (h : u.id = v.id) : u = v := by
  induction l with
  | nil => cases hu
  | cons x xs ih =>
    simp only [List.map_cons, List.nodup_cons, List.mem_map, not_exists, not_and] at hnd
    rcases List.mem_cons.1 hu with rfl | e <;> rcases List.mem_cons.1 hv with rfl | e'
    · rfl
    · exact absurd h.symm (hnd.1 v e')
    · exact absurd h (hnd.1 u e)
    · exact ih hnd.2 e e'

theorem find_by_id {l : List User} (hnd : (l.map (fun u => u.id)).Nodup) {u : User} (hu : u ∈ l) :
    l.find? (fun v => v.id == u.id) = some u := by
  cases h : l.find? (fun v => v.id == u.id) with
  | none => exact absurd (beq_self_eq_true _) (List.find?_eq_none.1 h u hu)
  | some v =>
    exact congrArg some (users_id_inj hnd (List.mem_of_find?_eq_some h) hu (by simpa using List.find?_some h))

theorem find?_filter_of_found {α} {l : List α} {p q : α → Bool} {a : α}
    (h : l.find? p = some a) (hq : q a = true) : (l.filter q).find? p = some a := by
  induction l with
  | nil => cases h
  | cons x xs ih =>
    simp only [List.find?_cons] at h
    cases hp : p x with
    | true =>
      rw [hp] at h
      injection h with h; subst h
      simp [hq, hp]
    | false =>
      rw [hp] at h
      simp only [List.filter_cons]
      split
      · simp only [List.find?_cons, hp]; exact ih h
      · exact ih h

/-! ### the invariant, per method -/

theorem cacheInv_empty {st : St} (h : st.hc.fwd = []) (h' : st.nc.fwd = []) : CacheInv st := by
  refine ⟨?_, ?_, ?_⟩
  · intro p hp; rw [h] at hp; cases hp
  · intro p hp; rw [h'] at hp; cases hp
  · intro p hp; rw [h'] at hp; cases hp

theorem invalidateId_nc {st : St} {id : Nat} {p : Str × Nat} (hp : p ∈ (invalidateId st id).nc.fwd) :
    p ∈ st.nc.fwd ∧ st.nc.rev.lookup id ≠ some p.1 := by
  unfold invalidateId at hp
  dsimp only at hp
  cases hn : st.nc.rev.lookup id with
  | none => rw [hn] at hp; exact ⟨hp, fun e => by cases e⟩
  | some n =>
    rw [hn] at hp
    exact ⟨(mem_ddel hp).1, fun e => (mem_ddel hp).2 (Option.some.inj e).symm⟩

theorem invalidateId_nc_rev {st : St} {id k : Nat} (hk : k ≠ id) :
    (invalidateId st id).nc.rev.lookup k = st.nc.rev.lookup k := by
  unfold invalidateId
  dsimp only
  split
  · exact lookup_ddel_ne _ hk
  · rfl

theorem invalidateId_cache {st : St} (h : CacheInv st) (id : Nat) : CacheInv (invalidateId st id) := by
  obtain ⟨hdb, hnow, _⟩ := invalidateId_db st id
  refine ⟨fun p hp => ?_, fun p hp => ?_, fun p hp => ?_⟩
  · rw [hdb, hnow]
    apply h.host p
    unfold invalidateId at hp
    simp only at hp
    split at hp
    · exact (List.mem_filter.1 hp).1
    · exact hp
  · rw [hdb]; exact h.name p (invalidateId_nc hp).1
  · obtain ⟨hp1, hne⟩ := invalidateId_nc hp
    have hrev := h.rev p hp1
    rw [invalidateId_nc_rev (fun e => hne (by rw [← e]; exact hrev))]
    exact hrev

theorem invalidateHost_cache {st : St} (hc : CacheInv st) (h : Str) : CacheInv (invalidateHost st h) := by
  unfold invalidateHost
  split
  · exact hc
  · apply invalidateId_cache
    refine ⟨?_, hc.name, hc.rev⟩
    intro p hp
    exact hc.host p (mem_ddel hp).1

theorem removeOffending_induct {P : List User → Prop}
    (hput : ∀ l u ms, P l → u ∈ l → (∀ m ∈ ms, m ∈ u.hostmasks) → P (putUser l { u with hostmasks := ms }))
    {us : List User} (h0 : P us) (ids : List (Nat × CH)) : P (removeOffending us ids).1 := by
  induction ids generalizing us with
  | nil => exact h0
  | cons x rest ih =>
    simp only [removeOffending]
    cases hf : us.find? (fun u => u.id == x.1) with
    | none => exact h0
    | some u =>
      dsimp only
      cases hms : masksRemove u.hostmasks (match x.2 with | .pat p => p | _ => trueS) with
      | none => exact h0
      | some ms =>
        exact ih (hput us u ms h0 (List.mem_of_find?_eq_some hf) fun m hm => (masksRemove_sub hms m hm).1)

theorem removeOffending_sig (us : List User) (ids : List (Nat × CH))
    (hnd : (us.map (fun u => u.id)).Nodup) : sig (removeOffending us ids).1 = sig us :=
  (removeOffending_induct (P := fun l => (l.map (fun u => u.id)).Nodup ∧ sig l = sig us)
    (fun _ u ms h hu _ => ⟨putUser_nodup h.1,
      (sig_putUser_same (u := { u with hostmasks := ms }) ⟨u, hu, rfl, rfl⟩ h.1).trans h.2⟩)
    ⟨hnd, rfl⟩ ids).2

theorem scan_singleton {st : St} {s : Str} {id : Nat} {c : CH} (h : scan st s = [(id, c)]) :
    ∀ v ∈ st.db.users, v.id ≠ id → v.checkHostmask st.db.timeout st.now s true = false := by
  rw [scan_eq] at h
  intro v hv hne
  cases hm : v.checkHostmask st.db.timeout st.now s true with
  | false => rfl
  | true =>
    -- a matching user is listed by the scan, which lists `id` only
    have hvf := List.mem_map_of_mem (f := fun u => (u.id, checkHostmask u st.db.timeout st.now s true))
      (List.mem_filter.2 ⟨hv, hm⟩ : v ∈ st.db.users.filter (fun u => u.checkHostmask st.db.timeout st.now s true))
    rw [h, List.mem_singleton] at hvf
    exact absurd (Prod.mk.inj hvf).1 hne

theorem slowPath_inv {st : St} (hi : Inv st) (s : Str) (hs : isUserHostmask s = true) :
    Inv (slowPath st s).1 := by
  unfold slowPath
  split
  · exact hi
  · rename_i id c hscan
    refine ⟨⟨hi.recs.nodup, hi.recs.names, hi.recs.ids⟩, ⟨?_, hi.cache.name, hi.cache.rev⟩⟩
    intro p hp
    rcases cacheInsert_fwd hp with e | e
    · subst e
      exact ⟨hs, scan_singleton hscan⟩
    · exact hi.cache.host p e
  · have hsig := removeOffending_sig st.db.users (scan st s) hi.recs.nodup
    refine ⟨recInv_of_sig hi.recs hsig (Nat.le_refl _), ⟨?_, ?_, hi.cache.rev⟩⟩
    · intro p hp; cases hp
    · intro p hp
      exact findName_sig hsig.symm p.1 p.2 (hi.cache.name p hp)

theorem getUserIdName_inv {st : St} (hi : Inv st) (s : Str) : Inv (getUserIdName st s).1 := by
  unfold getUserIdName
  simp only
  split
  · exact hi
  · split
    · rename_i u hf
      have hu : u ∈ st.db.users := List.mem_of_find?_eq_some hf
      have hname : (asciiLower u.name == asciiLower s) = true := by
        have := List.find?_some hf; simpa using this
      refine ⟨⟨hi.recs.nodup, hi.recs.names, hi.recs.ids⟩, ⟨hi.cache.host, ?_, ?_⟩⟩
      · intro p hp
        simp only [NCache.setRev] at hp
        have hp1 := nroom_fwd_sub _ hp
        simp only [NCache.setFwd] at hp1
        rcases mem_dset hp1 with e | e
        · subst e; exact ⟨u, hf, rfl⟩
        · exact hi.cache.name p (nroom_fwd_sub _ e)
      · intro p hp
        simp only [NCache.setRev] at hp ⊢
        have hrv := nroom_rev _ hp
        rw [hrv]
        have hp1 := nroom_fwd_sub _ hp
        simp only [NCache.setFwd] at hp1 ⊢
        rcases mem_dset hp1 with e | e
        · subst e; exact lookup_dset_self _ _ _
        · have hold := nroom_fwd_sub _ e
          by_cases hid : p.2 = u.id
          · -- the same user: the cached name is this lowered name
            obtain ⟨u', hf', hid'⟩ := hi.cache.name p hold
            have hu' : u' ∈ st.db.users := List.mem_of_find?_eq_some hf'
            have : u' = u := users_id_inj hi.recs.nodup hu' hu (hid'.trans hid)
            subst this
            have hn' : (asciiLower u'.name == p.1) = true := by
              have := List.find?_some hf'; simpa using this
            have e1 : asciiLower u'.name = p.1 := by simpa using hn'
            have e2 : asciiLower u'.name = asciiLower s := by simpa using hname
            rw [hid, ← e1, e2]; exact lookup_dset_self _ _ _
          · rw [lookup_dset_ne _ _ hid, nroom_rev _ e]
            exact hi.cache.rev p hold
    · exact hi

theorem invalidateHost_inv {st : St} (hi : Inv st) (h : Str) : Inv (invalidateHost st h) := by
  obtain ⟨hdb, _, hn⟩ := invalidateHost_db st h
  refine ⟨⟨?_, ?_, ?_⟩, invalidateHost_cache hi.cache h⟩
  · rw [hdb]; exact hi.recs.nodup
  · rw [hdb]; exact hi.recs.names
  · rw [hdb, hn]; exact hi.recs.ids

theorem getUserId_inv {st : St} (hi : Inv st) (s : Str) : Inv (getUserId st s).1 := by
  unfold getUserId
  split
  · rename_i hs
    unfold getUserIdHost
    split
    · split
      · split
        · exact hi
        · exact slowPath_inv (invalidateHost_inv hi s) s hs
      · exact slowPath_inv hi s hs
    · exact slowPath_inv hi s hs
  · exact getUserIdName_inv hi s

theorem slowPath_effect (st : St) (s : Str) :
    (slowPath st s).1.now = st.now ∧ (slowPath st s).1.nextId = st.nextId ∧
    ((slowPath st s).1.db = st.db ∨
      ∃ ids e, (slowPath st s).1.db = { st.db with users := (removeOffending st.db.users ids).1 } ∧
        (slowPath st s).2 = .error e) := by
  unfold slowPath
  split
  · exact ⟨rfl, rfl, Or.inl rfl⟩
  · exact ⟨rfl, rfl, Or.inl rfl⟩
  · refine ⟨rfl, rfl, Or.inr ⟨scan st s, ?_⟩⟩
    dsimp only
    split <;> exact ⟨_, rfl, rfl⟩

/-- **all a lookup does to the state besides filling the caches**: when it fails, it may have
taken away masks that made a hostmask ambiguous -/
theorem getUserId_effect (st : St) (s : Str) :
    (getUserId st s).1.now = st.now ∧ (getUserId st s).1.nextId = st.nextId ∧
    ((getUserId st s).1.db = st.db ∨
      ∃ ids e, (getUserId st s).1.db = { st.db with users := (removeOffending st.db.users ids).1 } ∧
        (getUserId st s).2 = .error e) := by
  unfold getUserId
  split
  · unfold getUserIdHost
    split
    · split
      · split
        · exact ⟨rfl, rfl, Or.inl rfl⟩
        · have := slowPath_effect (invalidateHost st s) s
          rwa [(invalidateHost_db st s).1, (invalidateHost_db st s).2.1, (invalidateHost_db st s).2.2] at this
      · exact slowPath_effect st s
    · exact slowPath_effect st s
  · unfold getUserIdName
    dsimp only
    split
    · exact ⟨rfl, rfl, Or.inl rfl⟩
    · split <;> exact ⟨rfl, rfl, Or.inl rfl⟩

theorem finalRecord_cases (r : St) (u : User) (live : Bool) :
    finalRecord r u live = u ∨ (finalRecord r u live ∈ r.db.users ∧ (finalRecord r u live).id = u.id) := by
  unfold finalRecord
  cases live
  · exact Or.inl rfl
  · simp only [if_true]
    cases hg : r.db.getUserById u.id with
    | none => exact Or.inl rfl
    | some w => exact Or.inr (getUserById_spec hg)

theorem finalRecord_id (r : St) (u : User) (live : Bool) : (finalRecord r u live).id = u.id := by
  rcases finalRecord_cases r u live with e | e
  · rw [e]
  · exact e.2

def afterNameLookup (st : St) (u : User) : St :=
  (getUserId { st with hc := {}, nc := {}, nextId := max st.nextId u.id } u.name).1

theorem afterNameLookup_inv {st : St} (hr : RecInv st) (u : User) : Inv (afterNameLookup st u) :=
  getUserId_inv (st := { st with hc := {}, nc := {}, nextId := max st.nextId u.id })
    ⟨⟨hr.nodup, hr.names, fun v hv => by have := hr.ids v hv; simp only; omega⟩,
      cacheInv_empty rfl rfl⟩ u.name

/-- `setUser` ends at once (line break in the name), after its name lookup (clash, overlap), or
stores the record with both caches emptied -/
theorem setUser_outcome (st : St) (u : User) (live : Bool) :
    (hasLineBreak u.name = true ∧ (setUser st u live).2 ≠ .ok () ∧ (setUser st u live).1 = st) ∨
    ((setUser st u live).2 ≠ .ok () ∧ (setUser st u live).1 = afterNameLookup st u) ∨
    ((setUser st u live).2 = .ok () ∧
      (setUser st u live).1 = { (afterNameLookup st u) with
        db := (afterNameLookup st u).db.putUser (finalRecord (afterNameLookup st u) u live), hc := {}, nc := {} } ∧
      overlaps (afterNameLookup st u).db.users (afterNameLookup st u).db.timeout (afterNameLookup st u).now
        (finalRecord (afterNameLookup st u) u live) = false) := by
  unfold setUser afterNameLookup
  split
  · rename_i hlb
    exact Or.inl ⟨hlb, (fun h => by cases h), rfl⟩
  · dsimp only
    split
    · exact Or.inr (Or.inl ⟨(fun h => by cases h), rfl⟩)
    · split
      · exact Or.inr (Or.inl ⟨(fun h => by cases h), rfl⟩)
      · rename_i ho
        exact Or.inr (Or.inr ⟨rfl, rfl, by simpa using ho⟩)

theorem setUser_inv {st : St} (hr : RecInv st) (u : User) (hn : hasLineBreak u.name = false)
    (live : Bool := true) : Inv (setUser st u live).1 := by
  have hi2 := afterNameLookup_inv hr u
  rcases setUser_outcome st u live with ⟨hlb, _⟩ | ⟨_, e⟩ | ⟨_, e, _⟩
  · rw [hn] at hlb; cases hlb
  · rw [e]; exact hi2
  · rw [e]
    refine ⟨⟨putUser_nodup hi2.recs.nodup, fun v hv => ?_, fun v hv => ?_⟩, cacheInv_empty rfl rfl⟩ <;>
      rcases mem_putUser' hi2.recs.nodup hv with e1 | e1
    · rw [e1]
      rcases finalRecord_cases (afterNameLookup st u) u live with e2 | e2
      · rw [e2]; exact hn
      · exact hi2.recs.names _ e2.1
    · exact hi2.recs.names v e1.1
    · rw [e1, finalRecord_id]
      have := (getUserId_effect { st with hc := {}, nc := {}, nextId := max st.nextId u.id } u.name).2.1
      unfold afterNameLookup
      simp only [this]
      omega
    · exact hi2.recs.ids v e1.1

theorem setUser_inv' {st : St} (hi : Inv st) (u : User) (live : Bool := true) :
    Inv (setUser st u live).1 := by
  by_cases hn : hasLineBreak u.name = true
  · unfold setUser; simp only [hn, if_true]; exact hi
  · exact setUser_inv hi.recs u (by simpa using hn) live

theorem delUser_users (st : St) (id : Nat) :
    (delUser st id).1.db.users = st.db.users.filter (fun u => u.id != id) := by
  unfold delUser
  split
  · rename_i hn
    exact (List.filter_eq_self.2 fun u hu => by simpa using List.find?_eq_none.1 hn u hu).symm
  · exact congrArg (fun d : Db => d.users) (invalidateId_db _ id).1

theorem delUser_inv {st : St} (hi : Inv st) (id : Nat) : Inv (delUser st id).1 := by
  unfold delUser
  split
  · exact hi
  · simp only
    have hsub : ∀ v, v ∈ st.db.users.filter (fun u => u.id != id) → v ∈ st.db.users ∧ v.id ≠ id := by
      intro v hv
      have := List.mem_filter.1 hv
      exact ⟨this.1, by simpa using this.2⟩
    have hrec : RecInv { st with db := { st.db with users := st.db.users.filter (fun u => u.id != id) }, hc := {} } := by
      refine ⟨?_, fun v hv => hi.recs.names v (hsub v hv).1, fun v hv => hi.recs.ids v (hsub v hv).1⟩
      have : (st.db.users.filter (fun u => u.id != id)).map (fun u => u.id) =
          (st.db.users.map (fun u => u.id)).filter (fun i => i != id) := by
        rw [List.filter_map]; rfl
      simp only
      rw [this]
      exact hi.recs.nodup.filter _
    obtain ⟨hdb, hnow, hnx⟩ := invalidateId_db
      { st with db := { st.db with users := st.db.users.filter (fun u => u.id != id) }, hc := {} } id
    refine ⟨⟨?_, ?_, ?_⟩, ⟨?_, ?_, ?_⟩⟩
    · rw [hdb]; exact hrec.nodup
    · rw [hdb]; exact hrec.names
    · rw [hdb, hnx]; exact hrec.ids
    · intro p hp
      unfold invalidateId at hp
      simp only at hp
      split at hp <;> cases hp
    · -- names: entries of the deleted id are gone, the others still find their user first
      intro p hp
      rw [hdb]
      obtain ⟨hp1, hne⟩ := invalidateId_nc hp
      obtain ⟨u, hf, hid⟩ := hi.cache.name p hp1
      have hrev := hi.cache.rev p hp1
      exact ⟨u, find?_filter_of_found hf (by simpa using fun e : u.id = id => hne (by rw [← e, hid]; exact hrev)), hid⟩
    · -- the name cache part of `invalidateId` does not look at the records
      exact (invalidateId_cache (st := { st with hc := {} })
        ⟨fun q hq => (by cases hq), hi.cache.name, hi.cache.rev⟩ id).rev

/-- storing, under the id and name of a stored record `v`, a copy that carries no more masks or
logins than `v` keeps the invariant: the copy matches no hostmask that `v` did not match -/
theorem inv_put_weaker {st : St} (hi : Inv st) {v u' : User} (hv : v ∈ st.db.users)
    (hid : u'.id = v.id) (hname : u'.name = v.name)
    (ha : ∀ e ∈ u'.auth, e ∈ v.auth) (hm : ∀ m ∈ u'.hostmasks, m ∈ v.hostmasks) :
    Inv { st with db := st.db.putUser u' } := by
  have hsig : sig (putUser st.db.users u') = sig st.db.users :=
    sig_putUser_same ⟨v, hv, hid.symm, hname.symm⟩ hi.recs.nodup
  refine ⟨recInv_of_sig hi.recs hsig (Nat.le_refl _), ⟨?_, ?_, hi.cache.rev⟩⟩
  · intro p hp
    obtain ⟨hh, hothers⟩ := hi.cache.host p hp
    refine ⟨hh, fun w hw' hne => ?_⟩
    rcases mem_putUser' hi.recs.nodup hw' with e | e
    · subst e
      have hv0 := hothers v hv (by rw [← hid]; exact hne)
      rw [checkHostmask_any hh] at hv0 ⊢
      simp only [Bool.or_eq_false_iff, Bool.true_and, User.authMatch, List.any_eq_false] at hv0 ⊢
      exact ⟨fun e he => hv0.1 e (ha e he), fun m hmm => hv0.2 m (hm m hmm)⟩
    · exact hothers w e.1 hne
  · intro p hp
    exact findName_sig hsig.symm p.1 p.2 (hi.cache.name p hp)

theorem recInv_put {st : St} (hr : RecInv st) {u u1 : User} (hu : u ∈ st.db.users) (hid : u1.id = u.id)
    (hn : hasLineBreak u1.name = false) : RecInv { st with db := st.db.putUser u1 } := by
  refine ⟨putUser_nodup hr.nodup, fun v hv => ?_, fun v hv => ?_⟩ <;>
    rcases mem_putUser' hr.nodup hv with e | e
  · rw [e]; exact hn
  · exact hr.names v e.1
  · rw [e, hid]; exact hr.ids u hu
  · exact hr.ids v e.1

theorem tick_inv {st : St} (hi : Inv st) (dt : Nat) : Inv { st with now := st.now + dt } := by
  refine ⟨⟨hi.recs.nodup, hi.recs.names, hi.recs.ids⟩, ⟨fun p hp => ?_, hi.cache.name, hi.cache.rev⟩⟩
  refine ⟨(hi.cache.host p hp).1, fun v hv hne => ?_⟩
  -- a login that is live later is live now
  cases hc : v.checkHostmask st.db.timeout (st.now + ↑dt) p.1 true with
  | false => rfl
  | true =>
    have := checkHostmask_of_later (now := st.now) (by omega) hc
    rw [(hi.cache.host p hp).2 v hv hne] at this
    cases this

theorem nextId_fresh {st : St} (hr : RecInv st) : st.nextId + 1 ∉ st.db.users.map (fun u => u.id) := by
  intro hm
  obtain ⟨v, hv, e⟩ := List.mem_map.1 hm
  have := hr.ids v hv
  omega

theorem inv_append_blank {st : St} (hi : Inv st) (name : Str) (hn : hasLineBreak name = false) :
    Inv { st with nextId := st.nextId + 1,
                  db := { st.db with users := st.db.users ++ [{ id := st.nextId + 1, name := name }] } } := by
  have hfresh := nextId_fresh hi.recs
  refine ⟨⟨?_, ?_, ?_⟩, ⟨?_, ?_, hi.cache.rev⟩⟩
  · simp only [List.map_append, List.map_cons, List.map_nil]
    rw [List.nodup_append]
    refine ⟨hi.recs.nodup, by simp, ?_⟩
    intro a ha b hb
    rw [List.mem_singleton] at hb
    subst hb
    intro e; subst e; exact hfresh ha
  · intro v hv
    rcases List.mem_append.1 hv with e | e
    · exact hi.recs.names v e
    · rw [List.mem_singleton] at e; subst e; exact hn
  · intro v hv
    simp only
    rcases List.mem_append.1 hv with e | e
    · have := hi.recs.ids v e; omega
    · rw [List.mem_singleton] at e; subst e; exact Nat.le_refl _
  · intro p hp
    refine ⟨(hi.cache.host p hp).1, ?_⟩
    intro v hv hne
    simp only at hv ⊢
    rcases List.mem_append.1 hv with e | e
    · exact (hi.cache.host p hp).2 v e hne
    · rw [List.mem_singleton] at e; subst e; exact blank_user_matches_nothing _ _ _ _ _ _
  · intro p hp
    obtain ⟨u, hf, hid⟩ := hi.cache.name p hp
    refine ⟨u, ?_, hid⟩
    simp only
    rw [List.find?_append, hf]; rfl

theorem newNamed_eq {st : St} (hr : RecInv st) (name : Str) :
    ({ (newUser st).1 with db := (newUser st).1.db.putUser { id := (newUser st).2, name := name } } : St) =
      { st with nextId := st.nextId + 1,
                db := { st.db with users := st.db.users ++ [{ id := st.nextId + 1, name := name }] } } := by
  have hfresh := nextId_fresh hr
  simp only [newUser, Db.putUser]
  rw [putUser_twice_fresh (a := { id := st.nextId + 1 }) (b := { id := st.nextId + 1, name := name }) hfresh rfl]

/-! ### the reverse index of the hostmask cache is complete
`invalidateCache(hostmask=h)` does `self._hostmaskCache[id].remove(h)`, which would raise KeyError
if the set of the cached id were missing or did not contain `h`; the model is tolerant there.
`RevOK` shows that the tolerated case never arises in a reachable state. -/

def RevOK (hc : HCache) : Prop :=
  ∀ p ∈ hc.fwd, ∃ set, hc.rev.lookup p.2 = some set ∧ p.1 ∈ set

theorem revOK_empty : RevOK {} := by intro p hp; cases hp

theorem revOK_room {hc : HCache} (h : RevOK hc) : RevOK hc.room := by
  rcases room_cases hc with e | e <;> rw [e]
  · exact h
  · exact revOK_empty

theorem revOK_set {hc : HCache} (h : RevOK hc) {s : Str} {id : Nat} {set : List Str} (hs : s ∈ set)
    (hsup : ∀ old, hc.rev.lookup id = some old → ∀ x ∈ old, x ∈ set) :
    RevOK { fwd := dset hc.fwd s id, rev := dset hc.rev id set } := by
  intro p hp
  rcases mem_dset hp with rfl | e
  · exact ⟨set, lookup_dset_self _ _ _, hs⟩
  · obtain ⟨set', hs', hm'⟩ := h p e
    by_cases hid : p.2 = id
    · exact ⟨set, hid ▸ lookup_dset_self _ _ _, hsup set' (hid ▸ hs') _ hm'⟩
    · exact ⟨set', (lookup_dset_ne _ _ hid).trans hs', hm'⟩

theorem revOK_cacheInsert {hc : HCache} (h : RevOK hc) (s : Str) (id : Nat) :
    RevOK (cacheInsert hc s id) := by
  have hr := revOK_room h
  unfold cacheInsert
  dsimp only
  cases hl : (hc.setFwd s id).rev.lookup id with
  | some set =>
    refine revOK_set hr (set := if s ∈ set then set else set ++ [s]) ?_ fun old ho x hx => ?_
    · split
      · assumption
      · simp
    · have : old = set := Option.some.inj (ho.symm.trans hl)
      subst this
      split
      · exact hx
      · exact List.mem_append_left _ hx
  | none =>
    unfold HCache.setRev
    rcases room_cases (hc.setFwd s id) with e | e <;> rw [e]
    · exact revOK_set hr (List.mem_singleton.2 rfl) fun old ho => by
        rw [show hc.room.rev.lookup id = none from hl] at ho; cases ho
    · intro p hp; cases hp

theorem revOK_invalidateId {st : St} (h : RevOK st.hc) (id : Nat) : RevOK (invalidateId st id).hc := by
  unfold invalidateId
  simp only
  cases hl : st.hc.rev.lookup id with
  | none => exact h
  | some set =>
    simp only
    intro p hp
    simp only at hp ⊢
    obtain ⟨hp1, hp2⟩ := List.mem_filter.1 hp
    obtain ⟨set', hs', hm'⟩ := h p hp1
    have hid : p.2 ≠ id := by
      intro e
      rw [e, hl] at hs'
      injection hs' with hs'; subst hs'
      have : set.contains p.1 = true := by simpa using hm'
      rw [this] at hp2; cases hp2
    exact ⟨set', by rw [lookup_ddel_ne _ hid]; exact hs', hm'⟩

theorem revOK_invalidateHost {st : St} (h : RevOK st.hc) (x : Str) : RevOK (invalidateHost st x).hc := by
  unfold invalidateHost
  cases hl : st.hc.fwd.lookup x with
  | none => exact h
  | some id =>
    simp only
    apply revOK_invalidateId
    simp only
    intro p hp
    simp only at hp ⊢
    obtain ⟨hp1, hp2⟩ := mem_ddel hp
    obtain ⟨set', hs', hm'⟩ := h p hp1
    by_cases hid : p.2 = id
    · rw [hid] at hs' ⊢
      rw [hs']
      simp only
      have hm2 : p.1 ∈ set'.filter (fun y => y != x) := List.mem_filter.2 ⟨hm', by simpa using hp2⟩
      have hne : (set'.filter (fun y => y != x)).isEmpty = false := by
        cases hf : set'.filter (fun y => y != x) with
        | nil => rw [hf] at hm2; cases hm2
        | cons _ _ => rfl
      rw [hne]
      exact ⟨_, lookup_dset_self _ _ _, hm2⟩
    · refine ⟨set', ?_, hm'⟩
      cases hr : st.hc.rev.lookup id with
      | none => simp only; exact hs'
      | some set =>
        simp only
        split
        · rw [lookup_ddel_ne _ hid]; exact hs'
        · rw [lookup_dset_ne _ _ hid]; exact hs'

theorem revOK_slowPath {st : St} (h : RevOK st.hc) (s : Str) : RevOK (slowPath st s).1.hc := by
  unfold slowPath
  split
  · exact h
  · exact revOK_cacheInsert h s _
  · exact revOK_empty

theorem revOK_getUserId {st : St} (h : RevOK st.hc) (s : Str) : RevOK (getUserId st s).1.hc := by
  unfold getUserId
  split
  · unfold getUserIdHost
    split
    · split
      · split
        · exact h
        · exact revOK_slowPath (revOK_invalidateHost h s) s
      · exact revOK_slowPath h s
    · exact revOK_slowPath h s
  · unfold getUserIdName
    simp only
    split
    · exact h
    · split <;> exact h

theorem revOK_setUser {st : St} (h : RevOK st.hc) (u : User) (live : Bool := true) :
    RevOK (setUser st u live).1.hc := by
  rcases setUser_outcome st u live with ⟨_, _, e⟩ | ⟨_, e⟩ | ⟨_, e, _⟩ <;> rw [e]
  · exact h
  · exact revOK_getUserId revOK_empty _
  · exact revOK_empty

theorem revOK_setUser' {st st' : St} (h : RevOK st.hc) (e : st'.hc = st.hc) (u : User) :
    RevOK (setUser st' u).1.hc := revOK_setUser (by rw [e]; exact h) u

theorem revOK_delUser {st : St} (h : RevOK st.hc) (id : Nat) : RevOK (delUser st id).1.hc := by
  unfold delUser
  split
  · exact h
  · exact revOK_invalidateId revOK_empty id

/-! ### `checkCapability` through the caches -/

theorem getUserId_ok_db {st : St} {s : Str} {id : Nat} (h : (getUserId st s).2 = .ok id) :
    (getUserId st s).1.db = st.db := by
  rcases (getUserId_effect st s).2.2 with e | ⟨_, _, _, e⟩
  · exact e
  · rw [e] at h; cases h

/-- **The capability decision does not depend on the lookup caches**: in a state satisfying the
invariant, `checkCapability` run through `UsersDictionary.getUser` — cache hits, re-validation,
duplicate removal and all — returns what the cache-free `C03.Db.checkCapability` returns on the
same records at the same time. -/
theorem checkCapabilityS_eq {st : St} (hi : Inv st) (h cap : Str) (fl : Flags) :
    (checkCapabilityS st h cap fl).2 = st.db.checkCapability st.now h cap fl := by
  have hag := getUserId_agrees hi.recs hi.cache h
  have hfr := getUserId_effect st h
  by_cases hh : isUserHostmask h = true
  case neg =>
    have hh' : isUserHostmask h = false := by simpa using hh
    unfold checkCapabilityS recogniseS Db.checkCapability Db.recognise
    simp [hh']
  unfold checkCapabilityS recogniseS getUser Db.checkCapability Db.recognise
  simp only [hh, Bool.not_true, Bool.false_eq_true, if_false]
  -- `getUser` matches on the pair `getUserId st h` itself: show its two components
  rw [show getUserId st h = ((getUserId st h).1, (getUserId st h).2) from rfl]
  cases hres : (getUserId st h).2 with
  | ok id =>
    have hdb := getUserId_ok_db hres
    rw [hres] at hag
    cases hl : st.db.lookup st.now h with
    | found u0 =>
      rw [hl] at hag
      have hmem : u0 ∈ st.db.users := C03.lookup_found_mem hl
      have hfind : st.db.getUserById id = some u0 := by
        unfold Db.getUserById
        rw [← hag]; exact find_by_id hi.recs.nodup hmem
      simp only [hdb, hfind, hfr.1]
      by_cases hc : (u0.secure && !u0.checkHostmask st.db.timeout st.now h false) = true
      · simp only [hc, if_true]
      · simp only [hc, Bool.false_eq_true, if_false]
    | missing => rw [hl] at hag; cases hag
    | duplicate => rw [hl] at hag; cases hag
  | error e =>
    rw [hres] at hag
    simp only
    have hunk : (getUserId st h).1.db.checkUnknown cap fl.ignoreDefaultAllow =
        st.db.checkUnknown cap fl.ignoreDefaultAllow := by
      rcases hfr.2.2 with e | ⟨_, _, e, _⟩ <;> rw [e] <;> rfl
    cases hl : st.db.lookup st.now h with
    | found u0 => rw [hl] at hag; cases e <;> cases hag
    | missing => simp only [hunk]
    | duplicate => simp only [hunk]

end C04
