/-
C04 — property theorems: a sender is recognised as an account only via its own hostmasks or
login; the answer is the one a cache-free recomputation would give.
(The model is `C04/Model.lean`; the cache-free, effect-free lookup `Db.lookup` / `Db.recognise`
is the one of `C03/Model.lean`; the invariants are in `C04/Lemmas.lean`, their preservation by every
operation in `C04/Footprint.lean`.)
-/
import LimnoriaModel.C04.Lemmas
import LimnoriaModel.C04.Glob
import LimnoriaModel.C04.PluginLemmas
import LimnoriaModel.C04.Overlap
namespace C04
open Py C03

/-- every operation keeps the invariant (`step_inv`: it is a sequence of a few primitive updates,
each of which keeps it) -/
theorem inv_step (st : St) (hi : Inv st) (op : Op) : Inv (step st op).1 := step_inv hi op

theorem inv_run (t : Int) (ops : List Op) : Inv (run { db := { timeout := t } } ops) :=
  run_inv (init_inv t) ops

/-- the states the bot can be in: any history from an empty database with any login timeout -/
def Reachable (st : St) : Prop := ∃ (t : Int) (ops : List Op), st = run { db := { timeout := t } } ops

/-- **Every reachable state satisfies the invariant**: distinct ids, no line break in a stored
name, and — for the caches — a cached hostmask is a user hostmask matched by no other user, a
cached name finds its user first, reverse name entries exist. -/
theorem reachable_inv {st : St} (hr : Reachable st) : Inv st := by
  obtain ⟨t, ops, e⟩ := hr
  rw [e]; exact inv_run t ops

theorem reachable_step {st : St} (hr : Reachable st) (op : Op) : Reachable (step st op).1 := by
  obtain ⟨t, ops, e⟩ := hr
  refine ⟨t, ops ++ [op], ?_⟩
  rw [e]
  simp [run, List.foldl_append]

/-- **Cache transparency.**  After *any* history of register / hostmask add / hostmask remove /
identify / unidentify / changename / set secure / users.conf load / delUser / clock ticks /
lookups, started from an empty database with any login timeout, `getUserId(s)` — with whatever
the two caches hold at that point — answers what the cache-free, effect-free lookup answers on
the current records at the current time: the same id, KeyError for nobody, and
DuplicateHostmask (or the KeyError that `removeHostmask(True)` raises inside the removal loop)
exactly when two users match. -/
theorem cache_transparent {st : St} (hr : Reachable st) (s : Str) :
    agrees (st.db.lookup st.now s) (getUserId st s).2 :=
  getUserId_agrees (reachable_inv hr).recs (reachable_inv hr).cache s

example : Reachable (run { db := { timeout := 10 } } [.register ['a', 'l'] none, .tick 3]) := ⟨10, _, rfl⟩

/-- non-vacuity: a history that warms the cache, then lets the login expire; the cached answer
is dropped (this is the design-time defect, after its repair) -/
example :
    (step (run { db := { timeout := 10 } }
      [.register ['a', 'l'] none, .identify 1 ['a', '!', 'x', '@', 'y'], .lookup ['a', '!', 'x', '@', 'y'], .tick 100])
      (.lookup ['a', '!', 'x', '@', 'y'])).2 = .err .key := by decide +kernel

example :
    (step (run { db := { timeout := 10 } }
      [.register ['a', 'l'] none, .identify 1 ['a', '!', 'x', '@', 'y'], .tick 5])
      (.lookup ['a', '!', 'x', '@', 'y'])).2 = .id 1 := by decide +kernel

/-- what "the user matches the hostmask" means: one of the registered patterns globs it, or there
is an unexpired login from exactly this hostmask -/
def MatchesUser (st : St) (u : User) (s : Str) : Prop :=
  (∃ p ∈ u.hostmasks, glob p s = true) ∨
  (∃ e ∈ u.auth, authLive st.db.timeout st.now e = true ∧ e.2 = s)

theorem matchesUser_of_check {st : St} {u : User} {s : Str} (hs : isUserHostmask s = true)
    (h : u.checkHostmask st.db.timeout st.now s true = true) : MatchesUser st u s := by
  rw [checkHostmask_any hs] at h
  simp only [Bool.true_and, Bool.or_eq_true] at h
  rcases h with h | h
  · right
    unfold User.authMatch at h
    rw [List.any_eq_true] at h
    obtain ⟨e, he, hp⟩ := h
    simp only [Bool.and_eq_true, beq_iff_eq] at hp
    exact ⟨e, he, hp.1, hp.2⟩
  · left
    rw [List.any_eq_true] at h
    exact h

theorem lookup_found_host {db : Db} {now : Int} {s : Str} {u : User} (hs : isUserHostmask s = true)
    (h : db.lookup now s = .found u) :
    db.users.filter (fun u => u.checkHostmask db.timeout now s true) = [u] := by
  unfold Db.lookup at h
  simp only [hs, if_true] at h
  generalize db.users.filter (fun u => u.checkHostmask db.timeout now s true) = l at h
  match l, h with
  | [v], h => injection h with h; rw [h]

theorem getUserId_ok_filter {st : St} (hi : Inv st) {s : Str} {id : Nat} (hs : isUserHostmask s = true)
    (h : (getUserId st s).2 = .ok id) :
    ∃ u, st.db.users.filter (fun u => u.checkHostmask st.db.timeout st.now s true) = [u] ∧ u.id = id := by
  have ha := getUserId_agrees hi.recs hi.cache s
  rw [h] at ha
  cases hl : st.db.lookup st.now s with
  | found u => rw [hl] at ha; exact ⟨u, lookup_found_host hs hl, ha⟩
  | missing => rw [hl] at ha; cases ha
  | duplicate => rw [hl] at ha; cases ha

/-- **Soundness of recognition.**  In every reachable state, when `getUserId` resolves a user
hostmask to an id, that id is a stored user who matches the hostmask: by a registered pattern
(IRC glob, rfc1459 case pairs) or by an unexpired login from exactly that hostmask. -/
theorem getUserId_sound {st : St} (hr : Reachable st) (s : Str) (id : Nat)
    (hs : isUserHostmask s = true) (h : (getUserId st s).2 = .ok id) :
    ∃ u ∈ st.db.users, u.id = id ∧ MatchesUser st u s := by
  obtain ⟨u, hf, hid⟩ := getUserId_ok_filter (reachable_inv hr) hs h
  obtain ⟨h1, h2⟩ := List.mem_filter.1 (hf ▸ List.mem_singleton.2 rfl : u ∈ _)
  exact ⟨u, h1, hid, matchesUser_of_check hs h2⟩

/-- **Uniqueness**: … and no other stored user matches that hostmask.  When two users match, the
answer is an exception (`cache_transparent`): a hostmask never resolves to two accounts. -/
theorem getUserId_unique {st : St} (hr : Reachable st) (s : Str) (id : Nat)
    (hs : isUserHostmask s = true) (h : (getUserId st s).2 = .ok id) :
    ∀ v ∈ st.db.users, v.id ≠ id → v.checkHostmask st.db.timeout st.now s true = false := by
  obtain ⟨u, hf, hid⟩ := getUserId_ok_filter (reachable_inv hr) hs h
  intro v hv hne
  cases hc : v.checkHostmask st.db.timeout st.now s true with
  | false => rfl
  | true =>
    have hm : v ∈ st.db.users.filter (fun u => u.checkHostmask st.db.timeout st.now s true) :=
      List.mem_filter.2 ⟨hv, hc⟩
    rw [hf, List.mem_singleton] at hm
    exact absurd (hm ▸ hid) hne

/-- **A secure account additionally needs a registered mask**: the recognition used by
`checkCapability` (`C03.Db.recognise`) accepts a secure user only when one of the user's own
patterns matches the sender, whatever logins exist. -/
theorem recognise_secure (db : Db) (now : Int) (h : Str) (u : User)
    (hr : db.recognise now h = some u) (hsec : u.secure = true) :
    ∃ p ∈ u.hostmasks, glob p h = true := by
  unfold Db.recognise at hr
  split at hr
  · cases hr
  cases hl : db.lookup now h with
  | found v =>
    rw [hl] at hr
    simp only at hr
    split at hr
    · cases hr
    · rename_i hc
      injection hr with hr; subst hr
      simp only [hsec, Bool.true_and, Bool.not_eq_true', Bool.not_eq_false] at hc
      unfold User.checkHostmask at hc
      simp only [Bool.false_and, Bool.false_or] at hc
      cases hf : v.patMatch h with
      | none => rw [hf] at hc; cases hc
      | some p => exact patMatch_some hf
  | missing => rw [hl] at hr; cases hr
  | duplicate => rw [hl] at hr; cases hr

/-- **No overlap after an accepted `setUser`**: when `setUser(u)` succeeds, the record `w` it
stores under `u.id` (the stored object itself when the caller modified it in place) has no mask
that matches, as a pattern, a mask of another stored user read as a string, none for which
`hostmaskPatternsIntersect` finds a common hostmask with a mask of another user (so, by
`intersect_complete`, none that shares a hostmask with it: `setUser_no_common_instance`), and no
other user's `checkHostmask` accepts a mask of `w` read as a hostmask. -/
theorem setUser_no_literal_overlap (st : St) (u : User) (live : Bool)
    (h : (setUser st u live).2 = .ok ()) :
    ∃ w ∈ (setUser st u live).1.db.users, w.id = u.id ∧
      ∀ hm ∈ w.hostmasks, ∀ v ∈ (setUser st u live).1.db.users, v.id ≠ u.id →
        (∀ o ∈ v.hostmasks, glob hm o = false ∧ intersect hm o = false) ∧
        maskHitsUser v (setUser st u live).1.db.timeout (setUser st u live).1.now hm = false := by
  rcases setUser_outcome st u live with ⟨_, hne, _⟩ | ⟨hne, _⟩ | ⟨_, hr, hov⟩
  · exact absurd h hne
  · exact absurd h hne
  have hwid := finalRecord_id (afterNameLookup st u) u live
  rw [hr]
  refine ⟨_, mem_putUser_self _ _, hwid, fun hm hhm v hv hne => ?_⟩
  have hv' : v ∈ (afterNameLookup st u).db.users := by
    rcases C03.mem_putUser hv with e | e
    · rw [e, hwid] at hne; exact absurd rfl hne
    · exact e
  have := overlaps_false hov hm hhm v hv' (hwid ▸ hne)
  exact ⟨this.2, this.1⟩

/-- **Two accounts never come to own masks with a hostmask in common through `setUser`**: after
an accepted `setUser(u)`, no hostmask (without LF) is matched by a mask of the stored record of
`u.id` and by a mask of another account. -/
theorem setUser_no_common_instance (st : St) (u : User) (live : Bool)
    (h : (setUser st u live).2 = .ok ()) :
    ∃ w ∈ (setUser st u live).1.db.users, w.id = u.id ∧
      ∀ hm ∈ w.hostmasks, ∀ v ∈ (setUser st u live).1.db.users, v.id ≠ u.id → ∀ o ∈ v.hostmasks,
        ∀ s, '\n' ∉ s → ¬ (glob hm s = true ∧ glob o s = true) := by
  obtain ⟨w, hw, hid, hall⟩ := setUser_no_literal_overlap st u live h
  refine ⟨w, hw, hid, ?_⟩
  intro hm hhm v hv hne o ho s hs ⟨h1, h2⟩
  have := ((hall hm hhm v hv hne).1 o ho).2
  rw [intersect_complete hs h1 h2] at this
  cases this

/-- **Two accounts can never own overlapping masks.**  In every state reachable by any history
of dictionary operations (register, hostmask add/remove, identify, unidentify, changename, set
secure, users.conf load, delUser, ticks, lookups), no hostmask (without LF — IRC prefixes contain
none) is matched by masks of two different accounts.  (`step_noCommon`, `C04/Overlap.lean`: an
accepted `setUser` tested the stored record against everybody else with
`hostmaskPatternsIntersect`, which is complete; a refused one is rolled back or adds no mask.) -/
theorem no_overlapping_masks {st : St} (hr : Reachable st) : NoCommon st.db.users := by
  obtain ⟨t, ops, rfl⟩ := hr
  exact (run_preserves (P := fun s => Inv s ∧ NoCommon s.db.users)
    (fun _ op h => ⟨step_inv h.1 op, step_noCommon h.1 h.2 op⟩)
    ⟨init_inv t, fun u hu => by cases hu⟩ ops).2

/-- … and so a sender's hostmask can match two accounts only through a *login* (an `identify`
with the other account's password from a host that the first account's mask matches): pattern
matches alone never collide. -/
theorem two_pattern_matches_same_account {st : St} (hr : Reachable st) (s : Str) (hs : '\n' ∉ s)
    (u v : User) (hu : u ∈ st.db.users) (hv : v ∈ st.db.users)
    (hmu : ∃ p ∈ u.hostmasks, glob p s = true) (hmv : ∃ q ∈ v.hostmasks, glob q s = true) :
    u.id = v.id := by
  obtain ⟨p, hp, hgp⟩ := hmu
  obtain ⟨q, hq, hgq⟩ := hmv
  exact Decidable.byContradiction fun h => no_overlapping_masks hr u hu v hv h p hp q hq s hs ⟨hgp, hgq⟩

/-! ## The design-time finding "masks with a common instance are accepted", after its repair -/

def annMask : Str := ['a', 'n', 'n', '*', '!', '*', '@', '*']
def beaMask : Str := ['*', 'b', 'e', 'a', '!', '*', '@', '*']
def abHost : Str := ['a', 'n', 'n', 'b', 'e', 'a', '!', 'x', '@', 'y']
def overlapHistory : List Op :=
  [.register ['a', 'n', 'n'] (some annMask), .register ['b', 'e', 'a'] (some beaMask)]

/-- `annbea!x@y` is an instance of both masks; the second registration is now refused (and rolled
back), and that sender resolves to the first account -/
theorem semantic_overlap_refused :
    glob annMask abHost = true ∧ glob beaMask abHost = true ∧ intersect annMask beaMask = true ∧
    (step (run {} [.register ['a', 'n', 'n'] (some annMask)]) (.register ['b', 'e', 'a'] (some beaMask))).2 = .err .value ∧
    (run {} overlapHistory).db.users.map (fun u => (u.id, u.hostmasks)) = [(1, [annMask])] ∧
    (step (run {} overlapHistory) (.lookup abHost)).2 = .id 1 := by
  decide +kernel

/-- **The tolerant step of the model is never taken**: in every reachable state each cached
hostmask is listed in the reverse entry of its id, so `invalidateCache(hostmask=h)` cannot raise
KeyError at `self._hostmaskCache[id].remove(h)` (where the model, unlike the code, would just go
on). -/
theorem revOK_reachable {st : St} (hr : Reachable st) : RevOK st.hc := by
  obtain ⟨t, ops, e⟩ := hr
  rw [e]; exact revOK_run revOK_empty ops

/-- **Capability decisions never depend on the lookup caches**: in every
reachable state, `ircdb.checkCapability` as the bot runs it — recognition through
`UsersDictionary.getUser` with both caches, hit re-validation and duplicate removal, then the
`secure` re-check and the decision stages — returns exactly what the cache-free
`C03.Db.checkCapability` returns on the current records at the current time (to which
`C03.check_eq_spec` applies). -/
theorem checkCapability_cache_free {st : St} (hr : Reachable st) (h cap : Str) (fl : Flags) :
    (checkCapabilityS st h cap fl).2 = st.db.checkCapability st.now h cap fl :=
  checkCapabilityS_eq (reachable_inv hr) h cap fl

/-! ## the User plugin: a login is always backed by the account's password
`C04/Plugin.lean` models `register`, `identify`, `unidentify`, `hostmask add`, `hostmask remove`,
`set secure`, `changename`, `whoami` with their converters and guards; `pwOk` is the password test
(`IrcUser.checkPassword`), a parameter.  The ghost log records every `identify` whose password
test succeeded. -/

/-- the states the bot reaches from a database without accounts through commands of the User
plugin and NICK messages, with `supybot.followIdentificationThroughNickChanges` on or off: every
command is processed as the live bot does (`pstepA`: the sender is remembered, the bot's own
lookups of the sender run before and after, for any numbers of them), every NICK message as
`Irc.doNick` and `IrcState.doNick` do (`nickStep`) -/
def PReachable (pwOk : Str → Str → Bool) (pst : PSt) : Prop :=
  ∃ (db : Db) (amb : Ambient) (follow : Bool) (evs : List Ev),
    db.users = [] ∧ pst = erun amb pwOk { st := { db := db }, follow := follow } evs

theorem preachable_pinv {pwOk : Str → Str → Bool} {pst : PSt} (hr : PReachable pwOk pst) :
    PInv pwOk pst := by
  obtain ⟨db, amb, follow, evs, hdb, e⟩ := hr
  rw [e]; exact erun_pinv amb (pinit pwOk db hdb follow) evs

/-- **No dictionary operation but `identify` and `followNick` writes a login** (`step_auth`),
**the plugin runs `identify` only for `identify <name> <password>` from that exact sender after
the password test** (`guard_identify`) **and never `followNick`** (`guard_not_follow`), **and
`Irc.doNick` moves a login only from the NICK message's own sender to that sender's new
hostmask** (`nickStep_pinv`).  Hence: in every reachable state, every login entry `(t, h)` of
every account goes back to an `identify` command sent at time `t` from `l.origin` with a password
that the account's password test accepted, where `h` is `l.origin` itself — or, when the bot is
configured to follow nick changes, is reached from `l.origin` by NICK messages each sent by
exactly the hostmask reached so far (`Follows`). -/
theorem auth_backed_by_password {pwOk : Str → Str → Bool} {pst : PSt} (hr : PReachable pwOk pst) :
    ∀ u ∈ pst.st.db.users, ∀ e ∈ u.auth,
      ∃ l ∈ pst.log, l.uid = u.id ∧ l.t = e.1 ∧ l.host = e.2 ∧
        (∃ stored, pst.pws.lookup u.id = some stored ∧ pwOk stored l.pw = true) ∧
        Follows pst.events l.origin l.host ∧ (pst.follow = false → l.host = l.origin) := by
  have hp := preachable_pinv hr
  intro u hu e he
  obtain ⟨l, hl, h1, h2, h3⟩ := hp.backed u hu e he
  obtain ⟨s, hs, hok⟩ := hp.logOK l hl
  exact ⟨l, hl, h1, h2, h3, ⟨s, h1 ▸ hs, hok⟩, hp.linked l hl⟩

/-- every NICK message that moved a login came from a user hostmask and changed only the nick:
the new hostmask is the new nick followed by the sender's own `!user@host` -/
theorem followed_nick_only {pwOk : Str → Str → Bool} {pst : PSt} (hr : PReachable pwOk pst) :
    ∀ e ∈ pst.events, isUserHostmask e.1 = true ∧ ∃ nn, e.2 = newHost e.1 nn :=
  (preachable_pinv hr).events

/-- **Recognition, complete statement.**  In every state reachable through the User plugin, when
`getUserId` (caches and all) resolves a user hostmask `s` to an id, that id is a stored account
and either one of its registered patterns matches `s` (IRC glob and case rules), or somebody
identified WITH THE ACCOUNT'S PASSWORD from `l.origin` and that login has not timed out, where
`l.origin` is exactly `s` — or, only when the bot follows nick changes, `s` is what the server's
NICK messages turned `l.origin` into. -/
theorem recognised_by_mask_or_password {pwOk : Str → Str → Bool} {pst : PSt}
    (hr : PReachable pwOk pst) (s : Str) (id : Nat) (hs : isUserHostmask s = true)
    (h : (getUserId pst.st s).2 = .ok id) :
    ∃ u ∈ pst.st.db.users, u.id = id ∧
      ((∃ p ∈ u.hostmasks, glob p s = true) ∨
       (∃ l ∈ pst.log, l.uid = id ∧ l.host = s ∧
          authLive pst.st.db.timeout pst.st.now (l.t, s) = true ∧
          (∃ stored, pst.pws.lookup id = some stored ∧ pwOk stored l.pw = true) ∧
          Follows pst.events l.origin s ∧ (pst.follow = false → l.origin = s))) := by
  obtain ⟨u, hf, ha⟩ := getUserId_ok_filter (preachable_pinv hr).inv hs h
  obtain ⟨h1, h2⟩ := List.mem_filter.1 (hf ▸ List.mem_singleton.2 rfl : u ∈ _)
  refine ⟨u, h1, ha, ?_⟩
  rcases matchesUser_of_check hs h2 with hpat | ⟨e, he, hlive, hes⟩
  · exact Or.inl hpat
  · right
    obtain ⟨l, hl', h3, h4, h5, ⟨stored, h6, h7⟩, h8, h9⟩ := auth_backed_by_password hr u h1 e he
    have hhs : l.host = s := h5.trans hes
    refine ⟨l, hl', h3.trans ha, hhs, ?_, ⟨stored, ha ▸ h6, h7⟩, hhs ▸ h8, fun hf => (h9 hf).symm.trans hhs⟩
    rw [h4, ← hes]; exact hlive

/-- **Account names.**  In every state reachable through the User plugin and NICK messages no
account name looks like a hostmask — so every account can be addressed by its name — and no two
accounts have the same name (compared ASCII case-insensitively, as `getUserId` compares names):
`register` and `changename` look the new name up first and refuse hostmask-like names
(`guard_names`), and no other command's operation names an account (`step_sig`). -/
theorem account_names_unique {pwOk : Str → Str → Bool} {pst : PSt} (hr : PReachable pwOk pst) :
    (∀ u ∈ pst.st.db.users, isUserHostmask u.name = false) ∧
    ∀ u ∈ pst.st.db.users, ∀ v ∈ pst.st.db.users, asciiLower u.name = asciiLower v.name → u.id = v.id := by
  have h := (preachable_pinv hr).names
  exact ⟨fun u hu => h.1 _ (mem_sig hu), fun u hu v hv e => h.2 _ (mem_sig hu) _ (mem_sig hv) e⟩

/-- **A name never resolves to two accounts either**: when `getUserId` (name cache and all)
resolves an account name to an id, that id is the one stored account of that name -/
theorem name_resolves_to_the_account {pwOk : Str → Str → Bool} {pst : PSt} (hr : PReachable pwOk pst)
    (s : Str) (id : Nat) (hs : isUserHostmask s = false) (h : (getUserId pst.st s).2 = .ok id) :
    ∃ u ∈ pst.st.db.users, u.id = id ∧ asciiLower u.name = asciiLower s ∧
      ∀ v ∈ pst.st.db.users, asciiLower v.name = asciiLower s → v.id = id := by
  have hp := preachable_pinv hr
  have ha := getUserId_agrees hp.inv.recs hp.inv.cache s
  rw [h] at ha
  unfold Db.lookup at ha
  simp only [hs, Bool.false_eq_true, if_false] at ha
  cases hf : pst.st.db.users.find? (fun u => asciiLower u.name == asciiLower s) with
  | none => rw [hf] at ha; cases ha
  | some u =>
    rw [hf] at ha
    have hu := List.mem_of_find?_eq_some hf
    have hn : asciiLower u.name = asciiLower s := by
      have := List.find?_some hf
      simpa using this
    refine ⟨u, hu, ha, hn, ?_⟩
    intro v hv hvn
    rw [← ha]
    exact (account_names_unique hr).2 v hv u hu (hvn.trans hn.symm)

/-- the same through the User plugin: accounts never own masks with a hostmask in common -/
theorem plugin_no_overlapping_masks {pwOk : Str → Str → Bool} {pst : PSt} (hr : PReachable pwOk pst) :
    NoCommon pst.st.db.users := (preachable_pinv hr).disjoint

/-- **a sender that matches two accounts gets nothing done**: when the bot's first lookup of the
sender raises DuplicateHostmask, the command is not executed — no reply, no new login, no new
account; only lookups happened (which delete the offending masks) -/
theorem ambiguous_sender_runs_nothing (amb : Ambient) (pwOk : Str → Str → Bool) (pst : PSt) (c : Cmd) (p : Str)
    (hp : c.sender = some p) (hpos : 0 < amb.aborting)
    (hdup : (getUserId pst.st p).2 = .error .value) :
    (pstepA amb pwOk pst c).2 = .silent ∧ (pstepA amb pwOk pst c).1.log = pst.log ∧
    (pstepA amb pwOk pst c).1.pws = pst.pws ∧ Quiet pst.st (pstepA amb pwOk pst c).1.st := by
  unfold pstepA
  rw [hp]
  dsimp only
  have habort : (lookupsAbort pst.st p amb.aborting).2 = true := by
    cases ha : amb.aborting with
    | zero => rw [ha] at hpos; cases hpos
    | succ n => unfold lookupsAbort; dsimp only; rw [hdup]
  rw [habort]
  simp only [if_true, true_and]
  exact quiet_trans (quiet_lookupsAbort _ p _) (quiet_lookups _ p _)

/-- a `secure` account only accepts a login from a hostmask one of its masks matches
(`IrcUser.addAuth`, checked WITHOUT the existing logins) -/
theorem addAuth_secure (u u1 : User) (t now : Int) (h : Str) (hsec : u.secure = true)
    (ha : addAuth u t now h = .ok u1) : ∃ p ∈ u.hostmasks, glob p h = true := by
  unfold addAuth at ha
  split at ha
  · rename_i hc
    simp only [hsec, Bool.not_true, Bool.or_false] at hc
    unfold checkHostmask at hc
    simp only [Bool.false_and, Bool.false_eq_true, if_false] at hc
    cases hf : u.patMatch h with
    | none => rw [hf] at hc; cases hc
    | some p => exact patMatch_some hf
  · cases ha

/-- non-vacuity, and the scenario behind the seeded change C04-m4: with equality as password
test, `identify alice wrong` from a host that a broad mask of alice matches is refused and
creates no login; after the mask is removed the sender is a stranger -/
example :
    let A : Str := ['n', 'a', '!', 'u', '@', 'h', '.', 'a']
    let M : Str := ['n', 'm', '!', 'u', '@', 'd', '.', 'i', 's', 'p']
    let alice : Str := ['a', 'l', 'i', 'c', 'e']
    let pw : Str := ['p', 'w', '1']
    let broad : Str := ['*', '!', '*', '@', '*', '.', 'i', 's', 'p']
    let pst := prun (fun s a => s == a) { st := { db := Db.initial } }
      [.register A alice pw, .hostAdd A (some alice) broad pw, .identify M alice ['x'],
       .hostRemove A (some alice) broad pw]
    (pstep (fun s a => s == a) pst (.whoami M)).2 = .stranger ∧ pst.log = [] := by
  decide +kernel

/-- non-vacuity for the names: `changename` to a name that looks like a hostmask or that somebody
has is refused, to a free one it succeeds -/
example :
    let A : Str := ['n', 'a', '!', 'u', '@', 'h', '.', 'a']
    let B : Str := ['n', 'b', '!', 'u', '@', 'h', '.', 'b']
    let alice : Str := ['a', 'l', 'i', 'c', 'e']
    let bobby : Str := ['B', 'o', 'b']
    let pw : Str := ['p', 'w', '1']
    let pst := prun (fun s a => s == a) { st := { db := Db.initial } } [.register A alice pw, .register B bobby pw]
    (pstep (fun s a => s == a) pst (.changename A alice ['x', '!', 'y', '@', 'z'] pw)).2 = .invalid ∧
    (pstep (fun s a => s == a) pst (.changename A alice ['b', 'O', 'B'] pw)).2 = .nameTaken ∧
    (pstep (fun s a => s == a) pst (.changename A alice ['e', 'v', 'e'] pw)).2 = .success ∧
    pst.st.db.users.map (fun u => u.name) = [alice, bobby] := by
  decide +kernel

/-- non-vacuity for NICK following: alice identifies from `na!u@h.a` and changes her nick to
`nb`; with the option on the login moves to `nb!u@h.a` (and the log says where the password came
from), with the option off it stays where it was -/
example :
    let A : Str := ['n', 'a', '!', 'u', '@', 'h', '.', 'a']
    let B : Str := ['n', 'b', '!', 'u', '@', 'h', '.', 'a']
    let alice : Str := ['a', 'l', 'i', 'c', 'e']
    let pw : Str := ['p', 'w', '1']
    let evs : List Ev := [.cmd (.register A alice pw), .cmd (.hostRemove A none A []),
      .cmd (.identify A alice pw), .nick A ['n', 'b']]
    let on := erun {} (fun s a => s == a) { st := { db := Db.initial }, follow := true } evs
    let off := erun {} (fun s a => s == a) { st := { db := Db.initial } } evs
    (pstep (fun s a => s == a) on (.whoami B)).2 = .iam alice ∧
    (pstep (fun s a => s == a) on (.whoami A)).2 = .stranger ∧
    on.log.map (fun l => (l.origin, l.host)) = [(A, A), (A, B)] ∧
    (pstep (fun s a => s == a) off (.whoami B)).2 = .stranger ∧
    (pstep (fun s a => s == a) off (.whoami A)).2 = .iam alice := by
  decide +kernel

end C04
