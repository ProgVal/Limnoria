/-
C04 — the glob matcher `C03.glob` (= `ircutils.hostmaskPatternEqual`): equivalence with a
declarative match relation, invariance under IRC case folding; and the overlap test
`C03.intersect` (= `hostmaskPatternsIntersect`): it says yes exactly when the two patterns have
an LF-free hostmask in common (`intersect_complete`, `intersect_sound`).
-/
import LimnoriaModel.C03.Lemmas
namespace C04
open Py C03

/-- declarative semantics of a hostmask pattern: `*` matches any run of characters other than
LF, `?` one such character, any other pattern character one character of its class
(`patCharMatch`: the four rfc1459 pairs, ASCII letters up to case, else identity); the whole
hostmask must be consumed, except that one final LF is tolerated (the `$` of the regexp). -/
inductive Matches : Str → Str → Prop
  | nil : Matches [] []
  | nilLF : Matches [] ['\n']
  | starSkip {ps h} : Matches ps h → Matches ('*' :: ps) h
  | starEat {ps c cs} : c ≠ '\n' → Matches ('*' :: ps) cs → Matches ('*' :: ps) (c :: cs)
  | qmark {ps c cs} : c ≠ '\n' → Matches ps cs → Matches ('?' :: ps) (c :: cs)
  | char {p ps c cs} : p ≠ '*' → p ≠ '?' → patCharMatch p c = true → Matches ps cs →
      Matches (p :: ps) (c :: cs)

theorem starAux_iff {k : Str → Bool} {ps : Str} (hk : ∀ h, k h = true ↔ Matches ps h) (h : Str) :
    starAux k h = true ↔ Matches ('*' :: ps) h := by
  induction h with
  | nil =>
    simp only [starAux]
    constructor
    · intro hh; exact .starSkip ((hk []).1 hh)
    · intro hm
      cases hm with
      | starSkip hm' => exact (hk []).2 hm'
  | cons c cs ih =>
    simp only [starAux, Bool.or_eq_true, Bool.and_eq_true, bne_iff_ne, ne_eq]
    constructor
    · rintro (hh | ⟨hc, hh⟩)
      · exact .starSkip ((hk _).1 hh)
      · exact .starEat hc (ih.1 hh)
    · intro hm
      cases hm with
      | starSkip hm' => exact Or.inl ((hk _).2 hm')
      | starEat hc hm' => exact Or.inr ⟨hc, ih.2 hm'⟩
      | char h1 _ _ _ => exact absurd rfl h1

/-- **the matcher computes the declarative relation** -/
theorem glob_iff_matches (p h : Str) : glob p h = true ↔ Matches p h := by
  induction p generalizing h with
  | nil =>
    simp only [glob, Bool.or_eq_true, beq_iff_eq]
    constructor
    · rintro (e | e)
      · rw [e]; exact .nil
      · rw [e]; exact .nilLF
    · intro hm
      cases hm with
      | nil => exact Or.inl rfl
      | nilLF => exact Or.inr rfl
  | cons x xs ih =>
    simp only [glob]
    by_cases hx : x = '*'
    · subst hx
      simp only [beq_self_eq_true, if_true]
      exact starAux_iff ih h
    · have hx' : (x == '*') = false := by simp [hx]
      simp only [hx', Bool.false_eq_true, if_false]
      cases h with
      | nil =>
        simp only [Bool.false_eq_true, false_iff]
        intro hm
        cases hm with
        | starSkip _ => exact hx rfl
      | cons c cs =>
        simp only
        by_cases hq : x = '?'
        · subst hq
          simp only [beq_self_eq_true, if_true, Bool.and_eq_true, bne_iff_ne, ne_eq]
          constructor
          · rintro ⟨hc, hh⟩; exact .qmark hc ((ih cs).1 hh)
          · intro hm
            cases hm with
            | qmark hc hm' => exact ⟨hc, (ih cs).2 hm'⟩
            | char _ h2 _ _ => exact absurd rfl h2
        · have hq' : (x == '?') = false := by simp [hq]
          simp only [hq', Bool.false_eq_true, if_false, Bool.and_eq_true]
          constructor
          · rintro ⟨hc, hh⟩; exact .char hx hq hc ((ih cs).1 hh)
          · intro hm
            cases hm with
            | starSkip _ => exact absurd rfl hx
            | starEat _ _ => exact absurd rfl hx
            | qmark _ _ => exact absurd rfl hq
            | char _ _ hc hm' => exact ⟨hc, (ih cs).2 hm'⟩

example : Matches ['a', '*', '[', '?'] ['A', 'x', 'y', '{', 'z'] := by
  rw [← glob_iff_matches]; decide

theorem asciiLowerChar_upper (x : Char) (h : 'A' ≤ x ∧ x ≤ 'Z') :
    'a' ≤ asciiLowerChar x ∧ asciiLowerChar x ≤ 'z' := by
  have h1 : 65 ≤ x.toNat := h.1
  have h2 : x.toNat ≤ 90 := h.2
  unfold asciiLowerChar
  rw [if_pos h]
  have e : (Char.ofNat (x.toNat + 32)).toNat = x.toNat + 32 := by
    rw [Char.ofNat, dif_pos (Or.inl (by omega))]; rfl
  constructor
  · show 97 ≤ (Char.ofNat (x.toNat + 32)).toNat
    omega
  · show (Char.ofNat (x.toNat + 32)).toNat ≤ 122
    omega

theorem asciiLowerChar_eq_of_not_lower {x k : Char} (hk : ¬ ('a' ≤ k ∧ k ≤ 'z'))
    (h : asciiLowerChar x = k) : x = k := by
  by_cases hu : 'A' ≤ x ∧ x ≤ 'Z'
  · have := asciiLowerChar_upper x hu
    rw [h] at this
    exact absurd this hk
  · unfold asciiLowerChar at h
    simp only [hu, if_false] at h
    exact h

theorem asciiLowerChar_fix {k : Char} (hk : ¬ ('A' ≤ k ∧ k ≤ 'Z')) : asciiLowerChar k = k := by
  unfold asciiLowerChar; simp only [hk, if_false]

/-- the class of a character under the pattern language (`C03.patClass`) -/
abbrev cls := C03.patClass

/-- the characters of the four rfc1459 pairs -/
def pairChars : List Char := ['[', '{', '}', ']', '|', '\\', '^', '~']

theorem asciiLowerChar_eq_pair {x k : Char} (hk : k ∈ pairChars) (h : asciiLowerChar x = k) : x = k :=
  asciiLowerChar_eq_of_not_lower ((by decide : ∀ k ∈ pairChars, ¬ ('a' ≤ k ∧ k ≤ 'z')) k hk) h

theorem patCharMatch_eq_cls (p c : Char) : patCharMatch p c = (cls p == cls c) := by
  -- outside the pairs both sides compare ASCII-lowered characters, and lowering leads into no pair
  have plain : ∀ x, x ∉ pairChars → cls x = asciiLowerChar x ∧
      (∀ y, patCharMatch x y = (asciiLowerChar x == asciiLowerChar y)) ∧ asciiLowerChar x ∉ pairChars := by
    intro x hx
    have hx' := hx
    simp only [pairChars, List.mem_cons, List.not_mem_nil, or_false, not_or] at hx'
    exact ⟨by simp [cls, patClass, hx'], fun y => by simp [patCharMatch, hx'],
      fun hm => hx (asciiLowerChar_eq_pair hm rfl ▸ hm)⟩
  have fixed : ∀ k ∈ pairChars, asciiLowerChar k = k ∧ cls k ∈ pairChars := by decide
  by_cases hp : p ∈ pairChars <;> by_cases hc : c ∈ pairChars
  · exact (by decide : ∀ p ∈ pairChars, ∀ c ∈ pairChars, patCharMatch p c = (cls p == cls c)) p hp c hc
  · obtain ⟨hcls, _, hlow⟩ := plain c hc
    have h1 : (cls p == cls c) = false := by
      rw [hcls, beq_eq_false_iff_ne]
      exact fun e => hlow (e ▸ (fixed p hp).2)
    rw [h1]
    simp only [pairChars, List.mem_cons, List.not_mem_nil, or_false, not_or] at hp hc
    rcases hp with rfl | rfl | rfl | rfl | rfl | rfl | rfl | rfl <;> simp [patCharMatch, hc]
  · obtain ⟨hcls, hpat, hlow⟩ := plain p hp
    rw [hpat, hcls, (fixed c hc).1]
    have h1 : (asciiLowerChar p == c) = false := beq_eq_false_iff_ne.2 fun e => hlow (e ▸ hc)
    have h2 : (asciiLowerChar p == cls c) = false := beq_eq_false_iff_ne.2 fun e => hlow (e ▸ (fixed c hc).2)
    rw [h1, h2]
  · rw [(plain p hp).2.1, (plain p hp).1, (plain c hc).1]

/-- obligation on the extracted case table: both characters of every pair are in the same
pattern class (this is what makes hostmask matching IRC-case-insensitive) -/
theorem rfc1459_table_classes : Gen.rfc1459Table.all (fun p => cls p.1 == cls p.2) = true := by decide

theorem cls_toLowerChar (c : Char) : cls (toLowerChar c) = cls c := by
  rcases toLowerChar_cases c with h | h
  · rw [h]
  · have := rfc1459_table_classes
    rw [List.all_eq_true] at this
    have := this _ h
    simp only [beq_iff_eq] at this
    exact this.symm

theorem patCharMatch_toLower (p c : Char) :
    patCharMatch (toLowerChar p) (toLowerChar c) = patCharMatch p c := by
  rw [patCharMatch_eq_cls, patCharMatch_eq_cls, cls_toLowerChar, cls_toLowerChar]

theorem mem_special_star : '*' ∈ specialChars := by decide
theorem mem_special_qmark : '?' ∈ specialChars := by decide
theorem mem_special_lf : '\n' ∈ specialChars := by decide

theorem beq_special_toLowerChar {k : Char} (hk : k ∈ specialChars) (c : Char) :
    (toLowerChar c == k) = (c == k) := by
  by_cases h : c = k
  · subst h; rw [toLowerChar_special hk]
  · have : toLowerChar c ≠ k := fun e => h ((toLowerChar_eq_special hk).1 e)
    have e1 : (toLowerChar c == k) = false := by simp [this]
    have e2 : (c == k) = false := by simp [h]
    rw [e1, e2]

theorem bne_special_toLowerChar {k : Char} (hk : k ∈ specialChars) (c : Char) :
    (toLowerChar c != k) = (c != k) := by
  simp only [bne, beq_special_toLowerChar hk]

theorem starAux_toLower {k k' : Str → Bool} (hk : ∀ h, k' (toLower h) = k h) (h : Str) :
    starAux k' (toLower h) = starAux k h := by
  induction h with
  | nil => simp only [toLower_nil, starAux]; exact hk []
  | cons c cs ih =>
    simp only [toLower_cons, starAux]
    have := hk (c :: cs)
    simp only [toLower_cons] at this
    rw [this, bne_special_toLowerChar mem_special_lf, ih]

/-- **hostmask matching is IRC-case-insensitive**: a pattern matches a hostmask iff the
IRC-lowered pattern matches the IRC-lowered hostmask (ASCII letters, `[]\~` ↔ `{}|^`) -/
theorem glob_case (p h : Str) : glob (toLower p) (toLower h) = glob p h := by
  induction p generalizing h with
  | nil =>
    simp only [toLower_nil, glob]
    cases h with
    | nil => rfl
    | cons c cs =>
      cases cs with
      | nil =>
        simp only [toLower_cons, toLower_nil]
        by_cases hc : c = '\n'
        · subst hc; simp [toLowerChar_special mem_special_lf]
        · simp
          exact beq_special_toLowerChar mem_special_lf c
      | cons d ds => simp [toLower_cons]
  | cons x xs ih =>
    simp only [toLower_cons, glob, beq_special_toLowerChar mem_special_star,
      beq_special_toLowerChar mem_special_qmark]
    split
    · exact starAux_toLower ih h
    · cases h with
      | nil => rfl
      | cons c cs =>
        simp only [toLower_cons, bne_special_toLowerChar mem_special_lf, patCharMatch_toLower, ih]

theorem intersect_nil (q : Str) : intersect [] q = interRowNil q := rfl
theorem intersect_cons_nil (a : Char) (p : Str) : intersect (a :: p) [] = (a == '*' && intersect p []) := rfl
theorem intersect_cons_cons (a b : Char) (p q : Str) :
    intersect (a :: p) (b :: q) =
      if a == '*' then intersect p (b :: q) || intersect (a :: p) q || intersect p q
      else if b == '*' then intersect (a :: p) q || intersect p (b :: q) || intersect p q
      else if a == '?' || b == '?' then intersect p q
      else intersect p q && cls a == cls b := rfl

theorem intersect_nil_of_matches {q : Str} (h : Matches q []) : intersect [] q = true := by
  induction q with
  | nil => rfl
  | cons b qs ih =>
    cases h with
    | starSkip h' => rw [intersect_nil]; simp only [interRowNil, beq_self_eq_true, Bool.true_and]; exact ih h'

theorem intersect_of_matches_nil {p : Str} (h : Matches p []) : intersect p [] = true := by
  induction p with
  | nil => rfl
  | cons a ps ih =>
    cases h with
    | starSkip h' => rw [intersect_cons_nil]; simp only [beq_self_eq_true, Bool.true_and]; exact ih h'

theorem intersect_star_left {ps q : Str} (h : intersect ps q = true) : intersect ('*' :: ps) q = true := by
  cases q with
  | nil => rw [intersect_cons_nil, h]; rfl
  | cons b qs => rw [intersect_cons_cons]; simp [h]

theorem intersect_star_right {p qs : Str} (h : intersect p qs = true) : intersect p ('*' :: qs) = true := by
  cases p with
  | nil => rw [intersect_nil] at h ⊢; simp only [interRowNil, beq_self_eq_true, Bool.true_and]; exact h
  | cons a ps =>
    rw [intersect_cons_cons]
    by_cases ha : a = '*'
    · subst ha; simp [h]
    · have : (a == '*') = false := by simp [ha]
      simp [this, h]

/-- **completeness of the overlap test**: if some hostmask (without LF — IRC prefixes have none)
is matched by both patterns, `hostmaskPatternsIntersect` says so.  The recursive calls shorten
now the derivation for `p`, now the one for `q`, so neither alone carries the induction: it runs
on a bound for the three lengths. -/
theorem intersect_complete_aux (n : Nat) : ∀ (p q h : Str), p.length + q.length + h.length ≤ n →
    '\n' ∉ h → Matches p h → Matches q h → intersect p q = true := by
  induction n with
  | zero =>
    intro p q h hn _ hp hq
    have hp0 : p = [] := by cases p <;> simp_all
    have hq0 : q = [] := by cases q <;> simp_all
    subst hp0 hq0; rfl
  | succ n ih =>
    intro p q h hn hlf hp hq
    cases hp with
    | nil => exact intersect_nil_of_matches hq
    | nilLF => simp at hlf
    | @starSkip ps _ hp' =>
      exact intersect_star_left (ih ps q h (by simp at hn ⊢; omega) hlf hp' hq)
    | @starEat ps c cs hc hp' =>
      have hlf' : '\n' ∉ cs := List.not_mem_of_not_mem_cons hlf
      cases hq with
      | nilLF => simp at hlf
      | @starSkip qs _ hq' =>
        exact intersect_star_right (ih ('*' :: ps) qs (c :: cs) (by simp at hn ⊢; omega) hlf (.starEat hc hp') hq')
      | @starEat qs _ _ _ hq' =>
        exact ih ('*' :: ps) ('*' :: qs) cs (by simp at hn ⊢; omega) hlf' hp' hq'
      | @qmark qs _ _ _ hq' =>
        have := ih ('*' :: ps) qs cs (by simp at hn ⊢; omega) hlf' hp' hq'
        rw [intersect_cons_cons]; simp [this]
      | @char b qs _ _ _ _ _ hq' =>
        have := ih ('*' :: ps) qs cs (by simp at hn ⊢; omega) hlf' hp' hq'
        rw [intersect_cons_cons]; simp [this]
    | @qmark ps c cs hc hp' =>
      have hlf' : '\n' ∉ cs := List.not_mem_of_not_mem_cons hlf
      cases hq with
      | nilLF => simp at hlf
      | @starSkip qs _ hq' =>
        exact intersect_star_right (ih ('?' :: ps) qs (c :: cs) (by simp at hn ⊢; omega) hlf (.qmark hc hp') hq')
      | @starEat qs _ _ _ hq' =>
        have := ih ps ('*' :: qs) cs (by simp at hn ⊢; omega) hlf' hp' hq'
        rw [intersect_cons_cons]; simp [this]
      | @qmark qs _ _ _ hq' =>
        have := ih ps qs cs (by simp at hn ⊢; omega) hlf' hp' hq'
        rw [intersect_cons_cons]; simp [this]
      | @char b qs _ _ h1 h2 _ hq' =>
        have := ih ps qs cs (by simp at hn ⊢; omega) hlf' hp' hq'
        have e1 : (b == '*') = false := by simp [h1]
        rw [intersect_cons_cons]; simp [this, e1]
    | @char a ps c cs ha1 ha2 hac hp' =>
      have hlf' : '\n' ∉ cs := List.not_mem_of_not_mem_cons hlf
      have ea1 : (a == '*') = false := by simp [ha1]
      have ea2 : (a == '?') = false := by simp [ha2]
      cases hq with
      | nilLF => simp at hlf
      | @starSkip qs _ hq' =>
        exact intersect_star_right (ih (a :: ps) qs (c :: cs) (by simp at hn ⊢; omega) hlf (.char ha1 ha2 hac hp') hq')
      | @starEat qs _ _ _ hq' =>
        have := ih ps ('*' :: qs) cs (by simp at hn ⊢; omega) hlf' hp' hq'
        rw [intersect_cons_cons]; simp [this, ea1]
      | @qmark qs _ _ _ hq' =>
        have := ih ps qs cs (by simp at hn ⊢; omega) hlf' hp' hq'
        rw [intersect_cons_cons]; simp [this, ea1]
      | @char b qs _ _ hb1 hb2 hbc hq' =>
        have := ih ps qs cs (by simp at hn ⊢; omega) hlf' hp' hq'
        have eb1 : (b == '*') = false := by simp [hb1]
        have eb2 : (b == '?') = false := by simp [hb2]
        rw [patCharMatch_eq_cls] at hac hbc
        have hcls : (cls a == cls b) = true := by
          have e1 : cls a = cls c := by simpa using hac
          have e2 : cls b = cls c := by simpa using hbc
          simp [e1, e2]
        rw [intersect_cons_cons]; simp [this, ea1, ea2, eb1, eb2, hcls]

theorem intersect_complete {p q h : Str} (hlf : '\n' ∉ h) (hp : glob p h = true) (hq : glob q h = true) :
    intersect p q = true :=
  intersect_complete_aux _ p q h (Nat.le_refl _) hlf ((glob_iff_matches p h).1 hp) ((glob_iff_matches q h).1 hq)

theorem patCharMatch_refl (a : Char) : patCharMatch a a = true := by
  rw [patCharMatch_eq_cls]; simp

theorem matches_nil_of_rowNil {q : Str} (h : interRowNil q = true) : Matches q [] := by
  induction q with
  | nil => exact .nil
  | cons b qs ih =>
    simp only [interRowNil, Bool.and_eq_true, beq_iff_eq] at h
    rw [h.1]; exact .starSkip (ih h.2)

theorem matches_cons_of_head {a : Char} {ps h : Str} {c : Char} (hstar : a ≠ '*') (hc : c ≠ '\n')
    (hac : a = '?' ∨ patCharMatch a c = true) (hm : Matches ps h) : Matches (a :: ps) (c :: h) := by
  by_cases hq : a = '?'
  · subst hq; exact .qmark hc hm
  · rcases hac with e | e
    · exact absurd e hq
    · exact .char hstar hq e hm

/-- the two patterns have a hostmask without LF in common -/
def Common (p q : Str) : Prop := ∃ h, '\n' ∉ h ∧ Matches p h ∧ Matches q h

theorem Common.symm {p q : Str} : Common p q → Common q p := fun ⟨h, hl, h1, h2⟩ => ⟨h, hl, h2, h1⟩

theorem extend_right {ps qs h : Str} {b : Char} (hb : b ≠ '\n')
    (hmp : Matches ('*' :: ps) h) (hmq : Matches qs h) (hlf : '\n' ∉ h) : Common ('*' :: ps) (b :: qs) := by
  by_cases hs : b = '*'
  · subst hs; exact ⟨h, hlf, hmp, .starSkip hmq⟩
  · by_cases hq : b = '?'
    · subst hq
      exact ⟨'x' :: h, List.not_mem_cons_of_ne_of_not_mem (by decide) hlf, .starEat (by decide) hmp,
        .qmark (by decide) hmq⟩
    · exact ⟨b :: h, List.not_mem_cons_of_ne_of_not_mem hb.symm hlf, .starEat hb hmp,
        .char hs hq (patCharMatch_refl b) hmq⟩

/-- the table cell for a star at the head of one pattern, from the three cells it looks at -/
theorem star_step {ps qs : Str} {b : Char} (hb : b ≠ '\n')
    (h : Common ps (b :: qs) ∨ Common ('*' :: ps) qs ∨ Common ps qs) : Common ('*' :: ps) (b :: qs) := by
  rcases h with ⟨h, hl, h1, h2⟩ | ⟨h, hl, h1, h2⟩ | ⟨h, hl, h1, h2⟩
  · exact ⟨h, hl, .starSkip h1, h2⟩
  · exact extend_right hb h1 h2 hl
  · exact extend_right hb (.starSkip h1) h2 hl

/-- **soundness of the overlap test**: when `hostmaskPatternsIntersect` says yes (for patterns
without LF), some hostmask is matched by both — the test refuses nothing it need not refuse -/
theorem intersect_sound : ∀ (p q : Str), '\n' ∉ p → '\n' ∉ q → intersect p q = true →
    ∃ h, '\n' ∉ h ∧ Matches p h ∧ Matches q h := by
  intro p
  induction p with
  | nil =>
    intro q _ _ h
    exact ⟨[], by simp, .nil, matches_nil_of_rowNil h⟩
  | cons a ps ihp =>
    intro q
    induction q with
    | nil =>
      intro hp _ h
      rw [intersect_cons_nil] at h
      simp only [Bool.and_eq_true, beq_iff_eq] at h
      obtain ⟨hh, hl, h1, h2⟩ := ihp [] (List.not_mem_of_not_mem_cons hp) (by simp) h.2
      rw [h.1]
      exact ⟨hh, hl, .starSkip h1, h2⟩
    | cons b qs ihq =>
      intro hp hq h
      have ha : a ≠ '\n' := (List.ne_of_not_mem_cons hp).symm
      have hps := List.not_mem_of_not_mem_cons hp
      have hb : b ≠ '\n' := (List.ne_of_not_mem_cons hq).symm
      have hqs := List.not_mem_of_not_mem_cons hq
      rw [intersect_cons_cons] at h
      by_cases sa : a = '*'
      · subst sa
        simp only [beq_self_eq_true, if_true, Bool.or_eq_true] at h
        rcases h with (h | h) | h
        · exact star_step hb (Or.inl (ihp (b :: qs) hps hq h))
        · exact star_step hb (Or.inr (Or.inl (ihq hp hqs h)))
        · exact star_step hb (Or.inr (Or.inr (ihp qs hps hqs h)))
      · have ea : (a == '*') = false := by simp [sa]
        simp only [ea, Bool.false_eq_true, if_false] at h
        by_cases sb : b = '*'
        · -- the same cell with the two patterns exchanged
          subst sb
          simp only [beq_self_eq_true, if_true, Bool.or_eq_true] at h
          rcases h with (h | h) | h
          · exact (star_step ha (Or.inl (Common.symm (ihq hp hqs h)))).symm
          · exact (star_step ha (Or.inr (Or.inl (Common.symm (ihp ('*' :: qs) hps hq h))))).symm
          · exact (star_step ha (Or.inr (Or.inr (Common.symm (ihp qs hps hqs h))))).symm
        · have eb : (b == '*') = false := by simp [sb]
          simp only [eb, Bool.false_eq_true, if_false] at h
          -- neither head is a star: one character for both
          have key : ∀ c : Char, c ≠ '\n' → (a = '?' ∨ patCharMatch a c = true) →
              (b = '?' ∨ patCharMatch b c = true) → intersect ps qs = true →
              Common (a :: ps) (b :: qs) := by
            intro c hc hac hbc hi
            obtain ⟨hh, hl, h1, h2⟩ := ihp qs hps hqs hi
            exact ⟨c :: hh, List.not_mem_cons_of_ne_of_not_mem hc.symm hl,
              matches_cons_of_head sa hc hac h1, matches_cons_of_head sb hc hbc h2⟩
          by_cases qa : a = '?'
          · subst qa
            simp only [beq_self_eq_true, Bool.true_or, if_true] at h
            by_cases qb : b = '?'
            · exact key 'x' (by decide) (Or.inl rfl) (Or.inl qb) h
            · exact key b hb (Or.inl rfl) (Or.inr (patCharMatch_refl b)) h
          · have eqa : (a == '?') = false := by simp [qa]
            by_cases qb : b = '?'
            · subst qb
              simp only [beq_self_eq_true, Bool.or_true, if_true] at h
              exact key a ha (Or.inr (patCharMatch_refl a)) (Or.inl rfl) h
            · have eqb : (b == '?') = false := by simp [qb]
              simp only [eqa, eqb, Bool.or_self, Bool.false_eq_true, if_false, Bool.and_eq_true] at h
              refine key a ha (Or.inr (patCharMatch_refl a)) (Or.inr ?_) h.1
              rw [patCharMatch_eq_cls]
              have : cls a = cls b := by simpa using h.2
              simp [this]

end C04
