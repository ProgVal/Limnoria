/-
C04 — where login entries come from: only `identify` and `followNick` write one (`step_auth`),
lookups none (`Quiet`), the plugin runs `identify` only after the password test and never
`followNick` (`guard_runs`); the invariant `PInv` of the plugin with NICK messages.
-/
import LimnoriaModel.C04.Plugin
import LimnoriaModel.C04.Overlap
import LimnoriaModel.C04.Names
namespace C04
open Py C03

/-- every login entry of `b` is a login entry of the same account in `a`, or one of `extra` -/
def AuthFrom (a : List User) (extra : List (Nat × (Int × Str))) (b : List User) : Prop :=
  ∀ u' ∈ b, ∀ e ∈ u'.auth, (∃ u ∈ a, u.id = u'.id ∧ e ∈ u.auth) ∨ (u'.id, e) ∈ extra

theorem authFrom_refl (a : List User) (x : List (Nat × (Int × Str))) : AuthFrom a x a :=
  fun u' hu e he => Or.inl ⟨u', hu, rfl, he⟩

theorem authFrom_weaken {a b : List User} {x : List (Nat × (Int × Str))} (h : AuthFrom a [] b) :
    AuthFrom a x b := fun u' hu e he =>
  match h u' hu e he with
  | Or.inl h => Or.inl h
  | Or.inr h => by cases h

theorem authFrom_trans {a b c : List User} {x : List (Nat × (Int × Str))}
    (h1 : AuthFrom a x b) (h2 : AuthFrom b x c) : AuthFrom a x c := by
  intro u' hu e he
  rcases h2 u' hu e he with ⟨v, hv, hid, hev⟩ | h
  · rcases h1 v hv e hev with ⟨w, hw, hid', hew⟩ | h
    · exact Or.inl ⟨w, hw, hid'.trans hid, hew⟩
    · exact Or.inr (hid ▸ h)
  · exact Or.inr h

theorem authFrom_trans' {a b c : List User} {x : List (Nat × (Int × Str))}
    (h1 : AuthFrom a [] b) (h2 : AuthFrom b x c) : AuthFrom a x c :=
  authFrom_trans (authFrom_weaken h1) h2

theorem authFrom_put {l : List User} {u : User} {x : List (Nat × (Int × Str))}
    (h : ∀ e ∈ u.auth, (∃ v ∈ l, v.id = u.id ∧ e ∈ v.auth) ∨ (u.id, e) ∈ x) :
    AuthFrom l x (putUser l u) := by
  intro u' hu e he
  rcases C03.mem_putUser hu with e1 | e1
  · subst e1; exact h e he
  · exact Or.inl ⟨u', e1, rfl, he⟩

theorem removeOffending_auth (us : List User) (ids : List (Nat × CH)) :
    AuthFrom us [] (removeOffending us ids).1 :=
  removeOffending_induct (P := AuthFrom us [])
    (fun _ u _ h hu _ => authFrom_trans h (authFrom_put fun e he => Or.inl ⟨u, hu, rfl, he⟩))
    (authFrom_refl us []) ids

theorem getUserId_auth (st : St) (s : Str) : AuthFrom st.db.users [] (getUserId st s).1.db.users := by
  rcases (getUserId_effect st s).2.2 with e | ⟨_, _, e, _⟩ <;> rw [e]
  · exact authFrom_refl _ _
  · exact removeOffending_auth _ _

theorem getUser_state (st : St) (s : Str) : (getUser st s).1 = (getUserId st s).1 := by
  unfold getUser
  split
  · rename_i st' id h
    have e : st' = (getUserId st s).1 := by rw [h]
    split <;> exact e
  · rename_i st' er h
    rw [h]

theorem getUser_auth (st : St) (s : Str) : AuthFrom st.db.users [] (getUser st s).1.db.users := by
  rw [getUser_state]; exact getUserId_auth st s

theorem checkCapabilityS_state (st : St) (h cap : Str) (fl : Flags) :
    (checkCapabilityS st h cap fl).1 = st ∨ (checkCapabilityS st h cap fl).1 = (getUser st h).1 := by
  unfold checkCapabilityS recogniseS
  split
  · exact Or.inl rfl
  · exact Or.inr rfl

theorem checkCapabilityS_auth (st : St) (h cap : Str) (fl : Flags) :
    AuthFrom st.db.users [] (checkCapabilityS st h cap fl).1.db.users := by
  rcases checkCapabilityS_state st h cap fl with e | e <;> rw [e]
  · exact authFrom_refl _ _
  · exact getUser_auth st h

theorem setUser_auth_from {l : List User} {st' : St} {u1 : User} {live : Bool}
    {x : List (Nat × (Int × Str))} (hl : AuthFrom l x st'.db.users)
    (h : ∀ e ∈ u1.auth, (∃ v ∈ l, v.id = u1.id ∧ e ∈ v.auth) ∨ (u1.id, e) ∈ x) :
    AuthFrom l x (setUser st' u1 live).1.db.users := by
  have hr : AuthFrom l x (afterNameLookup st' u1).db.users :=
    authFrom_trans hl (authFrom_weaken (getUserId_auth _ _))
  rcases setUser_outcome st' u1 live with ⟨_, _, e⟩ | ⟨_, e⟩ | ⟨_, e, _⟩ <;> rw [e]
  · exact hl
  · exact hr
  · intro u' hu e he
    rcases C03.mem_putUser hu with e1 | e1
    · subst e1
      rcases finalRecord_cases (afterNameLookup st' u1) u1 live with h' | h'
      · rw [h'] at he ⊢; exact h e he
      · exact hr _ h'.1 e he
    · exact hr u' e1 e he

theorem delUser_auth (st : St) (id : Nat) : AuthFrom st.db.users [] (delUser st id).1.db.users := by
  rw [delUser_users]
  exact fun u' hu e he => Or.inl ⟨u', (List.mem_filter.1 hu).1, rfl, he⟩

theorem prim_auth {g : Grant} {st st' : St} (hp : Prim g st st') :
    AuthFrom st.db.users g.auth st'.db.users := by
  cases hp with
  | lookup s => exact authFrom_weaken (getUserId_auth st s)
  | inval h => rw [(invalidateHost_db st h).1]; exact authFrom_refl _ _
  | tick dt => exact authFrom_refl _ _
  | del id _ => exact authFrom_weaken (delUser_auth st id)
  | new _ _ =>
    -- the blank record (twice `putUser`) carries no login
    simp only [newUser, Db.putUser]
    exact authFrom_trans (b := putUser st.db.users { id := st.nextId + 1 })
      (authFrom_put (fun e he => by cases he)) (authFrom_put (fun e he => by cases he))
  | set live ha _ => exact setUser_auth_from (authFrom_refl _ _) ha
  | @edit u u1 hu hid ha _ _ =>
    have hput : ∀ e ∈ u1.auth, (∃ v ∈ st.db.users, v.id = u1.id ∧ e ∈ v.auth) ∨ (u1.id, e) ∈ g.auth :=
      fun e he => (ha e he).imp (fun h => ⟨u, hu, hid.symm, h⟩) (fun h => hid ▸ h)
    exact setUser_auth_from (authFrom_put hput) hput
  | weak hu hid _ ha _ => exact authFrom_put (fun e he => Or.inl ⟨_, hu, hid.symm, ha e he⟩)

/-- **No dictionary operation other than `identify` and `followNick` writes a login entry**:
`identify id h` creates at most the entry `(now, h)` for account `id`, and `followNick id old new`
at most `(t, new)` for the entries `(t, m)` of account `id` with `m` equal to `old` (IRC case). -/
theorem step_auth (st : St) (op : Op) : AuthFrom st.db.users (extraOf st op) (step st op).1.db.users :=
  (step_path st op).preserves (P := fun s => AuthFrom st.db.users (extraOf st op) s.db.users)
    (fun h hp => authFrom_trans h (prim_auth hp)) (authFrom_refl _ _)

theorem getUser_inv {st : St} (hi : Inv st) (s : Str) : Inv (getUser st s).1 := by
  rw [getUser_state]; exact getUserId_inv hi s

theorem convUser_state (st : St) (p : Str) : (convUser st p).1 = (getUserId st p).1 := by
  unfold convUser; exact getUser_state st p

/-- a state reached from `st` by lookups only -/
structure Quiet (st st' : St) : Prop where
  inv : Inv st → Inv st'
  auth : AuthFrom st.db.users [] st'.db.users
  masks : MasksFrom st.db.users st'.db.users
  now : st'.now = st.now
  /-- ids and names of the records are untouched -/
  sig : Inv st → sig st'.db.users = sig st.db.users

theorem quiet_refl (st : St) : Quiet st st := ⟨id, authFrom_refl _ _, masksFrom_refl _, rfl, fun _ => rfl⟩

theorem quiet_trans {a b c : St} (h1 : Quiet a b) (h2 : Quiet b c) : Quiet a c :=
  ⟨fun hi => h2.inv (h1.inv hi), authFrom_trans h1.auth h2.auth, masksFrom_trans h1.masks h2.masks, h2.now.trans h1.now,
    fun hi => (h2.sig (h1.inv hi)).trans (h1.sig hi)⟩

theorem quiet_getUserId (st : St) (s : Str) : Quiet st (getUserId st s).1 :=
  ⟨fun hi => getUserId_inv hi s, getUserId_auth st s, getUserId_masks st s, (getUserId_effect st s).1,
    fun hi => getUserId_sig st s hi.recs⟩

theorem quiet_getUser (st : St) (s : Str) : Quiet st (getUser st s).1 := by
  rw [getUser_state]; exact quiet_getUserId st s

theorem quiet_convUser (st : St) (p : Str) : Quiet st (convUser st p).1 := by
  rw [convUser_state]; exact quiet_getUserId st p

theorem quiet_callerIsOwner (st : St) (p : Str) : Quiet st (callerIsOwner st p).1 := by
  unfold callerIsOwner
  dsimp only
  rcases checkCapabilityS_state st p ownerS {} with e | e <;> rw [e]
  · exact quiet_refl st
  · exact quiet_getUser st p

theorem quiet_convOther (nicks : List (Str × Str)) (st : St) (a : Str) : Quiet st (convOther nicks st a).1 := by
  unfold convOther
  split
  · exact quiet_refl st
  · dsimp only
    split
    · exact quiet_getUser st a
    · split
      · exact quiet_getUser st a
      · exact quiet_trans (quiet_getUser st a) (quiet_getUser _ _)
    · exact quiet_getUser st a

theorem quiet_convFirst (nicks : List (Str × Str)) (st : St) (p a : Str) : Quiet st (convFirst nicks st p a).1 := by
  unfold convFirst
  dsimp only
  split
  · exact quiet_convOther nicks st a
  · exact quiet_trans (quiet_convOther nicks st a) (quiet_convUser _ p)

theorem quiet_hostAddBody (pwOk : Str → Str → Bool) (pst : PSt) (st : St) (p : Str) (u : User) (hm pw : Str) :
    Quiet st (hostAddBody pwOk pst st p u hm pw).1 := by
  have h2 := fun m => quiet_trans (quiet_callerIsOwner st p) (quiet_getUserId (callerIsOwner st p).1 m)
  unfold hostAddBody hostAddCore
  generalize (if hm.isEmpty then p else hm) = hm'
  dsimp only
  split
  · exact quiet_callerIsOwner st p
  · split
    · exact h2 _
    · split <;> exact h2 _

theorem quiet_hostRemoveBody (pwOk : Str → Str → Bool) (pst : PSt) (st : St) (p : Str) (u : User) (hm pw : Str) :
    Quiet st (hostRemoveBody pwOk pst st p u hm pw).1 := by
  unfold hostRemoveBody hostRemoveCore
  generalize (if hm.isEmpty then p else hm) = hm'
  dsimp only
  split
  · split <;> exact quiet_callerIsOwner st p
  · exact quiet_refl st

theorem quiet_guard (pwOk : Str → Str → Bool) (pst : PSt) (c : Cmd) : Quiet pst.st (guard pwOk pst c).1 := by
  cases c with
  | register p name pw =>
    simp only [guard]
    have h1 := quiet_getUserId pst.st name
    split
    · exact h1
    · split
      · exact h1
      · exact quiet_trans h1 (quiet_getUser _ p)
    · exact h1
  | identify p name pw => simp only [guard]; exact quiet_convOther _ _ name
  | changename p name newname pw =>
    simp only [guard]
    have h1 := quiet_convOther pst.nicks pst.st name
    split
    · exact h1
    · exact quiet_trans h1 (quiet_getUserId _ newname)
  | unidentify p => simp only [guard]; exact quiet_convUser _ p
  | hostAdd p name mask pw =>
    simp only [guard]
    cases name with
    | some n =>
      dsimp only
      have h1 := quiet_convFirst pst.nicks pst.st p n
      split
      · exact h1
      · exact quiet_trans h1 (quiet_hostAddBody pwOk pst _ p _ mask pw)
      · exact h1
    | none =>
      dsimp only
      have h1 := quiet_convFirst pst.nicks pst.st p mask
      split
      · exact h1
      · exact quiet_trans h1 (quiet_hostAddBody pwOk pst _ p _ [] [])
      · exact quiet_trans h1 (quiet_hostAddBody pwOk pst _ p _ mask [])
  | hostRemove p name mask pw =>
    simp only [guard]
    cases name with
    | some n =>
      dsimp only
      have h1 := quiet_convFirst pst.nicks pst.st p n
      split
      · exact h1
      · exact quiet_trans h1 (quiet_hostRemoveBody pwOk pst _ p _ mask pw)
      · exact h1
    | none =>
      dsimp only
      have h1 := quiet_convFirst pst.nicks pst.st p mask
      split
      · exact h1
      · exact quiet_trans h1 (quiet_hostRemoveBody pwOk pst _ p _ [] [])
      · exact quiet_trans h1 (quiet_hostRemoveBody pwOk pst _ p _ mask [])
  | setSecure p pw b => simp only [guard]; exact quiet_convUser _ p
  | whoami p => simp only [guard]; exact quiet_getUser _ p
  | tick dt => simp only [guard]; exact quiet_refl _

/-- every login entry of every account is in the log of password-checked identifications -/
def AuthBacked (pst : PSt) : Prop :=
  ∀ u ∈ pst.st.db.users, ∀ e ∈ u.auth, ∃ l ∈ pst.log, l.uid = u.id ∧ l.t = e.1 ∧ l.host = e.2

/-- every logged identification passed the account's password test -/
def LogOK (pwOk : Str → Str → Bool) (pst : PSt) : Prop :=
  ∀ l ∈ pst.log, ∃ s, pst.pws.lookup l.uid = some s ∧ pwOk s l.pw = true

/-- dictionary operations that rewrite logins after a nick change -/
def Op.isFollow : Op → Bool
  | .followNick _ _ _ => true
  | _ => false

/-- the operations the guard of a command can end in, with what it has checked by then -/
inductive Runs (pwOk : Str → Str → Bool) (pst : PSt) : Cmd → Op → Prop
  | register {p name pw : Str} (h : Option Str) (hk : (getUserId pst.st name).2 = .error .key)
      (hh : isUserHostmask name = false) : Runs pwOk pst (.register p name pw) (.register name h)
  | identify {p name pw : Str} {id : Nat} (hpw : checkPassword pwOk pst id pw = true) :
      Runs pwOk pst (.identify p name pw) (.identify id p)
  | unidentify (c : Cmd) (id : Nat) : Runs pwOk pst c (.unidentify id)
  | addHost (c : Cmd) (id : Nat) (m : Str) : Runs pwOk pst c (.addHost id m)
  | rmHost (c : Cmd) (id : Nat) (m : Str) : Runs pwOk pst c (.rmHost id m)
  | clearHosts (c : Cmd) (id : Nat) : Runs pwOk pst c (.clearHosts id)
  | secure (c : Cmd) (id : Nat) (b : Bool) : Runs pwOk pst c (.secure id b)
  | setName {p name newname pw : Str} (id : Nat)
      (hk : (getUserId (convOther pst.nicks pst.st name).1 newname).2 = .error .key)
      (hh : isUserHostmask newname = false) :
      Runs pwOk pst (.changename p name newname pw) (.setName id newname)
  | tick (c : Cmd) (dt : Nat) : Runs pwOk pst c (.tick dt)

theorem hostAddBody_runs {pwOk : Str → Str → Bool} {pst : PSt} {st : St} {p : Str} {u : User}
    {hm pw : Str} {op : Op} (hg : (hostAddBody pwOk pst st p u hm pw).2 = .run op) :
    ∃ m, op = .addHost u.id m := by
  unfold hostAddBody hostAddCore at hg
  generalize (if hm.isEmpty then p else hm) = hm' at hg
  dsimp only at hg
  split at hg
  · cases hg
  · split at hg
    · cases hg
    · split at hg
      · cases hg
      · injection hg with hg; exact ⟨_, hg.symm⟩

theorem hostRemoveBody_runs {pwOk : Str → Str → Bool} {pst : PSt} {st : St} {p : Str} {u : User}
    {hm pw : Str} {op : Op} (hg : (hostRemoveBody pwOk pst st p u hm pw).2 = .run op) :
    ∃ m, op = removeOp u.id m := by
  unfold hostRemoveBody hostRemoveCore at hg
  generalize (if hm.isEmpty then p else hm) = hm' at hg
  dsimp only at hg
  split at hg
  · split at hg
    · cases hg
    · injection hg with hg; exact ⟨_, hg.symm⟩
  · injection hg with hg; exact ⟨_, hg.symm⟩

theorem runs_removeOp (pwOk : Str → Str → Bool) (pst : PSt) (c : Cmd) (id : Nat) (m : Str) :
    Runs pwOk pst c (removeOp id m) := by
  unfold removeOp
  split
  · exact .clearHosts c id
  · exact .rmHost c id m

theorem not_or_false {a b : Bool} (h : ¬ (a || b) = true) : a = false := by
  cases a
  · rfl
  · exact absurd rfl h

theorem guard_runs {pwOk : Str → Str → Bool} {pst : PSt} {c : Cmd} {op : Op}
    (hg : (guard pwOk pst c).2 = .run op) : Runs pwOk pst c op := by
  cases c with
  | register p name pw =>
    simp only [guard] at hg
    split at hg
    · cases hg
    · rename_i hkey
      split at hg
      · cases hg
      · rename_i hshape
        dsimp only at hg
        split at hg
        · split at hg
          · injection hg with hg; subst hg; exact .register _ hkey (not_or_false hshape)
          · cases hg
        · injection hg with hg; subst hg; exact .register _ hkey (not_or_false hshape)
        · cases hg
    · cases hg
  | identify p name pw =>
    simp only [guard] at hg
    split at hg
    · split at hg
      · rename_i hpw
        injection hg with hg; subst hg; exact .identify hpw
      · cases hg
    · cases hg
  | changename p name newname pw =>
    simp only [guard] at hg
    split at hg
    · cases hg
    · dsimp only at hg
      split at hg
      · cases hg
      · rename_i hkey
        split at hg
        · cases hg
        · rename_i hshape
          split at hg
          · injection hg with hg; subst hg; exact .setName _ hkey (not_or_false hshape)
          · cases hg
      · cases hg
  | unidentify p =>
    simp only [guard] at hg
    split at hg
    · injection hg with hg; subst hg; exact .unidentify _ _
    · cases hg
  | hostAdd p name mask pw =>
    simp only [guard] at hg
    cases name with
    | some n =>
      dsimp only at hg
      split at hg
      · cases hg
      · obtain ⟨m, rfl⟩ := hostAddBody_runs hg; exact .addHost _ _ _
      · cases hg
    | none =>
      dsimp only at hg
      split at hg
      · cases hg
      · obtain ⟨m, rfl⟩ := hostAddBody_runs hg; exact .addHost _ _ _
      · obtain ⟨m, rfl⟩ := hostAddBody_runs hg; exact .addHost _ _ _
  | hostRemove p name mask pw =>
    simp only [guard] at hg
    cases name with
    | some n =>
      dsimp only at hg
      split at hg
      · cases hg
      · obtain ⟨m, rfl⟩ := hostRemoveBody_runs hg; exact runs_removeOp _ _ _ _ _
      · cases hg
    | none =>
      dsimp only at hg
      split at hg
      · cases hg
      · obtain ⟨m, rfl⟩ := hostRemoveBody_runs hg; exact runs_removeOp _ _ _ _ _
      · obtain ⟨m, rfl⟩ := hostRemoveBody_runs hg; exact runs_removeOp _ _ _ _ _
  | setSecure p pw b =>
    simp only [guard] at hg
    split at hg
    · cases hg
    · split at hg
      · injection hg with hg; subst hg; exact .secure _ _ _
      · cases hg
  | whoami p => simp only [guard] at hg; cases hg
  | tick dt => simp only [guard] at hg; injection hg with hg; subst hg; exact .tick _ _

/-- **the plugin runs `identify` only after the password test**: the guard hands the dictionary
an `identify id h` only for the command `identify <name> <password>` sent from exactly `h`, and
only when the password test of account `id` accepted `<password>` -/
theorem guard_identify {pwOk : Str → Str → Bool} {pst : PSt} {c : Cmd} {id : Nat} {h : Str}
    (hg : (guard pwOk pst c).2 = .run (.identify id h)) :
    ∃ name pw, c = .identify h name pw ∧ checkPassword pwOk pst id pw = true := by
  cases guard_runs hg with
  | identify hpw => exact ⟨_, _, rfl, hpw⟩

/-- **no command of the User plugin rewrites logins**: `followNick` is never what a guard hands
to the dictionary -/
theorem guard_not_follow {pwOk : Str → Str → Bool} {pst : PSt} {c : Cmd} {op : Op}
    (hg : (guard pwOk pst c).2 = .run op) : op.isFollow = false := by
  cases guard_runs hg <;> rfl

/-- **the plugin names accounts only with names that are free and do not look like hostmasks**:
`register` and `changename` look the name up first (`getUserId` raising KeyError) and refuse
hostmask-like names; no other command's operation names an account -/
theorem guard_names {pwOk : Str → Str → Bool} {pst : PSt} {c : Cmd} {op : Op} (hi : Inv pst.st)
    (hg : (guard pwOk pst c).2 = .run op) (st' : St) :
    ∀ q ∈ namesOf st' op, NameFresh pst.st.db.users q.2 := by
  intro q hq
  cases guard_runs hg with
  | register h hk hh => rw [List.mem_singleton.1 hq]; exact getUserId_key_fresh hh hk
  | setName id hk hh =>
    rw [List.mem_singleton.1 hq]
    exact nameFresh_of_sig (getUserId_key_fresh hh hk) ((quiet_convOther pst.nicks pst.st _).sig hi).symm
  | _ => cases hq

theorem lookup_append_of_some {κ ν} [BEq κ] {l m : List (κ × ν)} {k : κ} {v : ν}
    (h : l.lookup k = some v) : (l ++ m).lookup k = some v := by
  rw [List.lookup_append, h]; rfl

/-- `b` is reached from `a` through NICK messages, each one sent by exactly (IRC case rules) the
hostmask reached so far -/
inductive Follows (ev : List (Str × Str)) : Str → Str → Prop
  | refl (a : Str) : Follows ev a a
  | step {a b p c : Str} : Follows ev a b → (p, c) ∈ ev → strEqual p b = true → Follows ev a c

theorem follows_mono {ev ev' : List (Str × Str)} (h : ∀ e ∈ ev, e ∈ ev') {a b : Str}
    (hf : Follows ev a b) : Follows ev' a b := by
  induction hf with
  | refl => exact Follows.refl _
  | step _ hm hs ih => exact Follows.step ih (h _ hm) hs

/-- the hostmask of every logged identification is the one the password came from, or follows
from it through NICK messages — and is the very same when the bot does not follow nick changes -/
def Linked (pst : PSt) : Prop :=
  ∀ l ∈ pst.log, Follows pst.events l.origin l.host ∧ (pst.follow = false → l.host = l.origin)

/-- every recorded NICK message came from a user hostmask and changed only the nick -/
def EventsOK (pst : PSt) : Prop :=
  ∀ e ∈ pst.events, isUserHostmask e.1 = true ∧ ∃ nn, e.2 = newHost e.1 nn

structure PInv (pwOk : Str → Str → Bool) (pst : PSt) : Prop where
  inv : Inv pst.st
  backed : AuthBacked pst
  logOK : LogOK pwOk pst
  disjoint : NoCommon pst.st.db.users
  linked : Linked pst
  events : EventsOK pst
  /-- account names never look like hostmasks and are pairwise different -/
  names : NamesOK pst.st.db.users

theorem pinv_quiet {pwOk : Str → Str → Bool} {pst : PSt} {st' : St} (hi : PInv pwOk pst)
    (hq : Quiet pst.st st') : PInv pwOk { pst with st := st' } := by
  refine ⟨hq.inv hi.inv, ?_, hi.logOK, noCommon_of_masksFrom hi.disjoint hq.masks, hi.linked, hi.events,
    namesOK_of_sig hi.names (hq.sig hi.inv)⟩
  intro u hu e he
  rcases hq.auth u hu e he with ⟨v, hv, hid, hev⟩ | hx
  · obtain ⟨l, hl, h1, h2, h3⟩ := hi.backed v hv e hev
    exact ⟨l, hl, h1.trans hid, h2, h3⟩
  · cases hx

theorem pinv_nicks {pwOk : Str → Str → Bool} {pst : PSt} (hi : PInv pwOk pst) (n : List (Str × Str)) :
    PInv pwOk { pst with nicks := n } := ⟨hi.inv, hi.backed, hi.logOK, hi.disjoint, hi.linked, hi.events, hi.names⟩

/-- what a command that runs `op` adds to the secrets and to the ghost log: a new log entry is an
`identify` that passed the password test -/
theorem book_spec {pwOk : Str → Str → Bool} {pst : PSt} {c : Cmd} {op : Op}
    (hg : (guard pwOk pst c).2 = .run op) (n : Nat) (now : Int) :
    (∃ extra, bookPws pst c op n = pst.pws ++ extra) ∧
    ((bookLog pst c op now = pst.log ∧ ∀ id h, op ≠ .identify id h) ∨
     ∃ id p pw, op = .identify id p ∧ checkPassword pwOk pst id pw = true ∧
       bookLog pst c op now = pst.log ++ [{ uid := id, t := now, host := p, pw := pw, origin := p }]) := by
  constructor
  · unfold bookPws
    split
    · exact ⟨_, rfl⟩
    · exact ⟨[], (List.append_nil _).symm⟩
  · by_cases hid : ∃ id h, op = .identify id h
    · obtain ⟨id, h, rfl⟩ := hid
      obtain ⟨name, pw, rfl, hpw⟩ := guard_identify hg
      exact Or.inr ⟨id, h, pw, rfl, hpw, rfl⟩
    · refine Or.inl ⟨?_, fun id h e => hid ⟨id, h, e⟩⟩
      unfold bookLog
      split
      · exact absurd ⟨_, _, rfl⟩ hid
      · rfl

/-- the invariants survive a command: its guard only looks accounts up, and the one operation it
may run keeps each of them -/
theorem pstep_pinv {pwOk : Str → Str → Bool} {pst : PSt} (hi : PInv pwOk pst) (c : Cmd) :
    PInv pwOk (pstep pwOk pst c).1 := by
  have hq := quiet_guard pwOk pst c
  have h1 := pinv_quiet hi hq
  unfold pstep
  cases hgd : guard pwOk pst c with
  | mk st1 d =>
    rw [hgd] at h1 hq
    cases d with
    | reply r => exact h1
    | run op =>
      have hg : (guard pwOk pst c).2 = .run op := by rw [hgd]
      obtain ⟨⟨extra, hpws⟩, hlogc⟩ := book_spec hg st1.nextId st1.now
      have hsub : ∀ l ∈ pst.log, l ∈ bookLog pst c op st1.now := by
        intro l hl
        rcases hlogc with ⟨e1, _⟩ | ⟨_, _, _, _, _, e1⟩ <;> rw [e1]
        · exact hl
        · exact List.mem_append_left _ hl
      refine ⟨step_inv h1.inv op, ?_, ?_, step_noCommon h1.inv h1.disjoint op, ?_, h1.events,
        step_namesOK h1.inv h1.names
          (fun q hq' => nameFresh_of_sig (guard_names hi.inv hg _ q hq') (hq.sig hi.inv))⟩
      · intro u hu e he
        rcases step_auth st1 op u hu e he with ⟨v, hv, hid, hev⟩ | hx
        · obtain ⟨l, hl, a1, a2, a3⟩ := h1.backed v hv e hev
          exact ⟨l, hsub l hl, a1.trans hid, a2, a3⟩
        · -- a new login: the operation is `identify`, and the command logged it
          rcases hlogc with ⟨_, hno⟩ | ⟨id, p, pw, rfl, _, hlg⟩
          · cases op with
            | identify id' h' => exact absurd rfl (hno id' h')
            | followNick id' a b => cases guard_not_follow hg
            | _ => cases hx
          · obtain ⟨h1', h2'⟩ := Prod.mk.inj (List.mem_singleton.1 hx)
            exact ⟨_, hlg ▸ List.mem_append_right _ (List.mem_singleton.2 rfl), h1'.symm,
              by rw [h2'], by rw [h2']⟩
      · intro l hl
        dsimp only at hl ⊢
        rw [hpws]
        have hold : ∀ l ∈ pst.log, ∃ s, (pst.pws ++ extra).lookup l.uid = some s ∧ pwOk s l.pw = true :=
          fun l hl => (hi.logOK l hl).imp fun s hs => ⟨lookup_append_of_some hs.1, hs.2⟩
        rcases hlogc with ⟨e1, _⟩ | ⟨id, p, pw, _, hpw, hlg⟩
        · exact hold l (e1 ▸ hl)
        · rcases List.mem_append.1 (hlg ▸ hl) with hl' | hl'
          · exact hold l hl'
          · rw [List.mem_singleton.1 hl']
            unfold checkPassword at hpw
            cases hlk : pst.pws.lookup id with
            | none => rw [hlk] at hpw; cases hpw
            | some s' => rw [hlk] at hpw; exact ⟨s', lookup_append_of_some hlk, hpw⟩
      · intro l hl
        dsimp only at hl ⊢
        rcases hlogc with ⟨e1, _⟩ | ⟨id, p, pw, _, _, hlg⟩
        · exact hi.linked l (e1 ▸ hl)
        · rcases List.mem_append.1 (hlg ▸ hl) with hl' | hl'
          · exact hi.linked l hl'
          · rw [List.mem_singleton.1 hl']
            exact ⟨Follows.refl _, fun _ => rfl⟩

theorem prun_pinv {pwOk : Str → Str → Bool} {pst : PSt} (hi : PInv pwOk pst) (cs : List Cmd) :
    PInv pwOk (prun pwOk pst cs) := by
  induction cs generalizing pst with
  | nil => exact hi
  | cons c cs ih => exact ih (pstep_pinv hi c)

theorem pinit (pwOk : Str → Str → Bool) (db : Db) (h : db.users = []) (follow : Bool := false) :
    PInv pwOk { st := { db := db }, follow := follow } := by
  -- no account, no log entry, no event: every clause is about the elements of an empty list
  cases db
  dsimp only at h
  subst h
  refine ⟨⟨⟨List.nodup_nil, ?_, ?_⟩, cacheInv_empty rfl rfl⟩, ?_, ?_, ?_, ?_, ?_, ⟨?_, ?_⟩⟩ <;>
    (intro x hx; cases hx)

theorem quiet_lookups (st : St) (p : Str) (n : Nat) : Quiet st (lookups st p n) := by
  induction n generalizing st with
  | zero => exact quiet_refl st
  | succ n ih => unfold lookups; exact quiet_trans (quiet_getUserId st p) (ih _)

theorem quiet_lookupsAbort (st : St) (p : Str) (n : Nat) : Quiet st (lookupsAbort st p n).1 := by
  induction n generalizing st with
  | zero => exact quiet_refl st
  | succ n ih =>
    unfold lookupsAbort
    dsimp only
    split
    · exact quiet_getUserId st p
    · exact quiet_trans (quiet_getUserId st p) (ih _)

/-- the invariants survive a command as the live bot processes it, for any number of
surrounding lookups -/
theorem pstepA_pinv {pwOk : Str → Str → Bool} {pst : PSt} (amb : Ambient) (hi : PInv pwOk pst) (c : Cmd) :
    PInv pwOk (pstepA amb pwOk pst c).1 := by
  unfold pstepA
  split
  · exact pstep_pinv hi c
  · rename_i p _
    dsimp only
    have h0 := pinv_nicks hi (noteSender pst.nicks p)
    split
    · exact pinv_quiet h0 (quiet_trans (quiet_lookupsAbort _ p _) (quiet_lookups _ p _))
    · have h1 := pinv_quiet h0 (quiet_trans (quiet_lookupsAbort _ p amb.aborting) (quiet_lookups _ p amb.pre))
      have h2 := pstep_pinv h1 c
      exact pinv_quiet h2 (quiet_lookups _ p _)

theorem prunA_pinv {pwOk : Str → Str → Bool} {pst : PSt} (amb : Ambient) (hi : PInv pwOk pst) (cs : List Cmd) :
    PInv pwOk (prunA amb pwOk pst cs) := by
  induction cs generalizing pst with
  | nil => exact hi
  | cons c cs ih => exact ih (pstepA_pinv amb hi c)

theorem mem_followLog {log : List LogEntry} {id : Nat} {old new : Str} {auth : List (Int × Str)} {l : LogEntry}
    (h : l ∈ followLog log id old new auth) :
    ∃ l0 ∈ log, l0.uid = id ∧ strEqual old l0.host = true ∧ l = { l0 with host := new } := by
  unfold followLog at h
  rw [List.mem_map] at h
  obtain ⟨l0, h0, e⟩ := h
  obtain ⟨hm, hc⟩ := List.mem_filter.1 h0
  simp only [Bool.and_eq_true, beq_iff_eq] at hc
  exact ⟨l0, hm, hc.1.1, hc.1.2, e.symm⟩

/-- the invariants survive a NICK message.  A login that `followNick` moves is backed by the copy
`followLog` appends of the entry that backed it before — kept only if the login is still held
(`authOf` before the step). -/
theorem nickStep_pinv {pwOk : Str → Str → Bool} {pst : PSt} (hi : PInv pwOk pst) (p nn : Str) :
    PInv pwOk (nickStep pst p nn).1 := by
  unfold nickStep
  split
  · exact pinv_nicks hi _
  · rename_i hfo
    have hfollow : pst.follow = true := by
      cases hf : pst.follow with
      | true => rfl
      | false => rw [hf] at hfo; exact absurd rfl hfo
    dsimp only
    have h1 := pinv_quiet hi (quiet_getUser pst.st p)
    split
    · exact pinv_nicks h1 _
    · exact h1
    · rename_i u hu
      split
      · exact pinv_nicks h1 _
      · split
        · exact h1
        · rename_i hshape
          have hp : isUserHostmask p = true := by
            cases hh : isUserHostmask p with
            | true => rfl
            | false => rw [hh] at hshape; exact absurd rfl hshape
          have hsa := step_auth (getUser pst.st p).1 (.followNick u.id p (newHost p nn))
          refine ⟨step_inv h1.inv _, ?_, ?_, step_noCommon h1.inv h1.disjoint _, ?_, ?_,
            step_namesOK h1.inv h1.names (fun q hq' => by cases hq')⟩
          · intro u' hu' e he
            rcases hsa u' hu' e he with ⟨v, hv, hid, hev⟩ | hx
            · obtain ⟨l, hl, a1, a2, a3⟩ := h1.backed v hv e hev
              exact ⟨l, List.mem_append_left _ hl, a1.trans hid, a2, a3⟩
            · simp only [extraOf] at hx
              split at hx
              · rename_i w hw
                obtain ⟨hwm, hwid⟩ := getUserById_spec hw
                rw [List.mem_map] at hx
                obtain ⟨a, ha, hea⟩ := hx
                obtain ⟨ham, hac⟩ := List.mem_filter.1 ha
                injection hea with e1 e2
                obtain ⟨l, hl, a1, a2, a3⟩ := h1.backed w hwm a ham
                refine ⟨{ l with host := newHost p nn }, List.mem_append_right _ ?_, ?_, ?_, ?_⟩
                · unfold followLog
                  rw [List.mem_map]
                  refine ⟨l, List.mem_filter.2 ⟨hl, ?_⟩, rfl⟩
                  simp only [Bool.and_eq_true, beq_iff_eq]
                  refine ⟨⟨a1.trans hwid, by rw [a3]; exact hac⟩, ?_⟩
                  unfold authOf
                  rw [hw, a2, a3]
                  exact List.elem_eq_true_of_mem ham
                · exact (a1.trans hwid).trans e1
                · rw [← e2]; exact a2
                · rw [← e2]
              · cases hx
          · intro l hl
            rcases List.mem_append.1 hl with hl' | hl'
            · exact hi.logOK l hl'
            · obtain ⟨l0, h0, _, _, e⟩ := mem_followLog hl'
              subst e
              exact hi.logOK l0 h0
          · intro l hl
            have hmono : ∀ e ∈ pst.events, e ∈ pst.events ++ [(p, newHost p nn)] :=
              fun e he => List.mem_append_left _ he
            refine ⟨?_, fun hf => by rw [hfollow] at hf; cases hf⟩
            rcases List.mem_append.1 hl with hl' | hl'
            · exact follows_mono hmono (hi.linked l hl').1
            · obtain ⟨l0, h0, _, hse, e⟩ := mem_followLog hl'
              subst e
              exact Follows.step (follows_mono hmono (hi.linked l0 h0).1)
                (List.mem_append_right _ (List.mem_singleton.2 rfl)) hse
          · intro e he
            rcases List.mem_append.1 he with he' | he'
            · exact hi.events e he'
            · rw [List.mem_singleton] at he'
              subst he'
              exact ⟨hp, nn, rfl⟩

theorem estep_pinv {pwOk : Str → Str → Bool} {pst : PSt} (amb : Ambient) (hi : PInv pwOk pst) (ev : Ev) :
    PInv pwOk (estep amb pwOk pst ev).1 := by
  cases ev with
  | cmd c => exact pstepA_pinv amb hi c
  | nick p nn => exact nickStep_pinv hi p nn

theorem erun_pinv {pwOk : Str → Str → Bool} {pst : PSt} (amb : Ambient) (hi : PInv pwOk pst) (evs : List Ev) :
    PInv pwOk (erun amb pwOk pst evs) := by
  induction evs generalizing pst with
  | nil => exact hi
  | cons e es ih => exact ih (estep_pinv amb hi e)

end C04
