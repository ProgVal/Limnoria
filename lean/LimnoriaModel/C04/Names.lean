/-
C04 — account names: what an operation does to the (id, name) signature of the records — every
pair afterwards was there before or is the one name the operation gives (`step_sig`) — and the
invariant of the User plugin built on it: names never look like hostmasks and no two accounts
share one (ASCII case-insensitively, as `getUserId` compares them).
-/
import LimnoriaModel.C04.Overlap
namespace C04
open Py C03

theorem getUserId_sig (st : St) (s : Str) (hr : RecInv st) :
    sig (getUserId st s).1.db.users = sig st.db.users := by
  rcases (getUserId_effect st s).2.2 with e | ⟨_, _, e, _⟩ <;> rw [e]
  exact removeOffending_sig _ _ hr.nodup

theorem mem_sig_putUser {l : List User} {u : User} {p : Nat × Str} (hp : p ∈ sig (putUser l u)) :
    p ∈ sig l ∨ p = (u.id, u.name) := by
  obtain ⟨v, hv, rfl⟩ := List.mem_map.1 hp
  rcases C03.mem_putUser hv with e | e
  · exact Or.inr (e ▸ rfl)
  · exact Or.inl (mem_sig e)

theorem setUser_sig {st : St} (hr : RecInv st) (u : User) (live : Bool) :
    sig (setUser st u live).1.db.users = sig st.db.users ∨
    ∃ l, (l.map (fun u => u.id)).Nodup ∧ sig l = sig st.db.users ∧
      sig (setUser st u live).1.db.users = sig (putUser l u) := by
  have hg : sig (afterNameLookup st u).db.users = sig st.db.users :=
    getUserId_sig _ _ ⟨hr.nodup, hr.names, fun v hv => by have := hr.ids v hv; simp only; omega⟩
  have hnd : ((afterNameLookup st u).db.users.map (fun u => u.id)).Nodup := by
    rw [ids_of_sig, hg, ← ids_of_sig]; exact hr.nodup
  rcases setUser_outcome st u live with ⟨_, _, e⟩ | ⟨_, e⟩ | ⟨_, e, _⟩ <;> rw [e]
  · exact Or.inl rfl
  · exact Or.inl hg
  · rcases finalRecord_cases (afterNameLookup st u) u live with e2 | e2
    · exact Or.inr ⟨_, hnd, hg, by rw [e2]; rfl⟩
    · exact Or.inl ((sig_putUser_same ⟨_, e2.1, rfl, rfl⟩ hnd).trans hg)

theorem setUser_sig_sub {st : St} (hr : RecInv st) (u : User) (live : Bool) :
    ∀ p ∈ sig (setUser st u live).1.db.users, p ∈ sig st.db.users ∨ p = (u.id, u.name) := by
  rcases setUser_sig hr u live with e | ⟨l, _, hl, e⟩ <;> rw [e]
  · exact fun p hp => Or.inl hp
  · exact fun p hp => (mem_sig_putUser hp).imp_left (hl ▸ ·)

theorem setUser_sig_same {st : St} (hr : RecInv st) {u : User} (live : Bool)
    (hmem : (u.id, u.name) ∈ sig st.db.users) :
    sig (setUser st u live).1.db.users = sig st.db.users := by
  rcases setUser_sig hr u live with e | ⟨l, hnd, hl, e⟩
  · exact e
  · rw [e, ← hl]
    exact sig_putUser_same (of_mem_sig (hl ▸ hmem)) hnd

theorem delUser_sig_sub (st : St) (id : Nat) :
    ∀ p ∈ sig (delUser st id).1.db.users, p ∈ sig st.db.users := by
  rw [delUser_users]
  intro p hp
  obtain ⟨v, hv, rfl⟩ := List.mem_map.1 hp
  exact mem_sig (List.mem_filter.1 hv).1

theorem prim_sig {g : Grant} {st st' : St} (hi : Inv st) (hp : Prim g st st') :
    ∀ p ∈ sig st'.db.users, p ∈ sig st.db.users ∨ p ∈ g.names := by
  cases hp with
  | lookup s => exact fun p hp => Or.inl (getUserId_sig st s hi.recs ▸ hp)
  | inval h => rw [(invalidateHost_db st h).1]; exact fun p hp => Or.inl hp
  | tick dt => exact fun p hp => Or.inl hp
  | del id _ => exact fun p hp => Or.inl (delUser_sig_sub st id p hp)
  | new hn hg =>
    rw [newNamed_eq hi.recs]
    intro p hp
    obtain ⟨v, hv, rfl⟩ := List.mem_map.1 hp
    rcases List.mem_append.1 hv with e | e
    · exact Or.inl (mem_sig e)
    · rw [List.mem_singleton.1 e]; exact Or.inr hg
  | @set u live _ hn =>
    intro p hp
    rcases setUser_sig_sub hi.recs u live p hp with h | h
    · exact Or.inl h
    · exact h ▸ hn
  | @edit u u1 hu hid _ _ hn =>
    have hn1 : hasLineBreak u1.name = false := hn.elim (fun e => e ▸ hi.recs.names u hu) (·.1)
    intro p hp
    have h : p ∈ sig st.db.users ∨ p = (u1.id, u1.name) :=
      (setUser_sig_sub (recInv_put hi.recs hu hid hn1) u1 true p hp).elim mem_sig_putUser Or.inr
    rcases h with h | h
    · exact Or.inl h
    · rw [h, hid]
      exact hn.elim (fun e => Or.inl (e ▸ mem_sig hu)) (fun e => Or.inr e.2)
  | @weak u u1 hu hid hn _ _ =>
    intro p hp
    rcases mem_sig_putUser hp with h | h
    · exact Or.inl h
    · exact Or.inl (h ▸ hid ▸ hn ▸ mem_sig hu)

theorem step_sig {st : St} (hi : Inv st) (op : Op) :
    ∀ p ∈ sig (step st op).1.db.users, p ∈ sig st.db.users ∨ p ∈ namesOf st op :=
  ((step_path st op).preserves
    (P := fun s => Inv s ∧ ∀ p ∈ sig s.db.users, p ∈ sig st.db.users ∨ p ∈ namesOf st op)
    (fun h hp => ⟨prim_inv h.1 hp, fun p hpp => (prim_sig h.1 hp p hpp).elim (h.2 p) Or.inr⟩)
    ⟨hi, fun _ hp => Or.inl hp⟩).2

theorem prim_sig_same {g : Grant} (hn : g.names = []) (hd : g.dels = false) {st st' : St} (hi : Inv st)
    (hp : Prim g st st') : sig st'.db.users = sig st.db.users := by
  cases hp with
  | lookup s => exact getUserId_sig st s hi.recs
  | inval h => rw [(invalidateHost_db st h).1]
  | tick dt => rfl
  | del id hd' => rw [hd] at hd'; cases hd'
  | new _ hg => rw [hn] at hg; cases hg
  | set live _ hnm =>
    exact setUser_sig_same hi.recs live (hnm.resolve_right (by rw [hn]; exact List.not_mem_nil))
  | @edit u u1 hu hid _ _ hnm =>
    have hname : u1.name = u.name := hnm.resolve_right (fun h => by rw [hn] at h; cases h.2)
    rw [setUser_sig_same (recInv_put hi.recs hu hid (hname ▸ hi.recs.names u hu)) true
      (mem_sig (mem_putUser_self _ _))]
    exact sig_putUser_same ⟨u, hu, hid.symm, hname.symm⟩ hi.recs.nodup
  | weak hu hid hnm _ _ => exact sig_putUser_same ⟨_, hu, hid.symm, hnm.symm⟩ hi.recs.nodup

theorem step_sig_same {st : St} (hi : Inv st) (op : Op) (hn : namesOf st op = [])
    (hd : (grantOf st op).dels = false) : sig (step st op).1.db.users = sig st.db.users :=
  ((step_path st op).preserves (P := fun s => Inv s ∧ sig s.db.users = sig st.db.users)
    (fun h hp => ⟨prim_inv h.1 hp, (prim_sig_same hn hd h.1 hp).trans h.2⟩) ⟨hi, rfl⟩).2

/-- names never look like hostmasks, and no two accounts share one (compared as `getUserId`
compares names: ASCII case-insensitively) -/
def NamesOK (l : List User) : Prop :=
  (∀ p ∈ sig l, isUserHostmask p.2 = false) ∧
  (∀ p ∈ sig l, ∀ q ∈ sig l, asciiLower p.2 = asciiLower q.2 → p.1 = q.1)

/-- `name` can be given to an account: it does not look like a hostmask and nobody has it -/
def NameFresh (l : List User) (name : Str) : Prop :=
  isUserHostmask name = false ∧ ∀ q ∈ sig l, asciiLower q.2 ≠ asciiLower name

theorem namesOK_of_sig {l l' : List User} (h : NamesOK l) (hs : sig l' = sig l) : NamesOK l' := by
  unfold NamesOK; rw [hs]; exact h

theorem nameFresh_of_sig {l l' : List User} {n : Str} (h : NameFresh l n) (hs : sig l' = sig l) :
    NameFresh l' n := by
  unfold NameFresh; rw [hs]; exact h

theorem getUserId_key_fresh {st : St} {name : Str} (hh : isUserHostmask name = false)
    (hk : (getUserId st name).2 = .error .key) : NameFresh st.db.users name := by
  refine ⟨hh, ?_⟩
  unfold getUserId at hk
  simp only [hh, Bool.false_eq_true, if_false] at hk
  unfold getUserIdName at hk
  simp only at hk
  split at hk
  · cases hk
  · split at hk
    · cases hk
    · rename_i hf
      intro q hq heq
      obtain ⟨u, hu, _, h2⟩ := of_mem_sig hq
      have := List.find?_eq_none.1 hf u hu
      rw [h2] at this
      simp only [beq_iff_eq] at this
      exact this heq

theorem step_namesOK {st : St} (hi : Inv st) (hok : NamesOK st.db.users) {op : Op}
    (hf : ∀ p ∈ namesOf st op, NameFresh st.db.users p.2) : NamesOK (step st op).1.db.users := by
  have hsub := step_sig hi op
  have hone : ∀ p ∈ namesOf st op, ∀ q ∈ namesOf st op, p = q := by
    cases op <;> simp [namesOf]
  refine ⟨fun p hp => ?_, fun p hp q hq heq => ?_⟩
  · rcases hsub p hp with h1 | h1
    · exact hok.1 p h1
    · exact (hf p h1).1
  · rcases hsub p hp with h1 | h1 <;> rcases hsub q hq with h2 | h2
    · exact hok.2 p h1 q h2 heq
    · exact absurd heq ((hf q h2).2 p h1)
    · exact absurd heq.symm ((hf p h1).2 q h2)
    · rw [hone p h1 q h2]

end C04
