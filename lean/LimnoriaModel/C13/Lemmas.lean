/-
C13 — helper lemmas: lexer invariant and measure (no hang, fuel suffices), parser totality,
writers re-read by the codec chain, rendered trees parsed back, invariants of result trees.
-/
import LimnoriaModel.C13.Model
namespace C13
open Py

variable {nm : Names}

/-- a character can end a token and be pushed back as a token of its own: two units; a pushed-back token: one;
the empty token at the end of input, handed out while the state is not yet `None`: one -/
def mu (lx : Lexer) : Nat := 2 * lx.input.length + lx.pushback.length + (if lx.state = none then 0 else 1)

/-- invariant inside `read_token` -/
def Inv (cfg : LexCfg) : Option Char → Str → Prop
  | none, _ => True
  | some st, token => if st = ' ' then token = [] else (st ∈ cfg.quotes ∨ st = 'a') ∧ token ≠ []

def Boundary (lx : Lexer) : Prop := lx.state = none ∨ lx.state = some ' '

/-- inside `read_token` (state not `None`): no hang; a non-empty token costs a unit of `mu` if it was still empty here -/
def ReadSpec (input token : Str) (pb : List Str) : RT → Prop
  | .hang => False
  | .valueError => True
  | .tok t lx' => Boundary lx' ∧ (t ≠ [] → mu lx' + (if token = [] then 1 else 0) ≤ mu ⟨input, some ' ', false, pb⟩)

theorem ReadSpec.step {cs token' : Str} {pb : List Str} {r : RT} (c : Char) (token : Str)
    (h : ReadSpec cs token' pb r) : ReadSpec (c :: cs) token pb r := by
  cases r with
  | hang => exact h
  | valueError => trivial
  | tok t lx =>
    refine ⟨h.1, fun ht => ?_⟩
    have := h.2 ht
    have : (if token = [] then 1 else 0) ≤ 1 := by split <;> omega
    simp only [mu, List.length_cons, reduceCtorEq, if_false] at *
    omega

theorem readLoop_spec (cfg : LexCfg) (hs : ' ' ∉ cfg.quotes) (ha : 'a' ∉ cfg.quotes)
    (input : Str) (st : Option Char) (token : Str) (bs : Bool) (pb : List Str) (h : Inv cfg st token) :
    ReadSpec input token pb (readLoop cfg input st token bs pb) := by
  have hs' : ∀ {q}, q ∈ cfg.quotes → ¬ q = ' ' := fun hq e => hs (e ▸ hq)
  fun_induction readLoop cfg input st token bs pb
  all_goals simp only [Inv, reduceIte, *, false_or, or_false, true_and, Char.reduceEq] at h
  case case3 => trivial                       -- end of input inside quotes: ValueError
  case case5 | case20 => exact h.1.elim       -- the hang: no branch for the state
  case case8 ih | case9 ih | case10 ih | case12 ih | case14 ih | case17 ih =>     -- one more character read
    exact (ih (by simp [Inv, *])).step _ _
  all_goals simp [ReadSpec, Boundary, mu, *]  -- a token is returned
  all_goals omega

theorem readLoop_none (cfg : LexCfg) (input token : Str) (bs : Bool) (pb : List Str) :
    ∃ lx, readLoop cfg input none token bs pb = .tok [] lx ∧ Boundary lx := by
  cases input <;> exact ⟨_, rfl, Or.inl rfl⟩

def GetSpec (lx : Lexer) : RT → Prop
  | .hang => False
  | .valueError => True
  | .tok t lx' => Boundary lx' ∧ (t ≠ [] → mu lx' < mu lx)

theorem getToken_spec (cfg : LexCfg) (hs : ' ' ∉ cfg.quotes) (ha : 'a' ∉ cfg.quotes)
    (lx : Lexer) (hb : Boundary lx) : GetSpec lx (getToken cfg lx) := by
  unfold getToken
  split
  · rename_i t rest hpb
    refine ⟨hb, fun _ => ?_⟩
    simp [mu, hpb]
  · rename_i hpb
    rcases hb with hn | hsp
    · obtain ⟨lx', h1, h2⟩ := readLoop_none cfg lx.input [] lx.backslash []
      rw [hn, h1]
      exact ⟨h2, fun h => absurd rfl h⟩
    · have := readLoop_spec cfg hs ha lx.input lx.state [] lx.backslash [] (by simp [Inv, hsp])
      revert this
      cases readLoop cfg lx.input lx.state [] lx.backslash [] with
      | hang => exact id
      | valueError => intro _; trivial
      | tok t lx' =>
        intro h
        refine ⟨h.1, fun ht => ?_⟩
        have := h.2 ht
        simp [mu, hsp, hpb] at this ⊢
        omega

/-! ### parser totality -/

def PR.Holds {α : Type} (P : α → Prop) : PR α → Prop
  | .crash _ => False
  | .ok a => P a
  | _ => True

abbrev PR.NoCrash {α : Type} (x : PR α) : Prop := x.Holds fun _ => True

theorem PR.Holds.bind {α β : Type} {P : α → Prop} {Q : β → Prop} {x : PR α} {f : α → PR β}
    (hx : x.Holds P) (hf : ∀ a, P a → (f a).Holds Q) : (x.bind f).Holds Q := by
  cases x with
  | ok a => exact hf a hx
  | crash c => exact hx.elim
  | _ => trivial

theorem decodeQuoted_noCrash (content : Str) : (decodeQuoted nm content).NoCrash := by
  unfold decodeQuoted checkScalar
  repeat' split
  all_goals trivial

theorem handleToken_noCrash (quotes token : Str) (h : token ≠ []) : (handleToken nm quotes token).NoCrash := by
  unfold handleToken
  split
  · split
    · exact decodeQuoted_noCrash _
    · trivial
  · rename_i h1
    exfalso
    cases token with
    | nil => exact h rfl
    | cons c cs =>
      have := h1 c ((c :: cs).getLast (by simp))
      simp [List.getLast?_eq_some_getLast] at this

/-- the quotes of the configuration never contain the two characters shlex uses as state names -/
def QuotesOk (q : Str) : Prop := ' ' ∉ q ∧ 'a' ∉ q

theorem rtCast_holds {α : Type} {P : α → Prop} {lx : Lexer} {r : RT} (hg : GetSpec lx r)
    (hr : ∀ token lx', r = .tok token lx' → False) : (rtCast r : PR α).Holds P := by
  cases r with
  | hang => exact hg
  | valueError => trivial
  | tok t lx' => exact (hr t lx' rfl).elim

theorem assemble_noCrash (args : List Tree) (ends : List (List Tree)) : (assemble args ends).NoCrash := by
  unfold assemble
  repeat' split
  all_goals trivial

section
variable (T : TokCfg) (hq : QuotesOk T.quotes)
include hq

theorem insideBrackets_spec (n : Nat) (lx : Lexer) (hb : Boundary lx)
    (hmu : mu lx < n) : (insideBrackets T n lx).Holds fun (_, lx') => Boundary lx' ∧ mu lx' < mu lx := by
  fun_induction insideBrackets T n lx
  all_goals have hg := getToken_spec T.lexCfg hq.1 hq.2 _ hb
  case case1 => omega                         -- no fuel: excluded by `hmu`
  case case2 => trivial                       -- end of input: SyntaxError
  case case3 hgt hne => rw [hgt] at hg; exact ⟨hg.1, hg.2 hne⟩      -- right bracket
  case case4 hgt hne _ ih2 ih1 =>             -- left bracket: the sub-list, then the rest
    rw [hgt] at hg
    have hlt := hg.2 hne
    exact (ih2 hg.1 (by omega)).bind fun (_, lx2) h2 =>
      (ih1 lx2 h2.1 (by omega)).bind fun (_, lx3) h3 => ⟨h3.1, by omega⟩
  case case5 hgt hne _ _ ih =>                -- an ordinary token
    rw [hgt] at hg
    have hlt := hg.2 hne
    exact (handleToken_noCrash T.quotes _ hne).bind fun _ _ =>
      (ih hg.1 (by omega)).bind fun (_, lx2) h2 => ⟨h2.1, by omega⟩
  case case6 hr => exact rtCast_holds hg hr   -- the lexer gave no token

theorem topLoop_noCrash (n : Nat) (lx : Lexer) (args : List Tree)
    (ends : List (List Tree)) (hb : Boundary lx) (hmu : mu lx < n) : (topLoop T n lx args ends).NoCrash := by
  fun_induction topLoop T n lx args ends
  all_goals have hg := getToken_spec T.lexCfg hq.1 hq.2 _ hb
  case case1 => omega                         -- no fuel
  case case2 | case3 | case6 => trivial       -- end of input; the two SyntaxErrors
  case case4 hgt hne _ _ ih => rw [hgt] at hg; exact ih hg.1 (by have := hg.2 hne; omega)     -- pipe
  case case5 hgt hne _ ih =>                  -- left bracket
    rw [hgt] at hg
    have hlt := hg.2 hne
    exact (insideBrackets_spec T hq _ _ hg.1 (by omega)).bind fun (_, lx2) h2 => ih _ lx2 h2.1 (by omega)
  case case7 hgt hne _ _ _ ih =>              -- an ordinary token
    rw [hgt] at hg
    exact (handleToken_noCrash T.quotes _ hne).bind fun t _ => ih t hg.1 (by have := hg.2 hne; omega)
  case case8 hr => exact rtCast_holds hg hr   -- the lexer gave no token

theorem tokenizeT_noCrash (s : Str) : (tokenizeT T s).NoCrash :=
  (topLoop_noCrash T hq (fuelFor s) (initLexer s) [] [] (Or.inr rfl) (by simp [mu, initLexer, fuelFor])).bind
    fun _ _ => assemble_noCrash _ _

end

/-! ### facts about the extracted tables on which the property theorems rest -/

def BracketOk (ws vq : Str) : Str → Prop
  | [] => True
  | [l, r] => l ≠ r ∧ l ∉ ws ∧ r ∉ ws ∧ l ∉ vq ∧ r ∉ vq ∧ l ≠ '|' ∧ r ≠ '|'
  | _ => False

instance (ws vq b : Str) : Decidable (BracketOk ws vq b) := by
  unfold BracketOk
  split <;> infer_instance

/-- `ws` = shlex whitespace, `vb` = ValidBrackets.validStrings, `vq` = characters ValidQuotes accepts -/
def TablesOk (ws : Str) (vb : List Str) (vq : Str) : Prop :=
  (∀ b ∈ vb, BracketOk ws vq b) ∧ ' ' ∈ ws ∧ '"' ∉ ws ∧ ' ' ∉ vq ∧ 'a' ∉ vq

instance (ws : Str) (vb : List Str) (vq : Str) : Decidable (TablesOk ws vb vq) := by
  unfold TablesOk; infer_instance

/-- a configuration that passed the registry's validation (`ValidBrackets`, `ValidQuotes`) -/
def Conf.Valid (c : Conf) : Prop :=
  c.brackets ∈ Gen.validBrackets ∧ ∀ q ∈ c.quotes, q ∈ Gen.validQuoteChars

instance (c : Conf) : Decidable c.Valid := by unfold Conf.Valid; infer_instance

theorem Conf.Valid.quotesOk {c : Conf} (hv : c.Valid)
    (ht : TablesOk Gen.shlexWhitespace Gen.validBrackets Gen.validQuoteChars) : QuotesOk c.quotes :=
  have ⟨_, _, _, hsp, ha⟩ := ht
  ⟨fun h => hsp (hv.2 _ h), fun h => ha (hv.2 _ h)⟩

theorem effBrackets_ok {c : Conf} (hv : c.Valid)
    (ht : TablesOk Gen.shlexWhitespace Gen.validBrackets Gen.validQuoteChars) :
    BracketOk Gen.shlexWhitespace Gen.validQuoteChars (effBrackets c) := by
  unfold effBrackets
  split
  · exact ht.1 _ hv.1
  · trivial

theorem mkTokenizer_ok {ws vq b : Str} (hb : BracketOk ws vq b) (pipe : Bool) (quotes : Str) (names : Names) :
    mkTokenizer b pipe quotes names = .ok
      ⟨(if pipe then Gen.tokenizerSeparators ++ b ++ ['|'] else Gen.tokenizerSeparators ++ b) ++ quotes,
        b.take 1, b.drop 1, pipe, quotes, names⟩ := by
  match b, hb with
  | [], _ => simp [mkTokenizer]
  | [l, r], _ => rfl

/-! ### UTF-8 facts (from the core encoder) -/

theorem or_ge (x m : UInt8) (hm : 128 ≤ m.toNat) : 128 ≤ (x ||| m).toNat := by
  rw [UInt8.toNat_or]; exact Nat.le_trans hm Nat.right_le_or

/-- a byte below 0x80 in the UTF-8 encoding of `c` is the whole encoding, and `c` is that ASCII character -/
theorem ascii_byte_of_utf8 (c : Char) (b : UInt8) (hb : b ∈ String.utf8EncodeChar c) (hlt : b.toNat < 128) :
    String.utf8EncodeChar c = [b] ∧ c.toNat = b.toNat := by
  have h1 := c.utf8Size_pos
  have h4 := c.utf8Size_le_four
  rcases (by omega : c.utf8Size = 1 ∨ c.utf8Size = 2 ∨ c.utf8Size = 3 ∨ c.utf8Size = 4) with h | h | h | h
  · rw [String.utf8EncodeChar_eq_singleton h] at hb ⊢
    simp only [List.mem_cons, List.not_mem_nil, or_false] at hb
    subst hb
    refine ⟨rfl, ?_⟩
    have := Char.utf8Size_eq_one_iff.1 h
    rw [UInt32.le_iff_toNat_le] at this
    show c.val.toNat = c.val.toUInt8.toNat
    rw [UInt32.toNat_toUInt8]
    simp only [UInt32.reduceToNat] at this
    omega
  · rw [String.utf8EncodeChar_eq_cons_cons h] at hb
    simp only [List.mem_cons, List.not_mem_nil, or_false] at hb
    rcases hb with rfl | rfl <;> exact absurd hlt (Nat.not_lt.2 (or_ge _ _ (by decide)))
  · rw [String.utf8EncodeChar_eq_cons_cons_cons h] at hb
    simp only [List.mem_cons, List.not_mem_nil, or_false] at hb
    rcases hb with rfl | rfl | rfl <;> exact absurd hlt (Nat.not_lt.2 (or_ge _ _ (by decide)))
  · rw [String.utf8EncodeChar_eq_cons_cons_cons_cons h] at hb
    simp only [List.mem_cons, List.not_mem_nil, or_false] at hb
    rcases hb with rfl | rfl | rfl | rfl <;> exact absurd hlt (Nat.not_lt.2 (or_ge _ _ (by decide)))

theorem utf8_append (a b : Str) : utf8 (a ++ b) = utf8 a ++ utf8 b := by simp [utf8]

theorem utf8_cons (c : Char) (s : Str) : utf8 (c :: s) = String.utf8EncodeChar c ++ utf8 s := by simp [utf8]

theorem utf8_singleton (c : Char) : utf8 [c] = String.utf8EncodeChar c := by simp [utf8]

theorem utf8_backslash : String.utf8EncodeChar '\\' = [0x5C] := by decide

theorem utf8Decode?_utf8 (s : Str) : utf8Decode? (utf8 s) = some s := by
  have : (utf8 s).toByteArray = s.utf8Encode := rfl
  simp [utf8Decode?, this]

theorem utf8_of_decode {bs : List UInt8} {s : Str} (h : utf8Decode? bs = some s) : utf8 s = bs := by
  unfold utf8Decode? at h
  cases hd : bs.toByteArray.utf8Decode? with
  | none => simp [hd] at h
  | some arr =>
    simp only [hd, Option.map_some, Option.some.injEq] at h
    have hs : bs.toByteArray.utf8Decode?.isSome := by simp [hd]
    have := ByteArray.utf8Encode_get_utf8Decode? (b := bs.toByteArray) (h := hs)
    simp only [hd, Option.get_some, h] at this
    exact List.toByteArray_inj.1 this

theorem no_backslash_byte (c : Char) (hc : c ≠ '\\') : ∀ b ∈ String.utf8EncodeChar c, b ≠ 0x5C := by
  intro b hb h
  subst h
  have := (ascii_byte_of_utf8 c 0x5C hb (by decide)).2
  exact hc (Char.toNat_inj.1 this)

/-! ### the `unicode_escape` decoder: escape-free bytes and the first two bytes of an escape -/

def prependR (l : List Nat) (r : Except UErr (List Nat)) : Except UErr (List Nat) := l.foldr consR r

theorem prependR_ok (l m : List Nat) : prependR l (.ok m) = .ok (l ++ m) := by
  induction l with
  | nil => rfl
  | cons a l ih => simp [prependR, consR] at ih ⊢; rw [ih]

theorem prependR_append (a b : List Nat) (r) : prependR (a ++ b) r = prependR a (prependR b r) := by
  simp [prependR]

theorem uesc_normal_plain (bs r : List UInt8) (h : ∀ b ∈ bs, b ≠ 0x5C) :
    uesc nm .normal (bs ++ r) = prependR (bs.map UInt8.toNat) (uesc nm .normal r) := by
  induction bs with
  | nil => rfl
  | cons b bs ih =>
    have hb : b ≠ 0x5C := h b (by simp)
    have := ih (fun b' hb' => h b' (by simp [hb']))
    simp only [List.cons_append, uesc, hb, if_false, this, List.map_cons, prependR, List.foldr_cons]

theorem uesc_bs_simple (b : UInt8) (v : Nat) (bs : List UInt8) (h : simpleEsc b = some v) (hb : b ≠ 0x0A) :
    uesc nm .normal (0x5C :: b :: bs) = consR v (uesc nm .normal bs) := by
  rw [uesc, if_pos rfl, uesc, if_neg hb, h]

theorem uesc_bs_U (bs : List UInt8) : uesc nm .normal (0x5C :: 0x55 :: bs) = uesc nm (.hex 7 0 .bigU) bs := by
  rw [uesc, if_pos rfl, uesc, if_neg (by decide)]
  rfl
theorem uesc_bs_u (bs : List UInt8) : uesc nm .normal (0x5C :: 0x75 :: bs) = uesc nm (.hex 3 0 .u) bs := by
  rw [uesc, if_pos rfl, uesc, if_neg (by decide)]
  rfl
theorem uesc_bs_x (bs : List UInt8) : uesc nm .normal (0x5C :: 0x78 :: bs) = uesc nm (.hex 1 0 .x) bs := by
  rw [uesc, if_pos rfl, uesc, if_neg (by decide)]
  rfl

theorem latin1?_bytes (bs : List UInt8) : latin1? (bs.map UInt8.toNat) = some bs := by
  induction bs with
  | nil => rfl
  | cons b bs ih =>
    have : b.toNat < 256 := b.toNat_lt
    simp [latin1?, ih, this]

/-! ### quoted text, written character by character -/

/-- text between double quotes in which every `\` and `"` is preceded by an (unescaped) backslash -/
inductive Safe : Str → Prop
  | nil : Safe []
  | plain (c : Char) (s : Str) : c ≠ '\\' → c ≠ '"' → Safe s → Safe (c :: s)
  | esc (d : Char) (s : Str) : Safe s → Safe ('\\' :: d :: s)

theorem Safe.append {a b : Str} (ha : Safe a) (hb : Safe b) : Safe (a ++ b) := by
  induction ha with
  | nil => exact hb
  | plain c s h1 h2 _ ih => exact .plain c _ h1 h2 ih
  | esc d s _ ih => exact .esc d _ ih

/-- a writer whose output is lexed as one token and decoded back to the argument -/
def GoodWriter (nm : Names) (w : Str → Str) (x : Str) : Prop :=
  Safe (w x) ∧ decodeQuoted nm (w x) = .ok (toCps x)

/-- `s` is a safe spelling of `c`: the lexer passes it through and the decoder reads it as `c`'s bytes -/
def Writes (nm : Names) (c : Char) (s : Str) : Prop :=
  Safe s ∧ ∀ r, uesc nm .normal (utf8 s ++ r) =
    prependR ((String.utf8EncodeChar c).map UInt8.toNat) (uesc nm .normal r)

theorem writes_self {c : Char} (hbs : c ≠ '\\') (hq : c ≠ '"') : Writes nm c [c] :=
  ⟨.plain c _ hbs hq .nil, fun r => by
    rw [utf8_singleton]; exact uesc_normal_plain _ r (no_backslash_byte c hbs)⟩

theorem writes_bs : Writes nm '\\' ['\\', '\\'] :=
  ⟨.esc '\\' _ .nil, fun r => uesc_bs_simple 0x5C 0x5C r rfl (by decide)⟩

theorem writes_dq : Writes nm '"' ['\\', '"'] :=
  ⟨.esc '"' _ .nil, fun r => uesc_bs_simple 0x22 0x22 r rfl (by decide)⟩

theorem goodWriter_flatMap {f : Char → Str} (hf : ∀ c, Writes nm c (f c)) (x : Str) :
    GoodWriter nm (fun s => s.flatMap f) x := by
  have h : Safe (x.flatMap f) ∧ ∀ r, uesc nm .normal (utf8 (x.flatMap f) ++ r) =
      prependR ((utf8 x).map UInt8.toNat) (uesc nm .normal r) := by
    induction x with
    | nil => exact ⟨.nil, fun _ => rfl⟩
    | cons c x ih =>
      rw [List.flatMap_cons]
      refine ⟨(hf c).1.append ih.1, fun r => ?_⟩
      rw [utf8_append, List.append_assoc, (hf c).2, ih.2, utf8_cons, List.map_append, prependR_append]
  have h2 := h.2 []
  simp only [List.append_nil, uesc, prependR_ok] at h2
  exact ⟨h.1, by simp [decodeQuoted, h2, latin1?_bytes, utf8Decode?_utf8]⟩

theorem goodWriter_quoteBody (x : Str) : GoodWriter nm quoteBody x :=
  goodWriter_flatMap (fun c => by
    by_cases h1 : c = '\\'
    · subst h1; exact writes_bs
    by_cases h2 : c = '"'
    · subst h2; exact writes_dq
    simp only [h1, h2, or_self, if_false]; exact writes_self h1 h2) x

/-! ### lexing quoted tokens -/

theorem readLoop_safe (cfg : LexCfg) (hq : '"' ∈ cfg.quotes) (body rest : Str) (hs : Safe body)
    (token : Str) (pb : List Str) :
    readLoop cfg (body ++ '"' :: rest) (some '"') token false pb =
      .tok (token ++ body ++ ['"']) ⟨rest, some ' ', false, pb⟩ := by
  induction hs generalizing token with
  | nil => simp [readLoop, hq]
  | plain c s h1 h2 _ ih =>
    simp only [List.cons_append, readLoop, hq, h1, h2]
    simp [ih]
  | esc d s _ ih =>
    simp only [List.cons_append, readLoop, hq]
    by_cases hd : d = '\\'
    · subst hd; simp [ih]
    · simp [hd, ih]

/-- the lexer configuration facts the round-trip theorems use -/
structure DqCfg (cfg : LexCfg) : Prop where
  sp_ws : ' ' ∈ cfg.whitespace
  dq_ws : '"' ∉ cfg.whitespace
  dq_sep : '"' ∈ cfg.separators
  dq_q : '"' ∈ cfg.quotes

/-- the lexer at a token boundary with `inp` left: state `' '`, nothing pushed back -/
def bnd (inp : Str) : Lexer := ⟨inp, some ' ', false, []⟩

theorem getToken_quoted {cfg : LexCfg} (h : DqCfg cfg) (body rest : Str) (hs : Safe body) :
    getToken cfg (bnd ('"' :: body ++ ['"'] ++ rest)) = .tok ('"' :: body ++ ['"']) (bnd rest) := by
  simp only [getToken, bnd, List.cons_append, List.append_assoc, List.nil_append, readLoop, h.dq_ws, h.dq_sep, h.dq_q]
  simp [readLoop_safe cfg h.dq_q body rest hs]

theorem getToken_space {cfg : LexCfg} (h : DqCfg cfg) (inp : Str) :
    getToken cfg (bnd (' ' :: inp)) = getToken cfg (bnd inp) := by
  simp [getToken, bnd, readLoop, h.sp_ws]

theorem getToken_eof (cfg : LexCfg) : getToken cfg (bnd []) = .tok [] ⟨[], none, false, []⟩ := by
  simp [getToken, bnd, readLoop]

theorem getToken_punct {cfg : LexCfg} (l : Char) (hw : l ∉ cfg.whitespace) (hsep : l ∈ cfg.separators)
    (hq : l ∉ cfg.quotes) (inp : Str) :
    getToken cfg (bnd (l :: inp)) = .tok [l] (bnd inp) := by
  simp [getToken, bnd, readLoop, hw, hsep, hq]

theorem handleToken_quoted (quotes : Str) (hq : '"' ∈ quotes) (body : Str) :
    handleToken nm quotes ('"' :: body ++ ['"']) = decodeQuoted nm body := by
  simp [handleToken, hq, List.getLast?_cons, List.getLast?_append]

/-! ### one turn of a parser loop -/

/-- a quoted token written with body-writer `w` -/
def dq (w : Str → Str) (x : Str) : Str := '"' :: w x ++ ['"']

/-- what the parser needs to know about the Tokenizer instance for quoted tokens -/
structure DqTok (T : TokCfg) : Prop where
  lex : DqCfg T.lexCfg
  q : '"' ∈ T.quotes
  left : T.left.length ≤ 1
  right : T.right.length ≤ 1

theorem dq_ne_short (w : Str → Str) (x : Str) (t : Str) (h : t.length ≤ 1) : dq w x ≠ t := by
  intro e
  have := congrArg List.length e
  simp [dq] at this
  omega

/-- `t` is an ordinary argument for either parser loop: no end of input, pipe or bracket, and `_handleToken` gives `v` -/
structure Item (T : TokCfg) (t : Str) (v : List Nat) : Prop where
  ne_nil : t ≠ []
  ne_pipe : ¬ (t = ['|'] ∧ T.pipe = true)
  ne_left : t ≠ T.left
  ne_right : t ≠ T.right
  val : handleToken T.names T.quotes t = .ok v

theorem topLoop_item {T : TokCfg} {lx lx' : Lexer} {t : Str} {v : List Nat}
    (hg : getToken T.lexCfg lx = .tok t lx') (hi : Item T t v) (n : Nat) (args : List Tree) (ends : List (List Tree)) :
    topLoop T (n + 1) lx args ends = topLoop T n lx' (args ++ [.leaf v]) ends := by
  rw [topLoop, hg]
  simp only [hi.ne_nil, hi.ne_pipe, hi.ne_left, hi.ne_right, hi.val, if_false, PR.bind]

theorem inside_item {T : TokCfg} {lx lx' : Lexer} {t : Str} {v : List Nat}
    (hg : getToken T.lexCfg lx = .tok t lx') (hi : Item T t v) (n : Nat) :
    insideBrackets T (n + 1) lx =
      (insideBrackets T n lx').bind fun (items, lx'') => .ok (.leaf v :: items, lx'') := by
  rw [insideBrackets, hg]
  simp only [hi.ne_nil, hi.ne_left, hi.ne_right, hi.val, if_false, PR.bind]

theorem inside_space {T : TokCfg} (hl : DqCfg T.lexCfg) (n : Nat) (X : Str) :
    insideBrackets T n (bnd (' ' :: X)) = insideBrackets T n (bnd X) := by
  cases n with
  | zero => rfl
  | succ n => rw [insideBrackets, getToken_space hl, ← insideBrackets]

theorem topLoop_space {T : TokCfg} (hl : DqCfg T.lexCfg) (n : Nat) (X : Str) (args : List Tree) (ends : List (List Tree)) :
    topLoop T n (bnd (' ' :: X)) args ends = topLoop T n (bnd X) args ends := by
  cases n with
  | zero => rfl
  | succ n => rw [topLoop, getToken_space hl, ← topLoop]

theorem topLoop_eof (T : TokCfg) (n : Nat) (args : List Tree) (ends : List (List Tree)) :
    topLoop T (n + 1) (bnd []) args ends = .ok (args, ends) := by
  rw [topLoop, getToken_eof]
  simp

/-! ### parsing a blank-separated list of quoted tokens -/

theorem item_dq {T : TokCfg} (hT : DqTok T) {w : Str → Str} {x : Str} (hx : GoodWriter T.names w x) :
    Item T (dq w x) (toCps x) where
  ne_nil := dq_ne_short w x [] (by simp)
  ne_pipe h := dq_ne_short w x ['|'] (by simp) h.1
  ne_left := dq_ne_short w x _ hT.left
  ne_right := dq_ne_short w x _ hT.right
  val := by rw [dq, handleToken_quoted _ hT.q, hx.2]

section
variable {T : TokCfg} (hT : DqTok T) (w : Str → Str)
include hT

theorem topLoop_step_dq (x : Str) (hx : GoodWriter T.names w x) (n : Nat) (rest : Str) (args : List Tree)
    (ends : List (List Tree)) :
    topLoop T (n + 1) (bnd (dq w x ++ rest)) args ends = topLoop T n (bnd rest) (args ++ [.leaf (toCps x)]) ends :=
  topLoop_item (getToken_quoted hT.lex (w x) rest hx.1) (item_dq hT hx) n args ends

theorem topLoop_dqs (xs : List Str) (hx : ∀ x ∈ xs, GoodWriter T.names w x) (n : Nat)
    (hn : (joinChar ' ' (xs.map (dq w))).length + 1 ≤ n) (args : List Tree) :
    topLoop T n (bnd (joinChar ' ' (xs.map (dq w)))) args [] = .ok (args ++ xs.map fun x => .leaf (toCps x), []) := by
  obtain ⟨m, rfl⟩ : ∃ m, n = m + 1 := ⟨n - 1, by omega⟩
  induction xs generalizing m args with
  | nil => simpa [joinChar] using topLoop_eof T m args []
  | cons x xs ih =>
    have hx0 := hx x (by simp)
    cases xs with
    | nil =>
      obtain ⟨k, rfl⟩ : ∃ k, m = k + 1 := ⟨m - 1, by simp [joinChar, dq] at hn; omega⟩
      have := topLoop_step_dq hT w x hx0 (k + 1) [] args []
      rw [List.append_nil] at this
      simp [joinChar, this, topLoop_eof]
    | cons y ys =>
      have e : joinChar ' ' ((x :: y :: ys).map (dq w)) = dq w x ++ ' ' :: joinChar ' ' ((y :: ys).map (dq w)) := rfl
      rw [e] at hn ⊢
      simp only [List.length_append, List.length_cons] at hn
      obtain ⟨k, rfl⟩ : ∃ k, m = k + 1 := ⟨m - 1, by omega⟩
      rw [topLoop_step_dq hT w x hx0, topLoop_space hT.lex,
        ih (fun z hz => hx z (by simp [hz])) _ k (by omega)]
      simp

theorem tokenizeT_dq (xs : List Str) (hx : ∀ x ∈ xs, GoodWriter T.names w x) :
    tokenizeT T (joinChar ' ' (xs.map (dq w))) = .ok (xs.map fun x => .leaf (toCps x)) := by
  rw [tokenizeT, show initLexer (joinChar ' ' (xs.map (dq w))) = bnd (joinChar ' ' (xs.map (dq w))) from rfl,
    topLoop_dqs hT w xs hx _ (by simp only [fuelFor]; omega)]
  simp [PR.bind, assemble]

end

theorem dqTok_of_mk {b quotes : Str} {pipe : Bool} {T : TokCfg} {names : Names}
    (ht : TablesOk Gen.shlexWhitespace Gen.validBrackets Gen.validQuoteChars)
    (hb : BracketOk Gen.shlexWhitespace Gen.validQuoteChars b)
    (hT : mkTokenizer b pipe quotes names = .ok T) (hq : '"' ∈ quotes) : DqTok T := by
  rw [mkTokenizer_ok hb] at hT
  cases hT
  obtain ⟨-, hsp, hdq, -⟩ := ht
  refine ⟨⟨hsp, hdq, List.mem_append_right _ hq, hq⟩, hq, List.length_take_le 1 b, ?_⟩
  match b, hb with
  | [], _ => simp
  | [l, r], _ => simp

/-! ### rendering and re-reading nested commands -/

/-- source trees: what the user means -/
inductive STree where
  | leaf (x : Str)
  | node (ts : List STree)

mutual
def STree.toTree : STree → Tree
  | .leaf x => .leaf (toCps x)
  | .node ts => .node (toTrees ts)
def toTrees : List STree → List Tree
  | [] => []
  | t :: ts => t.toTree :: toTrees ts
end

mutual
/-- a leaf is written in double quotes, a sub-command between the brackets -/
def render (l r : Char) : STree → Str
  | .leaf x => quote x
  | .node ts => l :: renderList l r ts ++ [r]
/-- items separated by one blank -/
def renderList (l r : Char) : List STree → Str
  | [] => []
  | t :: ts => render l r t ++ renderSp l r ts
/-- every item preceded by one blank -/
def renderSp (l r : Char) : List STree → Str
  | [] => []
  | t :: ts => ' ' :: render l r t ++ renderSp l r ts
end

mutual
def STree.size : STree → Nat
  | .leaf _ => 1
  | .node ts => 2 + sizeL ts
def sizeL : List STree → Nat
  | [] => 0
  | t :: ts => t.size + sizeL ts
end

/-- what the parser needs to know about the Tokenizer instance when brackets `l r` are enabled -/
structure BrTok (T : TokCfg) (l r : Char) : Prop extends DqTok T where
  hl : T.left = [l]
  hr : T.right = [r]
  ne : l ≠ r
  l_ws : l ∉ T.lexCfg.whitespace
  r_ws : r ∉ T.lexCfg.whitespace
  l_sep : l ∈ T.lexCfg.separators
  r_sep : r ∈ T.lexCfg.separators
  l_q : l ∉ T.lexCfg.quotes
  r_q : r ∉ T.lexCfg.quotes
  l_pipe : l ≠ '|'

theorem inside_step_dq {T : TokCfg} (hT : DqTok T) (x : Str) (n : Nat) (rest : Str) :
    insideBrackets T (n + 1) (bnd (quote x ++ rest)) =
      (insideBrackets T n (bnd rest)).bind fun (items, lx) => .ok (.leaf (toCps x) :: items, lx) :=
  have hx := goodWriter_quoteBody (nm := T.names) x
  inside_item (getToken_quoted hT.lex (quoteBody x) rest hx.1) (item_dq hT hx) n

theorem inside_renderSp {T : TokCfg} (hl : DqCfg T.lexCfg) (l r : Char) (ts : List STree) (n : Nat) (X : Str) :
    insideBrackets T n (bnd (renderSp l r ts ++ X)) = insideBrackets T n (bnd (renderList l r ts ++ X)) := by
  cases ts with
  | nil => rfl
  | cons t ts => exact inside_space hl n _

theorem topLoop_renderSp {T : TokCfg} (hl : DqCfg T.lexCfg) (l r : Char) (ts : List STree) (n : Nat)
    (args : List Tree) (ends : List (List Tree)) :
    topLoop T n (bnd (renderSp l r ts)) args ends = topLoop T n (bnd (renderList l r ts)) args ends := by
  cases ts with
  | nil => rfl
  | cons t ts => exact topLoop_space hl n _ args ends

section
variable {T : TokCfg} {l r : Char} (hT : BrTok T l r)
include hT

theorem inside_close (n : Nat) (rest : Str) :
    insideBrackets T (n + 1) (bnd (r :: rest)) = .ok ([], bnd rest) := by
  rw [insideBrackets, getToken_punct r hT.r_ws hT.r_sep hT.r_q, hT.hr]
  simp

theorem inside_open (n : Nat) (X : Str) :
    insideBrackets T (n + 1) (bnd (l :: X)) =
      (insideBrackets T n (bnd X)).bind fun (sub, lx) =>
        (insideBrackets T n lx).bind fun (rest, lx') => .ok (.node sub :: rest, lx') := by
  rw [insideBrackets, getToken_punct l hT.l_ws hT.l_sep hT.l_q]
  have h1 : [l] ≠ T.right := by rw [hT.hr]; simp [hT.ne]
  simp only [hT.hl, h1, if_true, if_false, List.cons_ne_nil]

theorem topLoop_open (n : Nat) (X : Str) (args : List Tree)
    (ends : List (List Tree)) :
    topLoop T (n + 1) (bnd (l :: X)) args ends =
      (insideBrackets T n (bnd X)).bind fun (sub, lx) => topLoop T n lx (args ++ [.node sub]) ends := by
  rw [topLoop, getToken_punct l hT.l_ws hT.l_sep hT.l_q]
  have h1 : ¬ ([l] = ['|'] ∧ T.pipe = true) := fun h => hT.l_pipe (by simpa using h.1)
  simp only [h1, hT.hl, if_true, if_false, List.cons_ne_nil]

/-- on the fuel: every recursive call is on a smaller tree with one unit less -/
theorem parse_list (ts : List STree) (n : Nat) (hn : sizeL ts + 1 ≤ n) :
    (∀ rest, insideBrackets T n (bnd (renderList l r ts ++ r :: rest)) = .ok (toTrees ts, bnd rest)) ∧
    ∀ args, topLoop T n (bnd (renderList l r ts)) args [] = .ok (args ++ toTrees ts, []) := by
  induction n generalizing ts with
  | zero => omega
  | succ m ih =>
    match ts with
    | [] => exact ⟨inside_close hT m, fun args => by simpa [toTrees, renderList] using topLoop_eof T m args []⟩
    | .leaf x :: ts =>
      simp only [sizeL, STree.size] at hn
      obtain ⟨h1, h2⟩ := ih ts (by omega)
      rw [renderList]
      refine ⟨fun rest => ?_, fun args => ?_⟩
      · rw [render, List.append_assoc, inside_step_dq hT.toDqTok, inside_renderSp hT.lex, h1]
        rfl
      · rw [show render l r (.leaf x) = dq quoteBody x from rfl,
          topLoop_step_dq hT.toDqTok quoteBody x (goodWriter_quoteBody x), topLoop_renderSp hT.lex, h2]
        simp [toTrees, STree.toTree]
    | .node ts' :: ts =>
      simp only [sizeL, STree.size] at hn
      obtain ⟨h1, h2⟩ := ih ts (by omega)
      have hs := (ih ts' (by omega)).1
      simp only [renderList, render, List.append_assoc, List.cons_append, List.nil_append]
      refine ⟨fun rest => ?_, fun args => ?_⟩
      · rw [inside_open hT, hs]
        simp only [PR.bind]
        rw [inside_renderSp hT.lex, h1]
        rfl
      · rw [topLoop_open hT, hs]
        simp only [PR.bind]
        rw [topLoop_renderSp hT.lex, h2]
        simp [toTrees, STree.toTree]

end

theorem inside_sp {T : TokCfg} {l r : Char} (hT : BrTok T l r) (ts : List STree) (n : Nat) (rest : Str)
    (hn : sizeL ts + 1 ≤ n) :
    insideBrackets T n (bnd (renderSp l r ts ++ r :: rest)) = .ok (toTrees ts, bnd rest) := by
  rw [inside_renderSp hT.lex, (parse_list hT ts n hn).1]

mutual
theorem size_le_render (l r : Char) (t : STree) : t.size ≤ (render l r t).length := by
  match t with
  | .leaf x => simp [STree.size, render, quote]
  | .node ts => have := sizeL_le_renderList l r ts; simp [STree.size, render]; omega
theorem sizeL_le_renderList (l r : Char) (ts : List STree) : sizeL ts ≤ (renderList l r ts).length := by
  match ts with
  | [] => simp [sizeL]
  | t :: ts =>
    have := size_le_render l r t; have := sizeL_le_renderSp l r ts
    simp [sizeL, renderList]; omega
theorem sizeL_le_renderSp (l r : Char) (ts : List STree) : sizeL ts ≤ (renderSp l r ts).length := by
  match ts with
  | [] => simp [sizeL]
  | t :: ts =>
    have := size_le_render l r t; have := sizeL_le_renderSp l r ts
    simp [sizeL, renderSp]; omega
end

theorem tokenizeT_render {T : TokCfg} {l r : Char} (hT : BrTok T l r) (ts : List STree) :
    tokenizeT T (renderList l r ts) = .ok (toTrees ts) := by
  have hlen := sizeL_le_renderList l r ts
  rw [tokenizeT, show initLexer (renderList l r ts) = bnd (renderList l r ts) from rfl,
    (parse_list hT ts _ (by simp only [fuelFor]; omega)).2]
  simp [PR.bind, assemble]

theorem renderList_eq_join (l r : Char) (ts : List STree) :
    renderList l r ts = joinChar ' ' (ts.map (render l r)) := by
  induction ts with
  | nil => rfl
  | cons t ts ih =>
    cases ts with
    | nil => simp [renderList, renderSp, joinChar]
    | cons u us =>
      show render l r t ++ ' ' :: renderList l r (u :: us) =
        render l r t ++ ' ' :: joinChar ' ' ((u :: us).map (render l r))
      rw [ih]

/-! ### `dqrepr`: the `unicode_escape` encoder re-read by the decoder -/

/-- characters that need no protection inside double quotes -/
def Plain (s : Str) : Prop := ∀ ch ∈ s, ch ≠ '\\' ∧ ch ≠ '"'

theorem safe_of_plain {s t : Str} (h : Plain s) (ht : Safe t) : Safe (s ++ t) := by
  induction s with
  | nil => exact ht
  | cons c s ih =>
    have hc := h c (by simp)
    exact .plain c _ hc.1 hc.2 (ih fun ch hch => h ch (by simp [hch]))

theorem escapeDq_noDq {s : Str} (h : '"' ∉ s) : escapeDq s = s := by
  induction s with
  | nil => rfl
  | cons c s ih =>
    have hc : c ≠ '"' := fun e => h (by simp [e])
    have := ih fun hm => h (by simp [hm])
    simp only [escapeDq, List.flatMap_cons] at this ⊢
    rw [this]; simp [hc]

theorem escapeDq_plain {s : Str} (h : Plain s) : escapeDq s = s :=
  escapeDq_noDq fun hm => (h _ hm).2 rfl

theorem hexDigit_facts : ∀ d : Fin 16,
    String.utf8EncodeChar (hexDigit d.val) = [(hexDigit d.val).val.toUInt8] ∧
    hexVal? (hexDigit d.val).val.toUInt8 = some d.val ∧
    hexDigit d.val ≠ '\\' ∧ hexDigit d.val ≠ '"' := by decide

theorem utf8_hexN_succ (k m : Nat) (r : List UInt8) :
    ∃ b, hexVal? b = some (m % 16) ∧ utf8 (hexN (k + 1) m) ++ r = utf8 (hexN k (m / 16)) ++ b :: r := by
  have h := hexDigit_facts ⟨m % 16, Nat.mod_lt _ (by decide)⟩
  exact ⟨_, h.2.1, by simp [hexN, utf8, h.1]⟩

theorem plain_hexN (k m : Nat) : Plain (hexN k m) := by
  induction k generalizing m with
  | zero => intro ch h; simp [hexN] at h
  | succ k ih =>
    intro ch h
    simp only [hexN, List.mem_append, List.mem_singleton] at h
    rcases h with h | h
    · exact ih _ ch h
    · subst h
      obtain ⟨-, -, hd⟩ := hexDigit_facts ⟨m % 16, Nat.mod_lt _ (by decide)⟩
      exact hd

theorem uesc_hexRun (k : Nat) : ∀ (j v m : Nat) (kind : HexKind) (r : List UInt8), m < 16 ^ k →
    uesc nm (.hex (j + k) v kind) (utf8 (hexN k m) ++ r) = uesc nm (.hex j (v * 16 ^ k + m) kind) r := by
  induction k with
  | zero => intro j v m kind r hm; simp at hm; subst hm; simp [hexN, utf8]
  | succ k ih =>
    intro j v m kind r hm
    obtain ⟨b, hb2, e1⟩ := utf8_hexN_succ k m r
    have e2 : j + (k + 1) = (j + 1) + k := by omega
    rw [e1, e2, ih (j + 1) v (m / 16) kind (b :: r) (by rw [Nat.pow_succ] at hm; omega)]
    simp only [uesc, hb2]
    have e3 : (v * 16 ^ k + m / 16) * 16 + m % 16 = v * 16 ^ (k + 1) + m := by
      rw [Nat.pow_succ, ← Nat.mul_assoc]
      have := Nat.div_add_mod m 16
      generalize v * 16 ^ k = w
      omega
    rw [e3]

theorem uesc_hexFull (K n : Nat) (kind : HexKind) (r : List UInt8) (hn : n < 16 ^ (K + 1))
    (hmax : n ≤ 0x10FFFF) :
    uesc nm (.hex K 0 kind) (utf8 (hexN (K + 1) n) ++ r) = consR n (uesc nm .normal r) := by
  obtain ⟨b, hb2, e1⟩ := utf8_hexN_succ K n r
  have h := uesc_hexRun (nm := nm) K 0 0 (n / 16) kind (b :: r) (by rw [Nat.pow_succ] at hn; omega)
  simp only [Nat.zero_add, Nat.zero_mul] at h
  rw [e1, h]
  have e3 : n / 16 * 16 + n % 16 = n := by have := Nat.div_add_mod n 16; omega
  simp only [uesc, hb2, e3]
  rw [if_neg (by omega)]

/-- one character of `dqrepr`'s body -/
def dqChar (c : Char) : Str := escapeDq (uescEncodeChar c)

theorem ascii_utf8 (c : Char) (h : c.toNat < 128) : String.utf8EncodeChar c = [c.val.toUInt8] := by
  apply String.utf8EncodeChar_eq_singleton
  rw [Char.utf8Size_eq_one_iff, UInt32.le_iff_toNat_le]
  show c.toNat ≤ 127
  omega

theorem ascii_utf8_toNat (c : Char) (h : c.toNat < 128) : (String.utf8EncodeChar c).map UInt8.toNat = [c.toNat] := by
  rw [ascii_utf8 c h]
  show [c.val.toUInt8.toNat] = [c.val.toNat]
  rw [UInt32.toNat_toUInt8, Nat.mod_eq_of_lt (by have : c.val.toNat = c.toNat := rfl; omega)]

theorem dqChar_spec (c : Char) : Writes nm c (dqChar c) := by
  by_cases ht : c = '\t'
  · subst ht; exact ⟨.esc 't' _ .nil, fun r => uesc_bs_simple 0x74 9 r rfl (by decide)⟩
  by_cases hn : c = '\n'
  · subst hn; exact ⟨.esc 'n' _ .nil, fun r => uesc_bs_simple 0x6E 10 r rfl (by decide)⟩
  by_cases hr : c = '\r'
  · subst hr; exact ⟨.esc 'r' _ .nil, fun r => uesc_bs_simple 0x72 13 r rfl (by decide)⟩
  by_cases hbs : c = '\\'
  · subst hbs; exact writes_bs
  by_cases hq : c = '"'
  · subst hq; exact writes_dq
  by_cases hx : c.toNat < 0x80 ∧ (c.toNat < 0x20 ∨ c.toNat = 0x7f)
  · have e : dqChar c = '\\' :: 'x' :: hexN 2 c.toNat := by
      rw [dqChar, uescEncodeChar]
      simp only [ge_iff_le, Nat.not_le.2 hx.1, ht, hn, hr, hbs, hx.2, if_true, if_false]
      exact escapeDq_noDq (by simpa using fun h => (plain_hexN 2 c.toNat _ h).2 rfl)
    rw [e]
    refine ⟨.esc 'x' _ (by simpa using safe_of_plain (plain_hexN 2 c.toNat) .nil), fun r => ?_⟩
    rw [utf8_cons, utf8_cons, utf8_backslash, show String.utf8EncodeChar 'x' = [0x78] by decide]
    simp only [List.cons_append, List.nil_append]
    rw [uesc_bs_x, ascii_utf8_toNat c hx.1]
    exact uesc_hexFull 1 c.toNat .x r (by omega) (by omega)
  · have e : dqChar c = [c] := by
      rw [dqChar, uescEncodeChar]
      have : ¬ (c.toNat < 0x20 ∨ c.toNat = 0x7f) ∨ c.toNat ≥ 0x80 := by omega
      rcases this with h | h <;> simp [h, ht, hn, hr, hbs, escapeDq, hq]
    rw [e]
    exact writes_self hbs hq

theorem goodWriter_dqreprBody (x : Str) : GoodWriter nm dqreprBody x := by
  have e : dqreprBody = fun s => s.flatMap dqChar := by
    funext s; simp only [dqreprBody, escapeDq, List.flatMap_assoc]; rfl
  rw [e]
  exact goodWriter_flatMap dqChar_spec x

/-! ### bare (unquoted) words -/

/-- a word the lexer reads as one plain token: not empty, no separator (hence no blank, bracket, quote, pipe, NUL) -/
def WordOk (cfg : LexCfg) (w : Str) : Prop := w ≠ [] ∧ ∀ c ∈ w, c ∉ cfg.separators ∧ c ∉ cfg.whitespace

section
variable {cfg : LexCfg} (ha : 'a' ∉ cfg.quotes)
include ha

theorem readLoop_word (w rest : Str)
    (hw : ∀ c ∈ w, c ∉ cfg.separators ∧ c ∉ cfg.whitespace) (token : Str) (bs : Bool) (pb : List Str) :
    readLoop cfg (w ++ rest) (some 'a') token bs pb = readLoop cfg rest (some 'a') (token ++ w) bs pb := by
  induction w generalizing token with
  | nil => simp
  | cons c w ih =>
    have hc := hw c (by simp)
    rw [List.cons_append, readLoop]
    simp only [show ('a' : Char) ≠ ' ' by decide, ha, hc.1, hc.2, if_false, if_true, not_false_eq_true, true_or]
    rw [ih (fun d hd => hw d (by simp [hd]))]
    simp

theorem getToken_word (w rest : Str) (hw : WordOk cfg w) :
    getToken cfg (bnd (w ++ rest)) = readLoop cfg rest (some 'a') w false [] := by
  obtain ⟨hne, hw⟩ := hw
  cases w with
  | nil => exact absurd rfl hne
  | cons c w =>
    have hc := hw c (by simp)
    simp only [getToken, bnd, List.cons_append, readLoop, hc.1, hc.2, if_false, if_true, not_false_eq_true]
    exact readLoop_word ha w rest (fun d hd => hw d (by simp [hd])) [c] false []

theorem getToken_word_eof (w : Str) (hw : WordOk cfg w) :
    getToken cfg (bnd w) = .tok w ⟨[], none, false, []⟩ := by
  have := getToken_word ha w [] hw
  rw [List.append_nil] at this
  simp [this, readLoop, ha]

theorem getToken_word_space (hsp : ' ' ∈ cfg.whitespace) (w rest : Str)
    (hw : WordOk cfg w) : getToken cfg (bnd (w ++ ' ' :: rest)) = .tok w (bnd rest) := by
  rw [getToken_word ha w _ hw]
  simp [readLoop, ha, hsp, hw.1, bnd]

theorem getToken_word_punct (b : Char) (hbw : b ∉ cfg.whitespace)
    (hbs : b ∈ cfg.separators) (hbq : b ∉ cfg.quotes) (w rest : Str) (hw : WordOk cfg w) :
    getToken cfg (bnd (w ++ b :: rest)) = .tok w ⟨rest, some ' ', false, [[b]]⟩ := by
  rw [getToken_word ha w _ hw]
  simp [readLoop, ha, hbw, hbs, hbq, hw.1]

end

theorem getToken_pushback (cfg : LexCfg) (t : Str) (inp : Str) :
    getToken cfg ⟨inp, some ' ', false, [t]⟩ = .tok t (bnd inp) := by
  simp [getToken, bnd]

theorem getToken_none (cfg : LexCfg) : getToken cfg ⟨[], none, false, []⟩ = .tok [] ⟨[], none, false, []⟩ := by
  simp [getToken, readLoop]

theorem handleToken_word {cfg : LexCfg} (quotes : Str) (hq : ∀ c ∈ quotes, c ∈ cfg.separators) (w : Str)
    (hw : WordOk cfg w) : handleToken nm quotes w = .ok (toCps w) := by
  obtain ⟨hne, hw⟩ := hw
  cases w with
  | nil => exact absurd rfl hne
  | cons c w =>
    have hc : c ∉ quotes := fun h => (hw c (by simp)).1 (hq c h)
    simp [handleToken, hc, List.getLast?_eq_some_getLast]

/-- source trees whose leaves are bare words or quoted text -/
inductive WTree where
  | word (w : Str)
  | leaf (x : Str)
  | node (ts : List WTree)

mutual
def WTree.toTree : WTree → Tree
  | .word w => .leaf (toCps w)
  | .leaf x => .leaf (toCps x)
  | .node ts => .node (toTreesW ts)
def toTreesW : List WTree → List Tree
  | [] => []
  | t :: ts => t.toTree :: toTreesW ts
end

mutual
/-- a word is written as it is, other text in double quotes, a sub-command between the brackets -/
def renderW (l r : Char) : WTree → Str
  | .word w => w
  | .leaf x => quote x
  | .node ts => l :: renderListW l r ts ++ [r]
/-- items separated by one blank -/
def renderListW (l r : Char) : List WTree → Str
  | [] => []
  | t :: ts => renderW l r t ++ renderSpW l r ts
def renderSpW (l r : Char) : List WTree → Str
  | [] => []
  | t :: ts => ' ' :: renderW l r t ++ renderSpW l r ts
end

mutual
def WTree.size : WTree → Nat
  | .word _ => 1
  | .leaf _ => 1
  | .node ts => 2 + sizeLW ts
def sizeLW : List WTree → Nat
  | [] => 0
  | t :: ts => t.size + sizeLW ts
end

mutual
/-- every bare word of the tree is one the lexer reads as a plain token -/
def WTree.WordsOk (cfg : LexCfg) : WTree → Prop
  | .word w => WordOk cfg w
  | .leaf _ => True
  | .node ts => WordsOkL cfg ts
def WordsOkL (cfg : LexCfg) : List WTree → Prop
  | [] => True
  | t :: ts => t.WordsOk cfg ∧ WordsOkL cfg ts
end

structure WdTok (T : TokCfg) (l r : Char) : Prop extends BrTok T l r where
  a_q : 'a' ∉ T.lexCfg.quotes
  q_sep : ∀ c ∈ T.quotes, c ∈ T.lexCfg.separators
  pipe_sep : T.pipe = true → '|' ∈ T.lexCfg.separators

theorem word_ne_sep {cfg : LexCfg} {w : Str} (hw : WordOk cfg w) (b : Char) (hb : b ∈ cfg.separators) : w ≠ [b] := by
  intro e; subst e
  exact (hw.2 b (by simp)).1 hb

theorem renderSpW_cons (l r : Char) (t : WTree) (ts : List WTree) :
    renderSpW l r (t :: ts) = ' ' :: renderListW l r (t :: ts) := rfl

theorem inside_renderSpW {T : TokCfg} (hl : DqCfg T.lexCfg) (l r : Char) (ts : List WTree) (n : Nat) (X : Str) :
    insideBrackets T n (bnd (renderSpW l r ts ++ X)) = insideBrackets T n (bnd (renderListW l r ts ++ X)) := by
  cases ts with
  | nil => rfl
  | cons t ts => exact inside_space hl n _

theorem topLoop_renderSpW {T : TokCfg} (hl : DqCfg T.lexCfg) (l r : Char) (ts : List WTree) (n : Nat)
    (args : List Tree) (ends : List (List Tree)) :
    topLoop T n (bnd (renderSpW l r ts)) args ends = topLoop T n (bnd (renderListW l r ts)) args ends := by
  cases ts with
  | nil => rfl
  | cons t ts => exact topLoop_space hl n _ args ends

section
variable {T : TokCfg} {l r : Char} (hT : WdTok T l r)
include hT

theorem item_word {w : Str} (hw : WordOk T.lexCfg w) :
    Item T w (toCps w) where
  ne_nil := hw.1
  ne_pipe h := word_ne_sep hw '|' (hT.pipe_sep h.2) h.1
  ne_left := by rw [hT.hl]; exact word_ne_sep hw l hT.l_sep
  ne_right := by rw [hT.hr]; exact word_ne_sep hw r hT.r_sep
  val := handleToken_word T.quotes hT.q_sep w hw

theorem parse_listW (ts : List WTree) (n : Nat) (hok : WordsOkL T.lexCfg ts) (hn : sizeLW ts + 1 ≤ n) :
    (∀ rest, insideBrackets T n (bnd (renderListW l r ts ++ r :: rest)) = .ok (toTreesW ts, bnd rest)) ∧
    ∀ args, topLoop T n (bnd (renderListW l r ts)) args [] = .ok (args ++ toTreesW ts, []) := by
  induction n generalizing ts with
  | zero => omega
  | succ m ih =>
    match ts with
    | [] =>
      exact ⟨inside_close hT.toBrTok m, fun args => by simpa [toTreesW, renderListW] using topLoop_eof T m args []⟩
    | .word w :: ts =>
      simp only [WordsOkL, WTree.WordsOk] at hok
      simp only [sizeLW, WTree.size] at hn
      have hi := item_word hT hok.1
      rw [renderListW, renderW]
      cases ts with
      | nil =>
        obtain ⟨k, rfl⟩ : ∃ k, m = k + 1 := ⟨m - 1, by omega⟩
        rw [renderSpW, List.append_nil]
        refine ⟨fun rest => ?_, fun args => ?_⟩
        -- the lexer pushes the bracket back and hands it out next
        · rw [inside_item (getToken_word_punct hT.a_q r hT.r_ws hT.r_sep hT.r_q w rest hok.1) hi,
            insideBrackets, getToken_pushback]
          simp [hT.hr, PR.bind, toTreesW, WTree.toTree]
        · rw [topLoop_item (getToken_word_eof hT.a_q w hok.1) hi, topLoop, getToken_none]
          simp [toTreesW, WTree.toTree]
      | cons t ts =>
        obtain ⟨h1, h2⟩ := ih (t :: ts) hok.2 (by omega)
        rw [renderSpW_cons]
        refine ⟨fun rest => ?_, fun args => ?_⟩
        · rw [List.append_assoc, List.cons_append,
            inside_item (getToken_word_space hT.a_q hT.lex.sp_ws w _ hok.1) hi, h1]
          rfl
        · rw [topLoop_item (getToken_word_space hT.a_q hT.lex.sp_ws w _ hok.1) hi, h2]
          simp [toTreesW, WTree.toTree]
    | .leaf x :: ts =>
      simp only [WordsOkL, WTree.WordsOk, true_and] at hok
      simp only [sizeLW, WTree.size] at hn
      obtain ⟨h1, h2⟩ := ih ts hok (by omega)
      rw [renderListW]
      refine ⟨fun rest => ?_, fun args => ?_⟩
      · rw [renderW, List.append_assoc, inside_step_dq hT.toDqTok, inside_renderSpW hT.lex, h1]
        rfl
      · rw [show renderW l r (.leaf x) = dq quoteBody x from rfl,
          topLoop_step_dq hT.toDqTok quoteBody x (goodWriter_quoteBody x), topLoop_renderSpW hT.lex, h2]
        simp [toTreesW, WTree.toTree]
    | .node ts' :: ts =>
      simp only [WordsOkL, WTree.WordsOk] at hok
      simp only [sizeLW, WTree.size] at hn
      obtain ⟨h1, h2⟩ := ih ts hok.2 (by omega)
      have hs := (ih ts' hok.1 (by omega)).1
      simp only [renderListW, renderW, List.append_assoc, List.cons_append, List.nil_append]
      refine ⟨fun rest => ?_, fun args => ?_⟩
      · rw [inside_open hT.toBrTok, hs]
        simp only [PR.bind]
        rw [inside_renderSpW hT.lex, h1]
        rfl
      · rw [topLoop_open hT.toBrTok, hs]
        simp only [PR.bind]
        rw [topLoop_renderSpW hT.lex, h2]
        simp [toTreesW, WTree.toTree]

end

mutual
theorem sizeW_le_render (cfg : LexCfg) (l r : Char) : (t : WTree) → t.WordsOk cfg → t.size ≤ (renderW l r t).length
  | .word w, h => by
    have : w ≠ [] := (by simpa [WTree.WordsOk] using h : WordOk cfg w).1
    cases w with
    | nil => exact absurd rfl this
    | cons c w => simp [WTree.size, renderW]
  | .leaf x, _ => by simp [WTree.size, renderW, quote]
  | .node ts, h => by
    have := sizeLW_le_renderList cfg l r ts (by simpa [WTree.WordsOk] using h)
    simp [WTree.size, renderW]; omega
theorem sizeLW_le_renderList (cfg : LexCfg) (l r : Char) : (ts : List WTree) → WordsOkL cfg ts →
    sizeLW ts ≤ (renderListW l r ts).length
  | [], _ => by simp [sizeLW]
  | t :: ts, h => by
    obtain ⟨h1, h2⟩ : t.WordsOk cfg ∧ WordsOkL cfg ts := by simpa [WordsOkL] using h
    have := sizeW_le_render cfg l r t h1; have := sizeLW_le_renderSp cfg l r ts h2
    simp [sizeLW, renderListW]; omega
theorem sizeLW_le_renderSp (cfg : LexCfg) (l r : Char) : (ts : List WTree) → WordsOkL cfg ts →
    sizeLW ts ≤ (renderSpW l r ts).length
  | [], _ => by simp [sizeLW]
  | t :: ts, h => by
    obtain ⟨h1, h2⟩ : t.WordsOk cfg ∧ WordsOkL cfg ts := by simpa [WordsOkL] using h
    have := sizeW_le_render cfg l r t h1; have := sizeLW_le_renderSp cfg l r ts h2
    simp [sizeLW, renderSpW]; omega
end

theorem tokenizeT_renderW {T : TokCfg} {l r : Char} (hT : WdTok T l r) (ts : List WTree)
    (hok : WordsOkL T.lexCfg ts) : tokenizeT T (renderListW l r ts) = .ok (toTreesW ts) := by
  have hlen := sizeLW_le_renderList T.lexCfg l r ts hok
  rw [tokenizeT, show initLexer (renderListW l r ts) = bnd (renderListW l r ts) from rfl,
    (parse_listW hT ts _ hok (by simp only [fuelFor]; omega)).2]
  simp [PR.bind, assemble]

/-- the lexer configuration `callbacks.tokenize` builds from the four registry values -/
def Conf.lexCfg (c : Conf) : LexCfg :=
  ⟨Gen.shlexWhitespace,
   (if effPipe c then Gen.tokenizerSeparators ++ effBrackets c ++ ['|'] else Gen.tokenizerSeparators ++ effBrackets c)
     ++ c.quotes,
   c.quotes⟩

theorem wdTok_of_mk {c : Conf} {T : TokCfg} {l r : Char}
    (ht : TablesOk Gen.shlexWhitespace Gen.validBrackets Gen.validQuoteChars) (hv : c.Valid)
    (hb : effBrackets c = [l, r]) (hT : mkTokenizer (effBrackets c) (effPipe c) c.quotes c.names = .ok T)
    (hq : '"' ∈ c.quotes) : WdTok T l r ∧ T.lexCfg = c.lexCfg := by
  have hd := dqTok_of_mk ht (effBrackets_ok hv ht) hT hq
  obtain ⟨hne, hlw, hrw, hlq, hrq, hlp, _⟩ : BracketOk Gen.shlexWhitespace Gen.validQuoteChars [l, r] :=
    hb ▸ effBrackets_ok hv ht
  rw [hb] at hT
  simp only [mkTokenizer] at hT
  cases hT
  refine ⟨{ hd with
    hl := rfl, hr := rfl, ne := hne, l_ws := hlw, r_ws := hrw, l_pipe := hlp
    l_sep := by cases effPipe c <;> simp [TokCfg.lexCfg]
    r_sep := by cases effPipe c <;> simp [TokCfg.lexCfg]
    l_q := fun h => hlq (hv.2 _ h)
    r_q := fun h => hrq (hv.2 _ h)
    a_q := (hv.quotesOk ht).2
    q_sep := fun ch hch => by simp [TokCfg.lexCfg, hch]
    pipe_sep := fun hp => by simp only at hp; simp [TokCfg.lexCfg, hp] }, ?_⟩
  simp [TokCfg.lexCfg, Conf.lexCfg, hb]

/-- a friendly sufficient condition for `WordOk`: not empty and made of characters that are neither
blank / NUL, nor a bracket, nor a quote character, nor (with pipe syntax) `|` -/
def PlainWord (c : Conf) (w : Str) : Prop :=
  w ≠ [] ∧ ∀ ch ∈ w, ch ∉ Gen.tokenizerSeparators ∧ ch ∉ effBrackets c ∧ ch ∉ c.quotes ∧ (effPipe c = true → ch ≠ '|')

instance (c : Conf) (w : Str) : Decidable (PlainWord c w) := by unfold PlainWord; infer_instance

theorem wordOk_of_plain (hws : ∀ ch ∈ Gen.shlexWhitespace, ch ∈ Gen.tokenizerSeparators) (c : Conf) (w : Str)
    (h : PlainWord c w) : WordOk c.lexCfg w := by
  refine ⟨h.1, fun ch hch => ?_⟩
  obtain ⟨h1, h2, h3, h4⟩ := h.2 ch hch
  refine ⟨?_, fun hw => h1 (hws ch hw)⟩
  simp only [Conf.lexCfg]
  cases hp : effPipe c with
  | false => simp [h1, h2, h3]
  | true => simp [h1, h2, h3, h4 hp]

/-! ### every token is a string of Unicode scalar values -/

mutual
def Tree.Scalar : Tree → Prop
  | .leaf t => ∀ n ∈ t, isScalar n = true
  | .node ts => ScalarL ts
def ScalarL : List Tree → Prop
  | [] => True
  | t :: ts => t.Scalar ∧ ScalarL ts
end

theorem char_le_max (c : Char) : c.toNat ≤ 0x10FFFF := by
  have := c.valid
  simp only [UInt32.isValidChar, Nat.isValidChar] at this
  show c.val.toNat ≤ _
  omega

theorem char_scalar (c : Char) : isScalar c.toNat = true := by
  have hv := c.valid
  simp only [UInt32.isValidChar, Nat.isValidChar] at hv
  have : c.val.toNat = c.toNat := rfl
  simp only [isScalar, Bool.or_eq_true, decide_eq_true_eq, Bool.and_eq_true]
  omega

theorem toCps_scalar (s : Str) : ∀ n ∈ toCps s, isScalar n = true := by
  intro n hn
  simp only [toCps, List.mem_map] at hn
  obtain ⟨c, _, rfl⟩ := hn
  exact char_scalar c

theorem toCps_inj {s x : Str} (h : toCps s = toCps x) : s = x := by
  induction s generalizing x with
  | nil => cases x <;> simp_all [toCps]
  | cons a s ih =>
    cases x with
    | nil => simp [toCps] at h
    | cons b x =>
      simp only [toCps, List.map_cons, List.cons.injEq] at h
      rw [Char.toNat_inj.1 h.1, ih (x := x) h.2]

theorem checkScalar_ok {cps t : List Nat} (h : checkScalar cps = .ok t) : ∀ n ∈ t, isScalar n = true := by
  unfold checkScalar at h
  split at h
  · rename_i hall
    cases h
    simpa [List.all_eq_true] using hall
  · cases h

theorem decodeQuoted_scalar {nm : Names} {content : Str} {t : List Nat} (h : decodeQuoted nm content = .ok t) :
    ∀ n ∈ t, isScalar n = true := by
  unfold decodeQuoted at h
  split at h
  · cases h
  · split at h
    · exact checkScalar_ok h
    · split at h
      · exact checkScalar_ok h
      · cases h; exact toCps_scalar _

theorem handleToken_scalar {nm : Names} (quotes token : Str) (t : List Nat)
    (h : handleToken nm quotes token = .ok t) : ∀ n ∈ t, isScalar n = true := by
  unfold handleToken at h
  split at h
  · split at h
    · exact decodeQuoted_scalar h
    · cases h; exact toCps_scalar _
  · cases h

/-! ### what the trees of a result are made of -/

theorem PR.bind_eq_ok {α β : Type} {x : PR α} {f : α → PR β} {b : β} (h : x.bind f = .ok b) :
    ∃ a, x = .ok a ∧ f a = .ok b := by
  cases x with
  | ok a => exact ⟨a, rfl, h⟩
  | _ => cases h

theorem forall_mem_snoc {α : Type} {p : α → Prop} {l : List α} {a : α} (hl : ∀ x ∈ l, p x) (ha : p a) :
    ∀ x ∈ l ++ [a], p x :=
  List.forall_mem_append.2 ⟨hl, List.forall_mem_singleton.2 ha⟩

theorem rtCast_ne_ok {α : Type} (r : RT) (a : α) : rtCast r ≠ .ok a := by
  cases r <;> simp [rtCast]

/-- `node` is asked for only where sub-lists can arise at all: brackets or pipe syntax in use -/
structure TreeInv (T : TokCfg) (Q : Tree → Prop) : Prop where
  leaf : ∀ {tok t}, handleToken T.names T.quotes tok = .ok t → Q (.leaf t)
  node : T.left ≠ [] ∨ T.pipe = true → ∀ {sub}, (∀ t ∈ sub, Q t) → Q (.node sub)

section
variable {T : TokCfg} {Q : Tree → Prop} (hQ : TreeInv T Q)
include hQ

theorem insideBrackets_inv (n : Nat) (lx : Lexer)
    (ts : List Tree) (lx' : Lexer) (h : insideBrackets T n lx = .ok (ts, lx')) : ∀ t ∈ ts, Q t := by
  fun_induction insideBrackets T n lx generalizing ts lx'
  case case1 | case2 => cases h               -- no fuel, end of input: no result
  case case3 => cases h; simp                 -- right bracket: no items
  case case4 hne _ ih2 ih1 =>                 -- left bracket, so `T.left ≠ []`
    obtain ⟨⟨sub, lx2⟩, h1, h⟩ := PR.bind_eq_ok h
    obtain ⟨⟨rest, lx3⟩, h2, h⟩ := PR.bind_eq_ok h
    cases h
    exact List.forall_mem_cons.2 ⟨hQ.node (.inl hne) (ih2 _ _ h1), ih1 _ _ _ h2⟩
  case case5 ih =>                            -- an ordinary token
    obtain ⟨t, ht, h⟩ := PR.bind_eq_ok h
    obtain ⟨⟨rest, lx2⟩, h2, h⟩ := PR.bind_eq_ok h
    cases h
    exact List.forall_mem_cons.2 ⟨hQ.leaf ht, ih _ _ h2⟩
  case case6 => exact absurd h (rtCast_ne_ok _ _)     -- the lexer gave no token

theorem topLoop_inv (n : Nat) (lx : Lexer)
    (args : List Tree) (ends : List (List Tree)) (a : List Tree) (e : List (List Tree))
    (hargs : ∀ t ∈ args, Q t) (hends : ∀ x ∈ ends, ∀ t ∈ x, Q t) (h : topLoop T n lx args ends = .ok (a, e)) :
    (∀ t ∈ a, Q t) ∧ (∀ x ∈ e, ∀ t ∈ x, Q t) ∧ (T.pipe = false → e = ends) := by
  fun_induction topLoop T n lx args ends generalizing a e
  case case1 | case3 | case6 => cases h       -- no fuel, the two SyntaxErrors: no result
  case case2 => cases h; exact ⟨hargs, hends, fun _ => rfl⟩         -- end of input
  case case4 hpipe _ ih =>                    -- pipe, so `T.pipe = true`
    obtain ⟨ha, he, -⟩ := ih a e (by simp) (forall_mem_snoc hends hargs) h
    exact ⟨ha, he, fun hf => absurd hpipe.2 (by simp [hf])⟩
  case case5 hne _ ih =>                      -- left bracket, so `T.left ≠ []`
    obtain ⟨⟨sub, lx2⟩, h1, h⟩ := PR.bind_eq_ok h
    exact ih sub lx2 a e (forall_mem_snoc hargs (hQ.node (.inl hne) (insideBrackets_inv hQ _ _ _ _ h1))) hends h
  case case7 ih =>                            -- an ordinary token
    obtain ⟨t, ht, h⟩ := PR.bind_eq_ok h
    exact ih t a e (forall_mem_snoc hargs (hQ.leaf ht)) hends h
  case case8 => exact absurd h (rtCast_ne_ok _ _)     -- the lexer gave no token

theorem tokenizeT_inv (s : Str) (ts : List Tree)
    (h : tokenizeT T s = .ok ts) : ∀ t ∈ ts, Q t := by
  obtain ⟨⟨a, e⟩, h1, h⟩ := PR.bind_eq_ok h
  obtain ⟨ha, he, hp⟩ := topLoop_inv hQ _ _ _ _ a e (by simp) (by simp) h1
  replace h : assemble a e = .ok ts := h
  unfold assemble at h
  split at h
  · cases h; exact ha
  · rename_i e0 more hrev
    split at h
    · cases h
    · cases h
      -- `ends` is not empty, so a pipe was seen
      have hpipe : T.pipe = true := by
        cases hf : T.pipe
        · rw [hp hf] at hrev; cases hrev
        · rfl
      have hmem : ∀ x ∈ e0 :: more, ∀ t ∈ x, Q t := fun x hx => he x (by rw [← List.mem_reverse, hrev]; exact hx)
      refine forall_mem_snoc ha (hQ.node (.inr hpipe) ?_)
      refine List.forall_mem_append.2 ⟨hmem e0 (by simp), fun t ht => ?_⟩
      obtain ⟨x, hx, rfl⟩ := List.mem_map.1 ht
      exact hQ.node (.inr hpipe) (hmem x (by simp [hx]))

end

theorem scalarL_of_forall : ∀ {ts : List Tree}, (∀ t ∈ ts, t.Scalar) → ScalarL ts
  | [], _ => by simp only [ScalarL]
  | t :: ts, h => by
    simp only [ScalarL]
    exact ⟨h t (by simp), scalarL_of_forall fun u hu => h u (by simp [hu])⟩

theorem treeInv_scalar (T : TokCfg) : TreeInv T Tree.Scalar where
  leaf ht := by simp only [Tree.Scalar]; exact handleToken_scalar _ _ _ ht
  node _ _ h := by simp only [Tree.Scalar]; exact scalarL_of_forall h

def Tree.isLeaf : Tree → Prop
  | .leaf _ => True
  | .node _ => False

theorem treeInv_flat {T : TokCfg} (hl : T.left = []) (hp : T.pipe = false) : TreeInv T Tree.isLeaf where
  leaf _ := trivial
  node h := by simp [hl, hp] at h

theorem tokenize_of_ok {c : Conf} {T : TokCfg} {s : Str} {ts : List Tree}
    (hT : mkTokenizer (effBrackets c) (effPipe c) c.quotes c.names = .ok T) (h : tokenizeT T s = .ok ts) :
    tokenize c s = .tree ts := by
  simp only [tokenize, hT, h]

theorem tokenize_noCrash {c : Conf} {T : TokCfg} {s : Str}
    (hT : mkTokenizer (effBrackets c) (effPipe c) c.quotes c.names = .ok T) (h : (tokenizeT T s).NoCrash) :
    (∃ ts, tokenize c s = .tree ts) ∨ ∃ k, tokenize c s = .syntaxError k := by
  simp only [tokenize, hT]
  cases hr : tokenizeT T s with
  | ok ts => exact .inl ⟨ts, rfl⟩
  | valueError e => exact .inr ⟨_, rfl⟩
  | syntaxError e => exact .inr ⟨_, rfl⟩
  | crash cr => rw [hr] at h; exact h.elim

theorem ok_of_tokenize {c : Conf} {s : Str} {ts : List Tree} (h : tokenize c s = .tree ts) :
    ∃ T, mkTokenizer (effBrackets c) (effPipe c) c.quotes c.names = .ok T ∧ tokenizeT T s = .ok ts := by
  unfold tokenize at h
  cases hm : mkTokenizer (effBrackets c) (effPipe c) c.quotes c.names with
  | error e => simp [hm] at h
  | ok T =>
    simp only [hm] at h
    cases ht : tokenizeT T s with
    | ok ts' => simp only [ht] at h; cases h; exact ⟨T, rfl, ht⟩
    | _ => simp [ht] at h

theorem tokenize_dq {c : Conf} (ht : TablesOk Gen.shlexWhitespace Gen.validBrackets Gen.validQuoteChars)
    (hv : c.Valid) (hq : '"' ∈ c.quotes) {w : Str → Str} (hw : ∀ x, GoodWriter c.names w x) (xs : List Str) :
    tokenize c (joinChar ' ' (xs.map (dq w))) = .tree (xs.map fun x => .leaf (toCps x)) := by
  have hT := mkTokenizer_ok (effBrackets_ok hv ht) (effPipe c) c.quotes c.names
  exact tokenize_of_ok hT (tokenizeT_dq (dqTok_of_mk ht (effBrackets_ok hv ht) hT hq) w xs fun x _ => hw x)

end C13
