/-
C13 — property theorems.
-/
import LimnoriaModel.C13.Lemmas
namespace C13
open Py

/-- Facts about the *extracted* constants (shlex whitespace, `ValidBrackets.validStrings`, the
characters `ValidQuotes` accepts) on which the theorems below rest; re-checked by `decide`
against what `/repo` says now. -/
theorem tables_ok : TablesOk Gen.shlexWhitespace Gen.validBrackets Gen.validQuoteChars := by decide

/-- **Tokenising is total.**  For every input string, every configuration that passed the
registry's validation and every Unicode name table (`c.names`, the parameter through which
`\N{…}` escapes are decoded), `callbacks.tokenize` yields a tree of tokens or a `SyntaxError` —
never an `IndexError`, a hang of the lexer, unbounded recursion of the model, or any other failure. -/
theorem tokenize_total (c : Conf) (hv : c.Valid) (s : Str) :
    (∃ ts, tokenize c s = .tree ts) ∨ (∃ k, tokenize c s = .syntaxError k) :=
  tokenize_noCrash (mkTokenizer_ok (effBrackets_ok hv tables_ok) (effPipe c) c.quotes c.names)
    (tokenizeT_noCrash _ (hv.quotesOk tables_ok) s)

/-- **Every token is a string of Unicode scalar values** (since fix d2d591c; before it
`help "\ud800"` produced a token holding a lone surrogate, a `str` that cannot be encoded). -/
theorem tokens_scalar (c : Conf) (s : Str) (ts : List Tree) (h : tokenize c s = .tree ts) : ScalarL ts := by
  obtain ⟨T, -, ht⟩ := ok_of_tokenize h
  exact scalarL_of_forall (tokenizeT_inv (treeInv_scalar T) s ts ht)

/-- the former witness: `help "\ud800"` is now a syntax error -/
theorem surrogate_escape_rejected :
    tokenize ⟨true, ['[', ']'], false, ['"'], fun _ => none⟩ ['h', 'e', 'l', 'p', ' ', '"', '\\', 'u', 'd', '8', '0', '0', '"'] =
      .syntaxError (.value .surrogate) := rfl

/-- non-vacuity: the default configuration is valid -/
example : (⟨true, ['[', ']'], false, ['"'], fun _ => none⟩ : Conf).Valid := by decide

/-- **Quoting protects any argument.**  For every valid configuration whose quote set contains the
double quote (every bracket style, pipe on or off, nesting on or off) and every list of argument
strings over full Unicode (including NUL, CR, LF, brackets, pipes, quotes, backslashes, blanks),
the arguments written in double quotes with `\` and `"` backslash-escaped and joined by blanks
tokenise back to exactly that list: nothing inside the quotes is interpreted. -/
theorem quote_roundtrip (c : Conf) (hv : c.Valid) (hq : '"' ∈ c.quotes) (xs : List Str) :
    tokenize c (joinChar ' ' (xs.map quote)) = .tree (xs.map fun x => .leaf (toCps x)) :=
  tokenize_dq tables_ok hv hq goodWriter_quoteBody xs

/-- non-vacuity and a concrete instance: brackets, a pipe, a quote, a backslash and non-ASCII text -/
example : tokenize ⟨true, ['[', ']'], true, ['"'], fun _ => none⟩
      (joinChar ' ' ([['[', 'a', ']', ' ', '|'], ['"', '\\', 'é', '好']].map quote))
    = .tree [.leaf (toCps ['[', 'a', ']', ' ', '|']), .leaf (toCps ['"', '\\', 'é', '好'])] :=
  quote_roundtrip _ (by decide) (by decide) _

/-- **Unquoted brackets produce exactly the corresponding nesting.**  With nesting enabled and any
valid bracket pair `l r`, every tree of commands — leaves written in double quotes, sub-commands
between `l` and `r`, items separated by one blank — tokenises to exactly that tree (any depth,
any fan-out, any leaf text, pipe syntax on or off). -/
theorem nesting_exact (c : Conf) (hv : c.Valid) (hn : c.nested = true) (hq : '"' ∈ c.quotes)
    (l r : Char) (hb : c.brackets = [l, r]) (ts : List STree) :
    tokenize c (joinChar ' ' (ts.map (render l r))) = .tree (toTrees ts) := by
  have he : effBrackets c = [l, r] := by simp [effBrackets, hn, hb]
  have hT := mkTokenizer_ok (effBrackets_ok hv tables_ok) (effPipe c) c.quotes c.names
  rw [← renderList_eq_join]
  exact tokenize_of_ok hT (tokenizeT_render (wdTok_of_mk tables_ok hv he hT hq).1.toBrTok ts)

/-- non-vacuity: `[[] "a" ["b ]" []]] "c"` under the default configuration -/
example : tokenize ⟨true, ['[', ']'], false, ['"'], fun _ => none⟩
      (joinChar ' ' ([STree.node [.node [], .leaf ['a'], .node [.leaf ['b', ' ', ']'], .node []]], .leaf ['c']].map (render '[' ']')))
    = .tree (toTrees [STree.node [.node [], .leaf ['a'], .node [.leaf ['b', ' ', ']'], .node []]], .leaf ['c']]) :=
  nesting_exact _ (by decide) rfl (by decide) '[' ']' rfl _

/-- shlex whitespace is among the Tokenizer's separators (extracted constants) -/
theorem ws_subset_seps : ∀ ch ∈ Gen.shlexWhitespace, ch ∈ Gen.tokenizerSeparators := by decide

/-- **… also with bare words**: the same for trees whose leaves are unquoted words (any non-empty
text free of blanks, NUL, brackets, quote characters and — with pipe syntax — `|`; `WordsOkL`, see
`wordOk_of_plain`) or quoted text, items separated by one blank, brackets directly adjacent to the
first and last item of a sub-command: `foo [bar "x y" [baz]] qux` tokenises to exactly
`[foo, [bar, x y, [baz]], qux]`.  (This is where the lexer's pushback of a bracket that ends a word
is exercised.) -/
theorem nesting_exact_words (c : Conf) (hv : c.Valid) (hn : c.nested = true) (hq : '"' ∈ c.quotes)
    (l r : Char) (hb : c.brackets = [l, r]) (ts : List WTree) (hw : WordsOkL c.lexCfg ts) :
    tokenize c (renderListW l r ts) = .tree (toTreesW ts) := by
  have he : effBrackets c = [l, r] := by simp [effBrackets, hn, hb]
  have hT := mkTokenizer_ok (effBrackets_ok hv tables_ok) (effPipe c) c.quotes c.names
  obtain ⟨hwd, hlex⟩ := wdTok_of_mk tables_ok hv he hT hq
  exact tokenize_of_ok hT (tokenizeT_renderW hwd ts (hlex ▸ hw))

/-- non-vacuity: `foo [bar "x y" [baz]] qux` under the default configuration -/
example : tokenize ⟨true, ['[', ']'], false, ['"'], fun _ => none⟩
      (renderListW '[' ']' [.word ['f', 'o', 'o'], .node [.word ['b', 'a', 'r'], .leaf ['x', ' ', 'y'], .node [.word ['b', 'a', 'z']]], .word ['q', 'u', 'x']])
    = .tree (toTreesW [.word ['f', 'o', 'o'], .node [.word ['b', 'a', 'r'], .leaf ['x', ' ', 'y'], .node [.word ['b', 'a', 'z']]], .word ['q', 'u', 'x']]) :=
  nesting_exact_words _ (by decide) rfl (by decide) '[' ']' rfl _
    (by
      have h : ∀ w, PlainWord ⟨true, ['[', ']'], false, ['"'], fun _ => none⟩ w → WordOk (Conf.lexCfg ⟨true, ['[', ']'], false, ['"'], fun _ => none⟩) w :=
        fun w => wordOk_of_plain ws_subset_seps _ w
      simp only [WordsOkL, WTree.WordsOk, and_true, true_and]
      exact ⟨h _ (by decide), ⟨h _ (by decide), h _ (by decide)⟩, h _ (by decide)⟩)

/-- **With nesting disabled brackets are literal text**: when `supybot.commands.nested` is off, or
the channel's bracket string is empty and pipes are off, the result of tokenising *any* string has
no sub-list — every item is a plain token. -/
theorem nesting_disabled_flat (c : Conf) (hoff : c.nested = false ∨ (c.brackets = [] ∧ c.pipeSyntax = false))
    (s : Str) (ts : List Tree) (h : tokenize c s = .tree ts) : ∀ t ∈ ts, t.isLeaf := by
  have he : effBrackets c = [] := by
    rcases hoff with h | ⟨h, _⟩ <;> simp [effBrackets, h]
  have hp : effPipe c = false := by
    rcases hoff with h | ⟨_, h⟩ <;> simp [effPipe, h]
  obtain ⟨T, hT, ht⟩ := ok_of_tokenize h
  rw [he, hp] at hT
  cases hT
  exact tokenizeT_inv (treeInv_flat rfl rfl) s ts ht

/-- non-vacuity: `[a] <b>` with nesting off is two plain tokens -/
example : ∃ ts, tokenize ⟨false, ['[', ']'], true, ['"'], fun _ => none⟩ ['[', 'a', ']', ' ', '|'] = .tree ts ∧ ts.length = 2 :=
  ⟨_, rfl, rfl⟩

/-- **`utils.str.dqrepr` protects any argument** (since fix 2552894, which makes it escape only ASCII;
before it `dqrepr("Â\x80")` = `"\xc2\x80"` was re-read as U+0080): for every valid configuration
whose quote set contains the double quote and every list of argument strings, the arguments written
with `dqrepr` and joined by blanks tokenise back to exactly that list. -/
theorem dqrepr_roundtrip (c : Conf) (hv : c.Valid) (hq : '"' ∈ c.quotes) (xs : List Str) :
    tokenize c (joinChar ' ' (xs.map dqrepr)) = .tree (xs.map fun x => .leaf (toCps x)) :=
  tokenize_dq tables_ok hv hq goodWriter_dqreprBody xs

/-- the former witness and its relatives now round-trip -/
example : tokenize ⟨true, ['[', ']'], false, ['"'], fun _ => none⟩
      (joinChar ' ' ([['Â', Char.ofNat 0x80], ['Ã', '©'], ['a', '"', '\\', '\n', Char.ofNat 0]].map dqrepr))
    = .tree ([['Â', Char.ofNat 0x80], ['Ã', '©'], ['a', '"', '\\', '\n', Char.ofNat 0]].map fun x => .leaf (toCps x)) :=
  dqrepr_roundtrip _ (by decide) (by decide) _

end C13
