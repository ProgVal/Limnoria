/-
C11 — the UTF-8 encoder and the replacing decoder of the model are inverse on encoded text:
`decode (utf8 s) = s` for every string (helper lemmas for `Props.lean`).

-/
import LimnoriaModel.C11.Model
namespace C11
open Py

theorem b8_toNat (n : Nat) (h : n < 256) : (b8 n).toNat = n := by
  simp [b8, Nat.mod_eq_of_lt h]

theorem char_range (c : Char) : c.toNat < 0xD800 ∨ (0xDFFF < c.toNat ∧ c.toNat < 0x110000) := by
  have := c.valid
  have e : c.toNat = c.val.toNat := rfl
  simp only [UInt32.isValidChar, Nat.isValidChar] at this
  omega

theorem cont_toNat (m : Nat) : (b8 (0x80 + m % 64)).toNat = 0x80 + m % 64 :=
  b8_toNat _ (by omega)

theorem isCont_cont (m : Nat) : isCont (b8 (0x80 + m % 64)) = true := by
  rw [isCont, cont_toNat]
  simp only [Bool.and_eq_true, decide_eq_true_eq]
  omega

theorem lead2_toNat (x : Nat) (h : x < 0x800) : (b8 (0xC0 + x / 64)).toNat = 0xC0 + x / 64 :=
  b8_toNat _ (by omega)

theorem lead3_toNat (x : Nat) (h : x < 0x10000) : (b8 (0xE0 + x / 4096)).toNat = 0xE0 + x / 4096 :=
  b8_toNat _ (by omega)

theorem lead4_toNat (x : Nat) (h : x < 0x110000) : (b8 (0xF0 + x / 262144)).toNat = 0xF0 + x / 262144 :=
  b8_toNat _ (by omega)

theorem encChar_shape (c : Char) :
    (c.toNat < 0x80 ∧ encChar c = [b8 c.toNat]) ∨
    (0x80 ≤ c.toNat ∧ c.toNat < 0x800 ∧
      encChar c = [b8 (0xC0 + c.toNat / 64), b8 (0x80 + c.toNat % 64)]) ∨
    (0x800 ≤ c.toNat ∧ c.toNat < 0x10000 ∧
      encChar c = [b8 (0xE0 + c.toNat / 4096), b8 (0x80 + c.toNat / 64 % 64), b8 (0x80 + c.toNat % 64)]) ∨
    (0x10000 ≤ c.toNat ∧
      encChar c = [b8 (0xF0 + c.toNat / 262144), b8 (0x80 + c.toNat / 4096 % 64),
                   b8 (0x80 + c.toNat / 64 % 64), b8 (0x80 + c.toNat % 64)]) := by
  unfold encChar
  simp only
  split
  · exact .inl ⟨‹_›, rfl⟩
  · split
    · exact .inr (.inl ⟨Nat.le_of_not_lt ‹_›, ‹_›, rfl⟩)
    · split
      · exact .inr (.inr (.inl ⟨Nat.le_of_not_lt ‹_›, ‹_›, rfl⟩))
      · exact .inr (.inr (.inr ⟨Nat.le_of_not_lt ‹_›, rfl⟩))

theorem encChar_length_pos (c : Char) : 0 < (encChar c).length := by
  rcases encChar_shape c with ⟨_, e⟩ | ⟨_, _, e⟩ | ⟨_, _, e⟩ | ⟨_, e⟩ <;> rw [e] <;> simp

theorem encChar_ascii (c : Char) (b : UInt8) (hb : b ∈ encChar c) (h : b.toNat < 0x80) :
    b.toNat = c.toNat := by
  have hr := char_range c
  -- every byte of a longer sequence is at least 0x80
  rcases encChar_shape c with ⟨h1, e⟩ | ⟨_, h2, e⟩ | ⟨_, h2, e⟩ | ⟨_, e⟩ <;> rw [e] at hb <;>
    simp only [List.mem_cons, List.not_mem_nil, or_false] at hb
  · rw [hb, b8_toNat _ (by omega)]
  · rcases hb with rfl | rfl
    · rw [lead2_toNat _ h2] at h; omega
    · rw [cont_toNat] at h; omega
  · rcases hb with rfl | rfl | rfl
    · rw [lead3_toNat _ h2] at h; omega
    · rw [cont_toNat] at h; omega
    · rw [cont_toNat] at h; omega
  · rcases hb with rfl | rfl | rfl | rfl
    · rw [lead4_toNat _ (by omega)] at h; omega
    · rw [cont_toNat] at h; omega
    · rw [cont_toNat] at h; omega
    · rw [cont_toNat] at h; omega

theorem decodeStep_1 (a : UInt8) (rest : Bytes) (h : a.toNat < 0x80) :
    decodeStep a rest = (Char.ofNat a.toNat, 0) := by
  unfold decodeStep
  rw [if_pos h]

theorem decodeStep_2 (a b : UInt8) (rest : Bytes) (h1 : 0xC2 ≤ a.toNat) (h2 : a.toNat < 0xE0)
    (hb : isCont b = true) : decodeStep a (b :: rest) = (mk2 a b, 1) := by
  unfold decodeStep
  rw [if_neg (by omega), if_neg (by omega), if_pos h2]
  simp only [hb, ↓reduceIte]

/-- second byte: no overlong form after the smallest lead byte `A`; no surrogate, nothing above U+10FFFF after
the largest, `B` -/
theorem second_ok (a b : UInt8) (A B lo : Nat) (hb : isCont b = true)
    (hlo : a.toNat = A → lo ≤ b.toNat) (hhi : a.toNat = B → b.toNat < lo) :
    (!isCont b || (a.toNat == A && decide (b.toNat < lo)) || (a.toNat == B && decide (b.toNat ≥ lo))) = false := by
  simp only [hb, Bool.not_true, Bool.false_or, Bool.or_eq_false_iff, Bool.and_eq_false_imp, beq_iff_eq,
    decide_eq_false_iff_not]
  omega

theorem decodeStep_3 (a b c : UInt8) (rest : Bytes) (h1 : 0xE0 ≤ a.toNat) (h2 : a.toNat < 0xF0)
    (hb : isCont b = true) (hlo : a.toNat = 0xE0 → 0xA0 ≤ b.toNat) (hhi : a.toNat = 0xED → b.toNat < 0xA0)
    (hc : isCont c = true) : decodeStep a (b :: c :: rest) = (mk3 a b c, 2) := by
  unfold decodeStep
  rw [if_neg (by omega), if_neg (by omega), if_neg (by omega), if_pos h2]
  simp only [second_ok a b _ _ _ hb hlo hhi, hc, Bool.false_eq_true, ↓reduceIte]

theorem decodeStep_4 (a b c d : UInt8) (rest : Bytes) (h1 : 0xF0 ≤ a.toNat) (h2 : a.toNat < 0xF5)
    (hb : isCont b = true) (hlo : a.toNat = 0xF0 → 0x90 ≤ b.toNat) (hhi : a.toNat = 0xF4 → b.toNat < 0x90)
    (hc : isCont c = true) (hd : isCont d = true) :
    decodeStep a (b :: c :: d :: rest) = (mk4 a b c d, 3) := by
  unfold decodeStep
  rw [if_neg (by omega), if_neg (by omega), if_neg (by omega), if_neg (by omega), if_pos h2]
  simp only [second_ok a b _ _ _ hb hlo hhi, hc, hd, Bool.not_true, Bool.false_eq_true, ↓reduceIte]

/-- decoding the encoding of `c` (followed by anything) gives `c` and consumes exactly its bytes -/
theorem decodeStep_enc (c : Char) (tail : Bytes) :
    ∃ a r, encChar c = a :: r ∧ decodeStep a (r ++ tail) = (c, r.length) := by
  have hr := char_range c
  rcases encChar_shape c with ⟨h1, e⟩ | ⟨h1, h2, e⟩ | ⟨h1, h2, e⟩ | ⟨h1, e⟩ <;> refine ⟨_, _, e, ?_⟩
  · rw [decodeStep_1 _ _ (by rw [b8_toNat _ (by omega)]; exact h1), b8_toNat _ (by omega), Char.ofNat_toNat]
    rfl
  · have ea := lead2_toNat c.toNat h2
    rw [List.cons_append, decodeStep_2 _ _ _ (by omega) (by omega) (isCont_cont _), mk2, ea, cont_toNat,
      Nat.add_sub_cancel_left, Nat.add_sub_cancel_left, Nat.div_add_mod' c.toNat 64, Char.ofNat_toNat]
    rfl
  · have ea := lead3_toNat c.toNat h2
    have eb := cont_toNat (c.toNat / 64)
    rw [List.cons_append, List.cons_append,
      decodeStep_3 _ _ _ _ (by omega) (by omega) (isCont_cont _) (by omega) (by omega) (isCont_cont _),
      mk3, ea, eb, cont_toNat, Nat.add_sub_cancel_left, Nat.add_sub_cancel_left, Nat.add_sub_cancel_left]
    have : c.toNat / 4096 * 4096 + c.toNat / 64 % 64 * 64 + c.toNat % 64 = c.toNat := by omega
    rw [this, Char.ofNat_toNat]
    rfl
  · have ea := lead4_toNat c.toNat (by omega)
    have eb := cont_toNat (c.toNat / 4096)
    rw [List.cons_append, List.cons_append, List.cons_append,
      decodeStep_4 _ _ _ _ _ (by omega) (by omega) (isCont_cont _) (by omega) (by omega) (isCont_cont _)
        (isCont_cont _),
      mk4, ea, eb, cont_toNat, cont_toNat, Nat.add_sub_cancel_left, Nat.add_sub_cancel_left,
      Nat.add_sub_cancel_left, Nat.add_sub_cancel_left]
    have : c.toNat / 262144 * 262144 + c.toNat / 4096 % 64 * 4096 + c.toNat / 64 % 64 * 64 + c.toNat % 64
        = c.toNat := by omega
    rw [this, Char.ofNat_toNat]
    rfl

theorem decodeAux_utf8 (s : Str) (tail : Bytes) (fuel : Nat) (hf : s.length ≤ fuel) :
    decodeAux fuel (utf8 s ++ tail) = s ++ decodeAux (fuel - s.length) tail := by
  induction s generalizing fuel with
  | nil => simp [utf8]
  | cons c cs ih =>
    obtain ⟨a, r, he, hd⟩ := decodeStep_enc c (utf8 cs ++ tail)
    have hu : utf8 (c :: cs) = a :: (r ++ utf8 cs) := by simp [utf8, he]
    rw [hu]
    cases fuel with
    | zero => simp at hf
    | succ n =>
      simp only [List.cons_append, decodeAux]
      rw [List.append_assoc, hd]
      simp only [List.drop_left', List.cons.injEq, true_and]
      have hl : cs.length ≤ n := by simp at hf; omega
      rw [ih n hl]
      congr 2
      simp only [List.length_cons]
      omega

theorem length_le_utf8 (s : Str) : s.length ≤ (utf8 s).length := by
  induction s with
  | nil => simp
  | cons c cs ih =>
    have := encChar_length_pos c
    simp only [utf8, List.flatMap_cons, List.length_append, List.length_cons] at ih ⊢
    omega

theorem encChar_length (c : Char) : (encChar c).length = c.utf8Size := by
  unfold Char.utf8Size
  have e : c.toNat = c.val.toNat := rfl
  simp only [UInt32.le_iff_toNat_le, UInt32.toNat_ofNatLT, ← e]
  rcases encChar_shape c with ⟨h1, e⟩ | ⟨h1, h2, e⟩ | ⟨h1, h2, e⟩ | ⟨h1, e⟩ <;> rw [e]
  · rw [if_pos (by omega)]; rfl
  · rw [if_neg (by omega), if_pos (by omega)]; rfl
  · rw [if_neg (by omega), if_neg (by omega), if_pos (by omega)]; rfl
  · rw [if_neg (by omega), if_neg (by omega), if_neg (by omega)]; rfl

end C11
