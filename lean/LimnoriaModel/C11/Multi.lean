/-
C11 — several SocketDriver instances: `_select` is a classmethod over `SocketDriver._instances`, so
every driver's `run()` reads *all* readable connections and then sends for *all* of them
(src/drivers/Socket.py:158-190).  Each connection has its own Irc, socket scripts and buffers: a
`World` per driver.
-/
import LimnoriaModel.C11.Lemmas
namespace C11
open Py

/-- the read phase of `_select` for one instance of `_instances` -/
def selectReadG (env : Env) (w : World) : World :=
  if w.crashed.isSome then w else if !w.connected || w.zombie then w else selectRead env w

/-- the send phase of `_select` for one instance -/
def selectSendG (env : Env) (w : World) : World :=
  if !w.connected || w.zombie then w else selectSend env w

/-- `_select()` over all instances: all reads first, then all sends -/
def selectAll (env : Env) (ws : List World) : List World :=
  (ws.map (selectReadG env)).map (selectSendG env)

/-- the `run()` of the driver at position `i` (its own timer and `_sendIfMsgs`, then the class-wide `_select`) -/
def multiRun (env : Env) (i : Nat) (ws : List World) : List World :=
  match ws[i]? with
  | none => ws
  | some w =>
    if w.removed then ws
    else if !(runTimer env w).connected then ws.set i (runTimer env w)
    else selectAll env (ws.set i (sendIfMsgs env (runTimer env w)))

/-- one pass of `drivers.run()` over all drivers, in registration order -/
def multiLoop (env : Env) (ws : List World) : List World :=
  (List.range ws.length).foldl (fun ws i => multiRun env i ws) ws

/-- the single-instance `_select` of `Model.lean` is the one-element case -/
theorem select_eq (env : Env) (w : World) : select env w = selectSendG env (selectReadG env w) := by
  unfold select selectSendG selectReadG
  by_cases hc : w.crashed.isSome = true
  · simp only [hc, ↓reduceIte]
    split
    · rfl
    · unfold selectSend; simp [hc]
  · simp only [hc, Bool.false_eq_true, ↓reduceIte]
    by_cases hg : (!w.connected || w.zombie) = true
    · simp [hg]
    · simp only [hg, Bool.false_eq_true, ↓reduceIte]
      split
      · rename_i h
        unfold selectSend
        split
        · rfl
        · have : (!(selectRead env w).connected || (selectRead env w).zombie || (selectRead env w).ircZombie) = true := by
            simp only [Bool.or_eq_true] at h ⊢
            exact Or.inl h
          simp [this]
      · rfl


theorem forall_mem_set {P : World → Prop} (ws : List World) (i : Nat) (x : World) (h : ∀ w ∈ ws, P w) (hx : P x) :
    ∀ w ∈ ws.set i x, P w := by
  intro w hw
  rcases List.mem_or_eq_of_mem_set hw with h1 | h1
  · exact h w h1
  · subst h1; exact hx

section
variable {env : Env} {P : World → Prop} (st : Stable env P)
include st

theorem stable_selectAll (ws : List World) (h : ∀ w ∈ ws, P w) : ∀ w ∈ selectAll env ws, P w := by
  intro w hw
  unfold selectAll at hw
  simp only [List.map_map, List.mem_map, Function.comp] at hw
  obtain ⟨w0, hw0, rfl⟩ := hw
  have hr : P (selectReadG env w0) := by
    unfold selectReadG
    split
    · exact h w0 hw0
    · split
      · exact h w0 hw0
      · exact stable_selectRead st w0 (h w0 hw0)
  unfold selectSendG
  split
  · exact hr
  · exact stable_selectSend st _ hr

theorem stable_multiRun (i : Nat) (ws : List World) (h : ∀ w ∈ ws, P w) : ∀ w ∈ multiRun env i ws, P w := by
  unfold multiRun
  cases hi : ws[i]? with
  | none => exact h
  | some x =>
    have hx : P (runTimer env x) := stable_runTimer st x (h x (List.mem_of_getElem? hi))
    simp only
    split
    · exact h
    · split
      · exact forall_mem_set ws i _ h hx
      · exact stable_selectAll st _ (forall_mem_set ws i _ h (st.onSend _ hx))

theorem stable_multiLoop (ws : List World) (h : ∀ w ∈ ws, P w) : ∀ w ∈ multiLoop env ws, P w := by
  unfold multiLoop
  generalize List.range ws.length = idx
  induction idx generalizing ws with
  | nil => exact h
  | cons i rest ih => exact ih _ (stable_multiRun st i ws h)

end

section
variable {env : Env} (hne : NoEscape env)
include hne

/-- **The per-connection invariants survive any number of drivers sharing `_select`**: after a pass
of the driver loop over all of them, every connection still satisfies `Inv` (bytes accepted ++
out-buffer = encoding of what was taken; delivered = messages of the complete lines received). -/
theorem inv_multiLoop (ws : List World) (h : ∀ w ∈ ws, Inv env w) : ∀ w ∈ multiLoop env ws, Inv env w :=
  stable_multiLoop (inv_stable hne) ws h

end

end C11
