/-
C11 — helper lemmas: line framing (`splitLF`), what `_sendIfMsgs` does stage by stage, what one pass of the loop
keeps (`Stable`), the invariant `Inv`, calm connections (`Calm`), EAGAIN bursts and draining (`sendN`), `Flushed`.
-/
import LimnoriaModel.C11.Model
import LimnoriaModel.C05.Lemmas
namespace C11
open Py

theorem parseMsg_no_crash (timeOk : Str → Bool) (s : Str) (e : String) :
    parseMsg timeOk s ≠ .crash e := by
  unfold parseMsg
  simp only
  split
  · simp
  · rcases C05.parse_total timeOk (strip s) with ⟨m, h⟩ | h <;> rw [h] <;> simp

theorem splitLF_cons_lf (bs : Bytes) :
    splitLF (LF :: bs) = ([] :: (splitLF bs).1, (splitLF bs).2) := by
  simp [splitLF]

theorem splitLF_cons_ne {b : UInt8} (h : b ≠ LF) (bs : Bytes) :
    splitLF (b :: bs) = (match (splitLF bs).1 with
      | [] => ([], b :: (splitLF bs).2)
      | l :: ls => ((b :: l) :: ls, (splitLF bs).2)) := by
  cases h1 : (splitLF bs).1 <;> simp [splitLF, h, h1]

theorem splitLF_append (x y : Bytes) :
    splitLF (x ++ y) =
      ((splitLF x).1 ++ (splitLF ((splitLF x).2 ++ y)).1, (splitLF ((splitLF x).2 ++ y)).2) := by
  induction x with
  | nil => simp [splitLF]
  | cons b bs ih =>
    by_cases hb : b = LF
    · subst hb
      simp only [List.cons_append, splitLF_cons_lf, ih]
    · simp only [List.cons_append, splitLF_cons_ne hb, ih]
      cases h1 : (splitLF bs).1 with
      | nil => simp [splitLF_cons_ne hb]
      | cons l ls => simp

theorem splitLF_spec (b : Bytes) :
    ((splitLF b).1.flatMap (· ++ [LF])) ++ (splitLF b).2 = b ∧
    (∀ l ∈ (splitLF b).1, LF ∉ l) ∧ LF ∉ (splitLF b).2 := by
  induction b with
  | nil => simp [splitLF]
  | cons c cs ih =>
    obtain ⟨ih1, ih2, ih3⟩ := ih
    by_cases hc : c = LF
    · subst hc
      rw [splitLF_cons_lf]
      refine ⟨?_, ?_, ih3⟩
      · simp only [List.flatMap_cons, List.nil_append, List.cons_append]
        rw [ih1]
      · simp only [List.mem_cons]
        rintro l (rfl | h)
        · simp
        · exact ih2 l h
    · have hc' : ¬ LF = c := fun h => hc h.symm
      rw [splitLF_cons_ne hc]
      cases h1 : (splitLF cs).1 with
      | nil =>
        simp only [h1, List.flatMap_nil, List.nil_append] at ih1 ⊢
        refine ⟨by rw [ih1], by simp, ?_⟩
        simp only [List.mem_cons, not_or]
        exact ⟨hc', ih3⟩
      | cons l ls =>
        simp only [h1, List.flatMap_cons, List.cons_append, List.append_assoc] at ih1 ih2 ⊢
        refine ⟨by rw [ih1], ?_, ih3⟩
        simp only [List.mem_cons]
        rintro l' (rfl | h)
        · simp only [List.mem_cons, not_or]
          exact ⟨hc', ih2 l (by simp)⟩
        · exact ih2 l' (by simp [h])

theorem splitLF_of_no_lf (b : Bytes) (h : LF ∉ b) : splitLF b = ([], b) := by
  induction b with
  | nil => rfl
  | cons c cs ih =>
    simp only [List.mem_cons, not_or] at h
    rw [splitLF_cons_ne (fun hc => h.1 hc.symm), ih h.2]

theorem splitLF_line (l rest : Bytes) (h : LF ∉ l) :
    splitLF (l ++ LF :: rest) = (l :: (splitLF rest).1, (splitLF rest).2) := by
  induction l with
  | nil => exact splitLF_cons_lf rest
  | cons b bs ih =>
    simp only [List.mem_cons, not_or] at h
    rw [List.cons_append, splitLF_cons_ne (fun e => h.1 e.symm), ih h.2]

theorem splitB_ne_nil (sep : UInt8) (b : Bytes) : splitB sep b ≠ [] := by
  induction b with
  | nil => simp [splitB]
  | cons c cs ih =>
    simp only [splitB]
    split
    · simp
    · split <;> simp

/-- `splitLF` is Python's `lines = buf.split(b'\n'); rem = lines.pop()` -/
theorem splitLF_eq_split_pop (b : Bytes) :
    (splitLF b).1 ++ [(splitLF b).2] = splitB LF b := by
  induction b with
  | nil => simp [splitLF, splitB]
  | cons c cs ih =>
    by_cases hc : c = LF
    · subst hc
      simp only [splitLF_cons_lf, splitB, ↓reduceIte, List.cons_append, ih]
    · rw [splitLF_cons_ne hc]
      simp only [splitB, hc, ↓reduceIte]
      cases h1 : (splitLF cs).1 with
      | nil =>
        simp only [h1, List.nil_append] at ih ⊢
        rw [← ih]
      | cons l ls =>
        simp only [h1, List.cons_append] at ih ⊢
        rw [← ih]

theorem utf8_append (a b : Str) : utf8 (a ++ b) = utf8 a ++ utf8 b := by
  simp [utf8]

theorem utf8_nil : utf8 [] = [] := rfl

theorem utf8_flatten (l : List Str) : utf8 l.flatten = (l.map utf8).flatten := by
  induction l with
  | nil => rfl
  | cons a l ih => simp [utf8_append, ih]

/-- the message a line is delivered as (if any) -/
def lineMsg (env : Env) (l : Bytes) : Option C05.Msg :=
  match parseMsg env.timeOk (decode l) with
  | .msg m => some m
  | _ => none

/-- the messages a list of complete lines is delivered as -/
def msgsOf (env : Env) (ls : List Bytes) : List C05.Msg := ls.filterMap (lineMsg env)

/-- what the Irc queues in reaction to the messages `ms`, having been fed `fed` before -/
def reactsFrom (env : Env) (z : Bool) : List C05.Msg → List C05.Msg → List Str
  | _, [] => []
  | fed, m :: ms => (if z then [] else env.react fed m) ++ reactsFrom env z (fed ++ [m]) ms

def reactsOf (env : Env) (z : Bool) (fed : List C05.Msg) (ls : List Bytes) : List Str :=
  reactsFrom env z fed (msgsOf env ls)

theorem msgsOf_append (env : Env) (a b : List Bytes) : msgsOf env (a ++ b) = msgsOf env a ++ msgsOf env b := by
  simp [msgsOf]

/-- none of these messages makes the Irc call `driver.reconnect()` -/
def NoReconnectOn (env : Env) (ms : List C05.Msg) : Prop := ∀ m ∈ ms, ∀ h, env.reconnects h m = none

/-- no message at all makes the Irc reconnect -/
def NoReconnect (env : Env) : Prop := ∀ h m, env.reconnects h m = none

theorem NoReconnect.on {env : Env} (h : NoReconnect env) (ms : List C05.Msg) : NoReconnectOn env ms :=
  fun m _ hist => h hist m

theorem feedLines_cons {env : Env} (hne : NoEscape env) (l : Bytes) (ls : List Bytes) (w : World) :
    feedLines env (l :: ls) w =
      match lineMsg env l with
      | none => feedLines env ls w
      | some m =>
        match env.reconnects w.allFed m with
        | some wait => reconnect env wait (feedMsg env m w)
        | none => feedLines env ls (feedMsg env m w) := by
  unfold lineMsg
  rw [feedLines]
  cases h : parseMsg env.timeOk (decode l) with
  | empty => rfl
  | malformed => simp only [hne.2.2, Bool.false_eq_true, ↓reduceIte]
  | crash e => exact absurd h (parseMsg_no_crash _ _ _)
  | msg m =>
    simp only [hne.1 w.allFed m]
    cases env.reconnects w.allFed m <;> rfl

theorem feedLines_eq (env : Env) (hne : NoEscape env) (ls : List Bytes) (w : World)
    (hnr : NoReconnectOn env (msgsOf env ls)) :
    feedLines env ls w =
      { w with fed := w.fed ++ msgsOf env ls, allFed := w.allFed ++ msgsOf env ls,
               queue := w.queue ++ reactsOf env w.ircZombie w.allFed ls,
               queued := w.queued ++ reactsOf env w.ircZombie w.allFed ls } := by
  induction ls generalizing w with
  | nil => simp [feedLines, msgsOf, reactsOf, reactsFrom]
  | cons l ls ih =>
    rw [feedLines_cons hne]
    cases hm : lineMsg env l with
    | none =>
      have hnr' : NoReconnectOn env (msgsOf env ls) := by simpa [msgsOf, hm] using hnr
      simp [ih _ hnr', msgsOf, reactsOf, hm]
    | some m =>
      have hms : msgsOf env (l :: ls) = m :: msgsOf env ls := by simp [msgsOf, hm]
      have hnr' : NoReconnectOn env (msgsOf env ls) := fun m' hm' => hnr m' (by rw [hms]; simp [hm'])
      have hr : env.reconnects w.allFed m = none := hnr m (by rw [hms]; simp) _
      simp only [hr, ih _ hnr', feedMsg]
      simp [msgsOf, reactsOf, reactsFrom, hm]

/-! While the driver is connected and neither it nor the Irc is a zombie, `_sendIfMsgs` takes everything and
calls `send()` once; what that `send()` does is read off the next scripted outcome. -/

theorem takeAll_live (w : World) (hi : w.ircZombie = false) :
    takeAll w = { w with outbuffer := w.outbuffer ++ utf8 w.queue.flatten,
                         taken := w.taken ++ w.queue, queue := [] } := by
  unfold takeAll
  rw [hi]
  rfl

theorem sendFlush_frame (w : World) :
    (sendFlush w).zombie = w.zombie ∧ (sendFlush w).ircZombie = w.ircZombie ∧
    (sendFlush w).removed = w.removed ∧ (sendFlush w).crashed = w.crashed := by
  unfold sendFlush doSend handleSocketError
  split
  · exact ⟨rfl, rfl, rfl, rfl⟩
  · split
    · exact ⟨rfl, rfl, rfl, rfl⟩
    · exact ⟨rfl, rfl, rfl, rfl⟩
    · split <;> exact ⟨rfl, rfl, rfl, rfl⟩

theorem sendFlush_unscripted (w : World) (hs : w.sendScript = []) :
    sendFlush w = { w with wire := w.wire ++ w.outbuffer, outbuffer := [],
                           eagains := if w.outbuffer = [] then w.eagains else 0 } := by
  unfold sendFlush doSend
  split
  · rename_i hob
    cases w
    simp only at hob
    subst hob
    simp
  · rw [hs]

theorem sendFlush_sent (w : World) (n : Nat) (rs : List SendRes) (hob : w.outbuffer ≠ [])
    (hs : w.sendScript = .sent n :: rs) :
    sendFlush w = { w with sendScript := rs, wire := w.wire ++ w.outbuffer.take n,
                           outbuffer := w.outbuffer.drop n, eagains := 0 } := by
  unfold sendFlush doSend
  rw [if_neg hob, hs]

theorem sendFlush_eagain (w : World) (rs : List SendRes) (hob : w.outbuffer ≠ [])
    (hs : w.sendScript = .error 11 :: rs) :
    sendFlush w = handleSocketError (some 11) { w with sendScript := rs } := by
  unfold sendFlush doSend
  rw [if_neg hob, hs]

theorem sendPlain_disconnected (w : World) (hc : w.connected = false) : sendPlain w = w := by
  unfold sendPlain
  rw [hc]
  rfl

theorem sendPlain_live (w : World) (hc : w.connected = true) (hz : w.zombie = false)
    (hi : w.ircZombie = false) : sendPlain w = sendFlush (takeAll w) := by
  -- `sendFinish` does nothing: the driver is no zombie before the `send()`, hence none after it
  have hz' : (sendFlush (takeAll w)).zombie = false := by
    rw [(sendFlush_frame _).1, takeAll_live w hi]
    exact hz
  unfold sendPlain sendTake
  simp only [hc, hz, Bool.not_true, Bool.false_eq_true, ↓reduceIte]
  unfold sendFinish
  simp only [hz', Bool.false_and, Bool.false_eq_true, ↓reduceIte]

theorem handleSocketError_eagain (w : World) (he : w.eagains ≤ 120) :
    handleSocketError (some 11) w = { w with eagains := w.eagains + 1 } := by
  unfold handleSocketError
  rw [if_neg]
  rintro (h | h)
  · exact h rfl
  · omega

theorem handleSocketError_drop (e : Option Nat) (w : World) (h : e ≠ some 11 ∨ w.eagains > 120) :
    handleSocketError e w =
      { w with connected := false, sockClosed := true, reconnectAt := true, reconnectDue := false } :=
  if_pos h

section
variable {env : Env} (hne : NoEscape env)
include hne

theorem sendIfMsgs_eq (w : World) (hp : w.pingDue = false) : sendIfMsgs env w = sendPlain w := by
  unfold sendIfMsgs
  rw [hne.2.1 w.queue, hp]
  split <;> rfl

theorem sendIfMsgs_cases (w : World) :
    sendIfMsgs env w = sendPlain w ∨ sendIfMsgs env w = reconnect env false w := by
  unfold sendIfMsgs
  rw [hne.2.1 w.queue]
  split
  · cases w.pingDue
    · exact Or.inl rfl
    · exact Or.inr rfl
  · exact Or.inl rfl

theorem sendIfMsgs_live (w : World) (hc : w.connected = true) (hz : w.zombie = false)
    (hi : w.ircZombie = false) (hpd : w.pingDue = false) :
    sendIfMsgs env w = sendFlush { w with outbuffer := w.outbuffer ++ utf8 w.queue.flatten,
                                          taken := w.taken ++ w.queue, queue := [] } := by
  rw [sendIfMsgs_eq hne w hpd, sendPlain_live w hc hz hi, takeAll_live w hi]

theorem sendIfMsgs_unscripted (w : World)
    (hc : w.connected = true) (hz : w.zombie = false) (hi : w.ircZombie = false)
    (hpd : w.pingDue = false) (hs : w.sendScript = []) :
    sendIfMsgs env w =
      { w with wire := w.wire ++ (w.outbuffer ++ utf8 w.queue.flatten), outbuffer := [],
               taken := w.taken ++ w.queue, queue := [],
               eagains := if w.outbuffer ++ utf8 w.queue.flatten = [] then w.eagains else 0 } := by
  rw [sendIfMsgs_live hne w hc hz hi hpd]
  exact sendFlush_unscripted _ hs

theorem sendIfMsgs_sent (w : World) (n : Nat) (rs : List SendRes)
    (hc : w.connected = true) (hz : w.zombie = false) (hi : w.ircZombie = false) (hpd : w.pingDue = false)
    (hne' : w.outbuffer ++ utf8 w.queue.flatten ≠ []) (hs : w.sendScript = .sent n :: rs) :
    sendIfMsgs env w = { w with outbuffer := (w.outbuffer ++ utf8 w.queue.flatten).drop n,
                                wire := w.wire ++ (w.outbuffer ++ utf8 w.queue.flatten).take n,
                                taken := w.taken ++ w.queue, queue := [],
                                sendScript := rs, eagains := 0 } := by
  rw [sendIfMsgs_live hne w hc hz hi hpd]
  exact sendFlush_sent _ n rs hne' hs

theorem sendIfMsgs_eagain (w : World) (rs : List SendRes)
    (hc : w.connected = true) (hz : w.zombie = false) (hi : w.ircZombie = false) (hpd : w.pingDue = false)
    (hob : w.outbuffer ≠ []) (he : w.eagains ≤ 120) (hs : w.sendScript = .error 11 :: rs) :
    sendIfMsgs env w = { w with outbuffer := w.outbuffer ++ utf8 w.queue.flatten,
                                taken := w.taken ++ w.queue, queue := [],
                                sendScript := rs, eagains := w.eagains + 1 } := by
  rw [sendIfMsgs_live hne w hc hz hi hpd]
  exact Eq.trans (sendFlush_eagain _ rs (List.append_ne_nil_of_left_ne_nil hob _) hs)
    (handleSocketError_eagain _ he)

theorem sendIfMsgs_eagain_limit (w : World) (rs : List SendRes)
    (hc : w.connected = true) (hz : w.zombie = false) (hi : w.ircZombie = false) (hpd : w.pingDue = false)
    (hob : w.outbuffer ≠ []) (he : w.eagains > 120) (hs : w.sendScript = .error 11 :: rs) :
    sendIfMsgs env w = { w with outbuffer := w.outbuffer ++ utf8 w.queue.flatten,
                                taken := w.taken ++ w.queue, queue := [], sendScript := rs,
                                connected := false, sockClosed := true, reconnectAt := true,
                                reconnectDue := false } := by
  rw [sendIfMsgs_live hne w hc hz hi hpd]
  exact Eq.trans (sendFlush_eagain _ rs (List.append_ne_nil_of_left_ne_nil hob _) hs)
    (handleSocketError_drop _ _ (Or.inr he))

end

/-! `read`, `select`, `run` and `loop` only choose between a socket error, a reconnect, `_sendIfMsgs`, the body of
`_read`, consuming a `recv()` outcome and the removal of a crashed driver: what these keep, the loop keeps. -/

structure Stable (env : Env) (P : World → Prop) : Prop where
  onError : ∀ e w, P w → P (handleSocketError e w)
  onReconnect : ∀ wait w, P w → P (reconnect env wait w)
  onSend : ∀ w, P w → P (sendIfMsgs env w)
  onData : ∀ b w, P w → P (readData env b w)
  onRecv : ∀ rs w, P w → P { w with recvScript := rs }
  onRemove : ∀ w, P w → w.crashed.isSome = true → P { w with removed := true }

section
variable {env : Env} {P : World → Prop} (st : Stable env P)
include st

theorem stable_sendAfterRead (w : World) (h : P w) : P (sendAfterRead env w) := by
  unfold sendAfterRead
  split
  · exact h
  · split
    · exact h
    · exact st.onSend w h

theorem stable_read (w : World) (h : P w) : P (read env w) := by
  unfold read
  split
  · exact stable_sendAfterRead st w h
  · exact st.onError _ _ (st.onRecv _ w h)
  · exact stable_sendAfterRead st _ (st.onData _ _ (st.onRecv _ w h))
  · exact stable_sendAfterRead st _ (st.onRecv _ w h)
  · exact st.onError _ _ (st.onRecv _ w h)

theorem stable_selectRead (w : World) (h : P w) : P (selectRead env w) := by
  unfold selectRead
  split
  · exact h
  · exact stable_read st w h

theorem stable_selectSend (w : World) (h : P w) : P (selectSend env w) := by
  unfold selectSend
  split
  · exact h
  · split
    · exact h
    · exact st.onSend w h

theorem stable_select (w : World) (h : P w) : P (select env w) := by
  unfold select
  split
  · exact h
  · split
    · exact h
    · exact stable_selectSend st _ (stable_selectRead st w h)

theorem stable_runTimer (w : World) (h : P w) : P (runTimer env w) := by
  unfold runTimer
  split
  · exact st.onReconnect false w h
  · exact h

theorem stable_run (w : World) (h : P w) : P (run env w) := by
  unfold run
  split
  · exact stable_runTimer st w h
  · exact stable_select st _ (st.onSend _ (stable_runTimer st w h))

theorem stable_loop (w : World) (h : P w) : P (loop env w) := by
  unfold loop loopCatch
  split
  · exact h
  · split
    · rename_i hc
      exact st.onRemove _ (stable_run st w h) hc
    · exact stable_run st w h

end

theorem stable_feedLines {env : Env} (hne : NoEscape env) {P : World → Prop}
    (hfeed : ∀ m w, P w → P (feedMsg env m w)) (hrec : ∀ wait w, P w → P (reconnect env wait w))
    (ls : List Bytes) (w : World) (h : P w) : P (feedLines env ls w) := by
  induction ls generalizing w with
  | nil => exact h
  | cons l ls ih =>
    rw [feedLines_cons hne]
    cases lineMsg env l with
    | none => exact ih w h
    | some m =>
      simp only
      cases env.reconnects w.allFed m with
      | some wait => exact hrec wait _ (hfeed m w h)
      | none => exact ih _ (hfeed m w h)

theorem runOps_keeps {env : Env} {P : World → Prop} (ops : List Op)
    (hstep : ∀ op ∈ ops, ∀ w, P w → P (step env w op)) (w : World) (h : P w) : P (runOps env w ops) := by
  induction ops generalizing w with
  | nil => exact h
  | cons op ops ih =>
    exact ih (fun o ho => hstep o (List.mem_cons_of_mem _ ho)) _ (hstep op List.mem_cons_self w h)

structure Inv (env : Env) (w : World) : Prop where
  /-- accepted by the socket ++ still buffered = encoding of everything taken -/
  wire : w.wire ++ w.outbuffer = utf8 w.taken.flatten
  /-- taken ++ still queued = everything ever queued -/
  queue : w.taken ++ w.queue = w.queued
  /-- the in-buffer is the unterminated tail of everything received -/
  inbuf : w.inbuffer = (splitLF w.rx).2
  /-- delivered = the messages of the complete lines of everything received -/
  fed : w.fed = msgsOf env (splitLF w.rx).1
  nocrash : w.crashed = none

theorem inv_init (env : Env) : Inv env init :=
  ⟨rfl, rfl, rfl, rfl, rfl⟩

theorem inv_handleSocketError (env : Env) (e : Option Nat) (w : World) (h : Inv env w) :
    Inv env (handleSocketError e w) := by
  unfold handleSocketError
  split <;> exact ⟨h.wire, h.queue, h.inbuf, h.fed, h.nocrash⟩

theorem inv_takeAll (env : Env) (w : World) (h : Inv env w) : Inv env (takeAll w) := by
  unfold takeAll driverDie
  have hw : w.wire ++ (w.outbuffer ++ utf8 w.queue.flatten) = utf8 (w.taken ++ w.queue).flatten := by
    rw [← List.append_assoc, h.wire, List.flatten_append, utf8_append]
  have hq : (w.taken ++ w.queue) ++ [] = w.queued := by simpa using h.queue
  split <;> exact ⟨hw, hq, h.inbuf, h.fed, h.nocrash⟩

theorem inv_doSend (env : Env) (w : World) (h : Inv env w) : Inv env (doSend w) := by
  unfold doSend
  split
  · exact ⟨by simpa using h.wire, h.queue, h.inbuf, h.fed, h.nocrash⟩
  · refine ⟨?_, h.queue, h.inbuf, h.fed, h.nocrash⟩
    simp only [List.append_assoc, List.take_append_drop]
    exact h.wire
  · exact inv_handleSocketError env _ _ ⟨h.wire, h.queue, h.inbuf, h.fed, h.nocrash⟩

section
variable {env : Env} (hne : NoEscape env)
include hne

omit hne in
/-- a new connection starts from a clean slate: the invariant holds whatever was going on -/
theorem inv_reconnect (wait : Bool) (w : World) (hc : w.crashed = none) : Inv env (reconnect env wait w) := by
  unfold reconnect
  cases wait <;> exact ⟨rfl, rfl, rfl, rfl, hc⟩

omit hne in
theorem inv_sendPlain (w : World) (h : Inv env w) : Inv env (sendPlain w) := by
  have ht : Inv env (sendTake w) := by
    unfold sendTake
    split
    · exact h
    · exact inv_takeAll env w h
  have hf : Inv env (sendFlush (sendTake w)) := by
    unfold sendFlush
    split
    · exact ht
    · exact inv_doSend env _ ht
  unfold sendPlain sendFinish reallyDie
  split
  · exact h
  · split
    · exact ⟨hf.wire, hf.queue, hf.inbuf, hf.fed, hf.nocrash⟩
    · exact hf

theorem inv_sendIfMsgs (w : World) (h : Inv env w) : Inv env (sendIfMsgs env w) := by
  rcases sendIfMsgs_cases hne w with e | e <;> rw [e]
  · exact inv_sendPlain w h
  · exact inv_reconnect false w h.nocrash

/-- the `for line in lines` loop, from a state in which `ls` are the lines still to be fed -/
theorem inv_feedLines (ls : List Bytes) (w : World)
    (hw : w.wire ++ w.outbuffer = utf8 w.taken.flatten) (hq : w.taken ++ w.queue = w.queued)
    (hib : w.inbuffer = (splitLF w.rx).2) (hfed : w.fed ++ msgsOf env ls = msgsOf env (splitLF w.rx).1)
    (hc : w.crashed = none) : Inv env (feedLines env ls w) := by
  induction ls generalizing w with
  | nil =>
    simp only [msgsOf, List.filterMap_nil, List.append_nil] at hfed
    exact ⟨hw, hq, hib, hfed, hc⟩
  | cons l ls ih =>
    rw [feedLines_cons hne]
    cases hm : lineMsg env l with
    | none => exact ih w hw hq hib (by simpa [msgsOf, hm] using hfed) hc
    | some m =>
      simp only
      have hfed' : (w.fed ++ [m]) ++ msgsOf env ls = msgsOf env (splitLF w.rx).1 := by
        rw [← hfed]; simp [msgsOf, hm]
      have hq' : w.taken ++ (w.queue ++ (if w.ircZombie then [] else env.react w.allFed m))
          = w.queued ++ (if w.ircZombie then [] else env.react w.allFed m) := by
        rw [← List.append_assoc, hq]
      cases hr : env.reconnects w.allFed m with
      | some wait => exact inv_reconnect wait _ hc
      | none => exact ih (feedMsg env m w) hw hq' hib hfed' hc

theorem inv_readData (b : Bytes) (w : World) (h : Inv env w) : Inv env (readData env b w) := by
  unfold readData
  apply inv_feedLines hne
  · exact h.wire
  · exact h.queue
  · show (splitLF (w.inbuffer ++ b)).2 = (splitLF (w.rx ++ b)).2
    rw [splitLF_append w.rx b, h.inbuf]
  · show w.fed ++ msgsOf env (splitLF (w.inbuffer ++ b)).1 = msgsOf env (splitLF (w.rx ++ b)).1
    rw [splitLF_append w.rx b, h.inbuf, h.fed, msgsOf_append]
  · exact h.nocrash

theorem inv_stable : Stable env (Inv env) where
  onError := inv_handleSocketError env
  onReconnect wait w h := inv_reconnect wait w h.nocrash
  onSend := inv_sendIfMsgs hne
  onData := inv_readData hne
  onRecv _ _ h := ⟨h.wire, h.queue, h.inbuf, h.fed, h.nocrash⟩
  onRemove _ h _ := ⟨h.wire, h.queue, h.inbuf, h.fed, h.nocrash⟩

theorem inv_run (w : World) (h : Inv env w) : Inv env (run env w) :=
  stable_run (inv_stable hne) w h

theorem inv_step (w : World) (op : Op) (h : Inv env w) : Inv env (step env w op) := by
  cases op with
  | queue s =>
    simp only [step]
    split
    · exact h
    · refine ⟨h.wire, ?_, h.inbuf, h.fed, h.nocrash⟩
      show w.taken ++ (w.queue ++ [s]) = w.queued ++ [s]
      rw [← List.append_assoc, h.queue]
  | loop => exact stable_loop (inv_stable hne) w h
  | _ => exact ⟨h.wire, h.queue, h.inbuf, h.fed, h.nocrash⟩

theorem inv_runOps (ops : List Op) (w : World) (h : Inv env w) : Inv env (runOps env w ops) :=
  runOps_keeps ops (fun op _ w h => inv_step hne w op h) w h

end

/-- the `_read` bodies for a list of `recv()` results -/
def feedChunks (env : Env) (w : World) (cs : List Bytes) : World :=
  cs.foldl (fun w c => readData env c w) w

section
variable {env : Env} (hne : NoEscape env)
include hne

theorem readData_fed (b : Bytes) (w : World) (hnr : NoReconnect env) :
    (readData env b w).fed = w.fed ++ msgsOf env (splitLF (w.inbuffer ++ b)).1 := by
  unfold readData; rw [feedLines_eq env hne _ _ (hnr.on _)]

theorem readData_inbuffer (b : Bytes) (w : World) (hnr : NoReconnect env) :
    (readData env b w).inbuffer = (splitLF (w.inbuffer ++ b)).2 := by
  unfold readData; rw [feedLines_eq env hne _ _ (hnr.on _)]

theorem feedChunks_spec (hnr : NoReconnect env) (cs : List Bytes) (w : World) (hw : LF ∉ w.inbuffer) :
    (feedChunks env w cs).fed = w.fed ++ msgsOf env (splitLF (w.inbuffer ++ cs.flatten)).1 ∧
    (feedChunks env w cs).inbuffer = (splitLF (w.inbuffer ++ cs.flatten)).2 := by
  induction cs generalizing w with
  | nil =>
    simp [feedChunks, splitLF_of_no_lf _ hw, msgsOf]
  | cons c cs ih =>
    have := ih (readData env c w) (by rw [readData_inbuffer hne _ _ hnr]; exact (splitLF_spec _).2.2)
    simp only [feedChunks, List.foldl_cons] at this ⊢
    rw [this.1, this.2, readData_fed hne _ _ hnr, readData_inbuffer hne _ _ hnr]
    simp only [List.flatten_cons, ← List.append_assoc]
    rw [splitLF_append (w.inbuffer ++ c) cs.flatten]
    simp [msgsOf_append]

end

/-! ### a connection on which nothing goes wrong -/

structure Calm (w : World) : Prop where
  connected : w.connected = true
  zombie : w.zombie = false
  ircZombie : w.ircZombie = false
  removed : w.removed = false
  crashed : w.crashed = none
  sendScript : w.sendScript = []
  reconnectAt : w.reconnectAt = false
  pingDue : w.pingDue = false

/-- the history "recv() returns `c`, one loop pass" for every chunk -/
def chunkOps (cs : List Bytes) : List Op := cs.flatMap (fun c => [.scriptRecv (.data c), .loop])

section
variable {env : Env} (hne : NoEscape env)
include hne

/-- every guard on the way is decided by `Calm`: the pass is evaluated step by step -/
theorem calm_chunk_eq (b : UInt8) (bs : Bytes) (w : World) (h : Calm w) (hr : w.recvScript = [])
    (hnr : NoReconnectOn env (msgsOf env (splitLF (w.inbuffer ++ b :: bs)).1)) :
    loop env (step env w (.scriptRecv (.data (b :: bs)))) =
      { w with
        rx := w.rx ++ b :: bs, inbuffer := (splitLF (w.inbuffer ++ b :: bs)).2, eagains := 0,
        fed := w.fed ++ msgsOf env (splitLF (w.inbuffer ++ b :: bs)).1,
        allFed := w.allFed ++ msgsOf env (splitLF (w.inbuffer ++ b :: bs)).1,
        queued := w.queued ++ reactsOf env false w.allFed (splitLF (w.inbuffer ++ b :: bs)).1,
        taken := w.taken ++ w.queue ++ reactsOf env false w.allFed (splitLF (w.inbuffer ++ b :: bs)).1,
        queue := [], outbuffer := [],
        wire := w.wire ++ (w.outbuffer ++ utf8 w.queue.flatten)
                  ++ utf8 (reactsOf env false w.allFed (splitLF (w.inbuffer ++ b :: bs)).1).flatten } := by
  obtain ⟨h1, h2, h3, h4, h5, h6, h7, h8⟩ := h
  simp only [step, hr, List.nil_append, loop, loopCatch, run, runTimer, select, selectRead, selectSend, read,
    sendAfterRead, readData, h1, h2, h3, h4, h5, h6, h7, h8, sendIfMsgs_unscripted hne, hnr, feedLines_eq env hne,
    Bool.false_and, Bool.false_eq_true, ↓reduceIte, Bool.not_true, Bool.or_self, Option.isSome_none,
    List.cons_ne_nil, List.flatten_nil, utf8_nil, List.append_nil, ite_self]

theorem calm_chunk (c : Bytes) (hc : c ≠ []) (w : World) (h : Calm w) (hr : w.recvScript = [])
    (hnr : NoReconnectOn env (msgsOf env (splitLF (w.inbuffer ++ c)).1)) :
    Calm (loop env (step env w (.scriptRecv (.data c)))) ∧
    (loop env (step env w (.scriptRecv (.data c)))).recvScript = [] ∧
    (loop env (step env w (.scriptRecv (.data c)))).rx = w.rx ++ c := by
  obtain ⟨b, bs, rfl⟩ := List.exists_cons_of_ne_nil hc
  rw [calm_chunk_eq hne b bs w h hr hnr]
  exact ⟨⟨h.connected, h.zombie, h.ircZombie, h.removed, h.crashed, h.sendScript, h.reconnectAt, h.pingDue⟩,
    hr, rfl⟩

theorem calm_line_wire (w : World) (h : Calm w) (hr : w.recvScript = []) (hib : w.inbuffer = [])
    (l : Bytes) (hl : LF ∉ l) (m : C05.Msg) (hm : lineMsg env l = some m)
    (hnr : ∀ hist, env.reconnects hist m = none) :
    (loop env (step env w (.scriptRecv (.data (l ++ [LF]))))).wire =
      w.wire ++ (w.outbuffer ++ utf8 w.queue.flatten) ++ utf8 (env.react w.allFed m).flatten ∧
    Calm (loop env (step env w (.scriptRecv (.data (l ++ [LF]))))) := by
  obtain ⟨b, bs, hc⟩ := List.exists_cons_of_ne_nil (List.append_ne_nil_of_right_ne_nil l (List.cons_ne_nil LF []))
  have hsplit : splitLF (w.inbuffer ++ b :: bs) = ([l], []) := by
    rw [hib, ← hc]; exact splitLF_line l [] hl
  have hon : NoReconnectOn env (msgsOf env (splitLF (w.inbuffer ++ b :: bs)).1) := by
    rw [hsplit]
    intro m' hm' hist
    have : m' = m := by simpa [msgsOf, hm] using hm'
    subst this; exact hnr hist
  rw [hc, calm_chunk_eq hne b bs w h hr hon, hsplit]
  refine ⟨?_, h.connected, h.zombie, h.ircZombie, h.removed, h.crashed, h.sendScript, h.reconnectAt, h.pingDue⟩
  simp [reactsOf, msgsOf, hm, reactsFrom]

theorem calm_chunkOps (hnr : NoReconnect env) (cs : List Bytes) (hcs : ∀ c ∈ cs, c ≠ []) (w : World)
    (h : Calm w) (hr : w.recvScript = []) :
    Calm (runOps env w (chunkOps cs)) ∧ (runOps env w (chunkOps cs)).recvScript = [] ∧
    (runOps env w (chunkOps cs)).rx = w.rx ++ cs.flatten := by
  induction cs generalizing w with
  | nil => simp [chunkOps, runOps, h, hr]
  | cons c cs ih =>
    obtain ⟨k1, k2, k3⟩ := calm_chunk hne c (hcs c (by simp)) w h hr (hnr.on _)
    obtain ⟨j1, j2, j3⟩ := ih (fun c' hc' => hcs c' (by simp [hc'])) _ k1 k2
    have e : runOps env w (chunkOps (c :: cs)) =
        runOps env (loop env (step env w (.scriptRecv (.data c)))) (chunkOps cs) := by
      simp [chunkOps, runOps, step]
    rw [e]
    refine ⟨j1, j2, ?_⟩
    rw [j3, k3]; simp

end

theorem calm_init : Calm init := ⟨rfl, rfl, rfl, rfl, rfl, rfl, rfl, rfl⟩

/-- `k` consecutive calls of `_sendIfMsgs` -/
def sendN (env : Env) : Nat → World → World
  | 0, w => w
  | k + 1, w => sendN env k (sendIfMsgs env w)

section
variable {env : Env} (hne : NoEscape env)
include hne

theorem sendN_eagain_burst (k : Nat) (w : World) (rs : List SendRes)
    (hc : w.connected = true) (hz : w.zombie = false) (hi : w.ircZombie = false) (hpd : w.pingDue = false)
    -- 121: `handleSocketError` gives up when `eagains > 120`, so the counter may still reach 121
    (hob : w.outbuffer ≠ []) (he : w.eagains + k ≤ 121)
    (hs : w.sendScript = List.replicate k (.error 11) ++ rs) :
    (sendN env k w).connected = true ∧ (sendN env k w).wire = w.wire ∧
    (sendN env k w).outbuffer ++ utf8 (sendN env k w).queue.flatten = w.outbuffer ++ utf8 w.queue.flatten ∧
    (sendN env k w).eagains = w.eagains + k ∧ (sendN env k w).sendScript = rs := by
  induction k generalizing w with
  | zero => simp [sendN, hc, hs]
  | succ k ih =>
    have hs' : w.sendScript = .error 11 :: (List.replicate k (.error 11) ++ rs) := by
      rw [hs, List.replicate_succ, List.cons_append]
    simp only [sendN]
    rw [sendIfMsgs_eagain hne w _ hc hz hi hpd hob (by omega) hs']
    obtain ⟨a1, a2, a3, a4, a5⟩ :=
      ih { w with outbuffer := w.outbuffer ++ utf8 w.queue.flatten,
                  taken := w.taken ++ w.queue, queue := [],
                  sendScript := List.replicate k (.error 11) ++ rs, eagains := w.eagains + 1 }
        hc hz hi hpd (List.append_ne_nil_of_left_ne_nil hob _) (by show w.eagains + 1 + k ≤ 121; omega) rfl
    refine ⟨a1, a2, ?_, ?_, a5⟩
    · rw [a3]; simp [utf8_nil]
    · rw [a4]; show w.eagains + 1 + k = w.eagains + (k + 1); omega

end

/-- a script of successful sends of at least one byte each -/
def Positive (script : List SendRes) : Prop := ∀ r ∈ script, ∃ n, r = .sent n ∧ 0 < n

section
variable {env : Env} (hne : NoEscape env)
include hne

theorem sendIfMsgs_progress (w : World)
    (hc : w.connected = true) (hz : w.zombie = false) (hi : w.ircZombie = false) (hpd : w.pingDue = false)
    (hp : Positive w.sendScript) :
    (sendIfMsgs env w).connected = true ∧ (sendIfMsgs env w).zombie = false ∧
    (sendIfMsgs env w).ircZombie = false ∧ (sendIfMsgs env w).pingDue = false ∧
    Positive (sendIfMsgs env w).sendScript ∧ (sendIfMsgs env w).queue = [] ∧
    (sendIfMsgs env w).outbuffer.length ≤ (w.outbuffer ++ utf8 w.queue.flatten).length - 1 := by
  cases hs : w.sendScript with
  | nil =>
    rw [sendIfMsgs_unscripted hne w hc hz hi hpd hs]
    exact ⟨hc, hz, hi, hpd, hs ▸ hp, rfl, Nat.zero_le _⟩
  | cons r rs =>
    obtain ⟨n, rfl, hn⟩ := hp r (by rw [hs]; simp)
    have hp' : Positive rs := fun r hr => hp r (by rw [hs]; simp [hr])
    by_cases hnil : w.outbuffer ++ utf8 w.queue.flatten = []
    · rw [sendIfMsgs_live hne w hc hz hi hpd, sendFlush, if_pos hnil]
      exact ⟨hc, hz, hi, hpd, hs ▸ hp, rfl, by show (w.outbuffer ++ utf8 w.queue.flatten).length ≤ _; simp [hnil]⟩
    · rw [sendIfMsgs_sent hne w n rs hc hz hi hpd hnil hs]
      refine ⟨hc, hz, hi, hpd, hp', rfl, ?_⟩
      show ((w.outbuffer ++ utf8 w.queue.flatten).drop n).length ≤ _
      rw [List.length_drop]
      omega

theorem sendN_drains (k : Nat) (w : World)
    (hc : w.connected = true) (hz : w.zombie = false) (hi : w.ircZombie = false) (hpd : w.pingDue = false)
    (hp : Positive w.sendScript) (hk : (w.outbuffer ++ utf8 w.queue.flatten).length ≤ k) :
    (sendN env (k + 1) w).outbuffer = [] ∧ (sendN env (k + 1) w).queue = [] ∧
    (sendN env (k + 1) w).connected = true := by
  induction k generalizing w with
  | zero =>
    simp only [sendN]
    obtain ⟨c, _, _, _, _, q, l⟩ := sendIfMsgs_progress hne w hc hz hi hpd hp
    exact ⟨List.eq_nil_of_length_eq_zero (by omega), q, c⟩
  | succ k ih =>
    obtain ⟨c, z, i, pd, p, q, l⟩ := sendIfMsgs_progress hne w hc hz hi hpd hp
    simp only [sendN]
    refine ih (sendIfMsgs env w) c z i pd p ?_
    rw [q, List.flatten_nil, utf8_nil, List.append_nil]
    omega

end

/-! ### when no `send()` outcome is scripted (every `send()` accepts the whole buffer) the
out-buffer is empty between any two operations -/

structure Flushed (w : World) : Prop where
  script : w.sendScript = []
  buffer : w.outbuffer = []

theorem flushed_handleSocketError (e : Option Nat) (w : World) (h : Flushed w) :
    Flushed (handleSocketError e w) := by
  unfold handleSocketError
  split <;> exact ⟨h.script, h.buffer⟩

theorem flushed_sendPlain (w : World) (h : Flushed w) : Flushed (sendPlain w) := by
  have hs : (sendTake w).sendScript = [] := by
    unfold sendTake takeAll driverDie
    split
    · exact h.script
    · split <;> exact h.script
  have hf : Flushed (sendFlush (sendTake w)) := by
    rw [sendFlush_unscripted _ hs]
    exact ⟨hs, rfl⟩
  unfold sendPlain sendFinish reallyDie
  split
  · exact h
  · split
    · exact ⟨hf.script, hf.buffer⟩
    · exact hf

section
variable {env : Env} (hne : NoEscape env)
include hne

omit hne in
theorem flushed_reconnect (wait : Bool) (w : World) (h : Flushed w) : Flushed (reconnect env wait w) := by
  unfold reconnect
  cases wait
  · exact ⟨rfl, rfl⟩
  · exact ⟨h.script, rfl⟩

theorem flushed_sendIfMsgs (w : World) (h : Flushed w) : Flushed (sendIfMsgs env w) := by
  rcases sendIfMsgs_cases hne w with e | e <;> rw [e]
  · exact flushed_sendPlain w h
  · exact flushed_reconnect false w h

theorem flushed_stable : Stable env Flushed where
  onError := flushed_handleSocketError
  onReconnect := flushed_reconnect
  onSend := flushed_sendIfMsgs hne
  onData _ _ h := stable_feedLines hne (fun _ _ h => ⟨h.script, h.buffer⟩) flushed_reconnect _ _ ⟨h.script, h.buffer⟩
  onRecv _ _ h := ⟨h.script, h.buffer⟩
  onRemove _ h _ := ⟨h.script, h.buffer⟩

end

def scriptsNoSend (ops : List Op) : Prop := ∀ op ∈ ops, ∀ r, op ≠ .scriptSend r

theorem flushed_runOps {env : Env} (hne : NoEscape env) (ops : List Op) (w : World) (h : Flushed w)
    (hn : scriptsNoSend ops) :
    Flushed (runOps env w ops) := by
  refine runOps_keeps ops (fun op hop w h => ?_) w h
  cases op with
  | queue s =>
    simp only [step]
    split
    · exact h
    · exact ⟨h.script, h.buffer⟩
  | scriptSend r => exact absurd rfl (hn _ hop r)
  | loop => exact stable_loop (flushed_stable hne) w h
  | _ => exact ⟨h.script, h.buffer⟩

end C11
