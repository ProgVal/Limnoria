/-
C11 — property theorems.  (Helper lemmas: `Lemmas.lean`, `Utf8.lean`, `Multi.lean`.)

A *history* is a list of `Op`s: queue a message, script the outcome of a future `send()` or
`recv()`, `Irc.die()`, one pass of `drivers.run()`.  All theorems below quantify over every
history from the initial connected state (`runOps env init ops`), i.e. over every message list,
every schedule of short writes / EAGAINs / socket errors and every fragmentation of the input —
and over every `env`: what `strptime` accepts, and what the Irc object queues in reaction to a
message *given everything it was fed before* (any deterministic Irc), provided no exception
escapes its `feedMsg` / `takeMsg` (`NoEscape env`; C07 derives that from the firewall).

Connections come in *epochs*: a message may make the Irc call `driver.reconnect()` (`env.reconnects`:
`ERROR :Closing link`, an STS policy …), a socket error schedules a reconnect that a `tick` makes
due.  Since fix 9171ff7 `reconnect()` empties both buffers and `_read` drops the rest of the chunk it
was processing.  `wire`, `taken`, `queued`, `rx`, `fed` are those of the *current* connection, so the
invariants below are statements about every single connection; the explicit chunk-independence
theorems are stated for streams in which nothing makes the Irc reconnect (`NoReconnect env`), since a
reconnect point is, by design, where chunk boundaries matter (`reconnect_drops_rest_of_chunk`).
-/
import LimnoriaModel.C11.Lemmas
import LimnoriaModel.C11.Utf8
import LimnoriaModel.C11.Multi
namespace C11
open Py

/-- the environment of the correspondence run (any time tag accepted, PING→PONG stub) -/
def stubEnv : Env := { timeOk := fun _ => true, react := pingPong }

theorem stubEnv_noEscape : NoEscape stubEnv := ⟨fun _ _ => rfl, fun _ => rfl, rfl⟩

/-- **The bytes accepted by the socket, followed by what is still buffered, are exactly the UTF-8
encoding of the messages handed to the driver so far, in order** — after every history. -/
theorem write_exact (env : Env) (hne : NoEscape env) (ops : List Op) :
    (runOps env init ops).wire ++ (runOps env init ops).outbuffer
      = utf8 (runOps env init ops).taken.flatten :=
  (inv_runOps hne ops init (inv_init env)).wire

/-- nothing queued is lost or duplicated between the Irc queue and the driver -/
theorem queue_conserved (env : Env) (hne : NoEscape env) (ops : List Op) :
    (runOps env init ops).taken ++ (runOps env init ops).queue = (runOps env init ops).queued :=
  (inv_runOps hne ops init (inv_init env)).queue

/-- **On drain the socket has received exactly the encodings of all queued messages, in order,
each once** — whatever the partial sends were. -/
theorem write_exact_drained (env : Env) (hne : NoEscape env) (ops : List Op)
    (hq : (runOps env init ops).queue = []) (hb : (runOps env init ops).outbuffer = []) :
    (runOps env init ops).wire = ((runOps env init ops).queued.map utf8).flatten := by
  have h1 := write_exact env hne ops
  have h2 := queue_conserved env hne ops
  rw [hb, List.append_nil] at h1
  rw [hq, List.append_nil] at h2
  rw [h1, h2, utf8_flatten]

def exHistory : List Op :=
  [.queue "PRIVMSG #c :héllo\r\n".toList, .scriptSend (.sent 14), .scriptSend (.error 11),
   .scriptSend (.sent 3), .loop, .loop, .loop]

example : (runOps stubEnv init exHistory).queue = [] ∧ (runOps stubEnv init exHistory).outbuffer = [] ∧
    (runOps stubEnv init exHistory).connected = true ∧ (runOps stubEnv init exHistory).wire.length = 20 := by
  decide +kernel

/-- **EAGAIN bursts are tolerated**: starting with a fresh counter, up to 121 consecutive
`send()` calls failing with EAGAIN leave the driver connected, nothing written, nothing lost,
the counter equal to the burst length (a later successful `send` resets it, `sendIfMsgs_sent`). -/
theorem eagain_tolerated (env : Env) (hne : NoEscape env) (k : Nat) (hk : k ≤ 121) (w : World)
    (rs : List SendRes)
    (hc : w.connected = true) (hz : w.zombie = false) (hi : w.ircZombie = false) (hcr : w.crashed = none)
    (hpd : w.pingDue = false) (hob : w.outbuffer ≠ []) (he : w.eagains = 0)
    (hs : w.sendScript = List.replicate k (.error 11) ++ rs) :
    (sendN env k w).connected = true ∧ (sendN env k w).wire = w.wire ∧
    (sendN env k w).outbuffer ++ utf8 (sendN env k w).queue.flatten = w.outbuffer ++ utf8 w.queue.flatten ∧
    (sendN env k w).eagains = k ∧ (sendN env k w).sendScript = rs := by
  have := sendN_eagain_burst hne k w rs hc hz hi hpd hob (by omega) hs
  simpa [he] using this

/-- … and the 122nd consecutive EAGAIN disconnects (the bound in the code is `eagains > 120`). -/
theorem eagain_limit (env : Env) (hne : NoEscape env) (w : World) (rs : List SendRes)
    (hc : w.connected = true) (hz : w.zombie = false) (hi : w.ircZombie = false) (hcr : w.crashed = none)
    (hpd : w.pingDue = false) (hob : w.outbuffer ≠ []) (he : w.eagains > 120) (hs : w.sendScript = .error 11 :: rs) :
    (sendIfMsgs env w).connected = false ∧ (sendIfMsgs env w).wire = w.wire := by
  rw [sendIfMsgs_eagain_limit hne w rs hc hz hi hpd hob he hs]
  exact ⟨rfl, rfl⟩

example : ∃ w : World, w.connected = true ∧ w.zombie = false ∧ w.ircZombie = false ∧ w.crashed = none ∧
    w.pingDue = false ∧ w.outbuffer ≠ [] ∧ w.eagains = 0 ∧ w.sendScript = List.replicate 121 (.error 11) ++ [.sent 1] :=
  ⟨{ outbuffer := [65], sendScript := List.replicate 121 (.error 11) ++ [.sent 1] }, rfl, rfl, rfl, rfl, rfl,
    by simp, rfl, rfl⟩

/-- **Progress**: when every `send()` accepts at least one byte, `len + 1` calls of
`_sendIfMsgs` empty the queue and the out-buffer (so `write_exact_drained` applies). -/
theorem drains (env : Env) (hne : NoEscape env) (k : Nat) (w : World)
    (hc : w.connected = true) (hz : w.zombie = false) (hi : w.ircZombie = false) (hcr : w.crashed = none)
    (hpd : w.pingDue = false) (hp : Positive w.sendScript) (hk : (w.outbuffer ++ utf8 w.queue.flatten).length ≤ k) :
    (sendN env (k + 1) w).outbuffer = [] ∧ (sendN env (k + 1) w).queue = [] ∧
    (sendN env (k + 1) w).connected = true :=
  sendN_drains hne k w hc hz hi hpd hp hk

example : Positive [.sent 1, .sent 3, .sent 1] := by
  intro r hr
  simp only [List.mem_cons, List.not_mem_nil, or_false] at hr
  rcases hr with rfl | rfl | rfl
  · exact ⟨1, rfl, by omega⟩
  · exact ⟨3, rfl, by omega⟩
  · exact ⟨1, rfl, by omega⟩

/-- **What has been delivered to `feedMsg` is a function of the concatenation of all bytes
received, and the in-buffer is the unterminated tail of that concatenation** — after every
history, hence independently of how `recv()` chunked the stream. -/
theorem read_is_function_of_stream (env : Env) (hne : NoEscape env) (ops : List Op) :
    (runOps env init ops).fed = msgsOf env (splitLF (runOps env init ops).rx).1 ∧
    (runOps env init ops).inbuffer = (splitLF (runOps env init ops).rx).2 :=
  ⟨(inv_runOps hne ops init (inv_init env)).fed, (inv_runOps hne ops init (inv_init env)).inbuf⟩

/-- **What is delivered is the message sequence of the complete lines of the whole stream.** -/
theorem read_delivers_lines (env : Env) (hne : NoEscape env) (hnr : NoReconnect env) (cs : List Bytes) (h : ∀ c ∈ cs, c ≠ []) :
    (runOps env init (chunkOps cs)).fed = msgsOf env (splitLF cs.flatten).1 ∧
    (runOps env init (chunkOps cs)).inbuffer = (splitLF cs.flatten).2 := by
  obtain ⟨_, _, x⟩ := calm_chunkOps hne hnr cs h init calm_init rfl
  obtain ⟨f, b⟩ := read_is_function_of_stream env hne (chunkOps cs)
  have hx : (runOps env init (chunkOps cs)).rx = cs.flatten := by rw [x]; rfl
  rw [f, b, hx]
  exact ⟨rfl, rfl⟩

/-- **Chunk independence**: two partitions of the same byte stream into non-empty `recv()` results,
each followed by a pass of the driver loop, deliver the same messages and leave the same
in-buffer — including partitions that cut inside a multi-byte character or between CR and LF. -/
theorem read_chunk_independent (env : Env) (hne : NoEscape env) (hnr : NoReconnect env) (cs₁ cs₂ : List Bytes)
    (h₁ : ∀ c ∈ cs₁, c ≠ []) (h₂ : ∀ c ∈ cs₂, c ≠ []) (h : cs₁.flatten = cs₂.flatten) :
    (runOps env init (chunkOps cs₁)).fed = (runOps env init (chunkOps cs₂)).fed ∧
    (runOps env init (chunkOps cs₁)).inbuffer = (runOps env init (chunkOps cs₂)).inbuffer := by
  obtain ⟨f1, b1⟩ := read_delivers_lines env hne hnr cs₁ h₁
  obtain ⟨f2, b2⟩ := read_delivers_lines env hne hnr cs₂ h₂
  rw [f1, f2, b1, b2, h]
  exact ⟨rfl, rfl⟩

/-- the same at the level of `_read` bodies, from any state whose in-buffer holds no LF -/
theorem read_chunks_from_any_state (env : Env) (hne : NoEscape env) (hnr : NoReconnect env) (w : World) (hw : LF ∉ w.inbuffer)
    (cs₁ cs₂ : List Bytes) (h : cs₁.flatten = cs₂.flatten) :
    (feedChunks env w cs₁).fed = (feedChunks env w cs₂).fed ∧
    (feedChunks env w cs₁).inbuffer = (feedChunks env w cs₂).inbuffer := by
  obtain ⟨a1, a2⟩ := feedChunks_spec hne hnr cs₁ w hw
  obtain ⟨b1, b2⟩ := feedChunks_spec hne hnr cs₂ w hw
  rw [a1, a2, b1, b2, h]
  exact ⟨rfl, rfl⟩

/-- framing loses and invents nothing: complete lines (each + LF) and the remainder are the stream;
no line and no remainder contains an LF; and it is Python's `split(b'\n')` + `pop()` -/
theorem framing_exact (b : Bytes) :
    ((splitLF b).1.flatMap (· ++ [LF])) ++ (splitLF b).2 = b ∧
    (∀ l ∈ (splitLF b).1, LF ∉ l) ∧ LF ∉ (splitLF b).2 ∧
    (splitLF b).1 ++ [(splitLF b).2] = splitB LF b :=
  ⟨(splitLF_spec b).1, (splitLF_spec b).2.1, (splitLF_spec b).2.2, splitLF_eq_split_pop b⟩

-- "é" cut in the middle and CR | LF cut: three chunkings of `PING :é\r\nPI`
example : (runOps stubEnv init (chunkOps [[80,73,78,71,32,58,195], [169,13], [10,80,73]])).fed
    = (runOps stubEnv init (chunkOps [[80,73,78,71,32,58,195,169,13,10,80,73]])).fed := by
  apply (read_chunk_independent stubEnv stubEnv_noEscape (fun _ _ => rfl) _ _ _ _ _).1 <;> simp

/-- **A reconnect point ends the connection's input**: when a line's message makes the Irc
reconnect, the remaining lines of that `recv()` chunk are not delivered, and the new connection
starts with empty buffers, nothing taken and nothing received. -/
theorem reconnect_drops_rest_of_chunk (env : Env) (hne : NoEscape env) (l : Bytes) (ls : List Bytes)
    (w : World) (m : C05.Msg) (wait : Bool) (hm : lineMsg env l = some m)
    (hr : env.reconnects w.allFed m = some wait) :
    feedLines env (l :: ls) w = reconnect env wait (feedMsg env m w) ∧
    (feedLines env (l :: ls) w).inbuffer = [] ∧ (feedLines env (l :: ls) w).outbuffer = [] ∧
    (feedLines env (l :: ls) w).fed = [] ∧ (feedLines env (l :: ls) w).rx = [] ∧
    (feedLines env (l :: ls) w).wire = [] := by
  have e : feedLines env (l :: ls) w = reconnect env wait (feedMsg env m w) := by
    rw [feedLines_cons hne, hm]
    simp only [hr]
  rw [e]
  unfold reconnect
  cases wait <;> exact ⟨rfl, rfl, rfl, rfl, rfl, rfl⟩

/-- **A ping time-out inside the `takeMsg` loop** (fix 67d65e0): what was queued and taken for the
connection that is dropped is dropped with it — the new connection starts with an empty out-buffer,
nothing accepted by its socket, and only what `Irc.reset()` queued. -/
theorem ping_timeout_reconnect_clean (env : Env) (hne : NoEscape env) (w : World)
    (hc : w.connected = true) (hz : w.zombie = false) (hp : w.pingDue = true) :
    sendIfMsgs env w = reconnect env false w ∧ (sendIfMsgs env w).outbuffer = [] ∧
    (sendIfMsgs env w).wire = [] ∧ (sendIfMsgs env w).connected = true ∧
    (sendIfMsgs env w).queue = (if w.ircZombie then [] else env.onReset) ∧
    (sendIfMsgs env w).pastWires = w.pastWires ++ [w.wire] := by
  have e : sendIfMsgs env w = reconnect env false w := by
    unfold sendIfMsgs
    rw [hne.2.1 w.queue]
    simp [hc, hz, hp]
  rw [e]
  unfold reconnect
  simp [hc]

/-- the correspondence environment: the stub Irc reconnects on `ERROR :Closing link…` -/
def driverEnv : Env := { timeOk := fun _ => true, react := pingPong, reconnects := errorReconnect }

def errLine : Bytes := utf8 "ERROR :Closing link: bye".toList
def pingLine : Bytes := utf8 "PING :x".toList

-- `ERROR :Closing link` and `PING :x` in one chunk: the PING is dropped, nothing is written
example : (runOps driverEnv init [.scriptRecv (.data (errLine ++ [LF] ++ pingLine ++ [LF])), .loop]).epoch = 1 ∧
    (runOps driverEnv init [.scriptRecv (.data (errLine ++ [LF] ++ pingLine ++ [LF])), .loop]).wire = [] ∧
    (runOps driverEnv init [.scriptRecv (.data (errLine ++ [LF] ++ pingLine ++ [LF])), .loop]).pastWires = [[]] := by
  decide +kernel

/-- **What is written is what is read**: decoding the encoding of any text gives the text back
(the driver's `str.encode()` and `decode_raw_line` are inverse on encoded text), so a line sent by
one bot is delivered to another as the message of exactly that text. -/
theorem decode_encode (s : Str) : decode (utf8 s) = s := by
  have := decodeAux_utf8 s [] (utf8 s).length (length_le_utf8 s)
  simp only [List.append_nil] at this
  unfold decode
  rw [this]
  cases ((utf8 s).length - s.length) <;> simp [decodeAux]

/-- the message a line carrying the text `s` is delivered as depends on `s` only -/
theorem line_roundtrip (env : Env) (s : Str) (m : C05.Msg) (h : parseMsg env.timeOk s = .msg m) :
    lineMsg env (utf8 s) = some m := by
  unfold lineMsg
  rw [decode_encode, h]

/-- **No history makes an exception escape `SocketDriver.run()`** (no server line, however
malformed or badly encoded, and no socket outcome): `drivers.run` never sees the driver raise. -/
theorem never_crashes (env : Env) (hne : NoEscape env) (ops : List Op) :
    (runOps env init ops).crashed = none :=
  (inv_runOps hne ops init (inv_init env)).nocrash

/-! ## shutdown flush (known finding C11-zombie-flush)

Full statement — FALSE on the pinned tree:

    theorem flushed_when_removed (env : Env) (ops : List Op) :
        (runOps env init ops).removed = true → (runOps env init ops).outbuffer = []

("when the driver leaves the loop every byte of every message it took has been written").
`Irc.takeMsg` of a zombie Irc calls `driver.die()`, which unregisters the driver from
`drivers.run` *before* the final `send()`; if that `send()` is short (or EAGAIN) the rest of the
buffer is never written and the socket never closed. -/

/-- what holds: if no `send()` outcome is ever scripted — every `send()` accepts the whole
buffer — the out-buffer is empty after every history (in particular when the driver is removed). -/
theorem flushed_when_removed_partial (env : Env) (hne : NoEscape env) (ops : List Op)
    (h : scriptsNoSend ops) :
    (runOps env init ops).outbuffer = [] :=
  (flushed_runOps hne ops init ⟨rfl, rfl⟩ h).buffer

example : scriptsNoSend [Op.queue "QUIT :bye\r\n".toList, Op.ircDie, Op.loop] := by
  intro op h r; simp at h; rcases h with rfl | rfl | rfl <;> simp

/-- the counter-example: `QUIT :bye`, `Irc.die()`, and a `send()` that accepts 4 bytes -/
def zombieWitness : List Op :=
  [.queue "QUIT :bye\r\n".toList, .ircDie, .scriptSend (.sent 4), .loop, .loop, .loop]

theorem zombie_short_write_loses_tail :
    (runOps stubEnv init zombieWitness).removed = true ∧
    (runOps stubEnv init zombieWitness).wire = utf8 "QUIT".toList ∧
    (runOps stubEnv init zombieWitness).outbuffer = utf8 " :bye\r\n".toList ∧
    (runOps stubEnv init zombieWitness).sockClosed = false := by decide +kernel

end C11
