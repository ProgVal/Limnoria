/-
C08 — every function of the model refines the abstract move system of `Abs.lean`.
The only facts used about the extracted FSM tables are the table lemmas `tab_*` (by `decide`).
-/
import LimnoriaModel.C08.Abs
namespace C08
open Py
open Gen.Conn (Fsm)

theorem tab_toCapEnd : Gen.Conn.toCapEnd = .INIT_WAITING_MOTD := by decide
theorem tab_toInit : Gen.Conn.toInitMessagesSent = .INIT_CAP_NEGOTIATION := by decide
theorem tab_toShutdown : Gen.Conn.toShutdown = .SHUTTING_DOWN := by decide
theorem tab_toStartMotd : Gen.Conn.toStartMotd = .INIT_MOTD := by decide
theorem tab_toEndMotd : Gen.Conn.toEndMotd = .CONNECTED := by decide
theorem tab_guardInit : Gen.Conn.guardInitMessagesSent.contains Gen.Conn.fsmReset = true := by decide

theorem tab_guardCapEnd : ∀ f, Gen.Conn.guardCapEnd.contains f = true → f = .INIT_CAP_NEGOTIATION := by
  intro f; cases f <;> decide

theorem tab_saslCap : ∀ f t, Gen.Conn.onSaslCap.lookup f = some t →
    (f = .INIT_CAP_NEGOTIATION ∧ t = .INIT_SASL) ∨ (f = .CONNECTED ∧ t = .CONNECTED_SASL) := by
  intro f t h; cases f <;> cases h <;> decide

theorem tab_saslFin : ∀ f t, Gen.Conn.onSaslAuthFinished.lookup f = some t →
    (f = .INIT_SASL ∧ t = .INIT_CAP_NEGOTIATION) ∨ (f = .CONNECTED_SASL ∧ t = .CONNECTED) := by
  intro f t h; cases f <;> cases h <;> decide

theorem tab_guardStartMotd : ∀ f, Gen.Conn.guardStartMotd.contains f = true →
    f = .INIT_CAP_NEGOTIATION ∨ f = .INIT_WAITING_MOTD ∨ f = .CONNECTED ∨ f = .CONNECTED_SASL := by
  intro f; cases f <;> decide

theorem tab_guardEndMotd : ∀ f, Gen.Conn.guardEndMotd.contains f = true →
    f = .INIT_CAP_NEGOTIATION ∨ f = .INIT_WAITING_MOTD ∨ f = .INIT_MOTD ∨ f = .CONNECTED ∨ f = .CONNECTED_SASL := by
  intro f; cases f <;> decide

theorem tab_tryNext : ∀ f, Gen.Conn.expectTryNextSasl.contains f = true → isSaslState f = true := by
  intro f; cases f <;> decide

theorem tab_do903 : ∀ f, Gen.Conn.expectDo903.contains f = true → isSaslState f = true := by
  intro f; cases f <;> decide

theorem tab_doAuth : ∀ f, Gen.Conn.expectDoAuthenticate.contains f = true → isSaslState f = true := by
  intro f; cases f <;> decide

/-! the single table entries the registration path goes through -/
theorem tab_capEnd_neg : Gen.Conn.guardCapEnd.contains .INIT_CAP_NEGOTIATION = true := by decide
theorem tab_upkeep_neg : Gen.Conn.expectCapUpkeep.contains .INIT_CAP_NEGOTIATION = true := by decide
theorem tab_upkeep_sasl : Gen.Conn.expectCapUpkeep.contains .INIT_SASL = false := by decide
theorem tab_upkeep_waiting : Gen.Conn.expectCapUpkeep.contains .INIT_WAITING_MOTD = false := by decide
theorem tab_upkeep_motd : Gen.Conn.expectCapUpkeep.contains .INIT_MOTD = false := by decide
theorem tab_ls_neg : Gen.Conn.expectDoCapLs.contains .INIT_CAP_NEGOTIATION = true := by decide
theorem tab_saslCap_neg : Gen.Conn.onSaslCap.lookup .INIT_CAP_NEGOTIATION = some .INIT_SASL := by decide
theorem tab_saslFin_sasl : Gen.Conn.onSaslAuthFinished.lookup .INIT_SASL = some .INIT_CAP_NEGOTIATION := by decide
theorem tab_tryNext_sasl : Gen.Conn.expectTryNextSasl.contains .INIT_SASL = true := by decide
theorem tab_doAuth_sasl : Gen.Conn.expectDoAuthenticate.contains .INIT_SASL = true := by decide
theorem tab_do903_sasl : Gen.Conn.expectDo903.contains .INIT_SASL = true := by decide
theorem tab_startMotd_neg : Gen.Conn.guardStartMotd.contains .INIT_CAP_NEGOTIATION = true := by decide
theorem tab_startMotd_waiting : Gen.Conn.guardStartMotd.contains .INIT_WAITING_MOTD = true := by decide
theorem tab_endMotd_neg : Gen.Conn.guardEndMotd.contains .INIT_CAP_NEGOTIATION = true := by decide
theorem tab_endMotd_waiting : Gen.Conn.guardEndMotd.contains .INIT_WAITING_MOTD = true := by decide
theorem tab_endMotd_motd : Gen.Conn.guardEndMotd.contains .INIT_MOTD = true := by decide
theorem tab_chunk : 1 < Gen.Conn.authenticateChunkSize := by decide
-- comparisons of capability names: evaluated by the kernel alone
theorem tab_wanted : Gen.Conn.requestCapabilities.all isWanted = true := by decide +kernel
theorem tab_wanted_sasl : (Gen.Conn.requestCapabilities ++ [sSasl]).all isWanted = true := by decide +kernel

theorem endCap_eq (cfg : Cfg) (s : St) : endCap cfg s =
    if saslMissing cfg s = true then ok (drvReconnect cfg true none s)
    else if Gen.Conn.guardCapEnd.contains s.fsm = true then
      ok (sendMsg .capEnd { s with fsm := .INIT_WAITING_MOTD, endCount := s.endCount + 1 })
    else raise "ValueError" s := by
  unfold endCap onCapEnd transition
  simp only [tab_toCapEnd]
  split
  · rfl
  · split <;> rfl

theorem do375_eq (cfg : Cfg) (s : St) : do375 cfg s =
    if saslMissing cfg s = true then ok (drvReconnect cfg true none s)
    else if Gen.Conn.guardStartMotd.contains s.fsm = true then ok { s with fsm := .INIT_MOTD }
    else raise "ValueError" s := by
  unfold do375 transition
  simp only [tab_toStartMotd]

theorem do376_eq (cfg : Cfg) (s : St) : do376 cfg s =
    if saslMissing cfg s = true then ok (drvReconnect cfg true none s)
    else if Gen.Conn.guardEndMotd.contains s.fsm = true then
      ok { s with fsm := .CONNECTED, afterConnect := true, altNicks := cfg.alternates }
    else raise "ValueError" s := by
  unfold do376 transition
  simp only [tab_toEndMotd]
  split
  · rfl
  · split <;> rfl

variable {cfg : Cfg} {K : Kind → Bool}

theorem α_sendMsg (o : Out) (s : St) : α (sendMsg o s) = { α s with kinds := (α s).kinds ++ [o.kind] } := by
  simp [α, sendMsg]

theorem α_queueJoin (s : St) : α (queueMsg .join s) = { α s with joinQ := true } := by
  simp [α, queueMsg, List.all_append, isSide]

theorem α_event (o : Out) (s : St) (ho : isSide o = true) :
    α (event o s) = { α s with aborts := (α s).aborts + (if isReconnect o = true then 1 else 0) } := by
  by_cases h : isReconnect o = true <;> simp [α, event, List.filter_append, h, ho]

theorem ref_sendMsg (o : Out) (s : St) (hK : K o.kind = true) (hE : o.kind ≠ .capEnd)
    (hS : o.kind.sasl = true → isSaslState s.fsm = true) : Moves cfg K (α s) (α (sendMsg o s)) := by
  rw [α_sendMsg]; exact .single (.emit _ _ hK hE hS)

theorem foldl_sendMsg {β : Type} (f : β → Out) (l : List β) (s : St) :
    l.foldl (fun s x => sendMsg (f x) s) s = { s with fastq := s.fastq ++ l.map f } := by
  induction l generalizing s with
  | nil => simp
  | cons x xs ih => rw [List.foldl_cons, ih]; simp [sendMsg]

theorem sendSaslString_eq (bytes : List Nat) (s : St) :
    sendSaslString bytes s =
      { s with fastq := s.fastq ++ (authChunks Gen.Conn.authenticateChunkSize (b64encode bytes)).map Out.authPayload,
               saslSent := true } := by
  unfold sendSaslString; rw [foldl_sendMsg]

theorem requestCaps_eq (caps : List Str) (s : St) :
    requestCaps caps s = { s with req := union s.req (arrangeCaps s.ack caps),
                                  fastq := s.fastq ++ (fill capReqWidth (arrangeCaps s.ack caps)).map Out.capReq } := by
  unfold requestCaps; simp only [foldl_sendMsg]

theorem ref_queue (outs : List Out) (s : St)
    (h : ∀ o ∈ outs, K o.kind = true ∧ o.kind ≠ .capEnd ∧ (o.kind.sasl = true → isSaslState s.fsm = true)) :
    Moves cfg K (α s) (α { s with fastq := s.fastq ++ outs }) := by
  induction outs generalizing s with
  | nil => exact .of_eq (by simp [α])
  | cons o os ih =>
    obtain ⟨h1, h2, h3⟩ := h o (.head _)
    refine Moves.trans (ref_sendMsg o s h1 h2 h3) (Moves.trans (ih (sendMsg o s) fun x hx => h x (.tail _ hx)) (.of_eq ?_))
    simp [sendMsg]

theorem ref_event (o : Out) (s : St) (ho : isSide o = true) : Moves cfg K (α s) (α (event o s)) := by
  rw [α_event _ _ ho]
  by_cases h : isReconnect o = true
  · simp only [h, if_true]; exact .single (.abort _)
  · simp only [h]; exact .of_eq (by simp)

/-- a handler result refines `Moves` -/
def Ref (cfg : Cfg) (K : Kind → Bool) (s : St) (r : R) : Prop := Moves cfg K (α s) (α r.st)

theorem Ref.bind {s : St} {r : R} {f : St → R} (h1 : Ref cfg K s r)
    (h2 : r.exc = none → Ref cfg K r.st (f r.st)) : Ref cfg K s (r.bind f) := by
  unfold R.bind
  cases h : r.exc with
  | some e => simpa [h] using h1
  | none => exact Moves.trans h1 (h2 h)

theorem Ref.of_α_eq {s s' : St} {r : R} (hr : Ref cfg K s' r) (h : α s' = α s) : Ref cfg K s r := by
  unfold Ref at *; rw [← h]; exact hr

theorem Ref.ite {c : Prop} [Decidable c] {s : St} {a b : R} (h1 : c → Ref cfg K s a) (h2 : ¬ c → Ref cfg K s b) :
    Ref cfg K s (if c then a else b) := by
  split
  · exact h1 ‹c›
  · exact h2 ‹¬ c›

theorem ref_ok (s : St) : Ref cfg K s (ok s) := .refl _
theorem ref_raise (e : String) (s : St) : Ref cfg K s (raise e s) := .refl _

theorem ref_expectState (l : List Fsm) (s : St) : Ref cfg K s (expectState l s) := by
  unfold expectState; split <;> exact .refl _

theorem expectState_ok {l : List Fsm} {s : St} (h : (expectState l s).exc = none) :
    (expectState l s).st = s ∧ l.contains s.fsm = true := by
  unfold expectState at h ⊢
  by_cases hc : l.contains s.fsm = true
  · rw [if_pos hc]; exact ⟨rfl, hc⟩
  · rw [if_neg hc] at h; simp [raise] at h

theorem Ref.expect {l : List Fsm} {s : St} {f : St → R} (h : l.contains s.fsm = true → Ref cfg K s (f s)) :
    Ref cfg K s ((expectState l s).bind f) :=
  Ref.bind (ref_expectState l s) fun he => by rw [(expectState_ok he).1]; exact h (expectState_ok he).2

theorem ref_onShutdown (s : St) : Ref cfg K s (onShutdown s) := by
  unfold onShutdown transition
  simp only [tab_toShutdown]
  exact .single (.shutdown _)

theorem ref_onSaslCap (s : St) (hack : s.ack.contains sSasl = true) (hauth : s.saslAuth = false)
    (hK : K .startSasl = true) : Ref cfg K s (onSaslCap s) := by
  unfold onSaslCap tableTransition
  cases h : Gen.Conn.onSaslCap.lookup s.fsm with
  | none => exact .refl _
  | some to => exact .single (.saslStart (α s) to (tab_saslCap _ _ h) hack hauth hK)

theorem ref_onSaslAuthFinished (s : St) : Ref cfg K s (onSaslAuthFinished s) := by
  unfold onSaslAuthFinished tableTransition
  cases h : Gen.Conn.onSaslAuthFinished.lookup s.fsm with
  | none => exact .refl _
  | some to => exact .single (.saslFinish (α s) to (tab_saslFin _ _ h))

theorem kinds_connectMsgs (cfg : Cfg) (n : Str) : (connectMsgs cfg n).map Out.kind = connectKinds cfg := by
  unfold connectMsgs connectKinds
  by_cases h : cfg.password.isEmpty = true <;> simp [h, Out.kind]

theorem queueConnectMessages_reset (cfg : Cfg) (s : St) (hf : s.fsm = Gen.Conn.fsmReset) :
    queueConnectMessages cfg s =
      { s with fastq := s.fastq ++ connectMsgs cfg s.nick, tried := s.tried ++ [s.nick], fsm := .INIT_CAP_NEGOTIATION } := by
  unfold queueConnectMessages transition
  simp only [hf, tab_guardInit, if_true, ok, tab_toInit]

theorem wanted_resetSasl (cfg : Cfg) (s : St) : (resetSasl cfg s).wanted.all isWanted = true := by
  unfold resetSasl
  simp only
  split
  · exact tab_wanted
  · exact tab_wanted_sasl

/-- the abstract state right after `Irc.reset()` / `Irc()` -/
def freshAbs (cfg : Cfg) (epoch aborts : Nat) (evOk wantedOk : Bool) (pol : List (Str × Str)) (forced : Bool) (sock : Nat)
    (conn : Bool) (host : Str) (bad : Bool) : Abs :=
  { fsm := .INIT_CAP_NEGOTIATION, saslAuth := false, afterConnect := false, endCount := 0, epoch := epoch,
    ackSasl := false, kinds := connectKinds cfg, aborts := aborts, acked := false, slowOk := true, evOk := evOk,
    wantedOk := wantedOk, policies := pol, forced := forced, sock := sock,
    sent := false, joinQ := false, conn := conn, host := host, bad := bad }

theorem α_ircReset (cfg : Cfg) (s : St) :
    α (ircReset cfg s) = freshAbs cfg (s.epoch + 1) (α s).aborts (α s).evOk true (α s).policies (α s).forced (α s).sock
      (α s).conn (α s).host (α s).bad := by
  rw [ircReset, queueConnectMessages_reset _ _ rfl]
  simp only [α, clearForReset, List.nil_append, kinds_connectMsgs, freshAbs, wanted_resetSasl cfg s]
  simp [sSasl, resetSasl]

theorem ref_ircReset (s : St) (h : cfg.realDriver = true) : Moves cfg K (α s) (α (ircReset cfg s)) := by
  rw [α_ircReset]; exact .single (.reset (α s) h)

theorem ref_connectTo (srv : Server) (s : St) (hr : cfg.realDriver = true) (hK : K .connPerm = true)
    (hj : s.slowq.contains .join = false)
    (hp : (dictGet s.db.policies srv.host).isSome = true → srv.forced = true ∨ (cfg.ssl && cfg.certValidation) = true) :
    Moves cfg K (α s) (α (connectTo cfg srv s)) := by
  unfold connectTo
  simp only
  split
  · rw [α_event _ _ rfl]
    have := Move.connFail (cfg := cfg) (K := K) (α s) srv.forced srv.host hr hK
    exact .single (by simpa [isReconnect, α] using this)
  · rw [α_event _ _ rfl]
    have := Move.conn (cfg := cfg) (K := K) (α s) srv.forced srv.host hr hK hj hp
    exact .single (by simpa [isReconnect, α] using this)

theorem dictGet_dictDel_eq {β : Type} (d : List (Str × β)) (h k : Str) :
    dictGet (dictDel d h) k = if k = h then none else dictGet d k := by
  induction d with
  | nil => simp [dictDel, dictGet]
  | cons p ps ih =>
    obtain ⟨k', v'⟩ := p
    by_cases hk : k' = h <;> by_cases he : k' = k <;> simp_all [dictDel, dictGet]

theorem applyStsPolicy_some {s s' : St} {srv srv' : Server} (h : applyStsPolicy s srv = some (srv', s')) :
    (dictGet s.db.policies srv.host = none ∧ srv' = srv ∧ s' = s) ∨
    (srv' = srv ∧ s' = { s with db := { s.db with policies := dictDel s.db.policies srv.host } }) ∨
    (∃ port, srv' = ⟨srv.host, port, srv.attempt, true⟩ ∧ s' = s) := by
  unfold applyStsPolicy at h
  split at h
  · rename_i hn; cases h; exact .inl ⟨hn, rfl, rfl⟩
  · split at h
    · split at h
      · cases h; exact .inr (.inl ⟨rfl, rfl⟩)
      · cases h; exact .inr (.inr ⟨_, rfl, rfl⟩)
    · cases h

theorem applySts_post {s s' : St} {srv srv' : Server} (h : applyStsPolicy s srv = some (srv', s')) :
    s'.slowq = s.slowq ∧
    ((dictGet s'.db.policies srv'.host).isSome = true → srv'.forced = true) := by
  rcases applyStsPolicy_some h with ⟨hn, rfl, rfl⟩ | ⟨rfl, rfl⟩ | ⟨_, rfl, rfl⟩
  · exact ⟨rfl, fun hc => by rw [hn] at hc; cases hc⟩
  · exact ⟨rfl, fun hc => by simp only [dictGet_dictDel_eq, if_true] at hc; cases hc⟩
  · exact ⟨rfl, fun _ => rfl⟩

theorem ref_applyStsPolicy {s s' : St} {srv srv' : Server} (h : applyStsPolicy s srv = some (srv', s')) :
    Moves cfg K (α s) (α s') := by
  rcases applyStsPolicy_some h with ⟨_, _, rfl⟩ | ⟨_, rfl⟩ | ⟨_, _, rfl⟩
  · exact .refl _
  · exact .single (.expire (α s) srv.host)
  · exact .refl _

/-- SocketDriver.reconnect without a given server (the only way the code connects at once) -/
theorem ref_drvConnect (s : St) (hr : cfg.realDriver = true) (hK : K .connPerm = true)
    (hj : s.slowq.contains .join = false) : Moves cfg K (α s) (α (drvConnect cfg none s)) := by
  unfold drvConnect
  simp only
  cases h : getNextServer cfg s with
  | none => exact .refl _
  | some p =>
    obtain ⟨x, s'⟩ := p
    simp only
    unfold getNextServer at h
    split at h
    · cases h
    · have h1 := ref_applyStsPolicy (cfg := cfg) (K := K) h
      have h1 : Moves cfg K (α s) (α s') := h1
      obtain ⟨q1, q2⟩ := applySts_post h
      refine Moves.trans h1 (ref_connectTo x s' hr hK (by rw [q1]; exact hj) ?_)
      intro hc; exact .inl (q2 hc)

theorem ref_drvDisconnect (s : St) : Moves cfg K (α s) (α (drvDisconnect s)) := by
  unfold drvDisconnect; split
  · rw [α_event _ _ rfl]
    have := Move.disc (cfg := cfg) (K := K) (α s)
    exact .single (by simpa [isReconnect, α] using this)
  · exact .refl _

theorem ircReset_frame (cfg : Cfg) (s : St) :
    (ircReset cfg s).drv = s.drv ∧ (ircReset cfg s).db = s.db ∧ (ircReset cfg s).ev = s.ev ∧ (ircReset cfg s).slowq = [] := by
  rw [ircReset, queueConnectMessages_reset _ _ rfl]
  exact ⟨rfl, rfl, rfl, rfl⟩

theorem initSt_frame (cfg : Cfg) (base : St) :
    (initSt cfg base).drv = base.drv ∧ (initSt cfg base).db = base.db ∧ (initSt cfg base).now = base.now ∧
    (initSt cfg base).slowq = [] := by
  rw [initSt, queueConnectMessages_reset _ _ rfl]
  exact ⟨rfl, rfl, rfl, rfl⟩

theorem realReconnect_wait_drv (cfg : Cfg) (srv : Option Server) (s : St) :
    (realReconnect cfg true srv s).drv.connected = false ∧ (realReconnect cfg true srv s).drv.sock = s.drv.sock := by
  simp only [realReconnect, if_true, drvSchedule, (ircReset_frame cfg _).1, drvDisconnect]
  split
  · exact ⟨rfl, rfl⟩
  · rename_i hc; exact ⟨by simpa using hc, rfl⟩

/-- SocketDriver.reconnect: `wait=False` is only ever called without a server argument -/
theorem ref_realReconnect (w : Bool) (srv : Option Server) (s : St) (h : cfg.realDriver = true)
    (hK : w = false → K .connPerm = true ∧ srv = none) : Moves cfg K (α s) (α (realReconnect cfg w srv s)) := by
  unfold realReconnect
  have h0 : α s = α ({ s with drv := { s.drv with attempt := s.drv.attempt + 1, scheduled := false } } : St) := rfl
  rw [h0]
  generalize ({ s with drv := { s.drv with attempt := s.drv.attempt + 1, scheduled := false } } : St) = s0
  have hr := Moves.trans (ref_drvDisconnect (cfg := cfg) (K := K) s0) (ref_ircReset _ h)
  cases w
  · obtain ⟨hk, rfl⟩ := hK rfl
    exact Moves.trans hr (ref_drvConnect _ h hk (by rw [(ircReset_frame cfg _).2.2.2]; rfl))
  · exact hr

theorem ref_drvReconnectGen (w : Bool) (srv : Option Server) (s : St) (hK : w = false → K .connPerm = true ∧ srv = none) :
    Moves cfg K (α s) (α (drvReconnect cfg w srv s)) := by
  unfold drvReconnect
  by_cases h : cfg.realDriver = true
  · simp only [h, if_true]
    exact Moves.trans (ref_event (.reconnect w srv) s rfl) (ref_realReconnect w srv _ h hK)
  · simp only [h]; exact ref_event _ s rfl

/-- `driver.reconnect(wait=True, …)`: never opens a socket at once -/
theorem ref_drvReconnect (w : Bool) (srv : Option Server) (s : St) (hw : w = true := by rfl) :
    Moves cfg K (α s) (α (drvReconnect cfg w srv s)) :=
  ref_drvReconnectGen w srv s (fun h => by rw [hw] at h; cases h)

theorem missing_α (s : St) : missing cfg (α s) = saslMissing cfg s := rfl

theorem ref_endCap (s : St) : Ref cfg K s (endCap cfg s) := by
  rw [endCap_eq]
  refine Ref.ite (fun _ => ref_drvReconnect _ _ s) fun hm => Ref.ite (fun hg => ?_) fun _ => .refl _
  have := Move.capEnd (cfg := cfg) (K := K) (α s) (tab_guardCapEnd _ hg) (by simpa [missing_α] using hm)
  exact .single (by simpa [α, sendMsg, ok, Out.kind] using this)

theorem ref_sendSaslString (bytes : List Nat) (s : St) (hK : K .payload = true) (hS : isSaslState s.fsm = true) :
    Moves cfg K (α s) (α (sendSaslString bytes s)) := by
  rw [sendSaslString_eq]
  refine Moves.trans (ref_queue _ s fun o ho => ?_) (.single (.respond _ hS hK))
  obtain ⟨c, _, rfl⟩ := List.mem_map.mp ho
  exact ⟨hK, by simp [Out.kind], fun _ => hS⟩

theorem Moves.scramStep {a : Abs} {x : St} (n : Nat) (h : Moves cfg K a (α x)) : Moves cfg K a (α { x with scramStep := n }) := h

theorem ref_sendSaslString_with (bytes : List Nat) (s : St) (n : Nat) (hK : K .payload = true) (hS : isSaslState s.fsm = true) :
    Moves cfg K (α s) (α ({ sendSaslString bytes s with scramStep := n } : St)) :=
  (ref_sendSaslString bytes s hK hS).scramStep n

theorem ref_tryNextSasl (s : St) (hK : K .authMech = true) : Ref cfg K s (tryNextSasl cfg s) := by
  unfold tryNextSasl
  refine Ref.expect fun hc => ?_
  have hsasl := tab_tryNext _ hc
  cases hn : s.saslNext with
  | cons m rest =>
    simp only
    have h1 : Moves cfg K (α s) (α ({ s with saslCur := some m, saslNext := rest, saslSent := false, scramStep := 0 } : St)) :=
      .single (.unsent (α s))
    exact Moves.trans h1 (ref_sendMsg _ _ hK (by simp [Out.kind]) (fun _ => hsasl))
  | nil =>
    simp only
    by_cases hr : cfg.required = true
    · simp only [hr, if_true]; exact ref_drvReconnect _ _ s
    · simp only [hr]
      exact Ref.bind (Ref.of_α_eq (ref_onSaslAuthFinished _) rfl) fun _ => Ref.ite (fun _ => ref_endCap _) fun _ => .refl _

theorem ref_maybeStartSasl (s : St) (hK : K .authMech = true) (hK2 : K .startSasl = true) :
    Ref cfg K s (maybeStartSasl cfg s) := by
  unfold maybeStartSasl
  split
  · rename_i hc
    simp only [Bool.and_eq_true, Bool.not_eq_true', ] at hc
    refine Ref.bind (ref_onSaslCap s hc.2 hc.1 hK2) fun _ => ?_
    split
    · exact .refl _
    · exact ref_tryNextSasl _ hK
    · exact Ref.of_α_eq (ref_tryNextSasl _ hK) rfl
  · exact .refl _

theorem ref_capUpkeep (s : St) (hK : K .authMech = true) (hK2 : K .startSasl = true) : Ref cfg K s (capUpkeep cfg s) := by
  unfold capUpkeep
  refine Ref.expect fun _ => ?_
  exact Ref.ite (fun _ => ref_drvReconnect _ _ s) fun _ => Ref.ite
    (fun _ => Ref.ite (fun _ => Ref.ite (fun _ => ref_maybeStartSasl _ hK hK2) fun _ => .refl _)
      fun _ => Ref.ite (fun _ => ref_endCap _) fun _ => .refl _)
    fun _ => .refl _

theorem ref_scramRespond (m : Str) (s : St) (hK : K .payload = true) (hS : isSaslState s.fsm = true) :
    Ref cfg K s (scramRespond cfg m s) := by
  have abort : Ref cfg K s (ok (sendMsg .authAbort s)) := ref_sendMsg _ s hK (by decide) (fun _ => hS)
  unfold scramRespond
  refine Ref.ite (fun _ => Ref.ite (fun _ => ref_sendSaslString_with _ s 1 hK hS) fun _ => abort) fun _ =>
    Ref.ite (fun _ => ?_) fun _ => Ref.ite (fun _ => Ref.ite (fun _ => ref_sendSaslString_with _ s 3 hK hS) fun _ => abort) fun _ => .refl _
  split
  · exact ref_sendSaslString_with _ s 2 hK hS
  · exact abort

theorem ref_authRespond (n : Nat) (s : St) (hK : K .payload = true) (hS : isSaslState s.fsm = true) :
    Ref cfg K s (authRespond cfg n s) := by
  have plain (bytes : List Nat) : Ref cfg K s (ok (sendSaslString bytes s)) := ref_sendSaslString bytes s hK hS
  unfold authRespond
  split
  · exact .refl _
  · refine Ref.ite (fun _ => Ref.ite (fun _ => plain _) fun _ => Ref.ite (fun _ => ?_) fun _ => ref_sendMsg _ s hK (by decide) (fun _ => hS))
      fun _ => Ref.ite (fun _ => plain _) fun _ => Ref.ite (fun _ => ref_scramRespond _ s hK hS) fun _ =>
        Ref.ite (fun _ => plain _) fun _ => .refl _
    exact Moves.trans (ref_sendMsg .authOpaque s hK (by decide) (fun _ => hS))
      (.single (.respond _ (by simpa [α, sendMsg] using hS) hK))

theorem ref_doAuthenticate (cmd : Str) (args : List Str) (s : St) (hK : K .payload = true) :
    Ref cfg K s (doAuthenticate cfg cmd args s) := by
  unfold doAuthenticate
  refine Ref.expect fun hc => ?_
  have hsasl := tab_doAuth _ hc
  split
  · exact .of_eq rfl
  · split
    · exact .of_eq rfl
    · split
      · exact .of_eq rfl
      · split
        · exact .of_eq rfl
        · exact Ref.of_α_eq (ref_authRespond _ _ hK (by simpa using hsasl)) rfl

theorem ref_do903 (s : St) (hK : K .authPerm = true) : Ref cfg K s (do903 cfg s) := by
  unfold do903
  refine Ref.expect fun hc => ?_
  have hsasl := tab_do903 _ hc
  by_cases hsent : s.saslSent = true
  · rw [if_neg (by rw [hsent]; decide)]
    have h1 : Moves cfg K (α s) (α ({ s with saslAuth := true } : St)) := .single (.authOk (α s) hsasl hsent hK)
    exact Ref.bind (Moves.trans h1 (ref_onSaslAuthFinished _)) fun _ => Ref.ite (fun _ => ref_endCap _) fun _ => .refl _
  · have : s.saslSent = false := by simpa using hsent
    rw [if_pos (by rw [this]; rfl)]
    exact .refl _

theorem ref_do908 (args : List Str) (s : St) : Ref cfg K s (do908 args s) := by
  unfold do908; split <;> exact .refl _

theorem α_setLs (k : Str) (v : Option Str) (s : St) : α (setLs k v s) = α s := rfl

theorem ref_onCapSts (policy : Str) (s : St) (hK : K .storePerm = true) : Moves cfg K (α s) (α (onCapSts cfg policy s)) := by
  unfold onCapSts
  split
  · exact .refl _
  · split
    · rename_i hsec
      exact .single (.store (α s) (by simpa [aSecure, secureConn, α] using hsec) _ hK)
    · exact Moves.trans (ref_onShutdown s) (ref_drvReconnect _ _ _)

theorem ref_addCapability (s : St) (item : Str) (hK : K .storePerm = true) : Moves cfg K (α s) (α (addCapability cfg s item)) := by
  unfold addCapability
  split
  · split
    · rw [α_setLs]; exact ref_onCapSts _ s hK
    · exact .of_eq rfl
  · split
    · rw [α_setLs]; exact ref_drvReconnect _ _ s
    · exact .of_eq rfl

theorem ref_addCapabilities (caps : Str) (s : St) (hK : K .storePerm = true) : Moves cfg K (α s) (α (addCapabilities cfg caps s)) := by
  unfold addCapabilities
  generalize splitWs caps = l
  induction l generalizing s with
  | nil => exact .refl _
  | cons c cs ih => simp only [List.foldl_cons]; exact Moves.trans (ref_addCapability s c hK) (ih _)

theorem ref_requestCaps (caps : List Str) (s : St) (hK : K .capReq = true) :
    Moves cfg K (α s) (α (requestCaps caps s)) := by
  rw [requestCaps_eq]
  show Moves cfg K (α ({ s with req := union s.req (arrangeCaps s.ack caps) } : St)) _
  refine ref_queue _ _ fun o ho => ?_
  obtain ⟨l, _, rfl⟩ := List.mem_map.mp ho
  exact ⟨hK, by simp [Out.kind], by simp [Out.kind, Kind.sasl]⟩

theorem ref_capLsFinal (s : St) (hK : K .capReq = true) : Ref cfg K s (capLsFinal cfg s) := by
  unfold capLsFinal
  split
  · exact .refl _
  · refine Ref.expect fun _ => ?_
    split
    · exact Moves.trans (ref_requestCaps _ _ hK) (ref_endCap _)
    · exact ref_requestCaps _ _ hK

theorem ref_doCapLs (args : List Str) (s : St) (hK : K .capReq = true) (hS : K .storePerm = true) : Ref cfg K s (doCapLs cfg args s) := by
  unfold doCapLs
  split
  · split
    · exact .refl _
    · exact ref_addCapabilities _ s hS
  · exact Moves.trans (ref_addCapabilities _ s hS) (ref_capLsFinal _ hK)
  · exact .refl _

/-- the acknowledged set changes and `saslAcked` is raised when `sasl` is in the new set -/
theorem ref_ackGain (l : List Str) (s : St) (hK : K .ackPerm = true) :
    Moves cfg K (α s) (α ({ s with ack := l, saslAcked := s.saslAcked || l.contains sSasl } : St)) := by
  by_cases h : sSasl ∈ l
  · have e : α ({ s with ack := l, saslAcked := s.saslAcked || l.contains sSasl } : St)
        = { α s with ackSasl := true, acked := true } := by simp [α, h]
    rw [e]; exact .single (.ackGain _ hK)
  · have e : α ({ s with ack := l, saslAcked := s.saslAcked || l.contains sSasl } : St)
        = { α s with ackSasl := false } := by simp [α, h]
    rw [e]; exact .single (.ackLose _)

theorem ref_ackFilter (p : Str → Bool) (s : St) :
    Moves cfg K (α s) (α ({ s with ack := s.ack.filter p } : St)) := by
  by_cases h : sSasl ∈ s.ack.filter p
  · have h2 : sSasl ∈ s.ack := (List.mem_filter.mp h).1
    have e : α ({ s with ack := s.ack.filter p } : St) = α s := by
      have h1 : (s.ack.filter p).contains sSasl = true := by simpa using h
      have h3 : s.ack.contains sSasl = true := by simpa using h2
      simp only [α, h1, h3]
    rw [e]; exact .refl _
  · have e : α ({ s with ack := s.ack.filter p } : St) = { α s with ackSasl := false } := by
      have h1 : (s.ack.filter p).contains sSasl = false := by simpa using h
      simp only [α, h1]
    rw [e]; exact .single (.ackLose _)

theorem ref_doCapAckNak (isAck : Bool) (args : List Str) (s : St) (hK : K .authMech = true) (hK2 : K .startSasl = true)
    (hK3 : isAck = true → K .ackPerm = true) : Ref cfg K s (doCapAckNak cfg isAck args s) := by
  unfold doCapAckNak
  split
  · simp only
    split
    · exact .refl _
    · split
      · rename_i hia; exact Moves.trans (ref_ackGain _ s (hK3 hia)) (ref_capUpkeep _ hK hK2)
      · exact Ref.of_α_eq (ref_capUpkeep _ hK hK2) rfl
  · exact .refl _

theorem ref_doCapDel (args : List Str) (s : St) : Ref cfg K s (doCapDel args s) := by
  unfold doCapDel
  split
  · simp only
    split
    · exact .refl _
    · generalize splitWs _ = l
      show Moves cfg K (α s) (α (l.foldl _ s))
      induction l generalizing s with
      | nil => exact .refl _
      | cons c cs ih =>
        simp only [List.foldl_cons]
        refine Moves.trans ?_ (ih _)
        show Moves cfg K (α s) (α ({ s with ack := s.ack.filter (· != capName c) } : St))
        exact ref_ackFilter _ s
  · exact .refl _

theorem ref_capNewFinal (s : St) (hK : K .capReq = true) : Moves cfg K (α s) (α (capNewFinal s)) := by
  unfold capNewFinal
  split
  · exact .refl _
  · split
    · exact .refl _
    · exact ref_requestCaps _ _ hK

theorem ref_doCapNew (args : List Str) (s : St) (hK : K .capReq = true) (hS : K .storePerm = true) : Ref cfg K s (doCapNew cfg args s) := by
  unfold doCapNew
  split
  · split
    · exact .refl _
    · exact Moves.trans (ref_addCapabilities _ s hS) (ref_capNewFinal _ hK)
  · exact .refl _

theorem α_nickFallback (s : St) : α (nickFallback cfg s).2 = α s := by
  unfold nickFallback; split <;> rfl

theorem α_getNextNick (s : St) : α (getNextNick cfg s).2 = α s := by
  unfold getNextNick
  split
  · split
    · rw [α_nickFallback]; rfl
    · rfl
  · exact α_nickFallback s

theorem ref_do43x (s : St) (hK : K .nick = true) : Ref cfg K s (do43x cfg s) := by
  unfold do43x
  split
  · exact .refl _
  · have h := α_getNextNick (cfg := cfg) s
    split
    · rename_i n s' he
      rw [he] at h
      simp only at h
      split
      · exact .of_eq h.symm
      · exact Moves.trans (.of_eq h.symm) (ref_sendMsg _ _ hK (by simp [Out.kind]) (by simp [Out.kind, Kind.sasl]))
    · rename_i s' he
      rw [he] at h
      simp only at h
      exact Moves.trans (.of_eq h.symm) (ref_sendMsg _ _ hK (by simp [Out.kind]) (by simp [Out.kind, Kind.sasl]))

theorem ref_do375 (s : St) : Ref cfg K s (do375 cfg s) := by
  rw [do375_eq]
  exact Ref.ite (fun _ => ref_drvReconnect _ _ s) fun hm => Ref.ite
    (fun hg => .single (.startMotd (α s) (tab_guardStartMotd _ hg) (by simpa [missing_α] using hm))) fun _ => .refl _

theorem ref_do376 (s : St) : Ref cfg K s (do376 cfg s) := by
  rw [do376_eq]
  refine Ref.ite (fun _ => ref_drvReconnect _ _ s) fun hm => Ref.ite (fun hg => ?_) fun _ => .refl _
  have hm' : missing cfg (α s) = false := by simpa [missing_α] using hm
  exact Moves.trans (.single (.endMotd (α s) (tab_guardEndMotd _ hg) hm')) (.single (.setAfterConnect _ rfl hm'))

theorem ref_doPing (args : List Str) (s : St) (hK : K .pong = true) : Ref cfg K s (doPing args s) := by
  unfold doPing
  split
  · exact .refl _
  · exact ref_sendMsg _ s hK (by simp [Out.kind]) (by simp [Out.kind, Kind.sasl])

theorem ref_doError (args : List Str) (s : St) (hK : K .connPerm = true) : Ref cfg K s (doError cfg args s) := by
  unfold doError
  split
  · exact .refl _
  · split
    · exact ref_drvReconnectGen _ _ s (fun _ => ⟨hK, rfl⟩)
    · split
      · exact ref_drvReconnect _ _ s
      · exact .refl _

theorem ref_doNick (n : Str) (args : List Str) (s : St) : Ref cfg K s (doNick n args s) := by
  unfold doNick
  split
  · split
    · exact .refl _
    · exact .of_eq rfl
  · exact .refl _

theorem ref_do002 (args : List Str) (s : St) : Ref cfg K s (do002 args s) := by
  unfold do002
  split
  · exact .refl _
  · split <;> exact .refl _

/-- what a handler may do by itself: the kinds of message it may put on the fast queue (CAP END has its own move) and the
guarded moves it may make (the `…Perm` kinds and `startSasl`) -/
def handlerKinds : Handler → Kind → Bool
  | .capLs, k => k = .capReq || k = .storePerm
  | .capNew, k => k = .capReq || k = .storePerm
  | .capAck, k => k = .authMech || k = .startSasl || k = .ackPerm
  | .capNak, k => k = .authMech || k = .startSasl
  | .authenticate, k => k = .payload
  | .n904to907, k => k = .authMech
  | .n43x, k => k = .nick
  | .ping, k => k = .pong
  | .error, k => k = .connPerm
  | .n903, k => k = .authPerm
  | .n376, k => k = .joinPerm
  | _, _ => false

theorem ref_runHandler (m : Msg) (s : St) : Ref cfg (handlerKinds (dispatch m)) s (runHandler cfg m s) := by
  unfold runHandler
  cases h : dispatch m <;> simp only
  case capLs => exact ref_doCapLs _ _ (by decide) (by decide)
  case capAck => exact ref_doCapAckNak _ _ _ (by decide) (by decide) (fun _ => by decide)
  case capNak => exact ref_doCapAckNak _ _ _ (by decide) (by decide) (fun h => by cases h)
  case capNew => exact ref_doCapNew _ _ (by decide) (by decide)
  case capDel => exact ref_doCapDel _ _
  case authenticate => exact ref_doAuthenticate _ _ _ (by decide)
  case n903 => exact ref_do903 _ (by decide)
  case n904to907 => exact ref_tryNextSasl _ (by decide)
  case n908 => exact ref_do908 _ _
  case n002 => exact ref_do002 _ _
  case n375 => exact ref_do375 _
  case n376 => exact ref_do376 _
  case n43x => exact ref_do43x _ (by decide)
  case ping => exact ref_doPing _ _ (by decide)
  case error => exact ref_doError _ _ (by decide)
  case nick => exact ref_doNick _ _ _
  case none => exact .refl _

/-- the nick-setting prelude of feedMsg changes nothing but `nick` -/
theorem nickSetter_st (m : Msg) (s : St) : ∃ a, (nickSetter m s).st = { s with nick := a } := by
  unfold nickSetter; split
  · split
    · exact ⟨s.nick, rfl⟩
    · exact ⟨_, rfl⟩
  · exact ⟨s.nick, rfl⟩

theorem nickSetter_fastq (m : Msg) (s : St) : (nickSetter m s).st.fastq = s.fastq := by
  obtain ⟨a, h⟩ := nickSetter_st m s; rw [h]
theorem nickSetter_slowq (m : Msg) (s : St) : (nickSetter m s).st.slowq = s.slowq := by
  obtain ⟨a, h⟩ := nickSetter_st m s; rw [h]
theorem nickSetter_fsm (m : Msg) (s : St) : (nickSetter m s).st.fsm = s.fsm := by
  obtain ⟨a, h⟩ := nickSetter_st m s; rw [h]
theorem nickSetter_sock (m : Msg) (s : St) : (nickSetter m s).st.drv.sock = s.drv.sock := by
  obtain ⟨a, h⟩ := nickSetter_st m s; rw [h]

theorem ref_nickSetter (m : Msg) (s : St) : Ref cfg K s (nickSetter m s) := by
  unfold nickSetter
  split
  · split
    · exact .refl _
    · exact .of_eq rfl
  · exact .refl _

/-- Irc.do376 returned normally: it completed (`afterConnect`), or it dropped the connection -/
theorem do376_post (s : St) (h : (do376 cfg s).exc = none) :
    (do376 cfg s).st.afterConnect = true ∨ (do376 cfg s).st.drv.connected = false ∨ cfg.realDriver = false := by
  rw [do376_eq] at h ⊢
  by_cases hm : saslMissing cfg s = true
  · rw [if_pos hm]
    by_cases hr : cfg.realDriver = true
    · refine .inr (.inl ?_)
      simp only [drvReconnect, hr, if_true, ok]
      exact (realReconnect_wait_drv cfg none _).1
    · exact .inr (.inr (by simpa using hr))
  · rw [if_neg hm] at h ⊢
    by_cases hg : Gen.Conn.guardEndMotd.contains s.fsm = true
    · rw [if_pos hg]; exact .inl rfl
    · rw [if_neg hg] at h; cases h

theorem ref_callbacks (m : Msg) (s : St) (hK : dispatch m = .n376 → K .joinPerm = true)
    (h : dispatch m = .n376 → s.afterConnect = true ∨ s.drv.connected = false ∨ cfg.realDriver = false) :
    Moves cfg K (α s) (α (callbacks cfg m s)) := by
  unfold callbacks; split
  · rename_i hc
    rw [α_queueJoin]
    exact .single (.joinQueue (α s) (h hc.2) (hK hc.2))
  · exact .refl _

theorem ref_feedMsg (m : Msg) (s : St) : Ref cfg (handlerKinds (dispatch m)) s (feedMsg cfg m s) := by
  unfold feedMsg
  refine Ref.bind (ref_nickSetter m s) fun _ => ?_
  refine Ref.bind (ref_runHandler m _) fun hx => ?_
  refine ref_callbacks m _ (fun hd => by rw [hd]; rfl) fun hd => ?_
  unfold runHandler at hx ⊢
  rw [hd] at hx ⊢
  exact do376_post _ hx

/-- `feedMsg` ends after the nick-setting prelude if that raised, after the handler if that raised, else after the callbacks -/
theorem feedMsg_st (cfg : Cfg) (m : Msg) (s : St) :
    (feedMsg cfg m s).st = (nickSetter m s).st ∨
    ((runHandler cfg m (nickSetter m s).st).exc ≠ none ∧
      (feedMsg cfg m s).st = (runHandler cfg m (nickSetter m s).st).st) ∨
    ((runHandler cfg m (nickSetter m s).st).exc = none ∧
      (feedMsg cfg m s).st = callbacks cfg m (runHandler cfg m (nickSetter m s).st).st) := by
  unfold feedMsg R.bind
  cases (nickSetter m s).exc with
  | some e => exact .inl rfl
  | none =>
    simp only
    cases (runHandler cfg m (nickSetter m s).st).exc with
    | some e => exact .inr (.inl ⟨nofun, rfl⟩)
    | none => exact .inr (.inr ⟨rfl, rfl⟩)

end C08
