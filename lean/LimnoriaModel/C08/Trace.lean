/-
C08 — reachable states of a stub-driver history (`Reach`) and of a real-driver history (`DReach`), transfer of the
abstract invariants to them, and the concrete analysis of the handlers that put CAP REQ / AUTHENTICATE on the queue.
-/
import LimnoriaModel.C08.Lemmas
namespace C08
open Py
open Gen.Conn (Fsm)

variable {cfg : Cfg} {K : Kind → Bool} {a b : Abs}

/-- the states a stub-driver harness sees between two operations -/
inductive Reach (cfg : Cfg) (base : St) : St → Prop
  | start : Reach cfg base (start cfg base).st
  | op {s : St} (o : Op) : Reach cfg base s → Reach cfg base (applyOp cfg s o).st

theorem kinds_grown (P : Kind → Prop) (g : Grown cfg K a b)
    (ha : ∀ k ∈ a.kinds, P k) (hEnd : P .capEnd) (hK : ∀ k, K k = true → P k) (hC : ∀ k ∈ connectKinds cfg, P k) :
    ∀ k ∈ b.kinds, P k := by
  obtain ⟨extra, hx, hcase⟩ := g
  intro k hk
  have hext : ∀ k ∈ extra, P k := fun k hk => by
    rcases hx k hk with rfl | h
    · exact hEnd
    · exact hK k h
  rcases hcase with ⟨_, h2, _⟩ | ⟨_, _, h2, _⟩ <;> rw [h2] at hk <;> simp only [List.mem_append] at hk
  · rcases hk with hk | hk
    · exact ha k hk
    · exact hext k hk
  · rcases hk with hk | hk
    · exact hC k hk
    · exact hext k hk

/-- no CAP REQ on the fast queue -/
def NoReqQ (s : St) : Prop := Kind.capReq ∉ (α s).kinds

theorem noReqQ_of_moves {s s' : St} (hK : K .capReq = false)
    (m : Moves cfg K (α s) (α s')) (h : NoReqQ s) : NoReqQ s' := by
  intro hc
  have := kinds_grown (fun k => k ≠ .capReq) (grown_of_moves m) (fun k hk e => h (e ▸ hk)) (by decide)
    (fun k hk e => by rw [e, hK] at hk; cases hk)
    (fun k hk e => by rcases connectKinds_mem hk with rfl | rfl <;> cases e)
  exact this _ hc rfl

theorem noReqQ_nil {s : St} (h : s.fastq = []) : NoReqQ s := by simp [NoReqQ, α, h]

theorem capReq_kind {s : St} {ws : List Str} (h : Out.capReq ws ∈ s.fastq) : Kind.capReq ∈ (α s).kinds := by
  simp only [α, List.mem_map]; exact ⟨_, h, rfl⟩

/-! ### CAP REQ lines: only advertised + wanted capabilities, echo-message next to labeled-response -/

def ReqOk (s : St) : Prop :=
  ∀ ws, Out.capReq ws ∈ s.fastq →
    (∀ w ∈ ws, w ∈ keys s.ls ∧ w ∈ s.wanted) ∧ (sEcho ∈ ws → sLabeled ∈ ws ∨ sLabeled ∈ s.ack)

theorem reqOk_of_noReqQ {s : St} (h : NoReqQ s) : ReqOk s := fun _ hw => absurd (capReq_kind hw) h

theorem reqOk_requestCaps {s : St} (h : NoReqQ s) : ReqOk (requestCaps (newCaps s) s) := by
  rw [requestCaps_eq]
  intro ws hw
  simp only [List.mem_append, List.mem_map] at hw
  rcases hw with hw | ⟨line, hl, he⟩
  · exact absurd (capReq_kind hw) h
  · injection he with he; subst he
    refine ⟨fun w hwl => ?_, fun hecho => echo_line hl hecho⟩
    have := mem_newCaps (mem_arrangeCaps (mem_fill hl w hwl))
    exact ⟨this.1, this.2.1⟩

theorem noReqQ_requestCaps_empty {caps : List Str} {s : St} (h : NoReqQ s)
    (he : (fill capReqWidth (arrangeCaps s.ack caps)).isEmpty = true) : NoReqQ (requestCaps caps s) := by
  have : fill capReqWidth (arrangeCaps s.ack caps) = [] := by simpa using he
  rw [requestCaps_eq, this]
  simpa [NoReqQ, α] using h

theorem reqOk_callbacks {m : Msg} {s : St} (h : ReqOk s) : ReqOk (callbacks cfg m s) := by
  unfold callbacks; split
  · exact h
  · exact h

def kNone : Kind → Bool := fun _ => false
def kStore : Kind → Bool := fun k => k = .storePerm

theorem reqOk_capLsFinal {s : St} (h : NoReqQ s) : ReqOk (capLsFinal cfg s).st := by
  unfold capLsFinal
  split
  · exact reqOk_of_noReqQ h
  · unfold R.bind
    cases he : (expectState Gen.Conn.expectDoCapLs s).exc with
    | some e =>
      simp only
      have : (expectState Gen.Conn.expectDoCapLs s).st = s := by unfold expectState; split <;> rfl
      rw [this]; exact reqOk_of_noReqQ h
    | none =>
      simp only
      rw [(expectState_ok he).1]
      split
      · rename_i hemp
        exact reqOk_of_noReqQ (noReqQ_of_moves (K := kNone) rfl (ref_endCap _) (noReqQ_requestCaps_empty h hemp))
      · exact reqOk_requestCaps h

theorem reqOk_doCapLs {args : List Str} {s : St} (h : NoReqQ s) : ReqOk (doCapLs cfg args s).st := by
  unfold doCapLs
  split
  · split
    · exact reqOk_of_noReqQ h
    · exact reqOk_of_noReqQ (noReqQ_of_moves (K := kStore) (by decide) (ref_addCapabilities _ s (by decide)) h)
  · exact reqOk_capLsFinal (noReqQ_of_moves (K := kStore) (by decide) (ref_addCapabilities _ s (by decide)) h)
  · exact reqOk_of_noReqQ h

theorem reqOk_doCapNew {args : List Str} {s : St} (h : NoReqQ s) : ReqOk (doCapNew cfg args s).st := by
  unfold doCapNew
  split
  · split
    · exact reqOk_of_noReqQ h
    · have h2 := fun caps => noReqQ_of_moves (K := kStore) (by decide) (ref_addCapabilities (cfg := cfg) caps s (by decide)) h
      simp only [ok]
      unfold capNewFinal
      split
      · exact reqOk_of_noReqQ (h2 _)
      · split
        · exact reqOk_of_noReqQ (h2 _)
        · exact reqOk_requestCaps (h2 _)
  · exact reqOk_of_noReqQ h

theorem reqOk_runHandler {m : Msg} {s : St} (h : NoReqQ s) : ReqOk (runHandler cfg m s).st := by
  by_cases h1 : dispatch m = .capLs
  · unfold runHandler; rw [h1]; exact reqOk_doCapLs h
  · by_cases h2 : dispatch m = .capNew
    · unfold runHandler; rw [h2]; exact reqOk_doCapNew h
    · refine reqOk_of_noReqQ (noReqQ_of_moves ?_ (ref_runHandler m s) h)
      revert h1 h2; cases dispatch m <;> simp [handlerKinds]

theorem reqOk_feedMsg {m : Msg} {s : St} (h : s.fastq = []) : ReqOk (feedMsg cfg m s).st := by
  have h0 : NoReqQ (nickSetter m s).st := noReqQ_nil (by rw [nickSetter_fastq]; exact h)
  rcases feedMsg_st cfg m s with h | ⟨_, h⟩ | ⟨_, h⟩ <;> rw [h]
  · exact reqOk_of_noReqQ h0
  · exact reqOk_runHandler h0
  · exact reqOk_callbacks (reqOk_runHandler h0)

/-! ### credentials only as the answer to a server AUTHENTICATE inside a SASL state -/

theorem doAuthenticate_not_sasl {cmd : Str} {args : List Str} {s : St} (h : isSaslState s.fsm = false) :
    (doAuthenticate cfg cmd args s).st = s := by
  unfold doAuthenticate expectState
  by_cases hc : Gen.Conn.expectDoAuthenticate.contains s.fsm = true
  · have := tab_doAuth _ hc; rw [h] at this; cases this
  · rw [if_neg hc]; rfl

theorem callbacks_fastq (m : Msg) (s : St) : (callbacks cfg m s).fastq = s.fastq := by
  unfold callbacks; split <;> rfl

/-- the kinds on the fast queue after `feedMsg` from an empty queue -/
theorem kinds_feedMsg {m : Msg} {s : St} (h : s.fastq = []) :
    ∀ k ∈ (α (feedMsg cfg m s).st).kinds, k = .capEnd ∨ k = .connect ∨ k = .nick ∨ handlerKinds (dispatch m) k = true := by
  refine kinds_grown _ (grown_of_moves (ref_feedMsg m s)) ?_ (.inl rfl) (fun k hk => .inr (.inr (.inr hk))) ?_
  · simp [α, h]
  · intro k hk; rcases connectKinds_mem hk with rfl | rfl
    · exact .inr (.inl rfl)
    · exact .inr (.inr (.inl rfl))

theorem payload_feedMsg {m : Msg} {s : St} (h : s.fastq = [])
    (hp : Kind.payload ∈ (α (feedMsg cfg m s).st).kinds) : dispatch m = .authenticate ∧ isSaslState s.fsm = true := by
  have hd : dispatch m = .authenticate := by
    rcases kinds_feedMsg h _ hp with h1 | h1 | h1 | h1
    · cases h1
    · cases h1
    · cases h1
    · revert h1; cases dispatch m <;> simp [handlerKinds]
  refine ⟨hd, ?_⟩
  cases hs : isSaslState s.fsm with
  | true => rfl
  | false =>
    exfalso
    have hs' : isSaslState (nickSetter m s).st.fsm = false := by rw [nickSetter_fsm]; exact hs
    have hr : (runHandler cfg m (nickSetter m s).st).st = (nickSetter m s).st := by
      unfold runHandler; rw [hd]; exact doAuthenticate_not_sasl hs'
    have : (feedMsg cfg m s).st.fastq = [] := by
      rcases feedMsg_st cfg m s with e | ⟨_, e⟩ | ⟨_, e⟩ <;> rw [e]
      · rw [nickSetter_fastq]; exact h
      · rw [hr, nickSetter_fastq]; exact h
      · rw [callbacks_fastq, hr, nickSetter_fastq]; exact h
    simp [α, this] at hp

theorem α_drain (s : St) : α (drain s) = { α s with kinds := [], aborts := 0, slowOk := true, evOk := true, joinQ := false } := by
  simp [α, drain]

theorem α_initSt (cfg : Cfg) (base : St) :
    α (initSt cfg base) = freshAbs cfg 0 0 true true (α base).policies (α base).forced (α base).sock
      (α base).conn (α base).host (α base).bad := by
  rw [initSt, queueConnectMessages_reset _ _ rfl]
  simp only [α, clearForReset, List.nil_append, kinds_connectMsgs, freshAbs, wanted_resetSasl cfg base]
  simp [sSasl, resetSasl]

/-- an invariant of the abstract state that holds of a fresh state, survives the queue kinds being emptied, and ignores the
abort count and the side flags -/
structure AbsInv (cfg : Cfg) (I : Abs → Prop) : Prop where
  move : ∀ {K : Kind → Bool} {a b : Abs}, I a → Move cfg K a b → I b
  fresh : ∀ e n o w p f k c h b, I (freshAbs cfg e n o w p f k c h b)
  drain : ∀ a, I a → I { a with kinds := [], aborts := 0, slowOk := true, evOk := true, joinQ := false }
  /-- the invariant does not look at the event bookkeeping … -/
  side : ∀ a n b1 b2, I a → I { a with aborts := n, slowOk := b1, evOk := b2 }
  /-- … and survives the queue being emptied (the driver wrote it to the socket) -/
  dropKinds : ∀ a b1 b2, I a → I { a with kinds := [], slowOk := b1, joinQ := false, bad := b2 }

theorem AbsInv.moves {I : Abs → Prop} (inv : AbsInv cfg I) {K : Kind → Bool} {a b : Abs}
    (h : I a) (m : Moves cfg K a b) : I b :=
  m.preserves inv.move h

theorem AbsInv.reach {I : Abs → Prop} (inv : AbsInv cfg I) {base s : St} (r : Reach cfg base s) : I (α s) := by
  induction r with
  | start =>
    show I (α (C08.drain (initSt cfg base)))
    rw [α_drain, α_initSt]; exact inv.drain _ (inv.fresh _ _ _ _ _ _ _ _ _ _)
  | op o _ ih =>
    cases o with
    | msg m =>
      show I (α (C08.drain (feedMsg cfg m _).st))
      rw [α_drain]; exact inv.drain _ (inv.moves ih (ref_feedMsg m _))
    | reset =>
      show I (α (C08.drain (ircReset cfg _)))
      rw [α_drain, α_ircReset]; exact inv.drain _ (inv.fresh _ _ _ _ _ _ _ _ _ _)

theorem absInv_end (cfg : Cfg) : AbsInv cfg EndInv :=
  ⟨fun h m => endInv_move h m, fun _ _ _ _ _ _ _ _ _ _ => .inl rfl, fun _ h => h, fun _ _ _ _ h => h, fun _ _ _ h => h⟩

theorem absInv_req (cfg : Cfg) : AbsInv cfg (ReqInv cfg) :=
  ⟨fun h m => reqInv_move h m, fun _ _ _ _ _ _ _ _ _ _ _ hc => by
      rcases hc with hc | hc | hc
      · simp [freshAbs, pastNegotiation] at hc
      · simp [freshAbs] at hc
      · simp [freshAbs] at hc,
   fun _ h => h, fun _ _ _ _ h => h, fun _ _ _ h => h⟩

theorem absInv_sasl (cfg : Cfg) : AbsInv cfg SaslQ := by
  refine ⟨fun h m => saslQ_move h m, fun e n o w p f k c hh b => ?_, fun a h => ⟨h.1, h.2.1, by simp, h.2.2.2⟩,
    fun a _ _ _ h => h, fun a _ _ h => ⟨h.1, h.2.1, by simp, h.2.2.2⟩⟩
  refine ⟨by simp [freshAbs], by simp [freshAbs, isSaslState], ?_, by simp [freshAbs]⟩
  intro k hk hs
  rcases connectKinds_mem hk with rfl | rfl <;> simp [Kind.sasl] at hs

theorem reach_drained {base s : St} (r : Reach cfg base s) : s.fastq = [] ∧ s.slowq = [] ∧ s.ev = [] := by
  cases r with
  | start => exact ⟨rfl, rfl, rfl⟩
  | op o _ => cases o <;> exact ⟨rfl, rfl, rfl⟩

/-! ### CAP END: where it can come from -/

theorem endCount_move {b c : Abs} (m : Move cfg K b c) (he : c.epoch = b.epoch) :
    c.endCount = b.endCount ∨ (b.fsm = .INIT_CAP_NEGOTIATION ∧ c.fsm = .INIT_WAITING_MOTD ∧ c.endCount = b.endCount + 1) := by
  cases m
  case capEnd hf _ => exact .inr ⟨hf, rfl, rfl⟩
  case reset _ => simp at he
  all_goals exact .inl rfl

theorem capEnd_origin (m : Moves cfg K a b) (he : b.epoch = a.epoch)
    (hc : a.endCount < b.endCount) :
    (a.fsm = .INIT_CAP_NEGOTIATION ∨ a.fsm = .INIT_SASL) ∧ 2 ≤ rank b.fsm := by
  induction m with
  | refl => omega
  | step m0 m ih =>
    rename_i b c
    have e1 := (later_moves m0).1
    have e2 := (later_move m).1
    have hb : b.epoch = a.epoch := by omega
    have hcb : c.epoch = b.epoch := by omega
    rcases endCount_move m hcb with heq | ⟨hf, hcf, _⟩
    · rw [heq] at hc
      obtain ⟨h1, h2⟩ := ih hb hc
      exact ⟨h1, Nat.le_trans h2 ((later_move m).2 hcb).1⟩
    · obtain ⟨r1, u1⟩ := (later_moves m0).2 hb
      rw [hf] at r1
      refine ⟨?_, by rw [hcf]; decide⟩
      have hne : a.fsm ≠ .UNINITIALIZED := by
        intro hu
        rcases u1 hu with h | h <;> rw [hf] at h <;> cases h
      revert r1 hne
      cases a.fsm <;> simp [rank]

/-- the states of a real-driver history: `Irc()`, `SocketDriver(irc)`, then `run()`s with arbitrary clock
values, due / not-due reconnects and recv() chunks -/
inductive DReach (cfg : Cfg) (base : St) : St → Prop
  | start : DReach cfg base (drvStart cfg (initSt cfg base))
  | run {s : St} (now : Nat) (due : Bool) (lines : List Msg) : DReach cfg base s → DReach cfg base (drvRun cfg now due lines s)
  /-- the environment starts refusing connections (the next `n` attempts) -/
  | fail {s : St} (n : Nat) : DReach cfg base s → DReach cfg base (setFails n s)

theorem α_flush (s : St) : α (flush s) = α s ∨
    α (flush s) = { α s with kinds := [], slowOk := true, joinQ := false, bad := (flush s).joinBad } := by
  unfold flush
  split
  · right; simp [α]
  · left; rfl

theorem AbsInv.flush {I : Abs → Prop} (inv : AbsInv cfg I) {s : St} (h : I (α s)) : I (α (C08.flush s)) := by
  rcases α_flush s with e | e
  · rw [e]; exact h
  · rw [e]; exact inv.dropKinds _ _ _ h

/-- what an invariant of the abstract state needs in order to hold along every real-driver history -/
structure DInv (cfg : Cfg) (I : Abs → Prop) : Prop where
  move : ∀ {K : Kind → Bool} {a b : Abs}, K .side = false → I a → Move cfg K a b → I b
  side : ∀ a n b1 b2, I a → I { a with aborts := n, slowOk := b1, evOk := b2 }
  flush : ∀ s : St, I (α s) → I (α (C08.flush s))

/-- the permissions of the driver itself: everything but queueing side messages as if they were lines -/
def kDriver : Kind → Bool := fun k => k != .side

theorem handlerKinds_side (h : Handler) : handlerKinds h .side = false := by cases h <;> rfl

theorem DInv.moves {I : Abs → Prop} (inv : DInv cfg I) {K : Kind → Bool} (hK : K .side = false) {a b : Abs}
    (h : I a) (m : Moves cfg K a b) : I b :=
  m.preserves (inv.move hK) h

theorem DInv.feedLines {I : Abs → Prop} (inv : DInv cfg I) (lines : List Msg) {s : St} (h : I (α s)) :
    I (α (C08.feedLines cfg lines s)) := by
  induction lines generalizing s with
  | nil => exact h
  | cons m ms ih =>
    unfold C08.feedLines
    simp only
    split
    · exact inv.moves (handlerKinds_side _) h (ref_feedMsg m s)
    · exact ih (inv.moves (handlerKinds_side _) h (ref_feedMsg m s))

/-- an invariant that holds for the new Irc object holds along the whole real-driver history -/
theorem DInv.dreach {I : Abs → Prop} (inv : DInv cfg I) (hr : cfg.realDriver = true) {base s : St}
    (h0 : I (α (initSt cfg base))) (r : DReach cfg base s) : I (α s) := by
  induction r with
  | start =>
    unfold drvStart
    apply inv.flush
    have h1 : I (α ({ initSt cfg base with drv := { (initSt cfg base).drv with attempt := (initSt cfg base).drv.attempt + 1, scheduled := false }, ev := [], wire := [] } : St)) := by
      have := inv.side _ 0 (α (initSt cfg base)).slowOk true h0
      simpa [α] using this
    refine inv.moves (K := kDriver) rfl h1 (ref_drvConnect _ hr rfl ?_)
    show (initSt cfg base).slowq.contains .join = false
    rw [(initSt_frame cfg base).2.2.2]; rfl
  | run now due lines r0 ih =>
    rename_i s0
    have h0 : I (α ({ s0 with now := now, ev := [], wire := [] } : St)) := by
      have := inv.side _ 0 (α s0).slowOk true ih
      simpa [α] using this
    have h1 : I (α (drvDue cfg due { s0 with now := now, ev := [], wire := [] })) := by
      unfold drvDue
      split
      · exact inv.moves (K := kDriver) rfl (inv.moves (K := kDriver) rfl h0 (ref_event _ _ rfl))
          (ref_realReconnect false none _ hr (fun _ => ⟨rfl, rfl⟩))
      · exact h0
    unfold drvRun
    simp only
    split
    · exact inv.flush _ (inv.feedLines lines (inv.flush _ h1))
    · exact h1
  | fail n r0 ih => exact ih

theorem AbsInv.toDInv {I : Abs → Prop} (inv : AbsInv cfg I) : DInv cfg I :=
  ⟨fun _ h m => inv.move h m, inv.side, fun _ h => inv.flush h⟩

theorem AbsInv.dreach {I : Abs → Prop} (inv : AbsInv cfg I) (hr : cfg.realDriver = true) {base s : St}
    (r : DReach cfg base s) : I (α s) :=
  inv.toDInv.dreach hr (by rw [α_initSt]; exact inv.fresh _ _ _ _ _ _ _ _ _ _) r

/-! ### JOINs reach a socket only after Irc.do376 completed on that connection -/

theorem mem_fastq_kind {s : St} {o : Out} (h : o ∈ s.fastq) : o.kind ∈ (α s).kinds := by
  simp only [α, List.mem_map]; exact ⟨o, h, rfl⟩

/-- `_sendIfMsgs` under the JOIN invariant: nothing is flagged -/
theorem flush_joinBad (hr : cfg.realDriver = true) (s : St) (h : JoinInv cfg (α s)) :
    (flush s).joinBad = s.joinBad := by
  unfold flush
  split
  · rename_i hc
    simp only
    by_cases hj : (s.fastq ++ s.slowq).contains Out.join = true
    · have hmem : Out.join ∈ s.fastq ++ s.slowq := by simpa using hj
      rcases List.mem_append.mp hmem with hf | hs
      · exact absurd (mem_fastq_kind hf) h.2
      · have : s.afterConnect = true := h.1 hr (by simpa [α] using hs) hc
        simp [this]
    · have : (s.fastq ++ s.slowq).contains Out.join = false := by simpa using hj
      rw [this]; simp
  · rfl

/-- the JOIN invariant together with "nothing flagged so far" -/
def JoinOk (cfg : Cfg) (b0 : Bool) (a : Abs) : Prop := JoinInv cfg a ∧ a.bad = b0

theorem bad_move (m : Move cfg K a b) : b.bad = a.bad := by
  cases m <;> rfl

theorem dInv_join (cfg : Cfg) (hr : cfg.realDriver = true) (b0 : Bool) : DInv cfg (JoinOk cfg b0) := by
  refine ⟨fun hK h m => ⟨joinInv_move hK h.1 m, (bad_move m).trans h.2⟩, fun a _ _ _ h => h, fun s h => ?_⟩
  have hb := flush_joinBad hr s h.1
  rcases α_flush s with e | e
  · rw [e]; exact h
  · rw [e]
    refine ⟨⟨fun _ hq => by simp at hq, by simp⟩, ?_⟩
    show (C08.flush s).joinBad = b0
    rw [hb]; exact h.2

/-! ### STS: no downgrade along real-driver histories -/

theorem dInv_sts (cfg : Cfg) : DInv cfg (StsInv cfg) := by
  refine ⟨fun _ h m => stsInv_move h m, fun a _ _ _ h => h, fun s h => ?_⟩
  rcases α_flush s with e | e
  · rw [e]; exact h
  · rw [e]; exact h

end C08
