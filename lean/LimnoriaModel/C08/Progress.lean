/-
C08 — progress, part 3: joint histories of the bot and a conformant server, the invariant along them, and an
executable acceptor for the conformant-server relation.
-/
import LimnoriaModel.C08.ProgressCap
namespace C08
open Py
open Gen.Conn (Fsm)

variable {cfg : Cfg}

/-- the bot and a conformant server, from `Irc()` on: the server makes a move, the bot reacts, the server
sees the reaction; nothing more happens on this connection once the bot has aborted -/
inductive PReach (cfg : Cfg) (base : St) (v3 : Bool) : St → View → Prop
  | start : PReach cfg base v3 (start cfg base).st (seeStep { v3 := v3 } (start cfg base))
  | step {s : St} {v v1 : View} {m : Msg} : PReach cfg base v3 s v → v.aborted = false → SrvMove v m v1 →
      PReach cfg base v3 (step cfg s m).st (seeStep v1 (step cfg s m))

theorem bot_initSt (cfg : Cfg) (base : St) :
    bot (initSt cfg base) = ⟨.INIT_CAP_NEGOTIATION, [], [], [], [], cfg.mechanisms.filter (mechAvailable cfg), none, false, none,
      cfg.nick, cfg.alternates, [cfg.nick], false, false, 0⟩ := by
  rw [initSt, queueConnectMessages_reset _ _ rfl]; rfl

theorem seeOut_connect (v : View) (o : Out) (h : o.kind = .connect ∨ o.kind = .nick) : seeOut v o = v := by
  cases o <;> first | rfl | (rcases h with h | h <;> cases h)

theorem fold_connect (cfg : Cfg) (n : Str) (v : View) : (connectMsgs cfg n).foldl seeOut v = v := by
  unfold connectMsgs
  by_cases h : cfg.password.isEmpty = true <;> simp [h, seeOut]

theorem start_facts (cfg : Cfg) (base : St) :
    (start cfg base).fast = connectMsgs cfg cfg.nick ∧ (start cfg base).events = [] ∧
    bot (start cfg base).st = bot (initSt cfg base) := by
  refine ⟨?_, ?_, rfl⟩
  · show (initSt cfg base).fastq = _
    rw [initSt, queueConnectMessages_reset _ _ rfl]; rfl
  · show (initSt cfg base).ev = _
    rw [initSt, queueConnectMessages_reset _ _ rfl]

theorem inv_start (cfg : Cfg) (base : St) (v3 : Bool) :
    Inv cfg (start cfg base).st (seeStep { v3 := v3 } (start cfg base)) := by
  obtain ⟨f1, f2, f3⟩ := start_facts cfg base
  rw [seeStep_quiet _ _ f2, f1, fold_connect]
  refine inv_core ⟨⟨?_, ?_, ?_⟩, ?_, ?_⟩
  · rw [f3, bot_initSt]; intro m hm; exact (List.mem_filter.mp hm).2
  · rw [f3, bot_initSt]; intro m hm; cases hm
  · intro _; rw [f3, bot_initSt]; exact ⟨rfl, by simp, rfl⟩
  · rw [f3, bot_initSt]
    exact ⟨fun c hc => (by cases hc), fun c hc => (by cases hc), fun c hc => (by cases hc), fun l hl => (by cases hl)⟩
  · rw [f3, bot_initSt]
    cases v3 with
    | true =>
      exact .neg rfl rfl rfl rfl rfl rfl rfl (fun _ => ⟨rfl, rfl, rfl, rfl⟩) (fun h => by cases h) rfl
    | false => exact .nocap rfl (by simp) rfl rfl rfl

/-! once the server waits for a second CAP END it keeps waiting -/

theorem seeOut_reopened (v : View) (o : Out) (h : v.reopened = true) : (seeOut v o).reopened = true := by
  cases o <;> simp [seeOut, h]

theorem fold_reopened (l : List Out) (v : View) (h : v.reopened = true) : (l.foldl seeOut v).reopened = true := by
  induction l generalizing v with
  | nil => exact h
  | cons o os ih => simp only [List.foldl_cons]; exact ih _ (seeOut_reopened v o h)

theorem seeStep_reopened (v : View) (r : StepResult) (h : v.reopened = true) : (seeStep v r).reopened = true := by
  unfold seeStep; exact fold_reopened r.fast v h

theorem srvMove_reopened {v v1 : View} {m : Msg} (mv : SrvMove v m v1) : v1.reopened = v.reopened := by
  cases mv <;> rfl

theorem preach_drained {base : St} {v3 : Bool} {s : St} {v : View} (r : PReach cfg base v3 s v) :
    s.fastq = [] := by
  cases r <;> rfl

/-- the invariant holds along every joint history (stub driver: an abort ends the epoch) -/
theorem inv_preach (hd : cfg.realDriver = false) {base : St} {v3 : Bool} {s : St} {v : View}
    (r : PReach cfg base v3 s v) : Inv cfg s v := by
  induction r with
  | start => exact inv_start cfg base v3
  | step r0 hna mv ih =>
    rename_i s v v1 m
    have hq := preach_drained r0
    rcases ih with h | h | h | h
    · rw [hna] at h; cases h
    · exact pres_connected hd m _ h
    · exact inv_reopened (seeStep_reopened _ _ ((srvMove_reopened mv).trans h))
    · have hl : Live cfg s v := ⟨hq, h.1, h.2.1, h.2.2⟩
      cases mv
      case ping x n =>
        exact inv_step (r := sendMsg (.pong x) s) [.pong x] (nickSetter_plain _ _ rfl) rfl (by simp [sendMsg, hq]) fun _ => hl.inv
      case noop hdm hn => exact inv_step [] (nickSetter_plain _ _ hn) (congrArg R.st (run_none hdm s)) hq fun _ => hl.inv
      case lsMore t caps n h3 ho => exact pres_lsMore hd t caps n h3 ho hl
      case lsFinal t caps n h3 ho => exact pres_lsFinal hd t caps n h3 ho hl
      case ack t caps n ws rest h3 hrq hne hsub hav => exact pres_ackNak hd true t sACK caps n rfl ws rest h3 hrq hne (fun _ => hav) hl
      case nak t caps n ws rest h3 hrq hne hsub => exact pres_ackNak hd false t sNAK caps n rfl ws rest h3 hrq hne (fun hc => by cases hc) hl
      case capNew t caps n h3 ho hne => exact pres_capNew hd t caps n h3 ho hne hl
      case capDel t caps n h3 ho hne => exact pres_capDel t caps n ho hne hl
      case authContinue c n h3 hav hrd hc => exact pres_authContinue c n hav hrd hc hl
      case authOk args n h3 hav => exact pres_authOk hd args n hav hl
      case authFail c args n h3 hav hc => exact pres_authFail hd c args n hav hc hl
      case mechs args n hav =>
        -- RPL_SASLMECHS: the handler fails, nothing changes
        have hst : (runHandler cfg ⟨num '9' '0' '8', args, n⟩ s).st = s := by
          show (do908 args s).st = s; unfold do908; split <;> rfl
        exact inv_step [] (nickSetter_plain _ _ rfl) hst hq fun _ => hl.inv
      case nickRefused c args n hs hc => exact pres_nickRefused c args n hs hc hl
      case welcome k a args n hw hk hs => exact pres_welcome k a args n hw hk hs hl
      case motdStart a args n hw hs => exact pres_motdStart hd a args n hw hs hl
      case motdLine a args n hw hs => exact pres_motdLine a args n hs hl
      case motdEnd a args n hw hs =>
        obtain ⟨_, _, hp⟩ := h
        have hf : s.fsm = .INIT_MOTD := by
          cases hp with
          | neg _ _ hs0 _ _ _ _ _ _ _ => omega
          | sasl _ _ hs0 _ _ _ _ _ _ _ _ _ => omega
          | waiting _ _ hs5 _ _ _ _ => omega
          | nocap _ hs5 _ _ _ => omega
          | motd _ _ hf _ _ _ => exact hf
        exact pres_endMotd hd ⟨num '3' '7' '6', a :: args, n⟩ (nickSetter_numeric _ _ _ _ _ (by decide)) rfl (.inr (.inr hf))
      case noMotd args n hw hs =>
        obtain ⟨_, _, hp⟩ := h
        rcases (phase_of_welcome hw (by omega) hp).1 with hf | hf
        · exact pres_endMotd hd ⟨num '4' '2' '2', args, n⟩ (nickSetter_plain _ _ rfl) rfl (.inl hf)
        · exact pres_endMotd hd ⟨num '4' '2' '2', args, n⟩ (nickSetter_plain _ _ rfl) rfl (.inr (.inl hf))

/-! ### an executable acceptor for the conformant-server relation (used by the harness to check that
its conformant scripts lie inside the domain of `progress`) -/

def welcomeIndex (c : Str) : Option Nat :=
  if c = num '0' '0' '1' then some 1 else if c = num '0' '0' '2' then some 2 else if c = num '0' '0' '3' then some 3
  else if c = num '0' '0' '4' then some 4 else if c = num '0' '0' '5' then some 5 else none

def srvPing (v : View) (args : List Str) : Option View :=
  match args with
  | [_] => some v
  | _ => none

def srvAckNak (v : View) (isAck : Bool) (caps : Str) : Option View :=
  match v.reqs with
  | ws :: rest =>
    if v.v3 = true ∧ splitWs caps ≠ [] ∧ (∀ c ∈ splitWs caps, c ∈ ws) ∧ (isAck = true → ∀ c ∈ splitWs caps, c ∈ v.avail)
    then some { v with reqs := reqsAfter (splitWs caps) ws rest } else none
  | [] => none

def srvCap (v : View) (args : List Str) : Option View :=
  match args with
  | [_, sub, star, caps] =>
    if sub = sLS ∧ star = sStar ∧ v.v3 = true ∧ v.lsOwed = true then some { v with avail := v.avail ++ lsKeys caps } else none
  | [_, sub, caps] =>
    if sub = sLS then (if v.v3 = true ∧ v.lsOwed = true then some { v with lsOwed := false, avail := v.avail ++ lsKeys caps } else none)
    else if sub = sACK then srvAckNak v true caps
    else if sub = sNAK then srvAckNak v false caps
    else if sub = sNEW then
      (if v.v3 = true ∧ v.lsOwed = false ∧ splitWs caps ≠ []
       then some { v with avail := v.avail ++ lsKeys caps, lateNew := v.lateNew || v.auth.owed || v.ended } else none)
    else if sub = sDEL then
      (if v.v3 = true ∧ v.lsOwed = false ∧ splitWs caps ≠ []
       then some { v with avail := v.avail.filter (fun c => !(delKeys caps).contains c) } else none)
    else none
  | _ => none

def srvAuth (v : View) (args : List Str) : Option View :=
  match args with
  | [c] => if v.v3 = true ∧ v.auth.cont = true ∧ v.rounds < 3 ∧
              (c = sPlus ∨ (c.length ≠ Gen.Conn.authenticateChunkSize ∧ (b64decodedLen [c]).isSome = true))
           then some { v with auth := .none, rounds := v.rounds + 1 } else none
  | _ => none

def srvSaslNumeric (v : View) (cmd : Str) : Option View :=
  if cmd = num '9' '0' '3' then (if v.v3 = true ∧ v.auth = .payload then some { v with auth := .none } else none)
  else if isFailNumeric cmd = true then (if v.v3 = true ∧ v.auth.owed = true then some { v with auth := .none } else none)
  else if cmd = num '9' '0' '8' then (if v.auth = .mech then some v else none)
  else none

def srvMotd (v : View) (cmd : Str) (args : List Str) : Option View :=
  if cmd = num '3' '7' '5' then
    (match args with | _ :: _ => if canWelcome v = true ∧ v.stage = 5 then some { v with stage := 6 } else none | [] => none)
  else if cmd = num '3' '7' '6' then
    (match args with | _ :: _ => if canWelcome v = true ∧ v.stage = 6 then some { v with stage := 7 } else none | [] => none)
  else if cmd = num '4' '2' '2' then (if canWelcome v = true ∧ v.stage = 5 then some { v with stage := 7 } else none)
  else if cmd = num '3' '7' '2' then
    (match args with | _ :: _ => if canWelcome v = true ∧ v.stage = 6 then some v else none | [] => none)
  else none

def srvWelcome (v : View) (cmd : Str) (args : List Str) : Option View :=
  match welcomeIndex cmd, args with
  | some k, _ :: _ => if canWelcome v = true ∧ v.stage + 1 = k then some { v with stage := k } else none
  | _, _ => none

def isSaslNumeric (cmd : Str) : Bool := cmd = num '9' '0' '3' || isFailNumeric cmd || cmd = num '9' '0' '8'
def isMotdNumeric (cmd : Str) : Bool :=
  cmd = num '3' '7' '5' || cmd = num '3' '7' '6' || cmd = num '4' '2' '2' || cmd = num '3' '7' '2'

def srvMoveC (v : View) (cmd : Str) (args : List Str) (n : Str) : Option View :=
  if cmd = sPING then srvPing v args
  else if cmd = sCAP then srvCap v args
  else if cmd = sAUTHENTICATE then srvAuth v args
  else if isSaslNumeric cmd = true then srvSaslNumeric v cmd
  else if isNickRefusal cmd = true then (if v.stage = 0 then some v else none)
  else if isMotdNumeric cmd = true then srvMotd v cmd args
  else if (welcomeIndex cmd).isSome = true then srvWelcome v cmd args
  else if dispatch ⟨cmd, args, n⟩ = .none ∧ Gen.Conn.nickSetters.contains cmd = false then some v else none

def srvMoveB (v : View) (m : Msg) : Option View := srvMoveC v m.command m.args m.nick

theorem welcomeIndex_spec {c : Str} {k : Nat} (h : welcomeIndex c = some k) : c = welcomeNumeric k ∧ 1 ≤ k ∧ k ≤ 5 := by
  unfold welcomeIndex at h
  rcases ite_eq_cases h with ⟨rfl, h⟩ | ⟨-, h⟩
  · cases h; exact ⟨rfl, by decide⟩
  rcases ite_eq_cases h with ⟨rfl, h⟩ | ⟨-, h⟩
  · cases h; exact ⟨rfl, by decide⟩
  rcases ite_eq_cases h with ⟨rfl, h⟩ | ⟨-, h⟩
  · cases h; exact ⟨rfl, by decide⟩
  rcases ite_eq_cases h with ⟨rfl, h⟩ | ⟨-, h⟩
  · cases h; exact ⟨rfl, by decide⟩
  rcases ite_eq_cases h with ⟨rfl, h⟩ | ⟨-, h⟩
  · cases h; exact ⟨rfl, by decide⟩
  cases h

theorem srvPing_sound {v v1 : View} {args : List Str} {n : Str} (h : srvPing v args = some v1) : SrvMove v ⟨sPING, args, n⟩ v1 := by
  match args, h with
  | [_], h => cases h; exact .ping _ _ _
  | [], h | _ :: _ :: _, h => cases h

theorem srvAckNak_sound {v v1 : View} {isAck : Bool} {t caps n : Str} (h : srvAckNak v isAck caps = some v1) :
    SrvMove v ⟨sCAP, [t, if isAck then sACK else sNAK, caps], n⟩ v1 := by
  unfold srvAckNak at h
  cases hreqs : v.reqs with
  | nil => rw [hreqs] at h; cases h
  | cons ws rest =>
    rw [hreqs] at h
    obtain ⟨⟨c1, c2, c3, c4⟩, rfl⟩ := Option.ite_some_none_eq_some.mp h
    cases isAck
    · exact .nak _ _ _ _ ws rest c1 hreqs c2 c3
    · exact .ack _ _ _ _ ws rest c1 hreqs c2 c3 (c4 rfl)

theorem srvCap_sound {v v1 : View} {args : List Str} {n : Str} (h : srvCap v args = some v1) : SrvMove v ⟨sCAP, args, n⟩ v1 := by
  match args, h with
  | [_, _, _, _], h =>
    obtain ⟨⟨rfl, rfl, h3, ho⟩, rfl⟩ := Option.ite_some_none_eq_some.mp h
    exact .lsMore _ _ _ _ h3 ho
  | [_, sub, caps], h =>
    simp only [srvCap] at h
    rcases ite_eq_cases h with ⟨rfl, h⟩ | ⟨-, h⟩
    · obtain ⟨⟨h3, ho⟩, rfl⟩ := Option.ite_some_none_eq_some.mp h
      exact .lsFinal _ _ _ _ h3 ho
    rcases ite_eq_cases h with ⟨rfl, h⟩ | ⟨-, h⟩
    · exact srvAckNak_sound (isAck := true) h
    rcases ite_eq_cases h with ⟨rfl, h⟩ | ⟨-, h⟩
    · exact srvAckNak_sound (isAck := false) h
    rcases ite_eq_cases h with ⟨rfl, h⟩ | ⟨-, h⟩
    · obtain ⟨⟨h3, ho, hne⟩, rfl⟩ := Option.ite_some_none_eq_some.mp h
      exact .capNew _ _ _ _ h3 ho hne
    rcases ite_eq_cases h with ⟨rfl, h⟩ | ⟨-, h⟩
    · obtain ⟨⟨h3, ho, hne⟩, rfl⟩ := Option.ite_some_none_eq_some.mp h
      exact .capDel _ _ _ _ h3 ho hne
    cases h
  | [], h | [_], h | [_, _], h | _ :: _ :: _ :: _ :: _ :: _, h => cases h

theorem srvAuth_sound {v v1 : View} {args : List Str} {n : Str} (h : srvAuth v args = some v1) :
    SrvMove v ⟨sAUTHENTICATE, args, n⟩ v1 := by
  match args, h with
  | [_], h =>
    obtain ⟨⟨h3, ha, hr, hc⟩, rfl⟩ := Option.ite_some_none_eq_some.mp h
    exact .authContinue _ _ _ h3 ha hr hc
  | [], h | _ :: _ :: _, h => cases h

theorem srvSaslNumeric_sound {v v1 : View} {cmd : Str} {args : List Str} {n : Str} (h : srvSaslNumeric v cmd = some v1) :
    SrvMove v ⟨cmd, args, n⟩ v1 := by
  unfold srvSaslNumeric at h
  rcases ite_eq_cases h with ⟨rfl, h⟩ | ⟨-, h⟩
  · obtain ⟨⟨h3, ha⟩, rfl⟩ := Option.ite_some_none_eq_some.mp h
    exact .authOk _ _ _ h3 ha
  rcases ite_eq_cases h with ⟨hf, h⟩ | ⟨-, h⟩
  · obtain ⟨⟨h3, ha⟩, rfl⟩ := Option.ite_some_none_eq_some.mp h
    exact .authFail _ _ _ _ h3 ha hf
  rcases ite_eq_cases h with ⟨rfl, h⟩ | ⟨-, h⟩
  · obtain ⟨ha, rfl⟩ := Option.ite_some_none_eq_some.mp h
    exact .mechs _ _ _ ha
  cases h

theorem srvMotd_arg {β : Type} {c : Prop} [Decidable c] {args : List Str} {a b : β}
    (h : (match args with | _ :: _ => if c then some a else none | [] => none) = some b) :
    ∃ x xs, args = x :: xs ∧ c ∧ a = b := by
  match args, h with
  | x :: xs, h => exact ⟨x, xs, rfl, Option.ite_some_none_eq_some.mp h⟩
  | [], h => cases h

theorem srvMotd_sound {v v1 : View} {cmd : Str} {args : List Str} {n : Str} (h : srvMotd v cmd args = some v1) :
    SrvMove v ⟨cmd, args, n⟩ v1 := by
  unfold srvMotd at h
  rcases ite_eq_cases h with ⟨rfl, h⟩ | ⟨-, h⟩
  · obtain ⟨_, _, rfl, ⟨hw, hs⟩, rfl⟩ := srvMotd_arg h
    exact .motdStart _ _ _ _ hw hs
  rcases ite_eq_cases h with ⟨rfl, h⟩ | ⟨-, h⟩
  · obtain ⟨_, _, rfl, ⟨hw, hs⟩, rfl⟩ := srvMotd_arg h
    exact .motdEnd _ _ _ _ hw hs
  rcases ite_eq_cases h with ⟨rfl, h⟩ | ⟨-, h⟩
  · obtain ⟨⟨hw, hs⟩, rfl⟩ := Option.ite_some_none_eq_some.mp h
    exact .noMotd _ _ _ hw hs
  rcases ite_eq_cases h with ⟨rfl, h⟩ | ⟨-, h⟩
  · obtain ⟨_, _, rfl, ⟨hw, hs⟩, rfl⟩ := srvMotd_arg h
    exact .motdLine _ _ _ _ hw hs
  cases h

theorem srvWelcome_sound {v v1 : View} {cmd : Str} {args : List Str} {n : Str} (h : srvWelcome v cmd args = some v1) :
    SrvMove v ⟨cmd, args, n⟩ v1 := by
  unfold srvWelcome at h
  cases hk : welcomeIndex cmd with
  | none => rw [hk] at h; cases h
  | some k =>
    obtain ⟨rfl, hk15⟩ := welcomeIndex_spec hk
    match args, h with
    | [], h => rw [hk] at h; cases h
    | _ :: _, h =>
      rw [hk] at h
      obtain ⟨⟨hw, hs⟩, rfl⟩ := Option.ite_some_none_eq_some.mp h
      exact .welcome _ k _ _ _ hw hk15 hs

/-- whatever the acceptor accepts is a move of the conformant-server relation -/
theorem srvMoveC_sound {v v1 : View} {cmd : Str} {args : List Str} {n : Str}
    (h : srvMoveC v cmd args n = some v1) : SrvMove v ⟨cmd, args, n⟩ v1 := by
  unfold srvMoveC at h
  rcases ite_eq_cases h with ⟨rfl, h⟩ | ⟨-, h⟩
  · exact srvPing_sound h
  rcases ite_eq_cases h with ⟨rfl, h⟩ | ⟨-, h⟩
  · exact srvCap_sound h
  rcases ite_eq_cases h with ⟨rfl, h⟩ | ⟨-, h⟩
  · exact srvAuth_sound h
  rcases ite_eq_cases h with ⟨-, h⟩ | ⟨-, h⟩
  · exact srvSaslNumeric_sound h
  rcases ite_eq_cases h with ⟨h5, h⟩ | ⟨-, h⟩
  · obtain ⟨hs, rfl⟩ := Option.ite_some_none_eq_some.mp h
    exact .nickRefused _ _ _ _ hs h5
  rcases ite_eq_cases h with ⟨-, h⟩ | ⟨-, h⟩
  · exact srvMotd_sound h
  rcases ite_eq_cases h with ⟨-, h⟩ | ⟨-, h⟩
  · exact srvWelcome_sound h
  obtain ⟨⟨hd, hn⟩, rfl⟩ := Option.ite_some_none_eq_some.mp h
  exact .noop _ _ hd hn

theorem srvMoveB_sound {v v1 : View} {m : Msg} (h : srvMoveB v m = some v1) : SrvMove v m v1 := by
  obtain ⟨cmd, args, n⟩ := m
  exact srvMoveC_sound h

end C08
