/-
C08 — progress: against a protocol-conformant server the bot never is the one that stalls.

`View` is what a conformant server owes the client, computed from the lines both sides sent (a monitor,
not part of the model).  `SrvMove` lists the messages a conformant server may send in a given view
(DESIGN §6 C08 `progress`, clauses i–v).  The oldest unanswered CAP REQ is answered by CAP ACK / CAP NAK
lines that each take some of its words (one line for all of them, or several: split answers); a word is only
acknowledged while the server advertises it.  Once the final CAP LS is out the server may send CAP NEW and
CAP DEL at any time.  A mechanism gets at most three AUTHENTICATE messages from the server; `AUTHENTICATE *`
is answered by a failure numeric.  A CAP REQ from a client that is not registered yet suspends the
registration (again) until the next CAP END.
`PReach` (Progress.lean) = the joint histories.  Theorem `progress` (Props.lean): in every jointly reachable state the
bot is connected (end of MOTD), or it aborted deliberately, or the server owes it an answer — or the server waits for a
second CAP END (`v.reopened`, finding C08-req-after-end).
Stub-driver semantics: an abort (driver.reconnect) ends the connection epoch.
-/
import LimnoriaModel.C08.Trace
namespace C08
open Py
open Gen.Conn (Fsm)

def sLS : Str := ['L','S']
def sACK : Str := ['A','C','K']
def sNAK : Str := ['N','A','K']
def sNEW : Str := ['N','E','W']
def sDEL : Str := ['D','E','L']

inductive AuthSt where
  | none      -- nothing owed
  | mech      -- a mechanism was requested: `AUTHENTICATE +`, a challenge or a failure numeric is owed
  | more      -- a credentials line of exactly AUTHENTICATE_CHUNK_SIZE characters arrived: more must follow, the
              -- server owes nothing yet
  | payload   -- a complete answer arrived: 903 / 904… / the next challenge is owed
  | abort     -- `AUTHENTICATE *` arrived: a failure numeric (906) is owed
deriving DecidableEq, Repr

/-- the server owes an answer in the SASL exchange -/
def AuthSt.owed (a : AuthSt) : Bool := a = .mech || a = .payload || a = .abort

/-- … and that answer may be another AUTHENTICATE -/
def AuthSt.cont (a : AuthSt) : Bool := a = .mech || a = .payload

/-- the name under which `_addCapabilities` records an item of a CAP LS / CAP NEW list -/
def capKey (item : Str) : Str :=
  match split1 '=' (lstripEqTilde item) with
  | some (cap, _) => cap
  | none => lstripEqTilde item

/-- the capability names a CAP LS / CAP NEW line advertises, resp. a CAP DEL line withdraws -/
def lsKeys (caps : Str) : List Str := (splitWs caps).map capKey
def delKeys (caps : Str) : List Str := (splitWs caps).map capName

/-- the unanswered CAP REQ lines after an ACK / NAK line took the words `a` from the oldest one -/
def reqsAfter (a ws : List Str) (rest : List (List Str)) : List (List Str) :=
  if (ws.filter (fun c => !a.contains c)).isEmpty then rest else ws.filter (fun c => !a.contains c) :: rest

structure View where
  v3 : Bool                     -- the server implements capability negotiation (else it ignores CAP)
  lsOwed : Bool := true         -- CAP LS sent, final CAP LS not received yet
  reqs : List (List Str) := []  -- CAP REQ lines (what is left of them) not answered yet, oldest first
  avail : List Str := []        -- the capability names advertised at the moment (LS, NEW minus DEL)
  auth : AuthSt := .none        -- SASL: answer owed to a mechanism request / to a complete payload
  rounds : Nat := 0             -- AUTHENTICATE messages sent for the mechanism requested last
  ended : Bool := false         -- CAP END sent
  lateNew : Bool := false       -- a CAP NEW arrived after a mechanism was requested or CAP END was sent
  reopened : Bool := false      -- the client sent CAP REQ after its CAP END while still unregistered: the server waits for
                                -- another CAP END (the code never sends one: known finding C08-req-after-end)
  stage : Nat := 0              -- welcome: k = 00k received (1..5), 6 = 375 received, 7 = 376/422 received
  aborted : Bool := false       -- the bot called driver.reconnect()

/-- the client lines of one step, as the server sees them -/
def seeOut (v : View) : Out → View
  | .capReq ws => { v with reqs := v.reqs ++ [ws], ended := v.ended && v.stage != 0,
                             reopened := v.reopened || (v.ended && v.stage == 0) }
  | .capEnd => { v with ended := true }
  | .authMech _ => { v with auth := .mech, rounds := 0 }
  | .authPayload c => { v with auth := if c.length = Gen.Conn.authenticateChunkSize then .more else .payload }
  | .authOpaque => { v with auth := .payload }
  | .authAbort => { v with auth := .abort }
  | _ => v

def seeStep (v : View) (r : StepResult) : View :=
  let v' := r.fast.foldl seeOut v
  { v' with aborted := v'.aborted || !r.events.isEmpty }

/-- the registration may complete: the server never negotiates, or the client ended the negotiation -/
def canWelcome (v : View) : Bool := !v.v3 || v.ended

def isFailNumeric (c : Str) : Bool :=
  c = num '9' '0' '4' || c = num '9' '0' '5' || c = num '9' '0' '6' || c = num '9' '0' '7'

def isNickRefusal (c : Str) : Bool := c = num '4' '3' '2' || c = num '4' '3' '3' || c = num '4' '3' '7'

def welcomeNumeric (k : Nat) : Str :=
  if k = 1 then num '0' '0' '1' else if k = 2 then num '0' '0' '2' else if k = 3 then num '0' '0' '3'
  else if k = 4 then num '0' '0' '4' else num '0' '0' '5'

/-- the messages a conformant server may send in view `v`, and the view afterwards (before the client's
reaction is seen) -/
inductive SrvMove : View → Msg → View → Prop
  | ping (v : View) (x n : Str) : SrvMove v ⟨sPING, [x], n⟩ v
  /-- anything the bot has no handler for and that is not a nick-setting numeric (NOTICE, 900, 372, …) -/
  | noop (v : View) (m : Msg) (hd : dispatch m = .none) (hn : Gen.Conn.nickSetters.contains m.command = false) : SrvMove v m v
  | lsMore (v : View) (t caps n : Str) (h3 : v.v3 = true) (ho : v.lsOwed = true) :
      SrvMove v ⟨sCAP, [t, sLS, sStar, caps], n⟩ { v with avail := v.avail ++ lsKeys caps }
  | lsFinal (v : View) (t caps n : Str) (h3 : v.v3 = true) (ho : v.lsOwed = true) :
      SrvMove v ⟨sCAP, [t, sLS, caps], n⟩ { v with lsOwed := false, avail := v.avail ++ lsKeys caps }
  /-- an ACK line for some (or all) words of the oldest unanswered CAP REQ, all of them advertised -/
  | ack (v : View) (t caps n : Str) (ws : List Str) (rest : List (List Str)) (h3 : v.v3 = true)
      (hq : v.reqs = ws :: rest) (hne : splitWs caps ≠ []) (hsub : ∀ c ∈ splitWs caps, c ∈ ws)
      (hav : ∀ c ∈ splitWs caps, c ∈ v.avail) :
      SrvMove v ⟨sCAP, [t, sACK, caps], n⟩ { v with reqs := reqsAfter (splitWs caps) ws rest }
  /-- a NAK line for some (or all) words of the oldest unanswered CAP REQ -/
  | nak (v : View) (t caps n : Str) (ws : List Str) (rest : List (List Str)) (h3 : v.v3 = true)
      (hq : v.reqs = ws :: rest) (hne : splitWs caps ≠ []) (hsub : ∀ c ∈ splitWs caps, c ∈ ws) :
      SrvMove v ⟨sCAP, [t, sNAK, caps], n⟩ { v with reqs := reqsAfter (splitWs caps) ws rest }
  /-- CAP NEW, any time after the final CAP LS -/
  | capNew (v : View) (t caps n : Str) (h3 : v.v3 = true) (ho : v.lsOwed = false) (hne : splitWs caps ≠ []) :
      SrvMove v ⟨sCAP, [t, sNEW, caps], n⟩
        { v with avail := v.avail ++ lsKeys caps, lateNew := v.lateNew || v.auth.owed || v.ended }
  /-- CAP DEL, any time after the final CAP LS -/
  | capDel (v : View) (t caps n : Str) (h3 : v.v3 = true) (ho : v.lsOwed = false) (hne : splitWs caps ≠ []) :
      SrvMove v ⟨sCAP, [t, sDEL, caps], n⟩ { v with avail := v.avail.filter (fun c => !(delKeys caps).contains c) }
  /-- `AUTHENTICATE +` or a complete, well-formed challenge: at most three per mechanism, none after `AUTHENTICATE *` -/
  | authContinue (v : View) (c n : Str) (h3 : v.v3 = true) (ha : v.auth.cont = true) (hr : v.rounds < 3)
      (hc : c = sPlus ∨ (c.length ≠ Gen.Conn.authenticateChunkSize ∧ (b64decodedLen [c]).isSome = true)) :
      SrvMove v ⟨sAUTHENTICATE, [c], n⟩ { v with auth := .none, rounds := v.rounds + 1 }
  | authOk (v : View) (args : List Str) (n : Str) (h3 : v.v3 = true) (ha : v.auth = .payload) :
      SrvMove v ⟨num '9' '0' '3', args, n⟩ { v with auth := .none }
  | authFail (v : View) (c : Str) (args : List Str) (n : Str) (h3 : v.v3 = true) (ha : v.auth.owed = true)
      (hc : isFailNumeric c = true) : SrvMove v ⟨c, args, n⟩ { v with auth := .none }
  /-- RPL_SASLMECHS: the failure numeric is still owed -/
  | mechs (v : View) (args : List Str) (n : Str) (ha : v.auth = .mech) : SrvMove v ⟨num '9' '0' '8', args, n⟩ v
  | nickRefused (v : View) (c : Str) (args : List Str) (n : Str) (hs : v.stage = 0) (hc : isNickRefusal c = true) :
      SrvMove v ⟨c, args, n⟩ v
  | welcome (v : View) (k : Nat) (a : Str) (args : List Str) (n : Str) (hw : canWelcome v = true)
      (hk : 1 ≤ k ∧ k ≤ 5) (hs : v.stage + 1 = k) : SrvMove v ⟨welcomeNumeric k, a :: args, n⟩ { v with stage := k }
  | motdStart (v : View) (a : Str) (args : List Str) (n : Str) (hw : canWelcome v = true) (hs : v.stage = 5) :
      SrvMove v ⟨num '3' '7' '5', a :: args, n⟩ { v with stage := 6 }
  /-- RPL_MOTD (372), a nick-setting numeric without a handler of its own -/
  | motdLine (v : View) (a : Str) (args : List Str) (n : Str) (hw : canWelcome v = true) (hs : v.stage = 6) :
      SrvMove v ⟨num '3' '7' '2', a :: args, n⟩ v
  | motdEnd (v : View) (a : Str) (args : List Str) (n : Str) (hw : canWelcome v = true) (hs : v.stage = 6) :
      SrvMove v ⟨num '3' '7' '6', a :: args, n⟩ { v with stage := 7 }
  | noMotd (v : View) (args : List Str) (n : Str) (hw : canWelcome v = true) (hs : v.stage = 5) :
      SrvMove v ⟨num '4' '2' '2', args, n⟩ { v with stage := 7 }

/-! ### the handlers under the recording stub driver -/

variable {cfg : Cfg}

theorem stub_reconnect (hd : cfg.realDriver = false) (w : Bool) (srv : Option Server) (s : St) :
    drvReconnect cfg w srv s = event (.reconnect w srv) s := by
  unfold drvReconnect; simp [hd]

theorem ite_eq_cases {α : Type} {c : Prop} [Decidable c] {a b x : α} (h : (if c then a else b) = x) :
    (c ∧ a = x) ∨ (¬ c ∧ b = x) := by
  split at h
  · exact .inl ⟨‹c›, h⟩
  · exact .inr ⟨‹¬ c›, h⟩

theorem ite_st {c : Prop} [Decidable c] {a b : R} {P : St → Prop} (h1 : c → P a.st) (h2 : ¬ c → P b.st) :
    P (if c then a else b).st := by
  split
  · exact h1 ‹c›
  · exact h2 ‹¬ c›

/-- Irc.endCapabilityNegociation in INIT_CAP_NEGOTIATION: abort when SASL is required and missing, else CAP END -/
theorem endCap_neg (hd : cfg.realDriver = false) (s : St) (hf : s.fsm = .INIT_CAP_NEGOTIATION) :
    endCap cfg s = (if saslMissing cfg s = true then ok (event (.reconnect true none) s)
      else ok (sendMsg .capEnd { s with fsm := .INIT_WAITING_MOTD, endCount := s.endCount + 1 })) := by
  rw [endCap_eq, stub_reconnect hd, if_pos (show Gen.Conn.guardCapEnd.contains s.fsm = true by rw [hf]; exact tab_capEnd_neg)]

/-- Irc.tryNextSaslMechanism in INIT_SASL -/
theorem tryNext_sasl (hd : cfg.realDriver = false) (s : St) (hf : s.fsm = .INIT_SASL) :
    tryNextSasl cfg s =
      (match s.saslNext with
       | m :: rest => ok (sendMsg (.authMech (asciiUpper m)) { s with saslCur := some m, saslNext := rest, saslSent := false, scramStep := 0 })
       | [] => if cfg.required = true then ok (event (.reconnect true none) s)
               else ok (sendMsg .capEnd { s with saslCur := none, fsm := .INIT_WAITING_MOTD, endCount := s.endCount + 1 })) := by
  unfold tryNextSasl expectState
  simp only [hf, tab_tryNext_sasl, if_true, bind_ok]
  cases hn : s.saslNext with
  | cons m rest => rfl
  | nil =>
    simp only
    split
    · rw [stub_reconnect hd]
    · rename_i hr
      unfold onSaslAuthFinished tableTransition
      simp only [tab_saslFin_sasl, bind_ok, if_true]
      rw [endCap_neg hd _ rfl]
      have hr' : cfg.required = false := by simpa using hr
      simp [saslMissing, hr']

/-- Irc.capUpkeep in INIT_CAP_NEGOTIATION -/
theorem capUpkeep_neg (hd : cfg.realDriver = false) (s : St) (hf : s.fsm = .INIT_CAP_NEGOTIATION) :
    capUpkeep cfg s =
      (if !subset (s.ack ++ s.nak) s.req then ok (event (.reconnect true none) s)
       else if subset s.req (s.ack ++ s.nak) then
         (if s.ack.contains sSasl then maybeStartSasl cfg s else endCap cfg s)
       else ok s) := by
  unfold capUpkeep expectState
  rw [if_pos (by rw [hf]; exact tab_upkeep_neg), bind_ok, stub_reconnect hd, if_pos (show s.fsm = .INIT_CAP_NEGOTIATION ∨ s.fsm = .CONNECTED from .inl hf),
    if_pos (show s.fsm ≠ .CONNECTED by rw [hf]; decide)]

/-- Irc.capUpkeep outside INIT_CAP_NEGOTIATION / CONNECTED: the state check raises -/
theorem capUpkeep_raises (s : St) (hf : Gen.Conn.expectCapUpkeep.contains s.fsm = false) :
    capUpkeep cfg s = raise "ValueError" s := by
  unfold capUpkeep expectState
  rw [if_neg (by rw [hf]; exact Bool.false_ne_true)]
  rfl

/-- the mechanisms left after the filter of Irc._maybeStartSasl -/
def filteredNext (next : List Str) (v : Option Str) : List Str :=
  match v with
  | none => next
  | some x => filterMechs next x

/-- Irc._maybeStartSasl when it starts: INIT_CAP_NEGOTIATION, not authenticated, sasl acknowledged and listed -/
theorem maybeStartSasl_neg (s : St) (hf : s.fsm = .INIT_CAP_NEGOTIATION) (ha : s.saslAuth = false)
    (hack : s.ack.contains sSasl = true) (v : Option Str) (hls : dictGet s.ls sSasl = some v) :
    maybeStartSasl cfg s = tryNextSasl cfg { s with fsm := .INIT_SASL, saslNext := filteredNext s.saslNext v } := by
  unfold maybeStartSasl onSaslCap tableTransition
  simp only [ha, hack, Bool.not_false, Bool.and_self, if_true, hf, tab_saslCap_neg, bind_ok, hls]
  cases v <;> rfl

theorem authChunks_ne (sz : Nat) (a : Str) : authChunks sz a ≠ [] := by
  unfold authChunks authChunksAux
  split <;> simp

/-- shape of the output of `authenticate_generator`: full-size pieces followed by one final piece that is
shorter (or `+` when nothing is left), together spelling the base64 text -/
def ChunksOk (sz : Nat) (a : Str) (l : List Str) : Prop :=
  ∃ pieces final, l = pieces ++ [final] ∧ (∀ p ∈ pieces, p.length = sz) ∧
    ((final.length < sz ∧ final ≠ [] ∧ pieces.flatten ++ final = a) ∨ (final = sPlus ∧ pieces.flatten = a))

theorem authChunksAux_ok (sz : Nat) (hsz : 0 < sz) : ∀ (fuel : Nat) (a : Str), a.length < fuel →
    ChunksOk sz a (authChunksAux sz fuel a) := by
  intro fuel
  induction fuel with
  | zero => intro a h; omega
  | succ k ih =>
    intro a h
    unfold authChunksAux
    by_cases hlt : a.length < sz
    · rw [if_pos hlt]
      by_cases he : a.isEmpty = true
      · rw [if_pos he]
        have : a = [] := by simpa using he
        exact ⟨[], sPlus, rfl, by simp, .inr ⟨rfl, by simp [this]⟩⟩
      · rw [if_neg he]
        have : a ≠ [] := by simpa using he
        exact ⟨[], a, rfl, by simp, .inl ⟨hlt, this, by simp⟩⟩
    · rw [if_neg hlt]
      have hlen : (a.drop sz).length < k := by simp [List.length_drop]; omega
      obtain ⟨pieces, final, h1, h2, h3⟩ := ih (a.drop sz) hlen
      refine ⟨a.take sz :: pieces, final, by rw [h1]; rfl, ?_, ?_⟩
      · intro p hp
        simp only [List.mem_cons] at hp
        rcases hp with rfl | hp
        · simp [List.length_take]; omega
        · exact h2 p hp
      · rcases h3 with ⟨a1, a2, a3⟩ | ⟨a1, a3⟩
        · exact .inl ⟨a1, a2, by simp only [List.flatten_cons, List.append_assoc]; rw [a3]; exact List.take_append_drop sz a⟩
        · exact .inr ⟨a1, by simp only [List.flatten_cons]; rw [a3]; exact List.take_append_drop sz a⟩

/-- `authenticate_generator`: for every text, the lines are full-size pieces followed by one final line
that is shorter than the chunk size or `+`; concatenated (the terminating `+` dropped) they are the text -/
theorem chunks_ok (sz : Nat) (hsz : 0 < sz) (a : Str) : ChunksOk sz a (authChunks sz a) :=
  authChunksAux_ok sz hsz (a.length + 1) a (Nat.lt_succ_self _)

def isPayloadOut : Out → Bool
  | .authPayload _ => true
  | .authOpaque => true
  | .authAbort => true
  | _ => false

/-- a line that completes an answer: shorter than the chunk size (or the signature) -/
def isFinalOut : Out → Bool
  | .authPayload c => c.length != Gen.Conn.authenticateChunkSize
  | .authOpaque => true
  | _ => false

/-- the lines of one answer: credentials lines only, the last one completing it -/
def Answer (outs : List Out) : Prop :=
  (∀ o ∈ outs, isPayloadOut o = true) ∧ ∃ init o, outs = init ++ [o] ∧ isFinalOut o = true

theorem answer_chunks (bytes : List Nat) :
    Answer ((authChunks Gen.Conn.authenticateChunkSize (b64encode bytes)).map Out.authPayload) := by
  refine ⟨?_, ?_⟩
  · intro o ho; simp only [List.mem_map] at ho; obtain ⟨c, _, rfl⟩ := ho; rfl
  · obtain ⟨pieces, final, h1, _, h3⟩ := chunks_ok Gen.Conn.authenticateChunkSize (by have := tab_chunk; omega) (b64encode bytes)
    refine ⟨pieces.map Out.authPayload, .authPayload final, by rw [h1]; simp, ?_⟩
    have hlen : final.length ≠ Gen.Conn.authenticateChunkSize := by
      rcases h3 with ⟨a1, _, _⟩ | ⟨a1, _⟩
      · omega
      · rw [a1]; have := tab_chunk; simp [sPlus]; omega
    simp [isFinalOut, hlen]

theorem sendSasl_sends (bytes : List Nat) (s : St) :
    ∃ outs, Answer outs ∧ sendSaslString bytes s = { s with fastq := s.fastq ++ outs, saslSent := true } :=
  ⟨_, answer_chunks bytes, sendSaslString_eq bytes s⟩

/-- the fields of the Irc object the progress invariant talks about -/
structure Bot where
  fsm : Fsm
  ls : List (Str × Option Str)
  req : List Str
  ack : List Str
  nak : List Str
  saslNext : List Str
  saslCur : Option Str
  saslAuth : Bool
  dec : Option Decoder
  nick : Str
  altNicks : List Str
  tried : List Str
  afterConnect : Bool
  saslSent : Bool
  scramStep : Nat

def bot (s : St) : Bot :=
  ⟨s.fsm, s.ls, s.req, s.ack, s.nak, s.saslNext, s.saslCur, s.saslAuth, s.dec, s.nick, s.altNicks, s.tried, s.afterConnect,
   s.saslSent, s.scramStep⟩

/-- what an answer of the bot to a complete server AUTHENTICATE looks like: a complete credentials answer
(then `sasl_response_sent` is set), or the abort marker alone; nothing else changes, the SCRAM step advances
by at most one -/
def Responds (s s' : St) : Prop :=
  ∃ outs, s'.fastq = s.fastq ++ outs ∧ bot s' = { bot s with saslSent := s'.saslSent, scramStep := s'.scramStep } ∧
    s'.scramStep ≤ s.scramStep + 1 ∧
    ((Answer outs ∧ s'.saslSent = true) ∨ (outs = [.authAbort] ∧ s'.saslSent = s.saslSent))

theorem responds_sasl (bytes : List Nat) (s : St) (n : Nat) (hn : n ≤ s.scramStep + 1) :
    Responds s { sendSaslString bytes s with scramStep := n } := by
  rw [sendSaslString_eq]
  exact ⟨_, rfl, rfl, hn, .inl ⟨answer_chunks bytes, rfl⟩⟩

theorem responds_sasl' (bytes : List Nat) (s : St) : Responds s (sendSaslString bytes s) := by
  rw [sendSaslString_eq]
  exact ⟨_, rfl, rfl, Nat.le_succ _, .inl ⟨answer_chunks bytes, rfl⟩⟩

theorem responds_abort (s : St) : Responds s (sendMsg .authAbort s) :=
  ⟨[.authAbort], rfl, rfl, Nat.le_succ _, .inr ⟨rfl, rfl⟩⟩

theorem scramRespond_responds (m : Str) (s : St) (hs : s.scramStep < 3) : Responds s (scramRespond cfg m s).st := by
  unfold scramRespond
  refine ite_st (fun h0 => ite_st (fun _ => responds_sasl _ s 1 (by omega)) fun _ => responds_abort s) fun h0 =>
    ite_st (fun h1 => ?_) fun h1 => ite_st (fun h2 => ite_st (fun _ => responds_sasl _ s 3 (by omega)) fun _ => responds_abort s)
      fun h2 => absurd hs (by omega)
  split
  · exact responds_sasl _ s 2 (by omega)
  · exact responds_abort s

/-- the answer of the bot to a complete server AUTHENTICATE when its current mechanism is one it
made available itself (and, for SCRAM, the exchange has not had its three server messages yet) -/
theorem authRespond_sends (n : Nat) (s : St) (m : Str) (hc : s.saslCur = some m) (hm : mechAvailable cfg m = true)
    (hs : s.scramStep < 3) : Responds s (authRespond cfg n s).st := by
  unfold authRespond
  rw [hc]
  refine ite_st (fun _ => ite_st (fun _ => responds_sasl' _ s) fun _ => ite_st (fun _ => ?_) fun _ => responds_abort s) fun h1 =>
    ite_st (fun _ => responds_sasl' _ s) fun h2 => ite_st (fun _ => scramRespond_responds m s hs) fun h3 =>
      ite_st (fun _ => responds_sasl' _ s) fun h4 => ?_
  · exact ⟨[.authOpaque], rfl, rfl, Nat.le_succ _, .inl ⟨⟨by simp [isPayloadOut], [], .authOpaque, rfl, rfl⟩, rfl⟩⟩
  · -- none of the four mechanisms: not one the bot made available
    simp [mechAvailable, h1, h2, h3, h4] at hm

/-- Irc.doAuthenticate in INIT_SASL on a complete, well-formed server AUTHENTICATE with no pending chunks -/
theorem doAuthenticate_sasl (s : St) (c : Str) (hf : s.fsm = .INIT_SASL) (hdec : s.dec = none)
    (hc : c = sPlus ∨ (c.length ≠ Gen.Conn.authenticateChunkSize ∧ (b64decodedLen [c]).isSome = true))
    (m : Str) (hcur : s.saslCur = some m) (hm : mechAvailable cfg m = true) (hs : s.scramStep < 3) :
    Responds s (doAuthenticate cfg sAUTHENTICATE [c] s).st := by
  have hcd : curDecoder s = ⟨[], false⟩ := by simp [curDecoder, hdec]
  have hready : (decoderFeed (curDecoder s) c).ready = true := by
    rw [hcd]; unfold decoderFeed
    rcases hc with rfl | ⟨h, _⟩
    · simp
    · simp [h]
  have hchunks : (b64decodedLen (decoderFeed (curDecoder s) c).chunks).isSome = true := by
    rw [hcd]; unfold decoderFeed
    rcases hc with rfl | ⟨h, h2⟩
    · simp only [if_true]; decide
    · by_cases hp : c = sPlus
      · subst hp; simp only [if_true]; decide
      · simp only [hp, if_false, List.nil_append]; exact h2
  have hexp : expectState Gen.Conn.expectDoAuthenticate s = ok s := by
    unfold expectState; rw [hf, if_pos tab_doAuth_sasl]
  unfold doAuthenticate
  rw [hexp, bind_ok]
  simp only [ne_eq, not_true_eq_false, if_false, hready, Bool.not_true, Bool.false_eq_true]
  cases hb : b64decodedLen (decoderFeed (curDecoder s) c).chunks with
  | none => rw [hb] at hchunks; cases hchunks
  | some n =>
    simp only
    obtain ⟨outs, o1, o2, o3, o4⟩ := authRespond_sends n ({ s with dec := none } : St) m hcur hm hs
    exact ⟨outs, o1, by rw [o2]; simp [bot, hdec], o3, o4⟩

theorem bot_drain (s : St) : bot (drain s) = bot s := rfl
theorem bot_callbacks (m : Msg) (s : St) : bot (callbacks cfg m s) = bot s := by
  unfold callbacks; split <;> rfl
theorem ev_callbacks (m : Msg) (s : St) : (callbacks cfg m s).ev = s.ev := by
  unfold callbacks; split <;> rfl

/-- one step, when the nick-setting prelude of feedMsg leaves `s1` -/
theorem step_facts (s s1 : St) (m : Msg) (hn : nickSetter m s = ok s1) :
    (step cfg s m).fast = (runHandler cfg m s1).st.fastq ∧
    (step cfg s m).events = (runHandler cfg m s1).st.ev ∧
    bot (step cfg s m).st = bot (runHandler cfg m s1).st := by
  unfold step observeStep feedMsg
  rw [hn, bind_ok]
  unfold R.bind
  cases (runHandler cfg m s1).exc with
  | some e => exact ⟨rfl, rfl, rfl⟩
  | none =>
    simp only [ok]
    exact ⟨callbacks_fastq m _, ev_callbacks m _, by rw [bot_drain, bot_callbacks]⟩

theorem nickSetter_plain (m : Msg) (s : St) (h : Gen.Conn.nickSetters.contains m.command = false) :
    nickSetter m s = ok s := by
  unfold nickSetter; rw [if_neg (by rw [h]; exact Bool.false_ne_true)]

theorem nickSetter_numeric (c a : Str) (args : List Str) (n : Str) (s : St)
    (h : Gen.Conn.nickSetters.contains c = true) :
    nickSetter ⟨c, a :: args, n⟩ s = ok { s with nick := a } := by
  unfold nickSetter; rw [if_pos h]

/-! ### `_addCapabilities` under the stub driver: the advertised set grows; an `sts` item may abort -/

theorem keys_dictSet {β : Type} (d : List (Str × β)) (k : Str) (v : β) : ∀ x ∈ keys d, x ∈ keys (dictSet d k v) := by
  induction d with
  | nil => intro x hx; simp [keys] at hx
  | cons p ps ih =>
    obtain ⟨k', v'⟩ := p
    intro x hx
    unfold dictSet
    split
    · rename_i he; simp only [keys, List.map_cons, List.mem_cons] at hx ⊢
      rcases hx with rfl | hx
      · exact .inl he
      · exact .inr hx
    · simp only [keys, List.map_cons, List.mem_cons] at hx ⊢
      rcases hx with rfl | hx
      · exact .inl rfl
      · exact .inr (ih x hx)

theorem mem_keys_dictSet {β : Type} (d : List (Str × β)) (k : Str) (v : β) : k ∈ keys (dictSet d k v) := by
  induction d with
  | nil => simp [dictSet, keys]
  | cons p ps ih =>
    obtain ⟨k', v'⟩ := p
    unfold dictSet
    split
    · simp [keys]
    · simp only [keys, List.map_cons, List.mem_cons]; exact .inr ih

/-- the state before and after `_addCapabilities` for a line with the capability names `names`: a driver call was
recorded, or only `capabilities_ls` (which keeps its keys and gains the names) and the STS store changed -/
def AddRel (names : List Str) (s s' : St) : Prop :=
  (∃ e es, s'.ev = s.ev ++ e :: es) ∨
  ∃ L D, s' = { s with ls := L, db := D } ∧ (∀ k ∈ keys s.ls, k ∈ keys L) ∧ ∀ k ∈ names, k ∈ keys L

theorem AddRel.refl (s : St) : AddRel [] s s := .inr ⟨s.ls, s.db, rfl, fun _ h => h, fun _ h => by cases h⟩

theorem AddRel.trans {n1 n2 : List Str} {a b c : St} (h1 : AddRel n1 a b) (h2 : AddRel n2 b c) : AddRel (n1 ++ n2) a c := by
  rcases h1 with ⟨e, es, he⟩ | ⟨L, D, rfl, hk, hn⟩
  · rcases h2 with ⟨e', es', he'⟩ | ⟨_, _, rfl, _, _⟩
    · exact .inl ⟨e, es ++ e' :: es', by rw [he', he]; simp⟩
    · exact .inl ⟨e, es, he⟩
  · rcases h2 with ⟨e', es', he'⟩ | ⟨L', D', rfl, hk', hn'⟩
    · exact .inl ⟨e', es', he'⟩
    · refine .inr ⟨L', D', rfl, fun k h => hk' k (hk k h), fun k h => ?_⟩
      rcases List.mem_append.mp h with h | h
      · exact hk' k (hn k h)
      · exact hn' k h

theorem addRel_setLs (k : Str) (v : Option Str) (s : St) : AddRel [k] s (setLs k v s) :=
  .inr ⟨_, s.db, rfl, keys_dictSet s.ls k v, fun x hx => by rw [List.mem_singleton.mp hx]; exact mem_keys_dictSet _ _ _⟩

theorem addRel_event (o : Out) (s : St) : AddRel [] s (event o s) := .inl ⟨o, [], rfl⟩

theorem addRel_onCapSts (hd : cfg.realDriver = false) (policy : Str) (s : St) : AddRel [] s (onCapSts cfg policy s) := by
  unfold onCapSts
  split
  · exact .refl s
  · split
    · exact .inr ⟨s.ls, _, rfl, fun _ h => h, fun _ h => by cases h⟩
    · rw [stub_reconnect hd]; exact .inl ⟨_, [], rfl⟩

theorem addRel_addCapability (hd : cfg.realDriver = false) (s : St) (item : Str) :
    AddRel [capKey item] s (addCapability cfg s item) := by
  unfold addCapability capKey
  cases split1 '=' (lstripEqTilde item) with
  | some p =>
    simp only
    split
    · exact (addRel_onCapSts hd _ s).trans (addRel_setLs _ _ _)
    · exact addRel_setLs _ _ _
  | none =>
    simp only
    split
    · rw [stub_reconnect hd]; exact (addRel_event _ s).trans (addRel_setLs _ _ _)
    · exact addRel_setLs _ _ _

theorem addRel_addCapabilities (hd : cfg.realDriver = false) (caps : Str) (s : St) :
    AddRel (lsKeys caps) s (addCapabilities cfg caps s) := by
  unfold addCapabilities lsKeys
  generalize splitWs caps = l
  induction l generalizing s with
  | nil => exact .refl s
  | cons c cs ih => exact (addRel_addCapability hd s c).trans (ih _)

/-- what holds in every phase: the mechanisms still to try, and the one in use, are ones the bot made available itself; and
before 001 (`nick0`) the bot still has its configured nick, which counts as tried — what the handling of 432/433/437 relies on -/
structure Common (cfg : Cfg) (b : Bot) (v : View) : Prop where
  mechsNext : ∀ m ∈ b.saslNext, mechAvailable cfg m = true
  mechsCur : ∀ m, b.saslCur = some m → mechAvailable cfg m = true
  nick0 : v.stage = 0 → b.nick = cfg.nick ∧ cfg.nick ∈ b.tried ∧ b.afterConnect = false

/-- the capability bookkeeping of both sides fits together: every capability the bot requested is
acknowledged, refused, or part of a CAP REQ (remainder) the server has yet to answer; what is acknowledged
or advertised is known to the bot as advertised -/
structure Caps (b : Bot) (v : View) : Prop where
  acc : ∀ c ∈ b.req, c ∈ b.ack ∨ c ∈ b.nak ∨ c ∈ v.reqs.flatten
  ackKeys : ∀ c ∈ b.ack, c ∈ keys b.ls
  avail : ∀ c ∈ v.avail, c ∈ keys b.ls
  ne : ∀ l ∈ v.reqs, l ≠ []

/-- the bot fields that `Common`, `Caps` and `Phase` read -/
def commonFields (b : Bot) := (b.saslNext, b.saslCur, b.nick, b.tried, b.afterConnect)
def capsFields (b : Bot) := (b.ls, b.req, b.ack, b.nak)
def phaseFields (b : Bot) := (b.fsm, b.req, b.ack, b.nak, b.saslCur, b.saslAuth, b.dec, b.saslSent, b.scramStep)

/-- every requested capability has been answered -/
def Answered (b : Bot) : Prop := ∀ c ∈ b.req, c ∈ b.ack ∨ c ∈ b.nak

inductive Phase (b : Bot) (v : View) : Prop
  /-- capability negotiation: the final LS, or the answer to a CAP REQ, is owed -/
  | neg (h3 : v.v3 = true) (he : v.ended = false) (hs : v.stage = 0) (hf : b.fsm = .INIT_CAP_NEGOTIATION)
      (ha : v.auth = .none) (hauth : b.saslAuth = false) (hd : b.dec = none)
      (hls : v.lsOwed = true → b.req = [] ∧ b.ack = [] ∧ b.nak = [] ∧ v.reqs = [])
      (howe : v.lsOwed = false → v.reqs ≠ [])
      (hln : v.lateNew = false)
  /-- SASL exchange: an answer to the mechanism request or to the credentials is owed -/
  | sasl (h3 : v.v3 = true) (he : v.ended = false) (hs : v.stage = 0) (hf : b.fsm = .INIT_SASL)
      (ha : v.auth.owed = true) (hauth : b.saslAuth = false) (hd : b.dec = none) (hcur : b.saslCur ≠ none)
      (hl : v.lsOwed = false) (hres : v.lateNew = false → Answered b)
      (hsent : v.auth = .payload → b.saslSent = true) (hround : b.scramStep ≤ v.rounds)
  /-- CAP END sent: the welcome numerics are owed -/
  | waiting (h3 : v.v3 = true) (he : v.ended = true) (hs : v.stage ≤ 5) (hf : b.fsm = .INIT_WAITING_MOTD)
      (ha : v.auth = .none) (hl : v.lsOwed = false) (hres : v.lateNew = false → Answered b)
  /-- a server without capability negotiation: the welcome numerics are owed from the start -/
  | nocap (h3 : v.v3 = false) (hs : v.stage ≤ 5) (hf : b.fsm = .INIT_CAP_NEGOTIATION) (ha : v.auth = .none)
      (hreq : b.req = [])
  /-- 375 received: the MOTD lines and its end are owed -/
  | motd (hw : canWelcome v = true) (hs : v.stage = 6) (hf : b.fsm = .INIT_MOTD) (ha : v.auth = .none)
      (hl : v.v3 = true → v.lsOwed = false) (hres : v.lateNew = false → Answered b)

/-- the conformant server still owes the client something: the fields from which a `SrvMove` other than a PING or an unhandled
message is enabled -/
def Owes (v : View) : Prop :=
  (v.v3 = true ∧ (v.lsOwed = true ∨ v.reqs ≠ [] ∨ v.auth.owed = true)) ∨ (canWelcome v = true ∧ v.stage < 7)

theorem owes_of_phase {b : Bot} {v : View} (p : Phase b v) : Owes v := by
  cases p with
  | neg h3 he hs hf ha hauth hd hls howe hln =>
    left; refine ⟨h3, ?_⟩
    cases h : v.lsOwed with
    | true => exact .inl rfl
    | false => exact .inr (.inl (howe h))
  | sasl h3 he hs hf ha hauth hd hcur hl _ _ _ => exact .inl ⟨h3, .inr (.inr ha)⟩
  | waiting h3 he hs hf ha hl _ => exact .inr ⟨by simp [canWelcome, he], by omega⟩
  | nocap h3 hs hf ha _ => exact .inr ⟨by simp [canWelcome, h3], by omega⟩
  | motd hw hs hf ha hl _ => exact .inr ⟨hw, by omega⟩

/-- aborted deliberately, or connected (end of MOTD seen), or the server waits for a second CAP END (finding C08-req-after-end),
or the registration is in one of its phases -/
def Inv (cfg : Cfg) (s : St) (v : View) : Prop :=
  v.aborted = true ∨ s.afterConnect = true ∨ v.reopened = true ∨
    (Common cfg (bot s) v ∧ Caps (bot s) v ∧ Phase (bot s) v)

theorem inv_core {s : St} {v : View} (h : Common cfg (bot s) v ∧ Caps (bot s) v ∧ Phase (bot s) v) :
    Inv cfg s v := .inr (.inr (.inr h))

theorem inv_reopened {s : St} {v : View} (h : v.reopened = true) : Inv cfg s v := .inr (.inr (.inl h))

/-- the registration is under way and nothing waits on the fast queue -/
structure Live (cfg : Cfg) (s : St) (v : View) : Prop where
  fastq : s.fastq = []
  common : Common cfg (bot s) v
  caps : Caps (bot s) v
  phase : Phase (bot s) v

theorem Live.inv {s : St} {v : View} (h : Live cfg s v) : Inv cfg s v := inv_core ⟨h.common, h.caps, h.phase⟩

/-- the invariant after the joint step: the server sends `m` from `s`; `v1` is its view after that move, before the bot's
reaction is seen -/
def Kept (cfg : Cfg) (s : St) (m : Msg) (v1 : View) : Prop := Inv cfg (step cfg s m).st (seeStep v1 (step cfg s m))

theorem seeOut_aborted (v : View) (o : Out) : (seeOut v o).aborted = v.aborted := by
  cases o <;> rfl

theorem seeStep_aborted (v : View) (r : StepResult) (h : r.events ≠ []) : (seeStep v r).aborted = true := by
  unfold seeStep
  cases he : r.events with
  | nil => exact absurd he h
  | cons _ _ => simp

theorem seeStep_quiet (v : View) (r : StepResult) (h : r.events = []) :
    seeStep v r = r.fast.foldl seeOut v := by
  unfold seeStep
  simp only [h, List.isEmpty_nil, Bool.not_true, Bool.or_false]

theorem run_none {m : Msg} (hd : dispatch m = .none) (s : St) : runHandler cfg m s = ok s := by
  rw [runHandler, hd]

theorem run_n002 {m : Msg} (hd : dispatch m = .n002) (s : St) : runHandler cfg m s = do002 m.args s := by
  rw [runHandler, hd]

theorem run_n904to907 {m : Msg} (hd : dispatch m = .n904to907) (s : St) : runHandler cfg m s = tryNextSasl cfg s := by
  rw [runHandler, hd]

theorem run_n376 {m : Msg} (hd : dispatch m = .n376) (s : St) : runHandler cfg m s = do376 cfg s := by
  rw [runHandler, hd]

theorem run_n43x {m : Msg} (hd : dispatch m = .n43x) (s : St) : runHandler cfg m s = do43x cfg s := by
  rw [runHandler, hd]

theorem inv_bot {s s' : St} {v : View} (hb : bot s' = bot s) (h : Inv cfg s v) : Inv cfg s' v := by
  unfold Inv at *
  rw [hb, show s'.afterConnect = s.afterConnect from congrArg Bot.afterConnect hb]
  exact h

theorem inv_abort {s s1 r : St} {m : Msg} {v : View} (hn : nickSetter m s = ok s1)
    (hr : (runHandler cfg m s1).st = r) (he : r.ev ≠ []) : Kept cfg s m v := by
  unfold Kept
  refine .inl (seeStep_aborted v _ ?_)
  rw [(step_facts s s1 m hn).2.1, hr]; exact he

theorem inv_step {s s1 r : St} {m : Msg} {v : View} (outs : List Out) (hn : nickSetter m s = ok s1)
    (hr : (runHandler cfg m s1).st = r) (ho : r.fastq = outs)
    (h : r.ev = [] → Inv cfg r (outs.foldl seeOut v)) : Kept cfg s m v := by
  unfold Kept
  by_cases he : r.ev = []
  · obtain ⟨f1, f2, f3⟩ := step_facts s s1 m hn
    rw [hr] at f1 f2 f3
    rw [seeStep_quiet v _ (f2.trans he), f1, ho]
    exact inv_bot f3 (h he)
  · exact inv_abort hn hr he

variable {s : St} {v : View}

/-- once `afterConnect` is set the invariant holds for good (stub driver: nothing takes it back) -/
theorem pres_connected (hd : cfg.realDriver = false) {s : St} (m : Msg) (v : View)
    (h : s.afterConnect = true) : Inv cfg (step cfg s m).st v :=
  .inr (.inl ((ref_feedMsg m s).preserves (afterConnect_move hd) h))

theorem phase_congr {b b' : Bot} {v : View} (p : Phase b v) (h : phaseFields b' = phaseFields b) : Phase b' v := by
  simp only [phaseFields, Prod.mk.injEq] at h
  obtain ⟨e1, e3, e4, e5, e6, e7, e8, e9, e10⟩ := h
  have hres : (v.lateNew = false → Answered b) → (v.lateNew = false → Answered b') := fun hr hl => by
    unfold Answered; rw [e3, e4, e5]; exact hr hl
  cases p with
  | neg h3 he hs hf ha hauth hd hls howe hln =>
    exact .neg h3 he hs (e1 ▸ hf) ha (e7 ▸ hauth) (e8 ▸ hd) (by rw [e3, e4, e5]; exact hls) howe hln
  | sasl h3 he hs hf ha hauth hd hcur hl hr hsent hround =>
    exact .sasl h3 he hs (e1 ▸ hf) ha (e7 ▸ hauth) (e8 ▸ hd) (e6 ▸ hcur) hl (hres hr) (e9 ▸ hsent) (e10 ▸ hround)
  | waiting h3 he hs hf ha hl hr => exact .waiting h3 he hs (e1 ▸ hf) ha hl (hres hr)
  | nocap h3 hs hf ha hreq => exact .nocap h3 hs (e1 ▸ hf) ha (e3 ▸ hreq)
  | motd hw hs hf ha hl hr => exact .motd hw hs (e1 ▸ hf) ha hl (hres hr)

theorem caps_congr {b b' : Bot} {v v' : View} (c : Caps b v) (h : capsFields b' = capsFields b) (hr : v'.reqs = v.reqs)
    (ha : v'.avail = v.avail) : Caps b' v' := by
  simp only [capsFields, Prod.mk.injEq] at h
  obtain ⟨e1, e2, e3, e4⟩ := h
  exact ⟨by rw [e2, e3, e4, hr]; exact c.acc, by rw [e3, e1]; exact c.ackKeys, by rw [ha, e1]; exact c.avail,
    by rw [hr]; exact c.ne⟩

theorem common_congr {b b' : Bot} {v v' : View} (c : Common cfg b v) (h : commonFields b' = commonFields b)
    (hs : v'.stage = v.stage) : Common cfg b' v' := by
  simp only [commonFields, Prod.mk.injEq] at h
  obtain ⟨e1, e2, e3, e4, e5⟩ := h
  exact ⟨e1 ▸ c.mechsNext, e2 ▸ c.mechsCur, fun h0 => by rw [e3, e4, e5]; exact c.nick0 (hs ▸ h0)⟩

/-- in the phases in which the welcome may arrive, the stage may advance up to 5 -/
theorem phase_stage {b : Bot} {v : View} (k : Nat) (hk : k ≤ 5) (hw : canWelcome v = true) (hs : v.stage ≤ 5)
    (p : Phase b v) : Phase b { v with stage := k } := by
  cases p with
  | neg h3 he _ _ _ _ _ _ _ _ => simp [canWelcome, h3, he] at hw
  | sasl h3 he _ _ _ _ _ _ _ _ _ _ => simp [canWelcome, h3, he] at hw
  | waiting h3 he _ hf ha hl hres => exact .waiting h3 he hk hf ha hl hres
  | nocap h3 _ hf ha hreq => exact .nocap h3 hk hf ha hreq
  | motd _ hs6 _ _ _ _ => omega

theorem welcome_setter (k : Nat) (hk : 1 ≤ k ∧ k ≤ 5) : Gen.Conn.nickSetters.contains (welcomeNumeric k) = true := by
  obtain ⟨h1, h2⟩ := hk
  have : k = 1 ∨ k = 2 ∨ k = 3 ∨ k = 4 ∨ k = 5 := by omega
  rcases this with rfl | rfl | rfl | rfl | rfl <;> decide

theorem welcome_dispatch (k : Nat) (hk : 1 ≤ k ∧ k ≤ 5) (a : List Str) (n : Str) :
    dispatch ⟨welcomeNumeric k, a, n⟩ = .none ∨ dispatch ⟨welcomeNumeric k, a, n⟩ = .n002 := by
  obtain ⟨h1, h2⟩ := hk
  have : k = 1 ∨ k = 2 ∨ k = 3 ∨ k = 4 ∨ k = 5 := by omega
  rcases this with rfl | rfl | rfl | rfl | rfl
  · exact .inl rfl
  · exact .inr rfl
  · exact .inl rfl
  · exact .inl rfl
  · exact .inl rfl

theorem do002_st (args : List Str) (s : St) : (do002 args s).st = s := by
  unfold do002; split
  · rfl
  · split <;> rfl

theorem pres_welcome (k : Nat) (a : Str) (args : List Str) (n : Str)
    (hw : canWelcome v = true) (hk : 1 ≤ k ∧ k ≤ 5) (hs : v.stage + 1 = k)
    (h : Live cfg s v) : Kept cfg s ⟨welcomeNumeric k, a :: args, n⟩ { v with stage := k } := by
  have hst : (runHandler cfg ⟨welcomeNumeric k, a :: args, n⟩ { s with nick := a }).st = { s with nick := a } := by
    rcases welcome_dispatch k hk (a :: args) n with hd | hd
    · rw [run_none hd]; rfl
    · rw [run_n002 hd]; exact do002_st _ _
  obtain ⟨hq1, hc, hcp, hp⟩ := h
  refine inv_step [] (nickSetter_numeric _ _ _ _ _ (welcome_setter k hk)) hst hq1 fun _ => inv_core ⟨⟨hc.mechsNext, hc.mechsCur, ?_⟩,
    caps_congr hcp rfl rfl rfl, phase_congr (phase_stage k hk.2 hw (by omega) hp) rfl⟩
  intro h0; simp only [List.foldl_nil] at h0; omega

theorem pres_motdLine (a : Str) (args : List Str) (n : Str) (hs : v.stage = 6)
    (h : Live cfg s v) : Kept cfg s ⟨num '3' '7' '2', a :: args, n⟩ v := by
  obtain ⟨hq1, hc, hcp, hp⟩ := h
  refine inv_step (r := { s with nick := a }) [] (nickSetter_numeric _ _ _ _ _ (by decide)) rfl hq1 fun _ =>
    inv_core ⟨⟨hc.mechsNext, hc.mechsCur, ?_⟩, caps_congr hcp rfl rfl rfl, phase_congr hp rfl⟩
  intro h0; simp only [List.foldl_nil] at h0; omega

theorem do375_stub (hd : cfg.realDriver = false) (s : St)
    (hf : s.fsm = .INIT_CAP_NEGOTIATION ∨ s.fsm = .INIT_WAITING_MOTD) :
    do375 cfg s = (if saslMissing cfg s = true then ok (event (.reconnect true none) s) else ok { s with fsm := .INIT_MOTD }) := by
  have hg : Gen.Conn.guardStartMotd.contains s.fsm = true := by
    rcases hf with hf | hf <;> rw [hf]
    · exact tab_startMotd_neg
    · exact tab_startMotd_waiting
  rw [do375_eq, stub_reconnect hd, if_pos hg]

theorem do376_stub (hd : cfg.realDriver = false) (s : St)
    (hf : s.fsm = .INIT_CAP_NEGOTIATION ∨ s.fsm = .INIT_WAITING_MOTD ∨ s.fsm = .INIT_MOTD) :
    do376 cfg s = (if saslMissing cfg s = true then ok (event (.reconnect true none) s)
      else ok { s with fsm := .CONNECTED, afterConnect := true, altNicks := cfg.alternates }) := by
  have hg : Gen.Conn.guardEndMotd.contains s.fsm = true := by
    rcases hf with hf | hf | hf <;> rw [hf]
    · exact tab_endMotd_neg
    · exact tab_endMotd_waiting
    · exact tab_endMotd_motd
  rw [do376_eq, stub_reconnect hd, if_pos hg]

theorem phase_of_welcome {b : Bot} {v : View} (hw : canWelcome v = true) (hs : v.stage ≤ 5) (p : Phase b v) :
    (b.fsm = .INIT_CAP_NEGOTIATION ∨ b.fsm = .INIT_WAITING_MOTD) ∧ v.auth = .none ∧ (v.v3 = true → v.lsOwed = false) ∧
    (v.lateNew = false → Answered b) := by
  cases p with
  | neg h3 he _ _ _ _ _ _ _ _ => simp [canWelcome, h3, he] at hw
  | sasl h3 he _ _ _ _ _ _ _ _ _ _ => simp [canWelcome, h3, he] at hw
  | waiting h3 he _ hf ha hl hres => exact ⟨.inr hf, ha, fun _ => hl, hres⟩
  | nocap h3 _ hf ha hreq => exact ⟨.inl hf, ha, fun h => (by rw [h3] at h; cases h), fun _ c hc => (by rw [hreq] at hc; cases hc)⟩
  | motd _ hs6 _ _ _ _ => omega

theorem pres_motdStart (hd : cfg.realDriver = false) (a : Str) (args : List Str) (n : Str)
    (hw : canWelcome v = true) (hs : v.stage = 5)
    (h : Live cfg s v) : Kept cfg s ⟨num '3' '7' '5', a :: args, n⟩ { v with stage := 6 } := by
  obtain ⟨hq1, hc, hcp, hp⟩ := h
  obtain ⟨hfsm, hauth, hl, hres⟩ := phase_of_welcome hw (by omega) hp
  have hn := nickSetter_numeric (num '3' '7' '5') a args n s (by decide)
  have h375 : runHandler cfg ⟨num '3' '7' '5', a :: args, n⟩ { s with nick := a } = _ := do375_stub hd ({ s with nick := a } : St) hfsm
  by_cases hm : saslMissing cfg ({ s with nick := a } : St) = true
  · rw [if_pos hm] at h375
    exact inv_abort hn (congrArg R.st h375) (by simp [ok, event])
  · rw [if_neg hm] at h375
    exact inv_step [] hn (congrArg R.st h375) hq1 fun _ => inv_core ⟨⟨hc.mechsNext, hc.mechsCur, fun h0 => by simp at h0⟩,
      caps_congr hcp rfl rfl rfl, .motd hw rfl rfl hauth hl hres⟩

theorem pres_endMotd (hd : cfg.realDriver = false) {s s1 : St} {v' : View} (m : Msg)
    (hn : nickSetter m s = ok s1) (hdisp : dispatch m = .n376)
    (hf : s1.fsm = .INIT_CAP_NEGOTIATION ∨ s1.fsm = .INIT_WAITING_MOTD ∨ s1.fsm = .INIT_MOTD) :
    Kept cfg s m v' := by
  have h376 := (run_n376 hdisp s1).trans (do376_stub hd s1 hf)
  by_cases hm : saslMissing cfg s1 = true
  · rw [if_pos hm] at h376
    exact inv_abort hn (congrArg R.st h376) (by simp [ok, event])
  · rw [if_neg hm] at h376
    refine .inr (.inl ?_)
    rw [show (step cfg s m).st.afterConnect = (bot (step cfg s m).st).afterConnect from rfl, (step_facts s s1 m hn).2.2, h376]
    rfl

def isNickOut : Out → Bool
  | .nick _ => true
  | .nickRandom => true
  | _ => false

theorem seeOut_nick (v : View) (o : Out) (h : isNickOut o = true) : seeOut v o = v := by
  cases o <;> first | rfl | cases h

/-- Irc.do43x before the welcome, the start nick being a tried one: a new NICK is always sent -/
theorem do43x_sends (s : St) (ha : s.afterConnect = false) (hn : s.nick = cfg.nick) (ht : cfg.nick ∈ s.tried) :
    ∃ o alt tr, isNickOut o = true ∧ do43x cfg s = ok (sendMsg o { s with altNicks := alt, tried := tr }) ∧
      ∀ x ∈ s.tried, x ∈ tr := by
  have htc : s.tried.contains cfg.nick = true := by simpa using ht
  unfold do43x
  rw [if_neg (by rw [ha]; exact Bool.false_ne_true)]
  unfold getNextNick
  cases hal : s.altNicks with
  | nil =>
    simp only [nickFallback]
    rw [if_pos htc]
    exact ⟨.nickRandom, [], s.tried, rfl, by rw [← hal], fun _ h => h⟩
  | cons a rest =>
    simp only
    by_cases hc : s.tried.contains (altNick cfg a) = true
    · rw [if_pos hc]
      simp only [nickFallback]
      rw [if_pos htc]
      exact ⟨.nickRandom, rest, s.tried, rfl, rfl, fun _ h => h⟩
    · rw [if_neg hc]
      have hne : altNick cfg a ≠ s.nick := by
        intro he; rw [he, hn] at hc; exact hc htc
      simp only
      rw [if_neg hne]
      exact ⟨.nick (altNick cfg a), rest, s.tried ++ [altNick cfg a], rfl, rfl, fun x h => List.mem_append_left _ h⟩

theorem refusal_dispatch (c : Str) (hc : isNickRefusal c = true) (args : List Str) (n : Str) :
    dispatch ⟨c, args, n⟩ = .n43x ∧ Gen.Conn.nickSetters.contains c = false := by
  unfold isNickRefusal at hc
  simp only [Bool.or_eq_true, decide_eq_true_eq] at hc
  rcases hc with (rfl | rfl) | rfl <;> exact ⟨rfl, by decide⟩

theorem pres_nickRefused (c : Str) (args : List Str) (n : Str)
    (hs : v.stage = 0) (hc : isNickRefusal c = true)
    (h : Live cfg s v) : Kept cfg s ⟨c, args, n⟩ v := by
  obtain ⟨hd, hns⟩ := refusal_dispatch c hc args n
  obtain ⟨hq1, hcm, hcp, hp⟩ := h
  obtain ⟨h1, h2, h3⟩ := hcm.nick0 hs
  obtain ⟨o, alt, tr, ho, hdo, htr⟩ := do43x_sends s h3 h1 h2
  refine inv_step [o] (nickSetter_plain _ _ hns) (congrArg R.st ((run_n43x hd s).trans hdo)) (by simp [ok, sendMsg, hq1]) fun _ => ?_
  simp only [List.foldl_cons, List.foldl_nil, seeOut_nick v o ho]
  exact inv_core ⟨⟨hcm.mechsNext, hcm.mechsCur, fun _ => ⟨h1, htr _ h2, h3⟩⟩, caps_congr hcp rfl rfl rfl,
    phase_congr hp rfl⟩

theorem seeOut_payload (o : Out) (h : isPayloadOut o = true) : ∃ x, ∀ v : View, seeOut v o = { v with auth := x } := by
  cases o <;> first | exact ⟨_, fun _ => rfl⟩ | cases h

theorem fold_payload_aux (outs : List Out) (hall : ∀ o ∈ outs, isPayloadOut o = true) (v : View) :
    ∃ x, outs.foldl seeOut v = { v with auth := x } := by
  induction outs generalizing v with
  | nil => exact ⟨v.auth, rfl⟩
  | cons o os ih =>
    obtain ⟨x, hx⟩ := seeOut_payload o (hall o List.mem_cons_self)
    obtain ⟨y, hy⟩ := ih (fun q hq => hall q (List.mem_cons_of_mem _ hq)) { v with auth := x }
    exact ⟨y, by rw [List.foldl_cons, hx, hy]⟩

/-- the server has a complete answer in front of it once the lines of an `Answer` arrived -/
theorem fold_payload (outs : List Out) (v : View) (h : Answer outs) : outs.foldl seeOut v = { v with auth := .payload } := by
  obtain ⟨hall, init, o, rfl, hfin⟩ := h
  obtain ⟨x, hx⟩ := fold_payload_aux init (fun q hq => hall q (List.mem_append_left _ hq)) v
  rw [List.foldl_append, hx]
  simp only [List.foldl_cons, List.foldl_nil]
  cases o with
  | authPayload c =>
    simp only [isFinalOut, bne_iff_ne, ne_eq] at hfin
    simp [seeOut, hfin]
  | authOpaque => rfl
  | _ => cases hfin

theorem owed_ne_none {a : AuthSt} (h : a.owed = true) : a ≠ .none := by
  intro he; rw [he] at h; cases h

theorem cont_owed {a : AuthSt} (h : a.cont = true) : a.owed = true := by
  cases a <;> first | rfl | cases h

theorem phase_of_auth {b : Bot} {v : View} (ha : v.auth ≠ .none) (p : Phase b v) :
    v.v3 = true ∧ v.ended = false ∧ v.stage = 0 ∧ b.fsm = .INIT_SASL ∧ b.saslAuth = false ∧ b.dec = none ∧
    b.saslCur ≠ none ∧ v.lsOwed = false ∧ (v.lateNew = false → Answered b) ∧ (v.auth = .payload → b.saslSent = true) ∧
    b.scramStep ≤ v.rounds := by
  cases p with
  | neg _ _ _ _ h _ _ _ _ _ => exact absurd h ha
  | sasl h3 he hs hf _ hauth hd hcur hl hres hsent hround => exact ⟨h3, he, hs, hf, hauth, hd, hcur, hl, hres, hsent, hround⟩
  | waiting _ _ _ _ h _ _ => exact absurd h ha
  | nocap _ _ _ h _ => exact absurd h ha
  | motd _ _ _ h _ _ => exact absurd h ha

theorem pres_authContinue (c n : Str) (hav : v.auth.cont = true) (hrd : v.rounds < 3)
    (hc : c = sPlus ∨ (c.length ≠ Gen.Conn.authenticateChunkSize ∧ (b64decodedLen [c]).isSome = true))
    (h : Live cfg s v) : Kept cfg s ⟨sAUTHENTICATE, [c], n⟩ { v with auth := .none, rounds := v.rounds + 1 } := by
  obtain ⟨hq1, hcm, hcp, hp⟩ := h
  obtain ⟨h3, he, hs, hf, hauth, hd, hcur, hl, hres, hsent, hround⟩ := phase_of_auth (owed_ne_none (cont_owed hav)) hp
  cases hm : s.saslCur with
  | none => exact absurd hm hcur
  | some m =>
    obtain ⟨outs, o1, hb, o3, o4⟩ :=
      doAuthenticate_sasl s c hf hd hc m hm (hcm.mechsCur m hm) (Nat.lt_of_le_of_lt hround hrd)
    refine inv_step (r := (doAuthenticate cfg sAUTHENTICATE [c] s).st) outs (nickSetter_plain _ _ rfl) rfl
      (by rw [o1, hq1]; rfl) fun _ => ?_
    -- what the server makes of the answer: a complete one, or the abort marker
    have hfold : ∃ x, outs.foldl seeOut { v with auth := .none, rounds := v.rounds + 1 } = { v with auth := x, rounds := v.rounds + 1 } ∧
        x.owed = true ∧ (x = .payload → (doAuthenticate cfg sAUTHENTICATE [c] s).st.saslSent = true) := by
      rcases o4 with ⟨hans, hst⟩ | ⟨rfl, _⟩
      · exact ⟨.payload, by rw [fold_payload outs _ hans], rfl, fun _ => hst⟩
      · exact ⟨.abort, rfl, rfl, fun hx => by cases hx⟩
    obtain ⟨x, hx1, hx2, hx3⟩ := hfold
    rw [hx1]
    refine inv_core ⟨?_, ?_, ?_⟩ <;> rw [hb]
    · exact common_congr hcm rfl rfl
    · exact caps_congr hcp rfl rfl rfl
    · exact .sasl h3 he hs hf hx2 hauth hd hcur hl hres hx3 (Nat.le_trans o3 (Nat.succ_le_succ hround))

/-- Irc.do903 in INIT_SASL after a complete response: authenticated, back to the negotiation state, CAP END at once -/
theorem do903_sasl (hd : cfg.realDriver = false) (s : St) (hf : s.fsm = .INIT_SASL) (hsent : s.saslSent = true) :
    do903 cfg s = ok (sendMsg .capEnd { s with saslAuth := true, fsm := .INIT_WAITING_MOTD, endCount := s.endCount + 1 }) := by
  unfold do903 expectState
  rw [hf, if_pos tab_do903_sasl, bind_ok]
  rw [if_neg (by rw [hsent]; decide)]
  unfold onSaslAuthFinished tableTransition
  simp only [hf, tab_saslFin_sasl, bind_ok, if_true]
  rw [endCap_neg hd _ rfl]
  simp [saslMissing]

theorem pres_authOk (hd : cfg.realDriver = false) (args : List Str) (n : Str)
    (hav : v.auth = .payload)
    (h : Live cfg s v) : Kept cfg s ⟨num '9' '0' '3', args, n⟩ { v with auth := .none } := by
  obtain ⟨hq1, hcm, hcp, hp⟩ := h
  obtain ⟨h3, he, hs, hf, hauth, hdec, hcur, hl, hres, hsent, hround⟩ := phase_of_auth (by rw [hav]; simp) hp
  have hrun : runHandler cfg ⟨num '9' '0' '3', args, n⟩ s = _ := do903_sasl hd s hf (hsent hav)
  exact inv_step [.capEnd] (nickSetter_plain _ _ rfl) (congrArg R.st hrun) (by simp [ok, sendMsg, hq1]) fun _ =>
    inv_core ⟨common_congr hcm rfl rfl, caps_congr hcp rfl rfl rfl,
      .waiting h3 rfl (Nat.le_trans (Nat.le_of_eq hs) (Nat.zero_le 5)) rfl rfl hl hres⟩

theorem fail_dispatch (c : Str) (hc : isFailNumeric c = true) (args : List Str) (n : Str) :
    dispatch ⟨c, args, n⟩ = .n904to907 ∧ Gen.Conn.nickSetters.contains c = false := by
  unfold isFailNumeric at hc
  simp only [Bool.or_eq_true, decide_eq_true_eq] at hc
  rcases hc with ((rfl | rfl) | rfl) | rfl <;> exact ⟨rfl, by decide⟩

theorem pres_authFail (hd : cfg.realDriver = false) (c : Str) (args : List Str) (n : Str)
    (hav : v.auth.owed = true) (hc : isFailNumeric c = true)
    (h : Live cfg s v) : Kept cfg s ⟨c, args, n⟩ { v with auth := .none } := by
  obtain ⟨hq1, hcm, hcp, hp⟩ := h
  obtain ⟨h3, he, hs, hf, hauth, hdec, hcur, hl, hres, hsent, hround⟩ := phase_of_auth (owed_ne_none hav) hp
  obtain ⟨hdisp, hns⟩ := fail_dispatch c hc args n
  have hn := nickSetter_plain ⟨c, args, n⟩ s hns
  have ht := (run_n904to907 hdisp s).trans (tryNext_sasl hd s hf)
  cases hnx : s.saslNext with
  | cons m rest =>
    -- the next mechanism is requested
    rw [hnx] at ht; simp only at ht
    have hsub : ∀ x ∈ m :: rest, mechAvailable cfg x = true := fun x hx => hcm.mechsNext x (by show x ∈ s.saslNext; rw [hnx]; exact hx)
    exact inv_step [.authMech (asciiUpper m)] hn (congrArg R.st ht) (by simp [ok, sendMsg, hq1]) fun _ =>
      inv_core ⟨⟨fun x hx => hsub x (List.mem_cons_of_mem _ hx), fun x hx => Option.some.inj hx ▸ hsub m List.mem_cons_self,
          fun _ => hcm.nick0 hs⟩,
        caps_congr hcp rfl rfl rfl,
        .sasl h3 he hs hf rfl hauth hdec (fun hx => by cases hx) hl hres (fun hx => by cases hx) (Nat.zero_le _)⟩
  | nil =>
    rw [hnx] at ht; simp only at ht
    by_cases hr : cfg.required = true
    · rw [if_pos hr] at ht
      exact inv_abort hn (congrArg R.st ht) (by simp [ok, event])
    · -- no mechanism left and SASL not required: CAP END
      rw [if_neg hr] at ht
      exact inv_step [.capEnd] hn (congrArg R.st ht) (by simp [ok, sendMsg, hq1]) fun _ =>
        inv_core ⟨⟨fun x hx => (by cases hx), fun x hx => (by cases hx),
            fun _ => hcm.nick0 hs⟩,
          caps_congr hcp rfl rfl rfl,
          .waiting h3 rfl (Nat.le_trans (Nat.le_of_eq hs) (Nat.zero_le 5)) rfl rfl hl hres⟩

end C08
