/-
C08 — control-flow abstraction of the model.

`α : St → Abs` keeps what the control flow depends on: the FSM state, the SASL / afterConnect flags, the ghost counters,
whether `sasl` is acknowledged, the *kinds* of the messages waiting on the fast queue, the number of driver aborts, and
summaries of the queues, the STS store and the driver (see the fields of `Abs`).
`Move` lists the elementary changes the handlers can make to that abstraction, each with the guard under
which the code makes it; `Moves` is the reflexive-transitive closure.  Every function of the model is
shown to refine `Moves` (one lemma per function, using the table lemmas about the extracted FSM guards).
All control-flow invariants are then proved once, on `Move`.
-/
import LimnoriaModel.C08.Model
namespace C08
open Py
open Gen.Conn (Fsm)

inductive Kind where
  | connect | capReq | capEnd | authMech | payload | nick | pong
  | startSasl      -- not a message: the permission to enter a SASL state (`on_sasl_cap`)
  | ackPerm        -- not a message: the permission to raise the ghost `saslAcked` (CAP ACK)
  | connPerm       -- not a message: the permission to open a new socket at once (`reconnect(wait=False)`)
  | authPerm       -- not a message: the permission to raise `sasl_authenticated` (903)
  | side           -- JOINs (normal queue only) and driver events: never on the fast queue
  | joinPerm       -- not a message: the permission to queue the JOINs (Owner.do376/do377/do422)
  | storePerm      -- not a message: the permission to store an STS policy (CAP LS / CAP NEW)
deriving DecidableEq, Repr

def Out.kind : Out → Kind
  | .capLs => .connect
  | .pass _ => .connect
  | .user _ _ => .connect
  | .nick _ => .nick
  | .nickRandom => .nick
  | .capReq _ => .capReq
  | .capEnd => .capEnd
  | .authMech _ => .authMech
  | .authPayload _ => .payload
  | .authOpaque => .payload
  | .authAbort => .payload
  | .pong _ => .pong
  | _ => .side         -- join / driver events never enter the fast queue

def isSaslState (f : Fsm) : Bool := f = .INIT_SASL || f = .CONNECTED_SASL

/-- kinds that are only sent inside a SASL exchange -/
def Kind.sasl (k : Kind) : Bool := k = .authMech || k = .payload

structure Abs where
  fsm : Fsm
  saslAuth : Bool
  afterConnect : Bool
  endCount : Nat
  epoch : Nat
  ackSasl : Bool
  kinds : List Kind
  aborts : Nat
  acked : Bool       -- ghost `saslAcked`
  slowOk : Bool      -- the normal queue holds nothing but JOINs
  evOk : Bool        -- the event list holds nothing but driver events
  wantedOk : Bool    -- REQUEST_CAPABILITIES ⊆ the extracted set + `sasl`
  policies : List (Str × Str)   -- the stored STS policies (ircdb.networks)
  forced : Bool      -- driver.currentServer.force_tls_verification
  sock : Nat         -- sockets opened so far
  sent : Bool        -- sasl_response_sent
  joinQ : Bool       -- a JOIN of Owner.do376 waits on the normal queue
  conn : Bool        -- driver.connected
  host : Str         -- driver.currentServer.hostname
  bad : Bool         -- ghost `joinBad`
deriving DecidableEq, Repr

def isReconnect : Out → Bool
  | .reconnect _ _ => true
  | _ => false

/-- things that are not messages of the fast queue -/
def isSide : Out → Bool
  | .join => true
  | .reconnect _ _ => true
  | .closed => true
  | .connected _ _ _ => true
  | .connectFailed _ => true
  | _ => false

def isWanted (c : Str) : Bool := Gen.Conn.requestCapabilities.contains c || c == sSasl

def α (s : St) : Abs :=
  { fsm := s.fsm, saslAuth := s.saslAuth, afterConnect := s.afterConnect, endCount := s.endCount,
    epoch := s.epoch, ackSasl := s.ack.contains sSasl, kinds := s.fastq.map Out.kind,
    aborts := (s.ev.filter isReconnect).length, acked := s.saslAcked,
    slowOk := s.slowq.all isSide, evOk := s.ev.all isSide, wantedOk := s.wanted.all isWanted,
    policies := s.db.policies, forced := s.drv.current.forced, sock := s.drv.sock,
    sent := s.saslSent, joinQ := s.slowq.contains .join, conn := s.drv.connected, host := s.drv.current.host,
    bad := s.joinBad }

/-- `secure_connection` of Irc._onCapSts, on the abstraction -/
def aSecure (cfg : Cfg) (a : Abs) : Bool := a.forced || (cfg.ssl && cfg.certValidation)

/-- `Irc._abortIfSaslRequired` would abort -/
def missing (cfg : Cfg) (a : Abs) : Bool := cfg.required && !a.saslAuth

/-- kinds of the messages queued by `_queueConnectMessages` -/
def connectKinds (cfg : Cfg) : List Kind :=
  [.connect] ++ (if cfg.password.isEmpty then [] else [.connect]) ++ [.nick, .connect]

inductive Move (cfg : Cfg) (K : Kind → Bool) : Abs → Abs → Prop
  /-- a message of an allowed kind is queued; SASL kinds only inside a SASL state; CAP END never this way -/
  | emit (a : Abs) (k : Kind) (hK : K k = true) (hEnd : k ≠ .capEnd) (hS : k.sasl = true → isSaslState a.fsm = true) :
      Move cfg K a { a with kinds := a.kinds ++ [k] }
  /-- endCapabilityNegociation: only from INIT_CAP_NEGOTIATION, not when SASL is required and missing -/
  | capEnd (a : Abs) (h : a.fsm = .INIT_CAP_NEGOTIATION) (hm : missing cfg a = false) :
      Move cfg K a { a with fsm := .INIT_WAITING_MOTD, endCount := a.endCount + 1, kinds := a.kinds ++ [.capEnd] }
  /-- on_sasl_cap from _maybeStartSasl -/
  | saslStart (a : Abs) (to : Fsm) (h : (a.fsm = .INIT_CAP_NEGOTIATION ∧ to = .INIT_SASL) ∨ (a.fsm = .CONNECTED ∧ to = .CONNECTED_SASL))
      (hack : a.ackSasl = true) (hauth : a.saslAuth = false) (hK : K .startSasl = true) : Move cfg K a { a with fsm := to }
  /-- on_sasl_auth_finished -/
  | saslFinish (a : Abs) (to : Fsm) (h : (a.fsm = .INIT_SASL ∧ to = .INIT_CAP_NEGOTIATION) ∨ (a.fsm = .CONNECTED_SASL ∧ to = .CONNECTED)) :
      Move cfg K a { a with fsm := to }
  | startMotd (a : Abs) (h : a.fsm = .INIT_CAP_NEGOTIATION ∨ a.fsm = .INIT_WAITING_MOTD ∨ a.fsm = .CONNECTED ∨ a.fsm = .CONNECTED_SASL)
      (hm : missing cfg a = false) : Move cfg K a { a with fsm := .INIT_MOTD }
  | endMotd (a : Abs) (h : a.fsm = .INIT_CAP_NEGOTIATION ∨ a.fsm = .INIT_WAITING_MOTD ∨ a.fsm = .INIT_MOTD ∨ a.fsm = .CONNECTED ∨ a.fsm = .CONNECTED_SASL)
      (hm : missing cfg a = false) : Move cfg K a { a with fsm := .CONNECTED }
  | setAfterConnect (a : Abs) (h : a.fsm = .CONNECTED) (hm : missing cfg a = false) : Move cfg K a { a with afterConnect := true }
  | shutdown (a : Abs) : Move cfg K a { a with fsm := .SHUTTING_DOWN }
  /-- do903: the server says the authentication succeeded; honoured only inside a SASL state, after a
  complete response of ours for the current mechanism -/
  | authOk (a : Abs) (h : isSaslState a.fsm = true) (hs : a.sent = true) (hK : K .authPerm = true) :
      Move cfg K a { a with saslAuth := true }
  /-- sendSaslString completed: only a handler that may send credentials, inside a SASL state -/
  | respond (a : Abs) (h : isSaslState a.fsm = true) (hK : K .payload = true) : Move cfg K a { a with sent := true }
  /-- tryNextSaslMechanism starts another mechanism -/
  | unsent (a : Abs) : Move cfg K a { a with sent := false }
  /-- Owner.do376/do377/do422 queue the JOINs: after Irc.do376 completed, or after it dropped the connection -/
  | joinQueue (a : Abs) (h : a.afterConnect = true ∨ a.conn = false ∨ cfg.realDriver = false) (hK : K .joinPerm = true) :
      Move cfg K a { a with joinQ := true }
  /-- SocketDriver.reconnect closes the current socket -/
  | disc (a : Abs) : Move cfg K a { a with conn := false }
  /-- SocketDriver.reconnect: the connection attempt to the next server failed -/
  | connFail (a : Abs) (f : Bool) (h : Str) (hr : cfg.realDriver = true) (hK : K .connPerm = true) :
      Move cfg K a { a with forced := f, sock := a.sock + 1, conn := false, host := h }
  /-- a CAP ACK leaves `sasl` acknowledged -/
  | ackGain (a : Abs) (hK : K .ackPerm = true) : Move cfg K a { a with ackSasl := true, acked := true }
  /-- CAP DEL removes `sasl` from the acknowledged set -/
  | ackLose (a : Abs) : Move cfg K a { a with ackSasl := false }
  | abort (a : Abs) : Move cfg K a { a with aborts := a.aborts + 1 }
  /-- Irc.reset() from inside a handler: only with the real driver -/
  | reset (a : Abs) (h : cfg.realDriver = true) :
      Move cfg K a { fsm := .INIT_CAP_NEGOTIATION, saslAuth := false, afterConnect := false, endCount := 0,
                     epoch := a.epoch + 1, ackSasl := false, kinds := connectKinds cfg, aborts := a.aborts,
                     acked := false, slowOk := true, evOk := a.evOk, wantedOk := true,
                     policies := a.policies, forced := a.forced, sock := a.sock,
                     sent := false, joinQ := false, conn := a.conn, host := a.host, bad := a.bad }
  /-- Irc._onCapSts stores the policy: only on a connection it considers secure -/
  | store (a : Abs) (h : aSecure cfg a = true) (ps : List (Str × Str)) (hK : K .storePerm = true) :
      Move cfg K a { a with policies := ps }
  /-- ServersMixin._applyStsPolicy drops an expired policy -/
  | expire (a : Abs) (host : Str) : Move cfg K a { a with policies := dictDel a.policies host }
  /-- SocketDriver.reconnect opens a socket to the next server: nothing of an earlier connection waits on
  the normal queue; a server for whose host a policy is stored is connected to with forced verification -/
  | conn (a : Abs) (f : Bool) (h : Str) (hr : cfg.realDriver = true) (hK : K .connPerm = true) (hj : a.joinQ = false)
      (hp : (dictGet a.policies h).isSome = true → f = true ∨ (cfg.ssl && cfg.certValidation) = true) :
      Move cfg K a { a with forced := f, sock := a.sock + 1, conn := true, host := h }

inductive Moves (cfg : Cfg) (K : Kind → Bool) : Abs → Abs → Prop
  | refl (a : Abs) : Moves cfg K a a
  | step {a b c : Abs} : Moves cfg K a b → Move cfg K b c → Moves cfg K a c

namespace Moves
variable {cfg : Cfg} {K : Kind → Bool}

theorem single {a b : Abs} (h : Move cfg K a b) : Moves cfg K a b := .step (.refl a) h

theorem trans {a b c : Abs} (h1 : Moves cfg K a b) (h2 : Moves cfg K b c) : Moves cfg K a c := by
  induction h2 with
  | refl => exact h1
  | step _ m ih => exact .step ih m

theorem of_eq {a b : Abs} (h : a = b) : Moves cfg K a b := h ▸ .refl a

theorem preserves {I : Abs → Prop} (step : ∀ {a b : Abs}, I a → Move cfg K a b → I b) {a b : Abs}
    (h : I a) (m : Moves cfg K a b) : I b := by
  induction m with
  | refl => exact h
  | step _ m ih => exact step ih m

theorem reflects {I : Abs → Prop} (step : ∀ {a b : Abs}, Move cfg K a b → I b → I a) {a b : Abs}
    (m : Moves cfg K a b) (h : I b) : I a := by
  induction m with
  | refl => exact h
  | step _ m ih => exact ih (step m h)

end Moves

theorem Move.mono {cfg : Cfg} {K K' : Kind → Bool} (hK : ∀ k, K k = true → K' k = true) {a b : Abs}
    (h : Move cfg K a b) : Move cfg K' a b := by
  cases h
  case emit k h1 h2 h3 => exact .emit _ k (hK k h1) h2 h3
  case capEnd h hm => exact .capEnd _ h hm
  case saslStart to h h1 h2 h3 => exact .saslStart _ to h h1 h2 (hK _ h3)
  case saslFinish to h => exact .saslFinish _ to h
  case startMotd h hm => exact .startMotd _ h hm
  case endMotd h hm => exact .endMotd _ h hm
  case setAfterConnect h hm => exact .setAfterConnect _ h hm
  case shutdown => exact .shutdown _
  case authOk h hs hp => exact .authOk _ h hs (hK _ hp)
  case respond h hp => exact .respond _ h (hK _ hp)
  case unsent => exact .unsent _
  case joinQueue h hp => exact .joinQueue _ h (hK _ hp)
  case disc => exact .disc _
  case connFail f h hr hp => exact .connFail _ f h hr (hK _ hp)
  case ackGain h => exact .ackGain _ (hK _ h)
  case ackLose => exact .ackLose _
  case abort => exact .abort _
  case reset h => exact .reset _ h
  case store h ps hp => exact .store _ h ps (hK _ hp)
  case expire host => exact .expire _ host
  case conn f h hr hp hj hpol => exact .conn _ f h hr (hK _ hp) hj hpol

theorem Moves.mono {cfg : Cfg} {K K' : Kind → Bool} (hK : ∀ k, K k = true → K' k = true) {a b : Abs}
    (h : Moves cfg K a b) : Moves cfg K' a b := by
  induction h with
  | refl => exact .refl _
  | step _ m ih => exact .step ih (m.mono hK)

end C08
