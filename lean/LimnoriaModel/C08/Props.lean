/-
C08 — property theorems about the model of the CAP / SASL registration machine.

Vocabulary.  `step cfg s m` is one `irc.feedMsg(m)` followed by draining the queues (stub driver);
`.fast` is what was put on the fast queue (CAP, AUTHENTICATE, NICK, PONG … are all sent with `sendMsg`),
`.st` the state afterwards.  `Reach cfg base s`: `s` is reachable from `Irc(network)` by any sequence of
server messages and `irc.reset()` calls — the quantification over *all* histories.  The per-step theorems
hold from every state whose fast queue is empty, in particular from every reachable one.
-/
import LimnoriaModel.C08.Trace
import LimnoriaModel.C08.Progress
namespace C08
open Py
open Gen.Conn (Fsm)

/-! ### examples used for non-vacuity -/

def exCfg : Cfg where
  nick := ['b','o','t']
  ident := ['i']
  user := ['u']
  password := []
  alternates := [['%','s','_']]
  mechanisms := [sPlain]
  saslUser := ['u']
  saslPass := ['p']
  ecdsaKey := []
  ecdsaKeyOk := false
  certfile := false
  required := false
  joins := false
  hasCrypto := true
  realDriver := false
  ssl := false
  certValidation := false
  verifyCerts := false
  servers := []

def exStar : Str := ['*']
/-- `CAP * LS :echo-message labeled-response sasl` -/
def exLs : Msg := ⟨sCAP, [exStar, ['L','S'], sEcho ++ [' '] ++ sLabeled ++ [' '] ++ sSasl], []⟩
/-- `CAP * ACK :echo-message labeled-response sasl` -/
def exAck : Msg := ⟨sCAP, [exStar, ['A','C','K'], sEcho ++ [' '] ++ sLabeled ++ [' '] ++ sSasl], []⟩
/-- `AUTHENTICATE +` -/
def exAuth : Msg := ⟨sAUTHENTICATE, [sPlus], []⟩
/-- `903 bot :ok` -/
def ex903 : Msg := ⟨num '9' '0' '3', [['b','o','t'], ['o','k']], []⟩

def exS0 : St := (start exCfg {}).st
def exS1 : St := (step exCfg exS0 exLs).st
def exS2 : St := (step exCfg exS1 exAck).st
def exS3 : St := (step exCfg exS2 exAuth).st

theorem exS0_reach : Reach exCfg {} exS0 := .start
theorem exS1_reach : Reach exCfg {} exS1 := .op (.msg exLs) exS0_reach
theorem exS2_reach : Reach exCfg {} exS2 := .op (.msg exAck) exS1_reach
theorem exS3_reach : Reach exCfg {} exS3 := .op (.msg exAuth) exS2_reach

/-- Every capability on a `CAP REQ` line was advertised by the server (is a key of `capabilities_ls` at
that moment) and is one the bot wants (in `REQUEST_CAPABILITIES` at that moment) — for every state with an
empty fast queue, every configuration and every server message. -/
theorem req_subset (cfg : Cfg) (s : St) (m : Msg) (hq : s.fastq = []) (ws : List Str)
    (h : Out.capReq ws ∈ (step cfg s m).fast) :
    ∀ w ∈ ws, w ∈ keys (step cfg s m).st.ls ∧ w ∈ (step cfg s m).st.wanted :=
  (reqOk_feedMsg hq ws h).1

example : Out.capReq [sEcho, sLabeled, sSasl] ∈ (step exCfg exS0 exLs).fast ∧ exS0.fastq = [] := by decide +kernel

/-- The object's own `REQUEST_CAPABILITIES` never holds anything but the extracted class-level set and
`sasl`, in any reachable state — whatever the state the history started from. -/
theorem wanted_bounded (cfg : Cfg) (base s : St)
    (r : Reach cfg base s) : ∀ c ∈ s.wanted, c ∈ Gen.Conn.requestCapabilities ∨ c = sSasl := by
  have key : ∀ t : St, (α t).wantedOk = true ↔ ∀ c ∈ t.wanted, c ∈ Gen.Conn.requestCapabilities ∨ c = sSasl := by
    intro t; simp [α, isWanted, List.all_eq_true]
  rw [← key]
  induction r with
  | start =>
    show (α (drain (initSt cfg base))).wantedOk = true
    rw [α_drain, α_initSt]; rfl
  | op o _ ih =>
    cases o with
    | msg m =>
      show (α (drain (feedMsg cfg m _).st)).wantedOk = true
      rw [α_drain]
      have := (ref_feedMsg (cfg := cfg) m _).preserves wantedOk_move ih
      exact this
    | reset =>
      show (α (drain (ircReset cfg _))).wantedOk = true
      rw [α_drain, α_ircReset]; rfl

/-- `resetSasl` rebuilds the set from the class-level one: `sasl` is wanted exactly when this network's
configuration leaves a usable mechanism — whatever an earlier connection (or another network) had. -/
theorem wanted_rebuilt (cfg : Cfg) (s : St) :
    (ircReset cfg s).wanted = Gen.Conn.requestCapabilities ++
      (if (cfg.mechanisms.filter (mechAvailable cfg)).isEmpty then [] else [sSasl]) := by
  rw [ircReset, queueConnectMessages_reset _ _ rfl]
  show (resetSasl cfg s).wanted = _
  unfold resetSasl
  simp only
  split <;> simp

/-- A `CAP REQ` line contains `echo-message` only if `labeled-response` is on the same line or already
acknowledged. -/
theorem echo_needs_label (cfg : Cfg) (s : St) (m : Msg) (hq : s.fastq = []) (ws : List Str)
    (h : Out.capReq ws ∈ (step cfg s m).fast) (he : sEcho ∈ ws) :
    sLabeled ∈ ws ∨ sLabeled ∈ (step cfg s m).st.ack :=
  (reqOk_feedMsg hq ws h).2 he

example : Out.capReq [sEcho, sLabeled, sSasl] ∈ (step exCfg exS0 exLs).fast ∧ sEcho ∈ [sEcho, sLabeled, sSasl] := by decide +kernel

/-- SASL credentials (a payload chunk, the ecdsa signature, or the abort marker) are put on the queue
only while handling a server `AUTHENTICATE` and only when the FSM was in INIT_SASL / CONNECTED_SASL. -/
theorem sasl_payload_invited (cfg : Cfg) (s : St) (m : Msg) (hq : s.fastq = []) (o : Out)
    (h : o ∈ (step cfg s m).fast) (hk : o.kind = .payload) :
    dispatch m = .authenticate ∧ isSaslState s.fsm = true :=
  payload_feedMsg hq (by simp only [α, List.mem_map]; exact ⟨o, h, hk⟩)

example : Out.authPayload ['d','Q','B','1','A','H','A','='] ∈ (step exCfg exS2 exAuth).fast ∧ exS2.fastq = [] := by decide +kernel

/-- A SASL state is entered only while handling `CAP ACK` / `CAP NAK` (the only callers of `capUpkeep`). -/
theorem sasl_entered_by_ack (cfg : Cfg) (s : St) (m : Msg) (h0 : isSaslState s.fsm = false)
    (h1 : isSaslState (step cfg s m).st.fsm = true) : dispatch m = .capAck ∨ dispatch m = .capNak := by
  by_cases hk : handlerKinds (dispatch m) .startSasl = true
  · revert hk; cases dispatch m <;> simp [handlerKinds]
  · have := (noSaslEntry_moves (by simpa using hk) (ref_feedMsg (cfg := cfg) m s) h1).1
    simp only [α] at this
    rw [h0] at this; cases this

example : isSaslState exS1.fsm = false ∧ isSaslState (step exCfg exS1 exAck).st.fsm = true := by decide +kernel

/-- In every reachable state and for every server message: any AUTHENTICATE line the bot queues
(mechanism name or credentials) is queued in an epoch in which a `CAP ACK` left `sasl` acknowledged
(ghost `saslAcked`); being in a SASL state, or having `sasl` in the acknowledged set, implies the same. -/
theorem sasl_after_ack (cfg : Cfg) (base s : St) (r : Reach cfg base s) (m : Msg) :
    (∀ o ∈ (step cfg s m).fast, o.kind.sasl = true → (step cfg s m).st.saslAcked = true) ∧
    (isSaslState s.fsm = true → s.saslAcked = true) ∧ (sSasl ∈ s.ack → s.saslAcked = true) := by
  have hs := (absInv_sasl cfg).reach r
  have hs' := (ref_feedMsg (cfg := cfg) m s).preserves saslQ_move hs
  refine ⟨fun o ho hk => hs'.2.2.1 o.kind (by simp only [α, List.mem_map]; exact ⟨o, ho, rfl⟩) hk, hs.2.1, ?_⟩
  intro h; exact hs.1 (by simpa [α] using h)

example : Out.authMech ['P','L','A','I','N'] ∈ (step exCfg exS1 exAck).fast := by decide +kernel

/-- The ghost `saslAcked` is raised only while handling `CAP ACK`. -/
theorem saslAcked_only_by_ack (cfg : Cfg) (s : St) (m : Msg) (h0 : s.saslAcked = false)
    (h1 : (step cfg s m).st.saslAcked = true) : dispatch m = .capAck := by
  by_cases hk : handlerKinds (dispatch m) .ackPerm = true
  · revert hk; cases dispatch m <;> simp [handlerKinds]
  · have := (ref_feedMsg (cfg := cfg) m s).reflects (acked_move (by simpa using hk)) h1
    simp only [α] at this
    rw [h0] at this; cases this

example : exS1.saslAcked = false ∧ (step exCfg exS1 exAck).st.saslAcked = true := by decide +kernel

/-- number of `CAP END` among queued messages -/
def ends (l : List Out) : Nat := (l.map Out.kind).count .capEnd

/-- In every reachable state the number of `CAP END` sent in the current connection epoch (ghost
`endCount`) is 0, or it is 1 and the FSM has left the negotiation phase. -/
theorem cap_end_once (cfg : Cfg) (base s : St) (r : Reach cfg base s) :
    s.endCount = 0 ∨ (s.endCount = 1 ∧ lateState s.fsm = true) :=
  (absInv_end cfg).reach r

/-- The ghost counter counts exactly the `CAP END` lines put on the queue: within an epoch it grows by
their number, and after a reset inside the step (real driver only) it equals the number queued since. -/
theorem cap_end_counted (cfg : Cfg) (s : St) (m : Msg) (hq : s.fastq = []) :
    ((step cfg s m).st.epoch = s.epoch ∧ (step cfg s m).st.endCount = s.endCount + ends (step cfg s m).fast) ∨
    (s.epoch < (step cfg s m).st.epoch ∧ cfg.realDriver = true ∧ (step cfg s m).st.endCount = ends (step cfg s m).fast) := by
  obtain ⟨extra, _, hcase⟩ := grown_of_moves (ref_feedMsg (cfg := cfg) m s)
  have hk : (α s).kinds = [] := by simp [α, hq]
  have hc : (connectKinds cfg).count .capEnd = 0 := by
    rw [List.count_eq_zero]; intro hc; rcases connectKinds_mem hc with h | h <;> cases h
  rcases hcase with ⟨h1, h2, h3⟩ | ⟨h1, h2, h3, h4⟩
  · left
    rw [hk, List.nil_append] at h2
    exact ⟨h1, by show (α (feedMsg cfg m s).st).endCount = _; rw [h3]; unfold ends; show _ = _ + List.count _ (α (feedMsg cfg m s).st).kinds; rw [h2]; rfl⟩
  · right
    refine ⟨h1, h2, ?_⟩
    show (α (feedMsg cfg m s).st).endCount = List.count _ (α (feedMsg cfg m s).st).kinds
    rw [h4, h3, List.count_append, hc, Nat.zero_add]

/-- A `CAP END` queued without an intervening reset comes from a step that started in
INIT_CAP_NEGOTIATION (ACK/NAK/LS handling) or INIT_SASL (903–907 ending the exchange), and leaves the FSM
past the negotiation: no authentication is in progress when it is sent. -/
theorem cap_end_from_negotiation (cfg : Cfg) (s : St) (m : Msg) (hq : s.fastq = [])
    (he : (step cfg s m).st.epoch = s.epoch) (h : Out.capEnd ∈ (step cfg s m).fast) :
    (s.fsm = .INIT_CAP_NEGOTIATION ∨ s.fsm = .INIT_SASL) ∧ 2 ≤ rank (step cfg s m).st.fsm := by
  have hcnt : 0 < ends (step cfg s m).fast := by
    unfold ends; rw [List.count_pos_iff]; simp only [List.mem_map]; exact ⟨_, h, rfl⟩
  have hlt : s.endCount < (step cfg s m).st.endCount := by
    rcases cap_end_counted cfg s m hq with ⟨_, h2⟩ | ⟨h1, _, _⟩ <;> omega
  exact capEnd_origin (ref_feedMsg (cfg := cfg) m s) he hlt

example : Out.capEnd ∈ (step exCfg exS3 ex903).fast ∧ (step exCfg exS3 ex903).st.epoch = exS3.epoch ∧ exS3.fastq = [] := by decide +kernel

/-- The same along every history of the real SocketDriver (`SocketDriver(irc)`, then any number of `run()`s
with arbitrary clocks, due / not-due reconnects and recv() chunks): at most one CAP END per epoch. -/
theorem cap_end_once_real (cfg : Cfg) (hr : cfg.realDriver = true) (base s : St) (r : DReach cfg base s) :
    s.endCount = 0 ∨ (s.endCount = 1 ∧ lateState s.fsm = true) :=
  (absInv_end cfg).dreach hr r

/-- … and SASL traffic only in an epoch in which `sasl` was acknowledged. -/
theorem sasl_after_ack_real (cfg : Cfg) (hr : cfg.realDriver = true) (base s : St) (r : DReach cfg base s) :
    (isSaslState s.fsm = true → s.saslAcked = true) ∧ (∀ o ∈ s.fastq, o.kind.sasl = true → s.saslAcked = true) := by
  have h := (absInv_sasl cfg).dreach hr r
  exact ⟨h.2.1, fun o ho hk => h.2.2.1 o.kind (by simp only [α, List.mem_map]; exact ⟨o, ho, rfl⟩) hk⟩

/-! ### "no request outstanding" at CAP END: false for servers that send CAP NEW / CAP DEL mid-negotiation

Full statement (FALSE on the pinned tree, known finding C08-capend-outstanding):
  `∀ s m, Reach cfg base s → Out.capEnd ∈ (step cfg s m).fast →
      subset (step cfg s m).st.req ((step cfg s m).st.ack ++ (step cfg s m).st.nak) = true`
Proved below: the negation on a concrete reachable history (`CAP NEW` during INIT_SASL, then 903).  What
does hold for every history is `cap_end_from_negotiation` (no authentication in progress) and
`cap_end_once`. -/

/-- `CAP * LS :sasl`, `CAP * ACK :sasl`, `CAP * NEW :batch` -/
def exLsSasl : Msg := ⟨sCAP, [exStar, ['L','S'], sSasl], []⟩
def exAckSasl : Msg := ⟨sCAP, [exStar, ['A','C','K'], sSasl], []⟩
def exNewBatch : Msg := ⟨sCAP, [exStar, ['N','E','W'], ['b','a','t','c','h']], []⟩
def exW1 : St := (step exCfg exS0 exLsSasl).st
def exW2 : St := (step exCfg exW1 exAckSasl).st
def exW3 : St := (step exCfg exW2 exNewBatch).st
def exW4 : St := (step exCfg exW3 exAuth).st

theorem exW4_reach : Reach exCfg {} exW4 :=
  .op (.msg exAuth) (.op (.msg exNewBatch) (.op (.msg exAckSasl) (.op (.msg exLsSasl) .start)))

/-- counter-example to the full statement: CAP END is queued while `batch` is requested and unanswered -/
theorem cap_end_outstanding_witness :
    Out.capEnd ∈ (step exCfg exW4 ex903).fast ∧
    subset (step exCfg exW4 ex903).st.req ((step exCfg exW4 ex903).st.ack ++ (step exCfg exW4 ex903).st.nak) = false := by decide +kernel

/-- the CAP / SASL / FSM / nick fields and the queues -/
def visible (s : St) :=
  (s.fsm, s.ls, s.req, s.ack, s.nak, s.saslNext, s.saslCur, s.saslAuth, s.dec, s.nick, s.altNicks, s.tried,
   s.afterConnect, s.fastq, s.slowq, s.endCount, s.saslAcked, s.saslSent, s.scramStep, s.wanted)

/-- After `Irc.reset()` — from any state whatsoever — every CAP/SASL/FSM/nick field and both queues are
exactly what a newly constructed `Irc` has. -/
theorem reset_fresh (cfg : Cfg) (s base : St) : visible (ircReset cfg s) = visible (initSt cfg base) := rfl

/-! ### epoch_clean: nothing computed from connection n's input is sent on connection n+1

With the real SocketDriver a new socket is opened (a) by the driver's own scheduled reconnect, or (b) at
once, from inside a handler, by `driver.reconnect()` without `wait` — which only `Irc.doError` does
("closing link").  In both cases `Irc.reset()` runs immediately before the connect and nothing touches
the Irc object in between, so the object that talks on the new socket is a fresh one, with exactly the
connect messages queued; `_read` then drops the rest of the old chunk (`feedLines_stops`) and
`_sendIfMsgs` writes the queue to the new socket (`flush_wire`). -/

theorem visible_connectTo (cfg : Cfg) (srv : Server) (s : St) : visible (connectTo cfg srv s) = visible s := by
  unfold connectTo; simp only; split <;> rfl

theorem visible_drvConnect (cfg : Cfg) (srv : Option Server) (s : St) : visible (drvConnect cfg srv s) = visible s := by
  unfold drvConnect
  cases srv with
  | some x => exact visible_connectTo cfg x s
  | none =>
    simp only
    cases h : getNextServer cfg s with
    | none => rfl
    | some p =>
      obtain ⟨x, s'⟩ := p
      simp only
      rw [visible_connectTo]
      unfold getNextServer at h
      split at h
      · cases h
      · rcases applyStsPolicy_some h with ⟨_, _, rfl⟩ | ⟨_, rfl⟩ | ⟨_, _, rfl⟩ <;> rfl

/-- (a) the scheduled reconnect: the Irc object is fresh when the new socket is opened -/
theorem epoch_clean_scheduled (cfg : Cfg) (srv : Option Server) (s base : St) :
    visible (realReconnect cfg false srv s) = visible (initSt cfg base) := by
  unfold realReconnect
  simp only [Bool.false_eq_true, if_false]
  rw [visible_drvConnect]; rfl

/-- only the handling of `ERROR` opens a socket in the middle of a message -/
theorem new_socket_only_by_error (cfg : Cfg) (s : St) (m : Msg)
    (h : (feedMsg cfg m s).st.drv.sock ≠ s.drv.sock) : dispatch m = .error := by
  by_cases hk : handlerKinds (dispatch m) .connPerm = true
  · revert hk; cases dispatch m <;> simp [handlerKinds]
  · exact absurd (sock_moves (by simpa using hk) (ref_feedMsg (cfg := cfg) m s)) h

theorem drvReconnect_wait_sock (cfg : Cfg) (srv : Option Server) (s : St) :
    (drvReconnect cfg true srv s).drv.sock = s.drv.sock := by
  unfold drvReconnect
  split
  · exact (realReconnect_wait_drv cfg srv _).2
  · rfl

theorem doError_cases (cfg : Cfg) (args : List Str) (s : St) :
    (doError cfg args s).st = s ∨ (doError cfg args s).st = drvReconnect cfg true none s ∨
    (doError cfg args s).st = drvReconnect cfg false none s := by
  unfold doError
  split
  · exact .inl rfl
  · split
    · exact .inr (.inr rfl)
    · split
      · exact .inr (.inl rfl)
      · exact .inl rfl

theorem feedMsg_error_st (cfg : Cfg) (s : St) (m : Msg) (hd : dispatch m = .error) :
    (feedMsg cfg m s).st = (nickSetter m s).st ∨
    (feedMsg cfg m s).st = (doError cfg m.args (nickSetter m s).st).st := by
  have hrun : runHandler cfg m (nickSetter m s).st = doError cfg m.args (nickSetter m s).st := by rw [runHandler, hd]
  rcases feedMsg_st cfg m s with h | ⟨_, h⟩ | ⟨_, h⟩
  · exact .inl h
  · exact .inr (hrun ▸ h)
  · refine .inr ?_
    rw [h, hrun]; unfold callbacks; rw [hd]; simp

/-- (b) epoch_clean: whenever the handling of a server message opens a new socket, every CAP/SASL/FSM/nick
field and both queues of the Irc object are those of a newly constructed `Irc` — only the connect
messages are waiting for the new connection.  For every state, configuration and message. -/
theorem epoch_clean (cfg : Cfg) (s base : St) (m : Msg) (h : (feedMsg cfg m s).st.drv.sock ≠ s.drv.sock) :
    visible (feedMsg cfg m s).st = visible (initSt cfg base) := by
  have hd := new_socket_only_by_error cfg s m h
  rcases feedMsg_error_st cfg s m hd with he | he
  · rw [he] at h; exact absurd (nickSetter_sock m s) h
  · rw [he] at h ⊢
    rcases doError_cases cfg m.args (nickSetter m s).st with hc | hc | hc
    · rw [hc] at h; exact absurd (nickSetter_sock m s) h
    · rw [hc, drvReconnect_wait_sock] at h; exact absurd (nickSetter_sock m s) h
    · rw [hc] at h ⊢
      unfold drvReconnect at h ⊢
      split
      · exact epoch_clean_scheduled cfg none _ base
      · rename_i hr
        rw [if_neg hr] at h
        exact absurd (nickSetter_sock m s) h

/-- `ERROR :Closing link` on the real driver -/
def exErr : Msg := ⟨sERROR, ["Closing link: bye".toList], []⟩
def exReal : Cfg := { exCfg with realDriver := true, servers := [⟨"h".toList, 6667, none, false⟩] }
def exD0 : St := drvStart exReal (initSt exReal {})
def exD1 : St := (step exReal (drain exD0) exLs).st
example : (feedMsg exReal exErr exD1).st.drv.sock ≠ exD1.drv.sock ∧ exD1.req ≠ [] := by decide +kernel

/-- `_read` stops feeding the chunk as soon as a handler made the driver leave the connection -/
theorem feedLines_stops (cfg : Cfg) (m : Msg) (ms : List Msg) (s : St)
    (h : (feedMsg cfg m s).st.drv.sock ≠ s.drv.sock ∨ (feedMsg cfg m s).st.drv.connected = false) :
    feedLines cfg (m :: ms) s = (feedMsg cfg m s).st := by
  simp only [feedLines]
  rw [if_pos h]

/-- `_sendIfMsgs`: everything queued goes to the current socket, in order; nothing when not connected -/
theorem flush_wire (s : St) (h : s.drv.connected = true) :
    (flush s).wire = s.wire ++ (s.fastq ++ s.slowq).map (fun o => (s.drv.sock, o)) ∧ (flush s).fastq = [] ∧ (flush s).slowq = [] := by
  simp [flush, h]

/-! ### progress: against a conformant server the bot never is the one that stalls

`PReach cfg base v3 s v` (Progress.lean): the joint histories of the bot and a protocol-conformant server
(`SrvMove`: final/continued CAP LS while it is owed; ACK / NAK lines that each take some of the words of the oldest
unanswered CAP REQ (an acknowledged word must be advertised); CAP NEW / CAP DEL any time after the final CAP LS; `AUTHENTICATE +`/challenge, 903, 904–907, 908 while a SASL answer is owed; 432/433/437
before the welcome; 001…005, 375, 376 / 422 in order once the client ended the negotiation — or from the
start when the server has no capability negotiation; PING and unhandled notices at any time).
`Owes v`: the server still has such a move to make.  Stub-driver semantics: `driver.reconnect()` ends the
connection epoch (`v.aborted`). -/

/-- In every jointly reachable situation the bot is connected (end of MOTD seen, `afterConnect`), or it
aborted deliberately (`driver.reconnect`), or the conformant server still owes it an answer: the bot
never waits for something a conformant server will not send — except in the one situation of the recorded
finding C08-req-after-end (`v.reopened`: a CAP NEW arrived after the bot's CAP END while the registration
was still incomplete, the bot answered with a CAP REQ, which suspends the registration again, and never sends
the second CAP END the server now waits for; `req_after_end_witness`). -/
theorem progress (cfg : Cfg) (hd : cfg.realDriver = false) (base : St) (v3 : Bool) (s : St) (v : View)
    (r : PReach cfg base v3 s v) : s.afterConnect = true ∨ v.aborted = true ∨ Owes v ∨ v.reopened = true := by
  rcases inv_preach hd r with h | h | h | ⟨_, _, hp⟩
  · exact .inr (.inl h)
  · exact .inl h
  · exact .inr (.inr (.inr h))
  · exact .inr (.inr (.inl (owes_of_phase hp)))

/-- Spelled out: when nothing is owed any more, the registration is complete or was abandoned. -/
theorem no_stuck_state (cfg : Cfg) (hd : cfg.realDriver = false) (base : St) (v3 : Bool) (s : St) (v : View)
    (r : PReach cfg base v3 s v) (hls : v.v3 = true → v.lsOwed = false ∧ v.reqs = [] ∧ v.auth.owed = false)
    (hw : canWelcome v = true → 7 ≤ v.stage) (hro : v.reopened = false) : s.afterConnect = true ∨ v.aborted = true := by
  rcases progress cfg hd base v3 s v r with h | h | h | h
  · exact .inl h
  · exact .inr h
  · exfalso
    rcases h with ⟨h3, h⟩ | ⟨hc, hs⟩
    · obtain ⟨a, b, c⟩ := hls h3
      rcases h with h | h | h
      · rw [a] at h; cases h
      · exact h b
      · rw [c] at h; cases h
    · have := hw hc; omega
  · rw [hro] at h; cases h

/-- The part of "CAP END only when no request is outstanding" that does hold (the full statement is
refuted by `cap_end_outstanding_witness`): against a conformant server — split ACK / NAK answers, CAP NEW and
CAP DEL during the negotiation included — once CAP END has been sent every capability the bot requested has
been ACKed or NAKed, in every joint history, unless a CAP NEW arrived after the bot asked for a SASL mechanism
(`lateNew`: the one situation in which the code ends the negotiation without looking at its requests). -/
theorem cap_end_nothing_outstanding_partial (cfg : Cfg) (hd : cfg.realDriver = false) (base : St) (v3 : Bool) (s : St)
    (v : View) (r : PReach cfg base v3 s v) (hna : v.aborted = false) (hac : s.afterConnect = false)
    (he : v.ended = true) (hnew : v.lateNew = false) (hro : v.reopened = false) : ∀ c ∈ s.req, c ∈ s.ack ∨ c ∈ s.nak := by
  rcases inv_preach hd r with h | h | h | ⟨_, _, hp⟩
  · rw [hna] at h; cases h
  · rw [hac] at h; cases h
  · rw [hro] at h; cases h
  · cases hp with
    | neg _ he' _ _ _ _ _ _ _ _ => rw [he] at he'; cases he'
    | sasl _ he' _ _ _ _ _ _ _ _ _ _ => rw [he] at he'; cases he'
    | waiting _ _ _ _ _ _ hres => exact hres hnew
    | nocap _ _ _ _ hreq => intro c hc; rw [show s.req = (bot s).req from rfl, hreq] at hc; cases hc
    | motd _ _ _ _ _ hres => exact hres hnew

/-- What holds in every case, a late CAP NEW included: nothing the bot requested is ever lost track of — it is
acknowledged, refused, or part of a CAP REQ line the conformant server has yet to answer; and every such line
is non-empty, so the server does owe that answer. -/
theorem cap_requests_accounted (cfg : Cfg) (hd : cfg.realDriver = false) (base : St) (v3 : Bool) (s : St)
    (v : View) (r : PReach cfg base v3 s v) (hna : v.aborted = false) (hac : s.afterConnect = false) (hro : v.reopened = false) :
    (∀ c ∈ s.req, c ∈ s.ack ∨ c ∈ s.nak ∨ c ∈ v.reqs.flatten) ∧ (∀ l ∈ v.reqs, l ≠ []) := by
  rcases inv_preach hd r with h | h | h | ⟨_, hc, _⟩
  · rw [hna] at h; cases h
  · rw [hac] at h; cases h
  · rw [hro] at h; cases h
  · exact ⟨hc.acc, hc.ne⟩

/-- `authenticate_generator` for every text: full-size lines followed by one final line that is shorter
than AUTHENTICATE_CHUNK_SIZE, or `+` when nothing is left; concatenated (terminator dropped) they spell the
text.  `progress` uses it: the server (which takes a full-size line as "more follows") always ends up with a
complete answer in front of it. -/
theorem chunks_terminate (a : Str) :
    ChunksOk Gen.Conn.authenticateChunkSize a (authChunks Gen.Conn.authenticateChunkSize a) :=
  chunks_ok _ (by have := tab_chunk; omega) a

/-- every answer `sendSaslString` queues is complete: credentials lines only, the last one not full-size -/
theorem sasl_answer_complete (bytes : List Nat) (s : St) :
    ∃ outs, Answer outs ∧ sendSaslString bytes s = { s with fastq := s.fastq ++ outs, saslSent := true } :=
  sendSasl_sends bytes s

example : authChunks 4 "abcdefgh".toList = ["abcd".toList, "efgh".toList, sPlus] := by decide +kernel
example : authChunks 4 "abcdef".toList = ["abcd".toList, "ef".toList] := by decide +kernel
example : authChunks 4 [] = [sPlus] := by decide +kernel

/-! non-vacuity of `progress`: a complete conformant registration with SASL PLAIN, step by step -/

def jn : Str := []
def jBot : Str := ['b','o','t']
def jS0 := start exCfg {}
def jV0 : View := seeStep { v3 := true } jS0
def jS1 := step exCfg jS0.st ⟨sCAP, [exStar, sLS, sSasl], jn⟩
def jV1 : View := seeStep { jV0 with lsOwed := false, avail := jV0.avail ++ lsKeys sSasl } jS1
def jS2 := step exCfg jS1.st ⟨sCAP, [exStar, sACK, sSasl], jn⟩
def jV2 : View := seeStep { jV1 with reqs := reqsAfter (splitWs sSasl) [sSasl] [] } jS2
def jS3 := step exCfg jS2.st ⟨sAUTHENTICATE, [sPlus], jn⟩
def jV3 : View := seeStep { jV2 with auth := .none, rounds := jV2.rounds + 1 } jS3
def jS4 := step exCfg jS3.st ⟨num '9' '0' '3', [], jn⟩
def jV4 : View := seeStep { jV3 with auth := .none } jS4
def jS5 := step exCfg jS4.st ⟨welcomeNumeric 1, jBot :: [], jn⟩
def jV5 : View := seeStep { jV4 with stage := 1 } jS5
def jS6 := step exCfg jS5.st ⟨welcomeNumeric 2, jBot :: [], jn⟩
def jV6 : View := seeStep { jV5 with stage := 2 } jS6
def jS7 := step exCfg jS6.st ⟨welcomeNumeric 3, jBot :: [], jn⟩
def jV7 : View := seeStep { jV6 with stage := 3 } jS7
def jS8 := step exCfg jS7.st ⟨welcomeNumeric 4, jBot :: [], jn⟩
def jV8 : View := seeStep { jV7 with stage := 4 } jS8
def jS9 := step exCfg jS8.st ⟨welcomeNumeric 5, jBot :: [], jn⟩
def jV9 : View := seeStep { jV8 with stage := 5 } jS9
def jS10 := step exCfg jS9.st ⟨num '3' '7' '5', jBot :: [], jn⟩
def jV10 : View := seeStep { jV9 with stage := 6 } jS10
def jS11 := step exCfg jS10.st ⟨num '3' '7' '6', jBot :: [], jn⟩
def jV11 : View := seeStep { jV10 with stage := 7 } jS11

theorem jR4 : PReach exCfg {} true jS4.st jV4 :=
  .step (.step (.step (.step .start rfl (.lsFinal jV0 exStar sSasl jn rfl rfl))
    rfl (.ack jV1 exStar sSasl jn [sSasl] [] rfl rfl (by decide) (by decide) (by decide)))
    rfl (.authContinue jV2 sPlus jn rfl rfl (by decide) (.inl rfl)))
    rfl (.authOk jV3 [] jn rfl rfl)

theorem jR11 : PReach exCfg {} true jS11.st jV11 :=
  .step (.step (.step (.step (.step (.step (.step jR4
    rfl (.welcome jV4 1 jBot [] jn rfl (by decide) rfl))
    rfl (.welcome jV5 2 jBot [] jn rfl (by decide) rfl))
    rfl (.welcome jV6 3 jBot [] jn rfl (by decide) rfl))
    rfl (.welcome jV7 4 jBot [] jn rfl (by decide) rfl))
    rfl (.welcome jV8 5 jBot [] jn rfl (by decide) rfl))
    rfl (.motdStart jV9 jBot [] jn rfl rfl))
    rfl (.motdEnd jV10 jBot [] jn rfl rfl)

/-- the history is a joint history of the bot and a conformant server, it ends connected, and on the
way the server owed something at every step -/
example : jS11.st.afterConnect = true ∧ jV11.aborted = false ∧ jS4.st.fsm = .INIT_WAITING_MOTD ∧ jV2.auth = .mech := by decide +kernel

/-- and `cap_end_nothing_outstanding_partial` is not vacuous: after CAP END (`jV4.ended`), not aborted, not yet connected -/
example : jV4.ended = true ∧ jV4.aborted = false ∧ jS4.st.afterConnect = false ∧ jS4.st.req = [sSasl] := by decide +kernel

/-! ### JOIN (Owner.do376 / do377 / do422) only after the end of the MOTD was handled

`callbacks` models Owner's handler of 376 / 377 / 422: it runs after `Irc.do376` returned normally and
queues the configured JOINs on the normal queue. -/

theorem drvReconnect_wait_ev (cfg : Cfg) (srv : Option Server) (s : St) : (drvReconnect cfg true srv s).ev ≠ [] := by
  unfold drvReconnect
  split
  · unfold realReconnect
    simp only [if_true, drvSchedule, (ircReset_frame cfg _).2.2.1]
    unfold drvDisconnect
    split <;> simp [event]
  · simp [event]

/-- Irc.do376: it completes (`afterConnect`), or it drops the connection, or it raises and changes nothing -/
theorem do376_result (cfg : Cfg) (s : St) :
    ((do376 cfg s).exc = none ∧ ((do376 cfg s).st.afterConnect = true ∨ (do376 cfg s).st.ev ≠ [])) ∨
    ((do376 cfg s).exc ≠ none ∧ (do376 cfg s).st = s) := by
  rw [do376_eq]
  by_cases hm : saslMissing cfg s = true
  · rw [if_pos hm]; exact .inl ⟨rfl, .inr (drvReconnect_wait_ev cfg none s)⟩
  · rw [if_neg hm]
    by_cases hg : Gen.Conn.guardEndMotd.contains s.fsm = true
    · rw [if_pos hg]; exact .inl ⟨rfl, .inl rfl⟩
    · rw [if_neg hg]; exact .inr ⟨by simp [raise], rfl⟩

/-- The JOINs are put on the queue only by the step that handles 376 / 377 / 422, and only when `Irc.do376`
completed in that step (`afterConnect` is set) or dropped the connection in it (a driver call is recorded: with
the real driver that reconnect has reset the Irc object and closed the socket, see `join_only_after_motd_real`)
— for every state without a waiting JOIN, every configuration and every server message. -/
theorem join_needs_motd_end (cfg : Cfg) (s : St) (m : Msg) (hq : Out.join ∉ s.slowq)
    (h : Out.join ∈ (step cfg s m).slow) :
    dispatch m = .n376 ∧ ((step cfg s m).st.afterConnect = true ∨ (step cfg s m).events ≠ []) := by
  have hslow : (step cfg s m).slow = (feedMsg cfg m s).st.slowq := rfl
  have hj : (α (feedMsg cfg m s).st).joinQ = true := by
    rw [hslow] at h; simpa [α] using h
  by_cases hd : dispatch m = .n376
  · refine ⟨hd, ?_⟩
    show (feedMsg cfg m s).st.afterConnect = true ∨ (feedMsg cfg m s).st.ev ≠ []
    rw [hslow] at h
    have hrun : runHandler cfg m (nickSetter m s).st = do376 cfg (nickSetter m s).st := by rw [runHandler, hd]
    rcases feedMsg_st cfg m s with e | ⟨hx, e⟩ | ⟨hx, e⟩ <;> rw [e] at h ⊢
    · rw [nickSetter_slowq] at h; exact absurd h hq
    · rw [hrun] at h hx
      rcases do376_result cfg (nickSetter m s).st with ⟨he, _⟩ | ⟨_, hst⟩
      · exact absurd he hx
      · rw [hst, nickSetter_slowq] at h; exact absurd h hq
    · rw [hrun] at hx ⊢
      rcases do376_result cfg (nickSetter m s).st with ⟨_, hres⟩ | ⟨he, _⟩
      · have hcb : ∀ t : St, (callbacks cfg m t).afterConnect = t.afterConnect ∧ (callbacks cfg m t).ev = t.ev := by
          intro t; unfold callbacks; split <;> exact ⟨rfl, rfl⟩
        rw [(hcb _).1, (hcb _).2]; exact hres
      · exact absurd hx he
  · exfalso
    have hk : handlerKinds (dispatch m) .joinPerm = false := by revert hd; cases dispatch m <;> simp [handlerKinds]
    have := (ref_feedMsg (cfg := cfg) m s).reflects (noJoin_move hk) hj
    exact hq (by simpa [α] using this)

/-- Along every history of the real SocketDriver: the ghost flag `joinBad` — set by `_sendIfMsgs` when it
writes a JOIN to a socket while `afterConnect` is not set — is never raised.  (A JOIN queued by Owner after
`Irc.do376` dropped the connection waits on a closed connection and is discarded by the reset that precedes
the next connect.) -/
theorem join_only_after_motd_real (cfg : Cfg) (hr : cfg.realDriver = true) (base s : St) (r : DReach cfg base s) :
    s.joinBad = base.joinBad := by
  have h0 : JoinOk cfg base.joinBad (α (initSt cfg base)) := by
    rw [α_initSt]
    exact ⟨⟨fun _ hq => by simp [freshAbs] at hq, connectKinds_noSide cfg⟩, rfl⟩
  exact ((dInv_join cfg hr base.joinBad).dreach hr h0 r).2

/-- what the flag means: one `_sendIfMsgs` raises it exactly when the driver is connected, a JOIN is among the
messages it writes, and `afterConnect` is not set -/
theorem joinBad_flush (s : St) :
    (flush s).joinBad = (s.joinBad || (s.drv.connected && ((s.fastq ++ s.slowq).contains .join && !s.afterConnect))) := by
  unfold flush
  split
  · rename_i hc; simp [hc]
  · rename_i hc
    have : s.drv.connected = false := by simpa using hc
    simp [this]

/-! ### STS along real-driver histories: no downgrade -/

/-- Along every history of the real SocketDriver (started with a driver that is not connected yet): whenever the
driver is connected to a host for which an STS policy is stored, the connection is one the bot considers
verified TLS — forced by the policy (TLS with certificate verification, `C09.forced_tls_verified`), or `ssl`
with a certificate validation of the operator's own.  In particular a policy stored on a verified connection is
never followed by an unverified connection to that host while it is stored. -/
theorem sts_no_downgrade_real (cfg : Cfg) (hr : cfg.realDriver = true) (base s : St) (hb : base.drv.connected = false)
    (r : DReach cfg base s) (hc : s.drv.connected = true)
    (hp : (dictGet s.db.policies s.drv.current.host).isSome = true) : secureConn cfg s = true := by
  have h0 : StsInv cfg (α (initSt cfg base)) := by
    rw [α_initSt]; intro hc'; simp [freshAbs, α, hb] at hc'
  have := (dInv_sts cfg).dreach hr h0 r hc hp
  simpa [aSecure, secureConn, α] using this

/-! ### non-vacuity of `progress` with split answers, CAP NEW and CAP DEL during the negotiation -/

def sBatch : Str := ['b','a','t','c','h']
def sChghost : Str := ['c','h','g','h','o','s','t']
def sSetname : Str := ['s','e','t','n','a','m','e']
/-- a configuration without SASL credentials -/
def kCfg : Cfg := { exCfg with mechanisms := [] }
def kS0 := start kCfg {}
def kV0 : View := seeStep { v3 := true } kS0
/-- `CAP * LS :batch chghost` → `CAP REQ :batch chghost` -/
def kLs : Str := sBatch ++ [' '] ++ sChghost
def kS1 := step kCfg kS0.st ⟨sCAP, [exStar, sLS, kLs], jn⟩
def kV1 : View := seeStep { kV0 with lsOwed := false, avail := kV0.avail ++ lsKeys kLs } kS1
/-- `CAP * ACK :batch` — the first line of a split answer -/
def kS2 := step kCfg kS1.st ⟨sCAP, [exStar, sACK, sBatch], jn⟩
def kV2 : View := seeStep { kV1 with reqs := reqsAfter (splitWs sBatch) [sBatch, sChghost] [] } kS2
/-- `CAP * NEW :setname` → `CAP REQ :chghost setname` -/
def kS3 := step kCfg kS2.st ⟨sCAP, [exStar, sNEW, sSetname], jn⟩
def kV3 : View := seeStep { kV2 with avail := kV2.avail ++ lsKeys sSetname, lateNew := kV2.lateNew || kV2.auth.owed || kV2.ended } kS3
/-- `CAP * ACK :chghost` — the rest of the split answer -/
def kS4 := step kCfg kS3.st ⟨sCAP, [exStar, sACK, sChghost], jn⟩
def kV4 : View := seeStep { kV3 with reqs := reqsAfter (splitWs sChghost) [sChghost] [[sChghost, sSetname]] } kS4
/-- `CAP * DEL :batch` -/
def kS5 := step kCfg kS4.st ⟨sCAP, [exStar, sDEL, sBatch], jn⟩
def kV5 : View := seeStep { kV4 with avail := kV4.avail.filter (fun c => !(delKeys sBatch).contains c) } kS5
/-- `CAP * ACK :chghost setname` → `CAP END` -/
def kAck2 : Str := sChghost ++ [' '] ++ sSetname
def kS6 := step kCfg kS5.st ⟨sCAP, [exStar, sACK, kAck2], jn⟩
def kV6 : View := seeStep { kV5 with reqs := reqsAfter (splitWs kAck2) [sChghost, sSetname] [] } kS6

theorem kR6 : PReach kCfg {} true kS6.st kV6 :=
  .step (.step (.step (.step (.step (.step .start
    rfl (.lsFinal kV0 exStar kLs jn rfl rfl))
    rfl (.ack kV1 exStar sBatch jn [sBatch, sChghost] [] rfl rfl (by decide) (by decide) (by decide)))
    rfl (.capNew kV2 exStar sSetname jn rfl rfl (by decide)))
    rfl (.ack kV3 exStar sChghost jn [sChghost] [[sChghost, sSetname]] rfl rfl (by decide) (by decide) (by decide)))
    rfl (.capDel kV4 exStar sBatch jn rfl rfl (by decide)))
    rfl (.ack kV5 exStar kAck2 jn [sChghost, sSetname] [] rfl rfl (by decide) (by decide) (by decide))

/-- the split answer leaves the rest of the request owed; the CAP NEW makes the bot ask again; after the CAP DEL
`batch` counts as refused; the last ACK ends the negotiation with everything answered -/
example : kV2.reqs = [[sChghost]] ∧ kV3.reqs = [[sChghost], [sChghost, sSetname]] ∧ sBatch ∈ kS5.st.nak ∧
    Out.capEnd ∈ kS6.fast ∧ kV6.ended = true ∧ kV6.lateNew = false ∧ kV6.aborted = false ∧ kS6.st.afterConnect = false := by decide +kernel

/-! the recorded finding C08-req-after-end: the joint history above continued by a CAP NEW while the bot waits
for the welcome -/

def sMsgid : Str := ['m','s','g','i','d']
/-- `CAP * NEW :msgid` after the bot's CAP END → `CAP REQ :msgid`, which suspends the registration again -/
def kS7 := step kCfg kS6.st ⟨sCAP, [exStar, sNEW, sMsgid], jn⟩
def kV7 : View := seeStep { kV6 with avail := kV6.avail ++ lsKeys sMsgid, lateNew := kV6.lateNew || kV6.auth.owed || kV6.ended } kS7
/-- `CAP * ACK :msgid`: everything is answered -/
def kS8 := step kCfg kS7.st ⟨sCAP, [exStar, sACK, sMsgid], jn⟩
def kV8 : View := seeStep { kV7 with reqs := reqsAfter (splitWs sMsgid) [sMsgid] [] } kS8

theorem kR8 : PReach kCfg {} true kS8.st kV8 :=
  .step (.step kR6
    rfl (.capNew kV6 exStar sMsgid jn rfl rfl (by decide)))
    rfl (.ack kV7 exStar sMsgid jn [sMsgid] [] rfl rfl (by decide) (by decide) (by decide))

/-- Counter-example to `progress` without its last alternative: a joint history with a conformant server after
which the bot is not connected, has not aborted, and the server owes nothing — it waits for a CAP END the bot
(which sent `CAP REQ :msgid` after its `CAP END`, before being registered) will never send. -/
theorem req_after_end_witness :
    PReach kCfg {} true kS8.st kV8 ∧ kS8.st.afterConnect = false ∧ kV8.aborted = false ∧ ¬ Owes kV8 ∧
    kV8.reopened = true ∧ kS8.st.fsm = .INIT_WAITING_MOTD ∧ kS8.fast = [] := by
  refine ⟨kR8, ?_⟩
  unfold Owes
  decide +kernel

/-! ### SCRAM: the step machine with the library calls as parameters -/

def sScram256 : Str := "scram-sha-256".toList
def scCfg : Cfg := { exCfg with mechanisms := [sScram256, sPlain], hasScram := true, scramHashes := ["SHA-256".toList],
                                scramFirst := utf8 "n,,n=u,r=c".toList, scramFinal := some (utf8 "c=biws,r=cs,p=x".toList) }
def scAck : Msg := ⟨sCAP, [exStar, sACK, sSasl], jn⟩
def scChallenge : Msg := ⟨sAUTHENTICATE, ["cj1jcyxzPXMsaT00MDk2".toList], jn⟩
def scS2 : St := (step scCfg (step scCfg (start scCfg {}).st exLsSasl).st scAck).st
def scS3 := step scCfg scS2 exAuth
def scS4 := step scCfg scS3.st scChallenge
def scS5 := step scCfg scS4.st scChallenge
/-- client-first, client-final, `+`: one step per server message; then 903 is honoured -/
example : scS2.saslCur = some sScram256 ∧ scS3.st.scramStep = 1 ∧ scS4.st.scramStep = 2 ∧ scS5.st.scramStep = 3 ∧
    scS5.fast = [.authPayload sPlus] ∧ (step scCfg scS5.st ex903).st.saslAuth = true := by decide +kernel
/-- an unsupported hash, a rejected challenge and a bad server signature each send `AUTHENTICATE *` and nothing
else; the failure numeric that follows starts the next mechanism with a fresh SCRAM state -/
example :
    (step { scCfg with scramHashes := [] } scS2 exAuth).fast = [.authAbort] ∧
    (step { scCfg with scramFinal := none } scS3.st scChallenge).fast = [.authAbort] ∧
    (step { scCfg with scramFinish := 1 } scS4.st scChallenge).fast = [.authAbort] ∧
    (step scCfg (step { scCfg with scramFinish := 1 } scS4.st scChallenge).st ⟨num '9' '0' '6', [], jn⟩).fast = [.authMech "PLAIN".toList] ∧
    (step scCfg (step { scCfg with scramFinish := 1 } scS4.st scChallenge).st ⟨num '9' '0' '6', [], jn⟩).st.scramStep = 0 := by decide +kernel

/-! ### the fallback nicks of `_getNextNick`: the candidate space is not exhausted

Once the alternates are used up, `Irc._getNextNick` takes the configured nick, padded with backquotes to at
least four characters, and keeps replacing a randomly chosen position by a random digit until the result is
not in `triedNicks` (the model sends `Out.nickRandom` for it).  Whatever the padded nick looks like at that
moment, the 10 000 strings that differ from it in the last four positions, these being digits, are all
reachable by such replacements and pairwise distinct: as long as fewer than 10 000 nicks have been tried on
this connection — `triedNicks` grows by exactly one per call, i.e. per nick refusal — one of them is fresh, so
the loop ends (with probability one).  Restricting the replacements to a single position (10 candidates) is
what the seeded change C07-r3m3 did: `lastDigit_exhausted` shows that space running out. -/

def digitChar (d : Nat) : Char := Char.ofNat (48 + d)

/-- the padded nick with its last four characters replaced by the decimal digits of `k` -/
def withDigits (l : Str) (k : Nat) : Str :=
  l.take (l.length - 4) ++ [digitChar (k / 1000 % 10), digitChar (k / 100 % 10), digitChar (k / 10 % 10), digitChar (k % 10)]

theorem digitChar_inj : ∀ a, a < 10 → ∀ b, b < 10 → digitChar a = digitChar b → a = b := by decide

theorem withDigits_inj (l : Str) {a b : Nat} (ha : a < 10000) (hb : b < 10000) (h : withDigits l a = withDigits l b) : a = b := by
  unfold withDigits at h
  have h' := List.append_cancel_left h
  simp only [List.cons.injEq, and_true] at h'
  obtain ⟨h3, h2, h1, h0⟩ := h'
  have e3 := digitChar_inj _ (Nat.mod_lt _ (by decide)) _ (Nat.mod_lt _ (by decide)) h3
  have e2 := digitChar_inj _ (Nat.mod_lt _ (by decide)) _ (Nat.mod_lt _ (by decide)) h2
  have e1 := digitChar_inj _ (Nat.mod_lt _ (by decide)) _ (Nat.mod_lt _ (by decide)) h1
  have e0 := digitChar_inj _ (Nat.mod_lt _ (by decide)) _ (Nat.mod_lt _ (by decide)) h0
  omega

/-- pigeonhole: an injective enumeration of `n` candidates is not covered by a shorter list -/
theorem fresh_candidate (f : Nat → Str) : ∀ (n : Nat) (tried : List Str),
    (∀ a, a < n → ∀ b, b < n → f a = f b → a = b) → tried.length < n → ∃ k, k < n ∧ f k ∉ tried := by
  intro n
  induction n with
  | zero => intro tried _ h; omega
  | succ n ih =>
    intro tried hinj hlen
    by_cases hm : f n ∈ tried
    · have hpos : 0 < tried.length := List.length_pos_of_mem hm
      have hl : (tried.erase (f n)).length < n := by rw [List.length_erase_of_mem hm]; omega
      obtain ⟨k, hk, hf⟩ := ih (tried.erase (f n)) (fun a ha b hb => hinj a (by omega) b (by omega)) hl
      refine ⟨k, by omega, fun hc => hf ?_⟩
      have hne : f k ≠ f n := fun he => by have := hinj k (by omega) n (by omega) he; omega
      exact (List.mem_erase_of_ne hne).mpr hc
    · exact ⟨n, by omega, hm⟩

/-- For every padded nick and every set of fewer than 10 000 tried nicks there is a digit variation of the nick
(last four positions) that has not been tried. -/
theorem nick_space_not_exhausted (l : Str) (tried : List Str) (h : tried.length < 10000) :
    ∃ k, k < 10000 ∧ withDigits l k ∉ tried :=
  fresh_candidate (withDigits l) 10000 tried (fun _ ha _ hb he => withDigits_inj l ha hb he) h

/-- the variations of the last character only: ten candidates -/
def lastDigit (l : Str) (d : Nat) : Str := l.take (l.length - 1) ++ [digitChar (d % 10)]

/-- … and once these ten have been refused every one of them has been tried: the loop of the seeded change never ends -/
theorem lastDigit_exhausted (l : Str) :
    ∃ tried : List Str, tried.length = 10 ∧ ∀ d, lastDigit l d ∈ tried := by
  refine ⟨(List.range 10).map (lastDigit l), by simp, fun d => ?_⟩
  simp only [List.mem_map, List.mem_range]
  exact ⟨d % 10, Nat.mod_lt _ (by decide), by simp [lastDigit]⟩

example : withDigits "bot`".toList 42 = "0042".toList ∧ withDigits "limnoria".toList 7 = "limn0007".toList := by decide +kernel

end C08
