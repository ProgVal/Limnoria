/-
C08 — progress, part 2: the CAP LS / ACK / NAK / NEW / DEL moves of the conformant server keep the joint invariant.
-/
import LimnoriaModel.C08.ProgressBase
namespace C08
open Py
open Gen.Conn (Fsm)

variable {cfg : Cfg} {s : St} {v : View}

/-! ### list / set / dictionary facts used by the CAP moves -/

theorem mem_union {a b : List Str} {c : Str} : c ∈ union a b ↔ c ∈ a ∨ c ∈ b := by
  unfold union
  induction b generalizing a with
  | nil => simp
  | cons x xs ih =>
    simp only [List.foldl_cons]
    split
    · rename_i hc
      rw [ih]; simp only [List.mem_cons]
      have hx : x ∈ a := by simpa using hc
      constructor
      · rintro (h | h)
        · exact .inl h
        · exact .inr (.inr h)
      · rintro (h | h | h)
        · exact .inl h
        · exact .inl (h ▸ hx)
        · exact .inr h
    · rw [ih]; simp only [List.mem_append, List.mem_cons, List.not_mem_nil, or_false]
      constructor
      · rintro ((h | h) | h)
        · exact .inl h
        · exact .inr (.inl h)
        · exact .inr (.inr h)
      · rintro (h | h | h)
        · exact .inl (.inl h)
        · exact .inl (.inr h)
        · exact .inr h

theorem subset_iff {a b : List Str} : subset a b = true ↔ ∀ x ∈ a, x ∈ b := by
  simp [subset, List.all_eq_true]

theorem dictGet_of_mem_keys {β : Type} {d : List (Str × β)} {k : Str} (h : k ∈ keys d) : ∃ v, dictGet d k = some v := by
  induction d with
  | nil => simp [keys] at h
  | cons p ps ih =>
    obtain ⟨k', v'⟩ := p
    unfold dictGet
    by_cases he : k' = k
    · exact ⟨v', by simp [he]⟩
    · simp only [he, if_false]
      simp only [keys, List.map_cons, List.mem_cons] at h
      rcases h with h | h
      · exact absurd h.symm he
      · exact ih h

theorem fillGo_ne {width : Nat} {l : List Str} : ∀ {cur : List Str} {n : Nat} {line : List Str},
    cur ≠ [] → line ∈ fillGo width l cur n → line ≠ [] := by
  induction l with
  | nil => intro cur n line hc h; simp only [fillGo, List.mem_singleton] at h; rw [h]; exact hc
  | cons w ws ih =>
    intro cur n line hc h
    unfold fillGo at h
    split at h
    · exact ih (by simp) h
    · simp only [List.mem_cons] at h
      rcases h with rfl | h
      · exact hc
      · exact ih (by simp) h

theorem fill_ne {width : Nat} {l line : List Str} (h : line ∈ fill width l) : line ≠ [] := by
  cases l with
  | nil => simp [fill] at h
  | cons w ws => exact fillGo_ne (by simp) h

theorem fill_covers {width : Nat} {l : List Str} {w : Str} (h : w ∈ l) : ∃ line ∈ fill width l, w ∈ line :=
  List.mem_flatten.mp ((fill_flatten width l).symm ▸ h)

theorem fill_eq_nil {width : Nat} {l : List Str} (h : fill width l = []) : l = [] :=
  (fill_flatten width l).symm.trans (by rw [h]; rfl)

/-- what CAP REQ lines do to the server's idea of the negotiation: from a client that is not registered yet
they suspend the registration again -/
def reopen (v : View) (lines : List (List Str)) : View :=
  if lines.isEmpty then v
  else { v with ended := v.ended && v.stage != 0, reopened := v.reopened || (v.ended && v.stage == 0) }

theorem fold_capReq (lines : List (List Str)) (v : View) :
    (lines.map Out.capReq).foldl seeOut v = { reopen v lines with reqs := v.reqs ++ lines } := by
  induction lines generalizing v with
  | nil => simp [reopen]
  | cons l ls ih =>
    simp only [List.map_cons, List.foldl_cons, seeOut, ih]
    cases ls with
    | nil => simp [reopen]
    | cons l2 ls2 =>
      simp only [reopen, List.isEmpty_cons, Bool.false_eq_true, if_false, List.append_assoc, List.singleton_append]
      cases v.ended <;> cases h : (v.stage != 0) <;> simp_all

theorem reopen_not_ended {v : View} (lines : List (List Str)) (h : v.ended = false) : reopen v lines = v := by
  unfold reopen; split
  · rfl
  · cases v; simp_all

theorem reopen_registered {v : View} (lines : List (List Str)) (h : v.stage ≠ 0) : reopen v lines = v := by
  unfold reopen; split
  · rfl
  · have : (v.stage != 0) = true := by simpa using h
    have h2 : (v.stage == 0) = false := by simpa using h
    cases v; simp_all

theorem reopen_nil (v : View) : reopen v [] = v := rfl

theorem mem_flatten_of {ls : List (List Str)} {l : List Str} {c : Str} (hl : l ∈ ls) (hc : c ∈ l) : c ∈ ls.flatten :=
  List.mem_flatten.mpr ⟨l, hl, hc⟩

theorem phase_of_lsOwed {b : Bot} {v : View} (h3 : v.v3 = true) (ho : v.lsOwed = true) (p : Phase b v) :
    v.ended = false ∧ v.stage = 0 ∧ b.fsm = .INIT_CAP_NEGOTIATION ∧ v.auth = .none ∧ b.saslAuth = false ∧ b.dec = none ∧
    b.req = [] ∧ b.ack = [] ∧ b.nak = [] ∧ v.reqs = [] ∧ v.lateNew = false := by
  cases p with
  | neg _ he hs hf ha hauth hd hls _ hln => obtain ⟨a, b, c, d⟩ := hls ho; exact ⟨he, hs, hf, ha, hauth, hd, a, b, c, d, hln⟩
  | sasl _ _ _ _ _ _ _ _ hl _ _ _ => rw [ho] at hl; cases hl
  | waiting _ _ _ _ _ hl _ => rw [ho] at hl; cases hl
  | nocap h3' _ _ _ _ => rw [h3] at h3'; cases h3'
  | motd _ _ _ _ hl _ => have := hl h3; rw [ho] at this; cases this

theorem doCapLs_more (t caps : Str) (s : St) :
    doCapLs cfg [t, sLS, sStar, caps] s = ok (addCapabilities cfg caps s) := by
  unfold doCapLs; simp

theorem doCapLs_final (t caps : Str) (s : St) :
    doCapLs cfg [t, sLS, caps] s = capLsFinal cfg (addCapabilities cfg caps s) := by
  unfold doCapLs; rfl

theorem caps_avail_grow {b : Bot} {v : View} {L : List (Str × Option Str)} {extra : List Str}
    (hk : ∀ k ∈ keys b.ls, k ∈ keys L) (hx : ∀ c ∈ extra, c ∈ keys L) (c : Caps b v) :
    Caps { b with ls := L } { v with avail := v.avail ++ extra } :=
  ⟨c.acc, fun x h => hk x (c.ackKeys x h), fun x h => (List.mem_append.mp h).elim (fun h => hk x (c.avail x h)) (hx x), c.ne⟩

theorem pres_lsMore (hd : cfg.realDriver = false) (t caps n : Str)
    (h3 : v.v3 = true) (ho : v.lsOwed = true)
    (h : Live cfg s v) : Kept cfg s ⟨sCAP, [t, sLS, sStar, caps], n⟩ { v with avail := v.avail ++ lsKeys caps } := by
  obtain ⟨hq1, hcm, hcp, hp⟩ := h
  have hn := nickSetter_plain ⟨sCAP, [t, sLS, sStar, caps], n⟩ s rfl
  have hrun : runHandler cfg ⟨sCAP, [t, sLS, sStar, caps], n⟩ s = _ := doCapLs_more t caps s
  rcases addRel_addCapabilities hd caps s with ⟨e, es, hev⟩ | ⟨L, D, hs1, hk, hrec⟩
  · exact inv_abort (r := addCapabilities cfg caps s) hn (congrArg R.st hrun) (by rw [hev]; simp)
  rw [hs1] at hrun
  obtain ⟨he, hs, hf, hau, hauth, hdec, hr, hak, hnk, hrq, hln⟩ := phase_of_lsOwed h3 ho hp
  exact inv_step [] hn (congrArg R.st hrun) hq1 fun _ => inv_core ⟨common_congr hcm rfl rfl, caps_avail_grow hk hrec hcp,
    .neg h3 he hs hf hau hauth hdec (fun _ => ⟨hr, hak, hnk, hrq⟩) (fun h => by rw [ho] at h; cases h) hln⟩

/-- the end-of-LS branch in INIT_CAP_NEGOTIATION -/
theorem capLsFinal_neg (s : St) (hf : s.fsm = .INIT_CAP_NEGOTIATION) :
    capLsFinal cfg s =
      (if (fill capReqWidth (arrangeCaps s.ack (newCaps s))).isEmpty = true then endCap cfg (requestCaps (newCaps s) s)
       else ok (requestCaps (newCaps s) s)) := by
  unfold capLsFinal expectState
  rw [if_neg (by rw [hf]; decide), hf, if_pos tab_ls_neg, bind_ok]

theorem endCap_ev_ne (hd : cfg.realDriver = false) (s : St) (h : s.ev ≠ []) : (endCap cfg s).st.ev ≠ [] := by
  rw [endCap_eq, stub_reconnect hd]
  exact ite_st (P := fun t => t.ev ≠ []) (fun _ => by simp [ok, event]) fun _ =>
    ite_st (P := fun t => t.ev ≠ []) (fun _ => by simpa [ok, sendMsg] using h) fun _ => h

theorem requestCaps_ev (caps : List Str) (s : St) : (requestCaps caps s).ev = s.ev := by rw [requestCaps_eq]

theorem capLsFinal_ev_ne (hd : cfg.realDriver = false) (s : St) (h : s.ev ≠ []) : (capLsFinal cfg s).st.ev ≠ [] := by
  unfold capLsFinal
  split
  · exact h
  · unfold expectState
    by_cases hg : Gen.Conn.expectDoCapLs.contains s.fsm = true
    · rw [if_pos hg, bind_ok]
      split
      · exact endCap_ev_ne hd _ (by rw [requestCaps_ev]; exact h)
      · simp only [ok]; rw [requestCaps_ev]; exact h
    · rw [if_neg hg]; simpa [raise, R.bind] using h

/-- the capability bookkeeping after `_requestCaps`: the new words are on the new lines -/
theorem caps_request {b : Bot} {v : View} (arr : List Str) (c : Caps b v) :
    Caps { b with req := union b.req arr } { v with reqs := v.reqs ++ fill capReqWidth arr } := by
  refine ⟨?_, c.ackKeys, c.avail, ?_⟩
  · intro x hx
    have hx' : x ∈ union b.req arr := hx
    rw [mem_union] at hx'
    show x ∈ b.ack ∨ x ∈ b.nak ∨ x ∈ (v.reqs ++ fill capReqWidth arr).flatten
    rw [List.flatten_append, List.mem_append]
    rcases hx' with h | h
    · rcases c.acc x h with h | h | h
      · exact .inl h
      · exact .inr (.inl h)
      · exact .inr (.inr (.inl h))
    · obtain ⟨line, hl, hw⟩ := fill_covers (width := capReqWidth) h
      exact .inr (.inr (.inr (mem_flatten_of hl hw)))
  · intro l hl
    have hl' : l ∈ v.reqs ++ fill capReqWidth arr := hl
    rw [List.mem_append] at hl'
    rcases hl' with h | h
    · exact c.ne l h
    · exact fill_ne h

theorem pres_lsFinal (hd : cfg.realDriver = false) (t caps n : Str)
    (h3 : v.v3 = true) (ho : v.lsOwed = true)
    (h : Live cfg s v) :
    Kept cfg s ⟨sCAP, [t, sLS, caps], n⟩ { v with lsOwed := false, avail := v.avail ++ lsKeys caps } := by
  obtain ⟨hq1, hcm, hcp, hp⟩ := h
  have hn := nickSetter_plain ⟨sCAP, [t, sLS, caps], n⟩ s rfl
  have hrun : runHandler cfg ⟨sCAP, [t, sLS, caps], n⟩ s = _ := doCapLs_final t caps s
  rcases addRel_addCapabilities hd caps s with ⟨e, es, hev⟩ | ⟨L, D, hs1, hk, hrec⟩
  · exact inv_abort hn (congrArg R.st hrun) (capLsFinal_ev_ne hd _ (by rw [hev]; simp))
  obtain ⟨he, hs, hf, hau, hauth, hdec, hr, hak, hnk, hrq, hln⟩ := phase_of_lsOwed h3 ho hp
  -- `by exact`: the state is filled in by the rewrite; `hf` speaks of `s`, whose `fsm` the updated state shares by reduction
  rw [hs1, capLsFinal_neg _ (by exact hf), requestCaps_eq] at hrun
  simp only [hq1, List.nil_append] at hrun
  generalize arrangeCaps s.ack (newCaps _) = arr at hrun
  have hcp2 := caps_request arr (caps_avail_grow hk hrec hcp)
  by_cases hemp : (fill capReqWidth arr).isEmpty = true
  · -- nothing to request: CAP END (or abort when SASL is required)
    have hfill : fill capReqWidth arr = [] := by simpa using hemp
    rw [if_pos hemp, endCap_neg hd _ (by exact hf)] at hrun
    rcases ite_eq_cases hrun.symm with ⟨_, hrun⟩ | ⟨_, hrun⟩
    · exact inv_abort hn (congrArg R.st hrun.symm) (by simp [ok, event])
    · rw [hfill] at hrun hcp2
      refine inv_step [.capEnd] hn (congrArg R.st hrun.symm) (by simp [ok, sendMsg]) fun _ =>
        inv_core ⟨common_congr hcm rfl rfl, caps_congr hcp2 rfl (List.append_nil _).symm rfl,
          .waiting h3 rfl (Nat.le_trans (Nat.le_of_eq hs) (Nat.zero_le 5)) rfl hau rfl ?_⟩
      intro _ c hc
      have hc' : c ∈ union s.req arr := hc
      rw [mem_union, show s.req = [] from hr, fill_eq_nil hfill] at hc'
      rcases hc' with h | h <;> cases h
  · -- CAP REQ lines go out
    rw [if_neg hemp] at hrun
    refine inv_step ((fill capReqWidth arr).map .capReq) hn (congrArg R.st hrun) rfl fun _ => ?_
    rw [fold_capReq, reopen_not_ended (v := { v with lsOwed := false, avail := v.avail ++ lsKeys caps }) _ he]
    exact inv_core ⟨common_congr hcm rfl rfl, caps_congr hcp2 rfl rfl rfl,
      .neg h3 he hs hf hau hauth hdec (fun h => by cases h) (fun _ => by simpa [hrq] using hemp) hln⟩

def newAck (isAck : Bool) (l : List Str) (s : St) : List Str := if isAck then union s.ack l else s.ack
def newNak (isAck : Bool) (l : List Str) (s : St) : List Str := if isAck then s.nak else union s.nak l

theorem doCapAckNak_eq (isAck : Bool) (t sub caps : Str) (s : St) :
    doCapAckNak cfg isAck [t, sub, caps] s =
      (if (splitWs caps).isEmpty = true then raise "AssertionError" s
       else capUpkeep cfg { s with ack := newAck isAck (splitWs caps) s, nak := newNak isAck (splitWs caps) s,
                                   saslAcked := s.saslAcked || (isAck && (newAck isAck (splitWs caps) s).contains sSasl) }) := by
  unfold doCapAckNak
  simp only
  split
  · rfl
  · cases isAck <;> simp [newAck, newNak]

theorem newAckNak_mem (isAck : Bool) (l : List Str) (s : St) :
    (∀ c ∈ s.ack, c ∈ newAck isAck l s) ∧ (∀ c ∈ s.nak, c ∈ newNak isAck l s) ∧
    (∀ c ∈ l, c ∈ newAck isAck l s ∨ c ∈ newNak isAck l s) ∧
    (∀ c ∈ newAck isAck l s, c ∈ s.ack ∨ (isAck = true ∧ c ∈ l)) := by
  cases isAck
  · simp only [newAck, newNak, Bool.false_eq_true, if_false]
    exact ⟨fun _ h => h, fun c h => mem_union.mpr (.inl h), fun c h => .inr (mem_union.mpr (.inr h)), fun c h => .inl h⟩
  · simp only [newAck, newNak, if_true]
    refine ⟨fun c h => mem_union.mpr (.inl h), fun _ h => h, fun c h => .inl (mem_union.mpr (.inr h)), fun c h => ?_⟩
    rcases mem_union.mp h with h | h
    · exact .inl h
    · exact .inr ⟨trivial, h⟩

theorem filteredNext_sub {next : List Str} {v : Option Str} {x : Str} (h : x ∈ filteredNext next v) : x ∈ next := by
  unfold filteredNext at h
  cases v with
  | none => exact h
  | some y => simp only [filterMechs, List.mem_filter] at h; exact h.1

theorem mem_reqsAfter_rest {a ws : List Str} {rest : List (List Str)} {c : Str} (h : c ∈ rest.flatten) :
    c ∈ (reqsAfter a ws rest).flatten := by
  unfold reqsAfter
  split
  · exact h
  · rw [List.flatten_cons]; exact List.mem_append_right _ h

theorem mem_reqsAfter_left {a ws : List Str} {rest : List (List Str)} {c : Str} (hw : c ∈ ws) (ha : c ∉ a) :
    c ∈ (reqsAfter a ws rest).flatten := by
  have hf : c ∈ ws.filter (fun c => !a.contains c) := by
    rw [List.mem_filter]
    exact ⟨hw, by simpa using ha⟩
  unfold reqsAfter
  split
  · rename_i he
    have : ws.filter (fun c => !a.contains c) = [] := by simpa using he
    rw [this] at hf; cases hf
  · rw [List.flatten_cons]; exact List.mem_append_left _ hf

theorem reqsAfter_ne {a ws : List Str} {rest : List (List Str)} (h : ∀ l ∈ rest, l ≠ []) :
    ∀ l ∈ reqsAfter a ws rest, l ≠ [] := by
  unfold reqsAfter
  split
  · exact h
  · rename_i he
    intro l hl
    simp only [List.mem_cons] at hl
    rcases hl with rfl | hl
    · intro hc; apply he; rw [hc]; rfl
    · exact h l hl

/-- the capability bookkeeping after an ACK / NAK line for words of the oldest unanswered request -/
theorem caps_ackNak {s : St} {v : View} (isAck : Bool) (a ws : List Str) (rest : List (List Str))
    (hrq : v.reqs = ws :: rest) (hav : isAck = true → ∀ c ∈ a, c ∈ v.avail) (c : Caps (bot s) v) :
    Caps { bot s with ack := newAck isAck a s, nak := newNak isAck a s } { v with reqs := reqsAfter a ws rest } := by
  obtain ⟨m1, m2, m3, m4⟩ := newAckNak_mem isAck a s
  refine ⟨?_, ?_, c.avail, ?_⟩
  · intro x hx
    rcases c.acc x hx with h | h | h
    · exact .inl (m1 x h)
    · exact .inr (.inl (m2 x h))
    · rw [hrq, List.flatten_cons, List.mem_append] at h
      rcases h with h | h
      · by_cases hxa : x ∈ a
        · rcases m3 x hxa with h' | h'
          · exact .inl h'
          · exact .inr (.inl h')
        · exact .inr (.inr (mem_reqsAfter_left h hxa))
      · exact .inr (.inr (mem_reqsAfter_rest h))
  · intro x hx
    rcases m4 x hx with h | ⟨hi, h⟩
    · exact c.ackKeys x h
    · exact c.avail x (hav hi x h)
  · exact reqsAfter_ne fun l hl => c.ne l (by rw [hrq]; exact List.mem_cons_of_mem _ hl)

/-- the phases other than the negotiation itself only see the acknowledged / refused sets change -/
theorem phase_ackNak {b : Bot} {v : View} (A N : List Str) (rs : List (List Str))
    (hA : ∀ c ∈ b.ack, c ∈ A) (hN : ∀ c ∈ b.nak, c ∈ N)
    (hne : b.fsm ≠ .INIT_CAP_NEGOTIATION) (p : Phase b v) : Phase { b with ack := A, nak := N } { v with reqs := rs } := by
  have grow : (v.lateNew = false → Answered b) → (v.lateNew = false → Answered { b with ack := A, nak := N }) := fun h hl c hc => by
    rcases h hl c hc with h | h
    · exact .inl (hA c h)
    · exact .inr (hN c h)
  cases p with
  | neg _ _ _ hf _ _ _ _ _ _ => exact absurd hf hne
  | sasl h3 he hs hf ha hauth hd hcur hl hres hsent hround => exact .sasl h3 he hs hf ha hauth hd hcur hl (grow hres) hsent hround
  | waiting h3 he hs hf ha hl hres => exact .waiting h3 he hs hf ha hl (grow hres)
  | nocap h3 hs hf ha _ => exact absurd hf hne
  | motd hw hs hf ha hl hres => exact .motd hw hs hf ha hl (grow hres)

theorem phase_fsm_of_v3 {b : Bot} {v : View} (h3 : v.v3 = true) (p : Phase b v) :
    b.fsm = .INIT_CAP_NEGOTIATION ∨ b.fsm = .INIT_SASL ∨ b.fsm = .INIT_WAITING_MOTD ∨ b.fsm = .INIT_MOTD := by
  cases p with
  | neg _ _ _ hf _ _ _ _ _ _ => exact .inl hf
  | sasl _ _ _ hf _ _ _ _ _ _ _ _ => exact .inr (.inl hf)
  | waiting _ _ _ hf _ _ _ => exact .inr (.inr (.inl hf))
  | nocap h3' _ _ _ _ => rw [h3] at h3'; cases h3'
  | motd _ _ hf _ _ _ => exact .inr (.inr (.inr hf))

theorem run_ackNak (isAck : Bool) (t sub caps n : Str)
    (hdisp : dispatch ⟨sCAP, [t, sub, caps], n⟩ = (if isAck then .capAck else .capNak)) (s : St) :
    runHandler cfg ⟨sCAP, [t, sub, caps], n⟩ s = doCapAckNak cfg isAck [t, sub, caps] s := by
  rw [runHandler, hdisp]; cases isAck <;> rfl

theorem pres_ackNak (hd : cfg.realDriver = false) (isAck : Bool) (t sub caps n : Str)
    (hdisp : dispatch ⟨sCAP, [t, sub, caps], n⟩ = (if isAck then .capAck else .capNak))
    (ws : List Str) (rest : List (List Str)) (h3 : v.v3 = true) (hrq : v.reqs = ws :: rest)
    (hane : splitWs caps ≠ []) (hav : isAck = true → ∀ c ∈ splitWs caps, c ∈ v.avail)
    (h : Live cfg s v) : Kept cfg s ⟨sCAP, [t, sub, caps], n⟩ { v with reqs := reqsAfter (splitWs caps) ws rest } := by
  obtain ⟨hq1, hcm, hcp, hp⟩ := h
  have hn := nickSetter_plain ⟨sCAP, [t, sub, caps], n⟩ s rfl
  have hrun := (run_ackNak (cfg := cfg) isAck t sub caps n hdisp s).trans (doCapAckNak_eq isAck t sub caps s)
  generalize splitWs caps = a at *
  rw [if_neg (by cases a <;> simp_all)] at hrun
  obtain ⟨m1, m2, m3, m4⟩ := newAckNak_mem isAck a s
  have hcp' := caps_ackNak isAck a ws rest hrq hav hcp
  generalize newAck isAck a s = A at *
  generalize newNak isAck a s = N at *
  by_cases hneg : s.fsm = .INIT_CAP_NEGOTIATION
  · -- the negotiation phase proper
    cases hp with
    | sasl _ _ _ hf _ _ _ _ _ _ _ _ => rw [show (bot s).fsm = s.fsm from rfl, hneg] at hf; cases hf
    | waiting _ _ _ hf _ _ _ => rw [show (bot s).fsm = s.fsm from rfl, hneg] at hf; cases hf
    | nocap h3' _ _ _ _ => rw [h3] at h3'; cases h3'
    | motd _ _ hf _ _ _ => rw [show (bot s).fsm = s.fsm from rfl, hneg] at hf; cases hf
    | neg _ he hs hf hau hauth hdec hls howe hln =>
      have hlo : v.lsOwed = false := by
        cases hlo : v.lsOwed with
        | false => rfl
        | true => have := (hls hlo).2.2.2; rw [hrq] at this; cases this
      have hstage : ({ v with reqs := reqsAfter a ws rest, ended := true } : View).stage ≤ 5 := Nat.le_trans (Nat.le_of_eq hs) (Nat.zero_le 5)
      rw [capUpkeep_neg hd _ (by exact hneg)] at hrun
      simp only at hrun
      by_cases hun : subset (A ++ N) s.req = true
      · rw [hun] at hrun; simp only [Bool.not_true, Bool.false_eq_true, if_false] at hrun
        by_cases hall : subset s.req (A ++ N) = true
        · have hresN : ∀ c ∈ s.req, c ∈ A ∨ c ∈ N := fun c hc => List.mem_append.mp (subset_iff.mp hall c hc)
          rw [if_pos hall] at hrun
          by_cases hsasl : A.contains sSasl = true
          · -- SASL starts
            rw [if_pos hsasl] at hrun
            obtain ⟨v0, hv0⟩ := dictGet_of_mem_keys (hcp'.ackKeys sSasl (by simpa using hsasl))
            rw [maybeStartSasl_neg _ (by exact hneg) (by exact hauth) (by exact hsasl) v0 (by exact hv0), tryNext_sasl hd _ (by rfl)] at hrun
            simp only at hrun
            cases hfn : filteredNext s.saslNext v0 with
            | cons m r =>
              rw [hfn] at hrun
              have hmem : ∀ x ∈ m :: r, mechAvailable cfg x = true := fun x hx =>
                hcm.mechsNext x (filteredNext_sub (hfn ▸ hx))
              exact inv_step [.authMech (asciiUpper m)] hn (congrArg R.st hrun) (by simp [ok, sendMsg, hq1]) fun _ =>
                inv_core ⟨⟨fun x hx => hmem x (List.mem_cons_of_mem _ hx), fun x hx => Option.some.inj hx ▸ hmem m List.mem_cons_self,
                    fun _ => hcm.nick0 hs⟩,
                  caps_congr hcp' rfl rfl rfl,
                  .sasl h3 he hs rfl rfl hauth hdec (fun hx => by cases hx) hlo (fun _ => hresN) (fun hx => by cases hx) (Nat.le_refl 0)⟩
            | nil =>
              rw [hfn] at hrun; simp only at hrun
              by_cases hr : cfg.required = true
              · rw [if_pos hr] at hrun
                exact inv_abort hn (congrArg R.st hrun) (by simp [ok, event])
              · rw [if_neg hr] at hrun
                exact inv_step [.capEnd] hn (congrArg R.st hrun) (by simp [ok, sendMsg, hq1]) fun _ =>
                  inv_core ⟨⟨fun x hx => (by cases hx), fun x hx => (by cases hx), fun _ => hcm.nick0 hs⟩,
                    caps_congr hcp' rfl rfl rfl, .waiting h3 rfl hstage rfl hau hlo (fun _ => hresN)⟩
          · -- no sasl: CAP END
            rw [if_neg hsasl, endCap_neg hd _ (by exact hneg)] at hrun
            rcases ite_eq_cases hrun.symm with ⟨_, hrun⟩ | ⟨_, hrun⟩
            · exact inv_abort hn (congrArg R.st hrun.symm) (by simp [ok, event])
            · exact inv_step [.capEnd] hn (congrArg R.st hrun.symm) (by simp [ok, sendMsg, hq1]) fun _ =>
                inv_core ⟨common_congr hcm rfl rfl, caps_congr hcp' rfl rfl rfl, .waiting h3 rfl hstage rfl hau hlo (fun _ => hresN)⟩
        · -- still waiting for the answer to another CAP REQ (or to the rest of this one)
          rw [if_neg hall] at hrun
          have hrest : reqsAfter a ws rest ≠ [] := by
            intro hre
            apply hall
            rw [subset_iff]
            intro c hc
            rcases hcp'.acc c hc with h | h | h
            · exact List.mem_append_left _ h
            · exact List.mem_append_right _ h
            · have h' : c ∈ (reqsAfter a ws rest).flatten := h
              rw [hre] at h'; simp at h'
          exact inv_step [] hn (congrArg R.st hrun) hq1 fun _ =>
            inv_core ⟨common_congr hcm rfl rfl, hcp',
              .neg h3 he hs hneg hau hauth hdec (fun h => by rw [hlo] at h; cases h) (fun _ => hrest) hln⟩
      · -- an answer for something that was not requested: the bot drops the connection
        rw [if_pos (by simpa using hun)] at hrun
        exact inv_abort hn (congrArg R.st hrun) (by simp [ok, event])
  · -- any other phase: capUpkeep's state check fails, only the sets change
    have hcont : Gen.Conn.expectCapUpkeep.contains s.fsm = false := by
      rcases phase_fsm_of_v3 h3 hp with h | h | h | h
      · exact absurd h hneg
      · rw [show s.fsm = .INIT_SASL from h]; exact tab_upkeep_sasl
      · rw [show s.fsm = .INIT_WAITING_MOTD from h]; exact tab_upkeep_waiting
      · rw [show s.fsm = .INIT_MOTD from h]; exact tab_upkeep_motd
    rw [capUpkeep_raises _ (by exact hcont)] at hrun
    exact inv_step [] hn (congrArg R.st hrun) hq1 fun _ =>
      inv_core ⟨common_congr hcm rfl rfl, hcp', phase_ackNak _ _ _ m1 m2 hneg hp⟩

theorem doCapNew_eq (t caps : Str) (s : St) (hne : splitWs caps ≠ []) :
    doCapNew cfg [t, sNEW, caps] s = ok (capNewFinal (addCapabilities cfg caps s)) := by
  unfold doCapNew
  have : (splitWs caps).isEmpty = false := by cases h : splitWs caps <;> simp_all
  simp [this]

theorem arrangeCaps_nil (ack : List Str) : arrangeCaps ack [] = [] := by
  unfold arrangeCaps; simp [isort]

/-- Irc.doCapNew after `_addCapabilities` outside SHUTTING_DOWN: the not yet acknowledged wanted capabilities are requested -/
theorem capNewFinal_eq (s : St) (hf : s.fsm ≠ .SHUTTING_DOWN) :
    capNewFinal s = { s with req := union s.req (arrangeCaps s.ack (newCaps s)),
                             fastq := s.fastq ++ (fill capReqWidth (arrangeCaps s.ack (newCaps s))).map Out.capReq } := by
  unfold capNewFinal
  rw [if_neg hf]
  by_cases he : (newCaps s).isEmpty = true
  · rw [if_pos he]
    have : newCaps s = [] := by simpa using he
    rw [this, arrangeCaps_nil]
    simp [union, fill]
  · rw [if_neg he, requestCaps_eq]

theorem lateNew_ne_false_of_owed {v : View} (h : v.auth.owed = true) : (v.lateNew || v.auth.owed || v.ended) ≠ false := by
  rw [h]; simp

theorem lateNew_ne_false_of_ended {v : View} (h : v.ended = true) : (v.lateNew || v.auth.owed || v.ended) ≠ false := by
  rw [h]; simp

/-- the phases after a CAP NEW (the bot may have sent more CAP REQ lines) -/
theorem phase_capNew {b : Bot} {v : View} (R A : List Str) (lines : List (List Str)) (h3 : v.v3 = true)
    (ho : v.lsOwed = false) (p : Phase b v) :
    Phase { b with req := R }
      { v with avail := A, lateNew := v.lateNew || v.auth.owed || v.ended, reqs := v.reqs ++ lines } := by
  cases p with
  | neg _ he hs hf ha hauth hd hls howe hln =>
    refine .neg h3 he hs hf ha hauth hd (fun h => by rw [ho] at h; cases h) (fun _ hc => ?_) ?_
    · have hc' : v.reqs ++ lines = [] := hc
      exact howe ho (List.append_eq_nil_iff.mp hc').1
    · show (v.lateNew || v.auth.owed || v.ended) = false
      rw [hln, ha, he]; rfl
  | sasl _ he hs hf ha hauth hd hcur hl hres hsent hround =>
    exact .sasl h3 he hs hf ha hauth hd hcur hl (fun hc => absurd hc (lateNew_ne_false_of_owed ha)) hsent hround
  | waiting _ he hs hf ha hl hres =>
    exact .waiting h3 he hs hf ha hl (fun hc => absurd hc (lateNew_ne_false_of_ended he))
  | nocap h3' _ _ _ _ => rw [h3] at h3'; cases h3'
  | motd hw hs hf ha hl hres =>
    have hend : v.ended = true := by simpa [canWelcome, h3] using hw
    exact .motd hw hs hf ha hl (fun hc => absurd hc (lateNew_ne_false_of_ended hend))

theorem phase_not_shutdown {b : Bot} {v : View} (p : Phase b v) : b.fsm ≠ .SHUTTING_DOWN := by
  cases p with
  | neg _ _ _ hf _ _ _ _ _ _ => rw [hf]; decide
  | sasl _ _ _ hf _ _ _ _ _ _ _ _ => rw [hf]; decide
  | waiting _ _ _ hf _ _ _ => rw [hf]; decide
  | nocap _ _ hf _ _ => rw [hf]; decide
  | motd _ _ hf _ _ _ => rw [hf]; decide

theorem capNewFinal_ev (s : St) : (capNewFinal s).ev = s.ev := by
  unfold capNewFinal; split
  · rfl
  · split
    · rfl
    · rw [requestCaps_ev]

theorem pres_capNew (hd : cfg.realDriver = false) (t caps n : Str)
    (h3 : v.v3 = true) (ho : v.lsOwed = false) (hne : splitWs caps ≠ [])
    (h : Live cfg s v) :
    Kept cfg s ⟨sCAP, [t, sNEW, caps], n⟩ { v with avail := v.avail ++ lsKeys caps, lateNew := v.lateNew || v.auth.owed || v.ended } := by
  obtain ⟨hq1, hcm, hcp, hp⟩ := h
  have hn := nickSetter_plain ⟨sCAP, [t, sNEW, caps], n⟩ s rfl
  have hrun : runHandler cfg ⟨sCAP, [t, sNEW, caps], n⟩ s = _ := doCapNew_eq t caps s hne
  rcases addRel_addCapabilities hd caps s with ⟨e, es, hev⟩ | ⟨L, D, hs1, hk, hrec⟩
  · exact inv_abort (r := capNewFinal (addCapabilities cfg caps s)) hn (congrArg R.st hrun) (by rw [capNewFinal_ev, hev]; simp)
  rw [hs1, capNewFinal_eq _ (by exact phase_not_shutdown hp)] at hrun
  simp only [hq1, List.nil_append] at hrun
  generalize arrangeCaps s.ack (newCaps _) = arr at hrun
  have hcp2 := caps_request arr (caps_avail_grow hk hrec hcp)
  refine inv_step ((fill capReqWidth arr).map .capReq) hn (congrArg R.st hrun) rfl fun _ => ?_
  rw [fold_capReq]
  generalize fill capReqWidth arr = lines at hcp2 ⊢
  by_cases hro : v.ended = true ∧ v.stage = 0 ∧ lines ≠ []
  · -- the request goes out after CAP END, before the registration is complete: the server waits for another CAP END
    obtain ⟨h1, h2, h3'⟩ := hro
    cases lines with
    | nil => exact absurd rfl h3'
    | cons _ _ => exact inv_reopened (by simp [reopen, h1, h2])
  have hre : reopen { v with avail := v.avail ++ lsKeys caps, lateNew := v.lateNew || v.auth.owed || v.ended } lines =
      { v with avail := v.avail ++ lsKeys caps, lateNew := v.lateNew || v.auth.owed || v.ended } := by
    by_cases h1 : v.ended = true
    · by_cases h2 : v.stage = 0
      · cases lines with
        | nil => rfl
        | cons _ _ => exact absurd ⟨h1, h2, List.cons_ne_nil _ _⟩ hro
      · exact reopen_registered _ h2
    · exact reopen_not_ended _ (by simpa using h1)
  rw [hre]
  exact inv_core ⟨common_congr hcm rfl rfl, caps_congr hcp2 rfl rfl rfl, phase_capNew (b := { bot s with ls := L }) _ _ _ h3 ho (phase_congr hp rfl)⟩

theorem doCapDel_eq (t caps : Str) (s : St) (hne : splitWs caps ≠ []) :
    doCapDel [t, sDEL, caps] s = ok ((splitWs caps).foldl delCap s) := by
  unfold doCapDel
  have : (splitWs caps).isEmpty = false := by cases h : splitWs caps <;> simp_all
  simp [this]

theorem keys_dictDel {β : Type} (d : List (Str × β)) (k c : Str) (hc : c ∈ keys d) (hne : c ≠ k) : c ∈ keys (dictDel d k) := by
  unfold keys dictDel at *
  simp only [List.mem_map, List.mem_filter] at hc ⊢
  obtain ⟨p, hp, rfl⟩ := hc
  exact ⟨p, ⟨hp, by simpa using hne⟩, rfl⟩

/-- what the loop of Irc.doCapDel does to the capability sets -/
theorem delCaps_facts (l : List Str) (s : St) :
    ∃ L A N, l.foldl delCap s = { s with ls := L, ack := A, nak := N } ∧
      (∀ c ∈ s.nak, c ∈ N) ∧ (∀ c ∈ s.ack, c ∈ A ∨ c ∈ N) ∧ (∀ c ∈ A, c ∈ s.ack ∧ c ∉ l.map capName) ∧
      (∀ c ∈ keys s.ls, c ∉ l.map capName → c ∈ keys L) := by
  induction l generalizing s with
  | nil => exact ⟨s.ls, s.ack, s.nak, rfl, fun _ h => h, fun _ h => .inl h, fun _ h => ⟨h, by simp⟩, fun _ h _ => h⟩
  | cons x xs ih =>
    obtain ⟨L, A, N, i1, i4, i5, i6, i7⟩ := ih (delCap s x)
    have hnak : ∀ c ∈ s.nak, c ∈ (delCap s x).nak := by
      intro c hc; unfold delCap; simp only
      split
      · exact mem_union.mpr (.inl hc)
      · exact hc
    have hack : ∀ c ∈ s.ack, c ∈ (delCap s x).ack ∨ c ∈ (delCap s x).nak := by
      intro c hc
      by_cases he : c = capName x
      · right; unfold delCap; simp only
        have : s.ack.contains (capName x) = true := by rw [← he]; simpa using hc
        rw [if_pos this]; exact mem_union.mpr (.inr (by simp [he]))
      · left; unfold delCap; simp only
        rw [List.mem_filter]; exact ⟨hc, by simpa using he⟩
    refine ⟨L, A, N, by rw [List.foldl_cons, i1]; rfl, fun c hc => i4 c (hnak c hc), ?_, ?_, ?_⟩
    · intro c hc
      rcases hack c hc with h | h
      · exact i5 c h
      · exact .inr (i4 c h)
    · intro c hc
      obtain ⟨h1, h2⟩ := i6 c hc
      have h1' : c ∈ s.ack ∧ c ≠ capName x := by
        unfold delCap at h1; simp only [List.mem_filter] at h1
        exact ⟨h1.1, by simpa using h1.2⟩
      refine ⟨h1'.1, ?_⟩
      simp only [List.map_cons, List.mem_cons, not_or]
      exact ⟨h1'.2, h2⟩
    · intro c hc hn
      simp only [List.map_cons, List.mem_cons, not_or] at hn
      exact i7 c (keys_dictDel _ _ _ hc hn.1) hn.2

/-- the phases after a CAP DEL: acknowledged capabilities may have moved to the refused ones -/
theorem phase_capDel {b : Bot} {v : View} (L : List (Str × Option Str)) (A N X : List Str)
    (hA : ∀ c ∈ b.ack, c ∈ A ∨ c ∈ N) (hN : ∀ c ∈ b.nak, c ∈ N) (ho : v.lsOwed = false) (p : Phase b v) :
    Phase { b with ls := L, ack := A, nak := N } { v with avail := X } := by
  have grow : (v.lateNew = false → Answered b) → (v.lateNew = false → Answered { b with ls := L, ack := A, nak := N }) :=
    fun h hl c hc => by
      rcases h hl c hc with h | h
      · exact hA c h
      · exact .inr (hN c h)
  cases p with
  | neg h3 he hs hf ha hauth hd hls howe hln =>
    exact .neg h3 he hs hf ha hauth hd (fun h => by rw [ho] at h; cases h) howe hln
  | sasl h3 he hs hf ha hauth hd hcur hl hres hsent hround => exact .sasl h3 he hs hf ha hauth hd hcur hl (grow hres) hsent hround
  | waiting h3 he hs hf ha hl hres => exact .waiting h3 he hs hf ha hl (grow hres)
  | nocap h3 hs hf ha hreq => exact .nocap h3 hs hf ha hreq
  | motd hw hs hf ha hl hres => exact .motd hw hs hf ha hl (grow hres)

theorem pres_capDel (t caps n : Str)
    (ho : v.lsOwed = false) (hne : splitWs caps ≠ [])
    (h : Live cfg s v) :
    Kept cfg s ⟨sCAP, [t, sDEL, caps], n⟩ { v with avail := v.avail.filter (fun c => !(delKeys caps).contains c) } := by
  obtain ⟨hq1, hcm, hcp, hp⟩ := h
  have hrun : runHandler cfg ⟨sCAP, [t, sDEL, caps], n⟩ s = _ := doCapDel_eq t caps s hne
  obtain ⟨L, A, N, d1, d4, d5, d6, d7⟩ := delCaps_facts (splitWs caps) s
  rw [d1] at hrun
  refine inv_step [] (nickSetter_plain _ _ rfl) (congrArg R.st hrun) hq1 fun _ =>
    inv_core ⟨common_congr hcm rfl rfl, ⟨?_, ?_, ?_, hcp.ne⟩, phase_capDel _ _ _ _ d5 d4 ho hp⟩
  · intro c hc
    rcases hcp.acc c hc with h | h | h
    · rcases d5 c h with h' | h'
      · exact .inl h'
      · exact .inr (.inl h')
    · exact .inr (.inl (d4 c h))
    · exact .inr (.inr h)
  · intro c hc
    obtain ⟨h1, h2⟩ := d6 c hc
    exact d7 c (hcp.ackKeys c h1) h2
  · intro c hc
    have hc' : c ∈ v.avail.filter (fun c => !(delKeys caps).contains c) := hc
    rw [List.mem_filter] at hc'
    exact d7 c (hcp.avail c hc'.1) (by simpa [delKeys] using hc'.2)

end C08
