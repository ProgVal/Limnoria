/-
C06 — helper lemmas: the extracted facts (`TablesOk`), `Clean` strings through tags,
serialisation and the reply constructors, the byte cut of `_truncateMsg`, the bytes on the wire.
-/
import LimnoriaModel.C06.Model
import LimnoriaModel.C11.Utf8
import LimnoriaModel.C05.RoundTrip
namespace C06
open Py

/-! ### what the theorems need from the extracted tables -/

/-- raw / `msg=` constructions of an `IrcMsg` that are known and accounted for:
outFilter rewriters (enabled by a channel op; they substitute inside an already valid text),
owner-only raw senders (excluded by the property), plain copies, and the two incoming paths. -/
def allowedRawSites : List (String × String × String) :=
  [("plugins/BadWords/plugin.py", "BadWords.outFilter", "msg="),
   ("plugins/Filter/plugin.py", "Filter.outFilter", "msg="),
   ("plugins/Google/plugin.py", "Google.outFilter", "msg="),
   ("plugins/ShrinkUrl/plugin.py", "ShrinkUrl._outFilterThread", "msg="),
   ("plugins/Debug/plugin.py", "Debug.sendquote", "string"),
   ("plugins/Owner/plugin.py", "Owner.ircquote", "string"),
   ("plugins/Utilities/plugin.py", "Utilities.let", "msg="),
   ("plugins/Misc/plugin.py", "Misc.more", "msg="),
   ("src/drivers/__init__.py", "parseMsg", "string"),
   ("src/irclib.py", "Irc.feedMsg", "msg="),
   -- the emulated echo fed back to the plugins (fix b0e0eea): a plain copy, and it is not what is sent
   ("src/irclib.py", "Irc.takeMsg", "msg="),
   ("src/irclib.py", "Irc._takeMsg", "msg=")]

/-- the filter commands a channel op may install as an outFilter: each maps text without CR/LF/NUL
to text without CR/LF/NUL (letter substitutions, encoders, re-orderings; no decoder) -/
def allowedOutFilters : List String :=
  ["jeffk", "leet", "rot13", "hexlify", "binary", "scramble", "morse", "reverse", "colorize", "squish",
   "supa1337", "stripcolor", "aol", "rainbow", "spellit", "hebrew", "undup", "uwu", "gnu", "shrink", "uniud",
   "capwords", "caps", "vowelrot"]

def cleanChar (c : Char) : Bool := !(c = '\r' || c = '\n' || c = Char.ofNat 0)

/-- the tag-value escape table removes CR and LF and introduces no CR, LF or NUL -/
def escSafe (t : List (Char × Str)) : Bool :=
  t.all (fun p => p.2.all cleanChar) && (t.lookup '\r').isSome && (t.lookup '\n').isSome

structure TablesOk : Prop where
  chars : Gen.invalidArgChars = ['\r', '\n', Char.ofNat 0]
  maxLine : Gen.maxLineSize = 512
  reserve : Gen.truncateReserve = 2
  countsBytes : Gen.truncateCountsBytes = true
  cutsBytes : Gen.truncateCutsBytes = true
  sites : Gen.rawMsgSites.all (fun s => allowedRawSites.contains s) = true
  esc : escSafe Gen.serverTagEscape = true
  /-- the truncation sizes the line with the error handler the driver encodes with -/
  sameErrors : Gen.truncateErrors = Gen.driverErrors
  /-- nothing resets the serialisation after `_truncateMsg` stored the cut in it -/
  cutKept : Gen.strResetAfterTruncate = false
  /-- only known, CR/LF/NUL-preserving filter commands can become an outFilter -/
  outFilters : Gen.filterOutCommands.all (fun c => allowedOutFilters.contains c) = true

/-- no CR, LF, NUL -/
def Clean (s : Str) : Prop := ∀ c ∈ s, cleanChar c = true

instance (s : Str) : Decidable (Clean s) :=
  inferInstanceAs (Decidable (∀ c ∈ s, cleanChar c = true))

theorem bad_eq (tk : TablesOk) (c : Char) : bad c = !cleanChar c := by
  unfold bad cleanChar
  rw [tk.chars]
  simp [Bool.or_assoc]

theorem clean_of_not_bad (tk : TablesOk) {c : Char} (h : bad c = false) : cleanChar c = true := by
  rw [bad_eq tk] at h
  cases hc : cleanChar c
  · rw [hc] at h; cases h
  · rfl

theorem validArg_iff (tk : TablesOk) (s : Str) : validArg s = true ↔ Clean s := by
  unfold validArg Clean
  have : ∀ c, Gen.invalidArgChars.contains c = !cleanChar c := fun c => bad_eq tk c
  simp only [this, Bool.not_eq_true', List.any_eq_false]
  constructor
  · intro h c hc
    cases hcc : cleanChar c
    · exact absurd (by simp [hcc]) (h c hc)
    · rfl
  · intro h c hc
    simp [h c hc]

theorem clean_nil : Clean [] := by intro c h; cases h

theorem clean_append {a b : Str} : Clean (a ++ b) ↔ Clean a ∧ Clean b := by
  unfold Clean
  constructor
  · intro h
    exact ⟨fun c hc => h c (by simp [hc]), fun c hc => h c (by simp [hc])⟩
  · rintro ⟨h1, h2⟩ c hc
    rcases List.mem_append.1 hc with h | h
    · exact h1 c h
    · exact h2 c h

theorem clean_cons {c : Char} {s : Str} : Clean (c :: s) ↔ cleanChar c = true ∧ Clean s := by
  unfold Clean
  simp

theorem clean_joinChar (sep : Char) (hs : cleanChar sep = true) (l : List Str) (h : ∀ s ∈ l, Clean s) :
    Clean (joinChar sep l) := by
  induction l with
  | nil => exact clean_nil
  | cons a rest ih =>
    cases rest with
    | nil => simpa [joinChar] using h a (by simp)
    | cons b rest' =>
      simp only [joinChar]
      rw [clean_append, clean_cons]
      exact ⟨h a (by simp), hs, ih (fun s hs' => h s (by simp [hs']))⟩

/-! ### tag values: escaping leaves no CR / LF, and no NUL if there was none -/

theorem escapeTag_clean (tk : TablesOk) (v : Str) (hv : ∀ c ∈ v, c ≠ Char.ofNat 0) : Clean (C05.escapeTag v) := by
  have ht := tk.esc
  unfold escSafe at ht
  simp only [Bool.and_eq_true, List.all_eq_true] at ht
  obtain ⟨⟨h1, h2⟩, h3⟩ := ht
  show ∀ x ∈ C05.escapeWith Gen.serverTagEscape v, cleanChar x = true
  refine C05.escapeWith_forall (fun p hp x hx => h1 p hp x hx) (fun c hc hr => ?_)
  -- an unescaped character is neither CR nor LF (the table escapes both) nor NUL
  have hcr : c ≠ '\r' := by intro e; subst e; rw [hr] at h2; cases h2
  have hlf : c ≠ '\n' := by intro e; subst e; rw [hr] at h3; cases h3
  simp [cleanChar, hcr, hlf, hv c hc]

/-- tag keys without CR/LF/NUL, tag values without NUL -/
def CleanTags (t : C05.Tags) : Prop := ∀ p ∈ t, Clean p.1 ∧ ∀ v, p.2 = some v → ∀ c ∈ v, c ≠ Char.ofNat 0

theorem formatTag_clean (tk : TablesOk) (p : Str × Option Str) (hk : Clean p.1)
    (hv : ∀ v, p.2 = some v → ∀ c ∈ v, c ≠ Char.ofNat 0) : Clean (C05.formatTag p) := by
  obtain ⟨k, v⟩ := p
  cases v with
  | none => exact hk
  | some v =>
    simp only [C05.formatTag]
    rw [clean_append, clean_cons]
    exact ⟨hk, by decide, escapeTag_clean tk v (hv v rfl)⟩

theorem formatTags_clean (tk : TablesOk) (t : C05.Tags) (ht : CleanTags t) : Clean (C05.formatTags t) := by
  unfold C05.formatTags
  rw [clean_cons]
  refine ⟨by decide, clean_joinChar ';' (by decide) _ ?_⟩
  intro s hs
  rw [List.mem_map] at hs
  obtain ⟨p, hp, rfl⟩ := hs
  exact formatTag_clean tk p (ht p hp).1 (ht p hp).2

theorem wellFormed_of_clean (body : Str) (h : Clean body) (tk : TablesOk) : WellFormedLine (body ++ CRLF) :=
  ⟨body, rfl, fun c hc => by rw [bad_eq tk, h c hc]; rfl⟩

theorem formatBody_clean (m : C05.Msg) (hp : Clean m.pfx) (hc : Clean m.command) (ha : ∀ a ∈ m.args, Clean a) :
    ∃ body, C05.formatBody m = body ++ CRLF ∧ Clean body := by
  have hw : Clean (joinChar ' ' (C05.words m)) := by
    apply clean_joinChar ' ' (by decide)
    intro s hs
    simp only [C05.words, C05.pfxWords, List.mem_append, List.mem_singleton] at hs
    rcases hs with (hs | rfl) | hs
    · split at hs
      · cases hs
      · rw [List.mem_singleton] at hs
        subst hs
        exact clean_cons.2 ⟨by decide, hp⟩
    · exact hc
    · exact ha s (List.dropLast_subset _ hs)
  rw [C05.formatBody_eq]
  unfold C05.tailPart
  cases hl : m.args.getLast? with
  | none => exact ⟨_, rfl, hw⟩
  | some l =>
    refine ⟨joinChar ' ' (C05.words m) ++ ' ' :: ':' :: l, by simp [CRLF], ?_⟩
    rw [clean_append, clean_cons, clean_cons]
    exact ⟨hw, by decide, by decide, ha l (List.mem_of_getLast? hl)⟩

theorem format_wellFormed (tk : TablesOk) (m : C05.Msg) (hp : Clean m.pfx) (hc : Clean m.command)
    (ha : ∀ a ∈ m.args, Clean a) (ht : CleanTags m.tags) : WellFormedLine (C05.format m) := by
  obtain ⟨body, hb, hcl⟩ := formatBody_clean m hp hc ha
  unfold C05.format
  split
  · rw [hb]; exact wellFormed_of_clean body hcl tk
  · rw [hb]
    have : C05.formatTags m.tags ++ ' ' :: (body ++ CRLF) = (C05.formatTags m.tags ++ ' ' :: body) ++ CRLF := by simp
    rw [this]
    apply wellFormed_of_clean _ _ tk
    rw [clean_append, clean_cons]
    exact ⟨formatTags_clean tk m.tags ht, by decide, hcl⟩

theorem ctor_ok_of_clean (tk : TablesOk) (pfx command : Str) (args : List Str) (tags : C05.Tags) :
    (∀ a ∈ args, Clean a) → ctor pfx command args tags = .ok ⟨pfx, command, args, tags⟩ := by
  intro h
  unfold ctor
  have : args.all validArg = true := by
    rw [List.all_eq_true]
    intro a ha
    exact (validArg_iff tk a).2 (h a ha)
  rw [this]; rfl

theorem ctor_args_clean (tk : TablesOk) (pfx command : Str) (args : List Str) (tags : C05.Tags) (m : C05.Msg)
    (h : ctor pfx command args tags = .ok m) : m = ⟨pfx, command, args, tags⟩ ∧ ∀ a ∈ args, Clean a := by
  unfold ctor at h
  split at h
  · rename_i hall
    rw [List.all_eq_true] at hall
    injection h with h
    exact ⟨h.symm, fun a ha => (validArg_iff tk a).1 (hall a ha)⟩
  · cases h

theorem clean_stripCtcp (s : Str) (h : Clean s) : Clean (stripCtcpChars s) := by
  unfold stripCtcpChars rstripP lstripP
  intro c hc
  have h1 := List.mem_reverse.1 hc
  have h2 := (List.dropWhile_suffix _).subset h1
  have h3 := List.mem_reverse.1 h2
  exact h c ((List.dropWhile_suffix _).subset h3)

theorem safeArgument_clean (tk : TablesOk) (reprS s : Str) (hr : Clean reprS) : Clean (safeArgument reprS s) := by
  unfold safeArgument
  split
  · rename_i h; exact (validArg_iff tk s).1 h
  · exact hr

theorem reply_ctor_ok (tk : TablesOk) (command t s : Str) (ht : Clean t) (hs : Clean s) :
    ∃ m, ctor [] command [t, s] [] = .ok m := by
  refine ⟨_, ctor_ok_of_clean tk _ _ _ _ ?_⟩
  intro a ha; simp at ha; rcases ha with rfl | rfl <;> assumption

theorem action_ok (tk : TablesOk) (t s : Str) (ht : Clean t) (hs : Clean s) :
    ∃ m, action t s = .ok m := by
  unfold action
  apply reply_ctor_ok tk _ _ _ ht
  rw [clean_append, clean_append, clean_cons]
  exact ⟨⟨⟨by decide, by intro c h; simp at h; rcases h with rfl | rfl | rfl | rfl | rfl | rfl | rfl <;> decide⟩, hs⟩,
    by intro c h; simp at h; subst h; decide⟩

theorem built_line (tk : TablesOk) (command : Str) (hc : Clean command) (t s : Str) (m : C05.Msg)
    (h : ctor [] command [t, s] [] = .ok m) : WellFormedLine (C05.format m) := by
  obtain ⟨rfl, ha⟩ := ctor_args_clean tk _ _ _ _ m h
  exact format_wellFormed tk _ clean_nil hc ha (by intro p hp; cases hp)

theorem utf8Len_cons (c : Char) (s : Str) : utf8Len (c :: s) = c.utf8Size + utf8Len s := by
  simp [utf8Len]
theorem utf8Len_append (a b : Str) : utf8Len (a ++ b) = utf8Len a + utf8Len b := by
  simp [utf8Len]

theorem append_eq_append_suffix {α : Type} {a b x y : List α} (h : a ++ b = x ++ y) (hl : y.length ≤ b.length) :
    ∃ r, b = r ++ y ∧ x = a ++ r := by
  rcases List.append_eq_append_iff.1 h with ⟨a', hx, hb⟩ | ⟨c', ha, hy⟩
  · exact ⟨a', hb, hx⟩
  · have hc : c' = [] := by
      have := congrArg List.length hy
      rw [List.length_append] at this
      exact List.eq_nil_of_length_eq_zero (by omega)
    subst hc
    simp only [List.append_nil, List.nil_append] at ha hy
    exact ⟨[], by simp [hy], by simp [ha]⟩

theorem utf8Len_bounds (s : Str) : s.length ≤ utf8Len s ∧ utf8Len s ≤ 4 * s.length := by
  induction s with
  | nil => simp [utf8Len]
  | cons c cs ih =>
    rw [utf8Len_cons, List.length_cons]
    have := Char.utf8Size_pos c
    have := Char.utf8Size_le_four c
    omega

theorem cut_prefix (n : Nat) (s : Str) : cutToBytes n s <+: s := by
  induction s generalizing n with
  | nil => simp [cutToBytes]
  | cons c cs ih =>
    unfold cutToBytes
    split
    · exact List.cons_prefix_cons.2 ⟨rfl, ih _⟩
    · exact List.nil_prefix

theorem cut_len (n : Nat) (s : Str) : utf8Len (cutToBytes n s) ≤ n := by
  induction s generalizing n with
  | nil => simp [cutToBytes, utf8Len]
  | cons c cs ih =>
    unfold cutToBytes
    split
    · rw [utf8Len_cons]
      have := ih (n - c.utf8Size)
      omega
    · simp [utf8Len]

theorem clean_of_prefix {p s : Str} (h : p <+: s) (hs : Clean s) : Clean p :=
  fun c hc => hs c (h.subset hc)

theorem prefix_of_append_of_len {p x y : Str} (h : p <+: x ++ y) (hl : utf8Len p ≤ utf8Len x) : p <+: x := by
  rcases List.prefix_or_prefix_of_prefix h (List.prefix_append x y) with hp | ⟨z, rfl⟩
  · exact hp
  · -- `p = x ++ z` has no more bytes than `x`: `z` is empty
    rw [utf8Len_append] at hl
    have := (utf8Len_bounds z).1
    rw [List.eq_nil_of_length_eq_zero (by omega : z.length = 0), List.append_nil]
    exact List.prefix_refl x

theorem utf8Len_CRLF : utf8Len CRLF = 2 := by decide

theorem wellFormed_bool (tk : TablesOk) (l : Str) (h : WellFormedLine l) : wellFormedLine l = true := by
  obtain ⟨body, rfl, hb⟩ := h
  unfold wellFormedLine
  have hl : (body ++ CRLF).length - 2 = body.length := by simp [CRLF]
  rw [hl]
  simp only [List.drop_left', List.take_left', List.length_append, Bool.and_eq_true, decide_eq_true_eq,
    List.all_eq_true, Bool.not_eq_true']
  refine ⟨⟨by simp [CRLF], by simp⟩, fun c hc => hb c hc⟩

theorem nonTagPart_tagged (t rest : Str) (ht : t.head? = some '@') (hs : ' ' ∉ t) :
    nonTagPart (t ++ ' ' :: rest) = rest := by
  unfold nonTagPart
  have hh : (t ++ ' ' :: rest).head? = some '@' := by
    cases t with
    | nil => simp at ht
    | cons x xs => simpa using ht
  rw [if_pos hh, C05.split1_append ' ' t rest hs]

theorem nonTagPart_plain (l : Str) (h : l.head? ≠ some '@') : nonTagPart l = l := by
  unfold nonTagPart; rw [if_neg h]

theorem splitTagPart_spec {l tags rest : Str} (h : splitTagPart l = some (tags, rest)) :
    l = tags ++ rest ∧
      ((tags = [] ∧ l.head? ≠ some '@') ∨ ∃ t, tags = t ++ [' '] ∧ t.head? = some '@' ∧ ' ' ∉ t) := by
  unfold splitTagPart at h
  split at h
  · rename_i hat
    cases h1 : split1 ' ' l with
    | none => rw [h1] at h; cases h
    | some q =>
      obtain ⟨t, r⟩ := q
      rw [h1] at h
      injection h with h
      injection h with e1 e2
      subst e1 e2
      obtain ⟨el, hnt⟩ := C05.split1_spec h1
      refine ⟨by rw [el]; simp, .inr ⟨t, rfl, ?_, hnt⟩⟩
      cases t with
      | nil => rw [el] at hat; simp at hat
      | cons x xs => rw [el] at hat; simpa using hat
  · rename_i hat
    injection h with h
    injection h with e1 e2
    subst e1 e2
    exact ⟨rfl, .inl ⟨rfl, hat⟩⟩

theorem truncate_cases (tk : TablesOk) {l l' : Str} (h : truncate l = some l') :
    ∃ tags rest, splitTagPart l = some (tags, rest) ∧
      ((512 < utf8Len rest ∧ l' = tags ++ cutToBytes (512 - 2) rest ++ CRLF) ∨ (utf8Len rest ≤ 512 ∧ l' = l)) := by
  unfold truncate at h
  cases hs : splitTagPart l with
  | none => rw [hs] at h; cases h
  | some p =>
    obtain ⟨tags, rest⟩ := p
    rw [hs] at h
    simp only [tk.maxLine, tk.reserve] at h
    refine ⟨tags, rest, rfl, ?_⟩
    split at h <;> injection h with h <;> subst h
    · exact .inl ⟨‹_›, rfl⟩
    · exact .inr ⟨Nat.le_of_not_lt ‹_›, rfl⟩

theorem encChar_clean_bytes (c : Char) (hc : cleanChar c = true) :
    ∀ b ∈ C11.encChar c, b.toNat ≠ 13 ∧ b.toNat ≠ 10 ∧ b.toNat ≠ 0 := by
  unfold cleanChar at hc
  simp only [Bool.not_eq_true', Bool.or_eq_false_iff, decide_eq_false_iff_not] at hc
  obtain ⟨⟨h13, h10⟩, h0⟩ := hc
  intro b hb
  -- CR, LF and NUL are ASCII: such a byte would be the character itself
  have key : ∀ n, n < 0x80 → c ≠ Char.ofNat n → b.toNat ≠ n := fun n hn hne e =>
    hne ((Char.ofNat_toNat c).symm.trans
      (congrArg Char.ofNat ((C11.encChar_ascii c b hb (e ▸ hn)).symm.trans e)))
  exact ⟨key 13 (by decide) h13, key 10 (by decide) h10, key 0 (by decide) h0⟩

theorem utf8_CRLF : C11.utf8 CRLF = [13, 10] := by decide

end C06
