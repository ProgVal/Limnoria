/-
C06 — property theorems.  (Helper lemmas: `Lemmas.lean`.)

"Whatever text users, channels or plugins feed into commands, each message the bot gives to its
network driver serialises to exactly one IRC line … at most 512 bytes excluding tags."
The theorems cover the two funnels every message passes — the `IrcMsg` keyword constructor (its
`isValidArgument` assertion) and `Irc.takeMsg` (`_truncateMsg`) — and the reply path
(`_makeReply` + `safeArgument`) for *every* text, flag combination and configuration.
-/
import LimnoriaModel.C06.Lemmas
namespace C06
open Py

/-- The facts about `/repo` the theorems rest on, re-checked against the extracted tables:
`isValidArgument` rejects exactly CR, LF, NUL; `MAX_LINE_SIZE = 512`; `_truncateMsg` measures and
cuts UTF-8 *bytes* and keeps 2 for CR LF; every construction of an `IrcMsg` from a raw string or
through `msg=` is one of the accounted-for sites; the tag-value escape table removes CR and LF;
`_truncateMsg` and the driver encode with the same error handler; `takeMsg` does not reset the
serialisation after the cut; only known CR/LF/NUL-preserving filters can be installed as outFilter. -/
theorem out_tables_ok : TablesOk := {
  chars := by decide +kernel
  maxLine := by decide +kernel
  reserve := by decide +kernel
  countsBytes := by decide +kernel
  cutsBytes := by decide +kernel
  sites := by decide +kernel
  esc := by decide +kernel
  sameErrors := by decide +kernel
  cutKept := by decide +kernel
  outFilters := by decide +kernel }

/-- **One line per constructed message**: a message accepted by the keyword constructor, with a
clean prefix, command and tag keys (and NUL-free tag values), serialises to a string with exactly
one CR LF, at its end, and no NUL. -/
theorem ctor_line (pfx command : Str) (args : List Str) (tags : C05.Tags) (m : C05.Msg)
    (h : ctor pfx command args tags = .ok m) (hp : Clean pfx) (hc : Clean command) (ht : CleanTags tags) :
    WellFormedLine (C05.format m) := by
  obtain ⟨rfl, ha⟩ := ctor_args_clean out_tables_ok _ _ _ _ m h
  exact format_wellFormed out_tables_ok _ hp hc ha ht

example : ctor [] "PRIVMSG".toList ["#c".toList, "héllo :) \x01".toList] [("label".toList, some "a b".toList)]
    = .ok ⟨[], "PRIVMSG".toList, ["#c".toList, "héllo :) \x01".toList], [("label".toList, some "a b".toList)]⟩ := by
  decide +kernel

/-- **Replies are one line or nothing**: for every reply text (any Unicode, any control
characters), every combination of notice / private / action / prefixNick / `to` / error / stripCtcp,
every configuration and every notion of "public target", `_makeReply` either raises the
constructor's `AssertionError` (no message) or yields a message that serialises to exactly one
well-formed line. -/
theorem reply_line (isPublic : Str → Bool) (cfg : ReplyCfg) (a : ReplyArgs) (m : C05.Msg)
    (h : makeReply isPublic cfg a = .ok m) : WellFormedLine (C05.format m) := by
  have tk := out_tables_ok
  unfold makeReply at h
  cases hk : replyKind isPublic cfg a <;> rw [hk] at h <;> simp only at h
  · unfold action privmsg at h
    exact built_line tk _ (by decide) _ _ m h
  · unfold notice at h
    exact built_line tk _ (by decide) _ _ m h
  · unfold privmsg at h
    exact built_line tk _ (by decide) _ _ m h

/-- **… and the text is never the reason for "nothing"**: when the nick, the reply target and the
explicit `to` are valid arguments and `repr` keeps its contract, `_makeReply` never asserts —
`safeArgument` makes every text sendable. -/
theorem reply_never_asserts (isPublic : Str → Bool) (cfg : ReplyCfg) (a : ReplyArgs)
    (hn : Clean a.nick) (hr : Clean a.replyTo) (hto : ∀ t, a.to = some t → Clean t)
    (hrepr : Clean a.reprS) (he : Clean a.emptyText) :
    ∃ m, makeReply isPublic cfg a = .ok m := by
  have tk := out_tables_ok
  have hpay : Clean (replyPayload a) := by
    unfold replyPayload
    simp only
    split
    · exact he
    · exact safeArgument_clean tk _ _ hrepr
  have hto' : Clean (a.to.getD a.nick) := by
    cases h : a.to with
    | none => exact hn
    | some t => exact hto t h
  -- the target is the nick, the reply target or the explicit `to`
  have hct : Clean (replyTarget isPublic cfg a) := by
    unfold replyTarget
    cases h : a.to with
    | none => split <;> assumption
    | some t =>
      have ht := hto t h
      simp only
      split
      · exact ht
      · split <;> assumption
  have hcx : Clean (replyText isPublic cfg a) := by
    unfold replyText
    split
    · rw [clean_append, clean_append]
      exact ⟨⟨hto', by decide⟩, hpay⟩
    · exact hpay
  unfold makeReply
  cases replyKind isPublic cfg a
  · exact action_ok tk _ _ hct hcx
  · exact reply_ctor_ok tk _ _ _ hct hcx
  · exact reply_ctor_ok tk _ _ _ hct hcx

example : ∃ a : ReplyArgs, Clean a.nick ∧ Clean a.replyTo ∧ (∀ t, a.to = some t → Clean t) ∧ Clean a.reprS ∧
    Clean a.emptyText ∧ ¬ Clean a.s :=
  ⟨{ s := "a\r\nQUIT :x".toList, reprS := "'a\\r\\nQUIT :x'".toList, replyTo := "#c".toList, nick := "foo".toList },
   (by decide +kernel), (by decide +kernel), (by intro t h; cases h), (by decide +kernel), (by decide +kernel),
   (by decide +kernel)⟩

/-- the cut is a prefix of the text and fits the byte budget -/
theorem cut_is_prefix (n : Nat) (s : Str) : cutToBytes n s <+: s ∧ utf8Len (cutToBytes n s) ≤ n :=
  ⟨cut_prefix n s, cut_len n s⟩

/-- `utf8Len` is the number of bytes the driver writes for the text (`str.encode()`, C11) -/
theorem utf8Len_eq (s : Str) : utf8Len s = (C11.utf8 s).length := by
  induction s with
  | nil => rfl
  | cons c cs ih =>
    rw [utf8Len_cons, ih]
    simp [C11.utf8, C11.encChar_length]

/-- **At most 512 bytes, tags excluded**: whatever the serialised message, after `_truncateMsg`
the non-tag part encodes to at most `MAX_LINE_SIZE` bytes. -/
theorem truncate_bound_bytes (l l' : Str) (h : truncate l = some l') :
    utf8Len (nonTagPart l') ≤ 512 := by
  obtain ⟨tags, rest, hs, hcase⟩ := truncate_cases out_tables_ok h
  obtain ⟨el, ⟨rfl, hat⟩ | ⟨t, rfl, hth, hnt⟩⟩ := splitTagPart_spec hs
  · rw [List.nil_append] at el
    rcases hcase with ⟨-, e⟩ | ⟨hle, e⟩ <;> rw [e]
    · -- the cut is a prefix of `l`: it does not begin with `@` either
      have hh : (cutToBytes (512 - 2) rest ++ CRLF).head? ≠ some '@' := by
        have hp := cut_prefix (512 - 2) rest
        cases hc : cutToBytes (512 - 2) rest with
        | nil => simp [CRLF]
        | cons x xs =>
          rw [hc, ← el] at hp
          cases l with
          | nil => simp at hp
          | cons y ys =>
            rw [List.cons_prefix_cons] at hp
            obtain ⟨rfl, -⟩ := hp
            simpa using hat
      rw [List.nil_append, nonTagPart_plain _ hh, utf8Len_append, utf8Len_CRLF]
      have := cut_len (512 - 2) rest
      omega
    · rw [nonTagPart_plain _ hat, el]
      exact hle
  · rcases hcase with ⟨-, e⟩ | ⟨hle, e⟩ <;> rw [e]
    · have : t ++ [' '] ++ cutToBytes (512 - 2) rest ++ CRLF = t ++ ' ' :: (cutToBytes (512 - 2) rest ++ CRLF) := by
        simp
      rw [this, nonTagPart_tagged t _ hth hnt, utf8Len_append, utf8Len_CRLF]
      have := cut_len (512 - 2) rest
      omega
    · rw [el, List.append_assoc, List.singleton_append, nonTagPart_tagged t rest hth hnt]
      exact hle

/-- **Truncation keeps the line well formed** (and never splits a character: the cut is a prefix
of the *text*, not of its bytes). -/
theorem truncate_keeps_line (l l' : Str) (hw : WellFormedLine l) (h : truncate l = some l') :
    WellFormedLine l' := by
  have tk := out_tables_ok
  obtain ⟨body, rfl, hb⟩ := hw
  have hbody : Clean body := fun c hc => clean_of_not_bad tk (hb c hc)
  obtain ⟨tags, rest, hs, ⟨hlen, rfl⟩ | ⟨-, rfl⟩⟩ := truncate_cases tk h
  · -- `tags ++ rest = body ++ CRLF`; `rest` is longer than 2 bytes, so it ends with the CR LF,
    -- and the cut stays inside `body`
    have hcat : tags ++ rest = body ++ CRLF := (splitTagPart_spec hs).1.symm
    obtain ⟨r', hr1, hr2⟩ : ∃ r', rest = r' ++ CRLF ∧ body = tags ++ r' := by
      have := (utf8Len_bounds rest).2
      exact append_eq_append_suffix hcat (by show 2 ≤ rest.length; omega)
    have hcr : Clean r' := fun c hc => hbody c (by rw [hr2]; simp [hc])
    have hct : Clean tags := fun c hc => hbody c (by rw [hr2]; simp [hc])
    have hpre : cutToBytes (512 - 2) rest <+: r' := by
      apply prefix_of_append_of_len (y := CRLF)
      · rw [← hr1]; exact cut_prefix _ _
      · have := cut_len (512 - 2) rest
        rw [hr1, utf8Len_append, utf8Len_CRLF] at hlen
        omega
    refine wellFormed_of_clean _ ?_ tk
    rw [clean_append]
    exact ⟨hct, clean_of_prefix hpre hcr⟩
  · exact wellFormed_of_clean body hbody tk

/-- **What `takeMsg` hands to the driver**: a message accepted by the keyword constructor with a
clean header, optionally labelled, is serialised and truncated to one well-formed line whose
non-tag part has at most 512 bytes. -/
theorem take_line (pfx command : Str) (args : List Str) (tags : C05.Tags) (m : C05.Msg) (label : Option Str)
    (h : ctor pfx command args tags = .ok m) (hp : Clean pfx) (hc : Clean command) (ht : CleanTags tags)
    (hl : ∀ v, label = some v → ∀ c ∈ v, c ≠ Char.ofNat 0)
    (l' : Str) (hl' : takeLine label m = some l') :
    WellFormedLine l' ∧ utf8Len (nonTagPart l') ≤ 512 := by
  have tk := out_tables_ok
  obtain ⟨rfl, ha⟩ := ctor_args_clean tk _ _ _ _ m h
  unfold takeLine at hl'
  have hwf : WellFormedLine (C05.format (withLabel label ⟨pfx, command, args, tags⟩)) := by
    apply format_wellFormed tk
    · cases label <;> exact hp
    · cases label <;> exact hc
    · cases label <;> exact ha
    · cases hlab : label with
      | none => exact ht
      | some v =>
        intro p hp'
        rcases C05.mem_dictSet hp' with rfl | hp''
        · exact ⟨by show Clean "label".toList; decide, fun v' hv' => by injection hv' with hv'; subst hv'; exact hl v hlab⟩
        · exact ht p hp''
  exact ⟨truncate_keeps_line _ _ hwf hl', truncate_bound_bytes _ _ hl'⟩

/-- **On the wire**: the bytes the driver writes for a well-formed line (`str.encode()`, C11) end
with the bytes 13 10 and contain no other byte 13, 10 or 0 — multi-byte characters cannot smuggle
them in. -/
theorem wire_line (l : Str) (h : WellFormedLine l) :
    ∃ body, C11.utf8 l = body ++ [13, 10] ∧ ∀ b ∈ body, b.toNat ≠ 13 ∧ b.toNat ≠ 10 ∧ b.toNat ≠ 0 := by
  have tk := out_tables_ok
  obtain ⟨body, rfl, hb⟩ := h
  refine ⟨C11.utf8 body, by rw [← utf8_CRLF]; simp [C11.utf8], ?_⟩
  intro b hbm
  unfold C11.utf8 at hbm
  rw [List.mem_flatMap] at hbm
  obtain ⟨c, hc, hbc⟩ := hbm
  exact encChar_clean_bytes c (clean_of_not_bad tk (hb c hc)) b hbc

/-- a plain copy (`IrcMsg(msg=m)`, as `Misc.more`, `Utilities.let` and the emulated echo of `takeMsg`
make) is the message itself: it serialises to the same line, so `take_line` holds through it -/
theorem copy_without_overrides (m : C05.Msg) : ctorCopy m [] [] [] = .ok m := by
  cases m; rfl

/-- **The `msg=` form is a funnel too** (since its fix): a message rebuilt from a well-formed one with
new arguments — what the outFilter rewriters of Filter, BadWords, Google, ShrinkUrl do with text they
computed or fetched — either raises the `AssertionError` or serialises to exactly one line. -/
theorem copy_line (base : C05.Msg) (pfx command : Str) (args : List Str) (m : C05.Msg)
    (h : ctorCopy base pfx command args = .ok m)
    (hb : Clean base.pfx ∧ Clean base.command ∧ (∀ a ∈ base.args, Clean a) ∧ CleanTags base.tags)
    (hp : Clean pfx) (hc : Clean command) : WellFormedLine (C05.format m) := by
  have tk := out_tables_ok
  obtain ⟨hbp, hbc, hba, hbt⟩ := hb
  have hp' : Clean (if pfx = [] then base.pfx else pfx) := by split <;> assumption
  have hc' : Clean (if command = [] then base.command else command) := by split <;> assumption
  unfold ctorCopy at h
  split at h
  · injection h with h; subst h
    exact format_wellFormed tk _ hp' hc' hba hbt
  · split at h
    · rename_i hall
      injection h with h; subst h
      rw [List.all_eq_true] at hall
      exact format_wellFormed tk _ hp' hc' (fun a ha => (validArg_iff tk a).1 (hall a ha)) hbt
    · cases h

/-- … e.g. the smuggling attempt is refused -/
theorem copy_refuses_smuggling :
    ctorCopy ⟨[], "PRIVMSG".toList, ["#c".toList, "ok".toList], []⟩ [] []
      ["#c".toList, "a\r\nQUIT :bye".toList] = .assertFail := by decide +kernel

end C06
