/-
C16 — the reader cannot be made to add capabilities (used by C02).

For a user database whose rest-of-line fields contain no line break (a hostmask may end with one
LF, which `isUserHostmask` tolerates) and whose capabilities are clean lower-case words, reading
back the written file — whatever else the fields contain (blanks, TABs, keywords…), whether or
not the load stops part-way, whatever half-built record an earlier failed load left in the class
attribute — yields accounts whose capabilities were capabilities of the same account before.
Also: whatever the file, every loaded field is free of line breaks.
-/
import LimnoriaModel.C16.Lemmas
import LimnoriaModel.C03.Lemmas
namespace C16
open Py

/-! ## lines that may end with one LF -/

def noBreak (s : Str) : Prop := ∀ c ∈ s, isBreak c = false

instance (s : Str) : Decidable (noBreak s) := by unfold noBreak; exact inferInstance

def lfCore (l : Str) : Str := if l.getLast? = some '\n' then l.dropLast else l
def lfTail (l : Str) : List Str := if l.getLast? = some '\n' then [[]] else []

theorem fileLinesAux_lfline (l rest : Str) (h : noBreak (lfCore l)) :
    fileLinesAux false (l ++ '\n' :: rest) = lfCore l :: (lfTail l ++ fileLinesAux false rest) := by
  unfold lfCore lfTail at *
  by_cases hl : l.getLast? = some '\n'
  · simp only [hl, if_true] at h ⊢
    have hne : l ≠ [] := by intro e; simp [e] at hl
    have e : l = l.dropLast ++ ['\n'] := by
      obtain ⟨ys, hys⟩ := List.getLast?_eq_some_iff.mp hl
      rw [hys]; simp
    have e2 : l ++ '\n' :: rest = l.dropLast ++ '\n' :: ('\n' :: rest) := by
      conv => lhs; rw [e]
      simp
    rw [e2, fileLinesAux_line _ _ h]
    have := fileLinesAux_line [] rest (by intro c hc; cases hc)
    simp only [List.nil_append] at this
    rw [this]
    simp
  · simp only [hl, if_false] at h ⊢
    rw [fileLinesAux_line _ _ h]
    simp

theorem fileLines_unlines_lf (ls : List Str) (h : ∀ l ∈ ls, noBreak (lfCore l)) :
    fileLines (unlines ls) = ls.flatMap (fun l => lfCore l :: lfTail l) := by
  unfold fileLines
  induction ls with
  | nil => simp [unlines, fileLinesAux]
  | cons l ls ih =>
    have : unlines (l :: ls) = l ++ '\n' :: unlines ls := by simp [unlines]
    rw [this, fileLinesAux_lfline l _ (h l (by simp)), ih (fun x hx => h x (by simp [hx]))]
    simp

theorem readLines_lfTail {σ : Type} (C : Creator σ) (rs : RState σ) (l : Str) (rest : List Str) :
    readLines C rs (lfTail l ++ rest) = readLines C rs rest := by
  unfold lfTail
  split
  · simp [readLines_blank]
  · simp

theorem lfCore_of_noBreak {l : Str} (h : noBreak l) : lfCore l = l ∧ lfTail l = [] := by
  unfold lfCore lfTail
  have : l.getLast? ≠ some '\n' := by
    intro e
    have hm : '\n' ∈ l := List.mem_of_getLast? e
    have := h _ hm
    revert this; decide
  simp [this]

theorem lfCore_append (a v : Str) (ha : a.getLast? ≠ some '\n') :
    lfCore (a ++ v) = a ++ lfCore v ∧ lfTail (a ++ v) = lfTail v := by
  unfold lfCore lfTail
  cases v with
  | nil => simp only [List.append_nil, ha, if_false]; simp
  | cons x xs =>
    have h1 : (a ++ x :: xs).getLast? = (x :: xs).getLast? := by
      rw [List.getLast?_append]
      cases h : (x :: xs).getLast? with
      | none => simp at h
      | some y => rfl
    have h2 : (a ++ x :: xs).dropLast = a ++ (x :: xs).dropLast := by
      rw [List.dropLast_append_of_ne_nil (by simp)]
    rw [h1, h2]
    constructor <;> split <;> rfl

/-! ## what the creator operations do to capability lists -/

/-- every capability in the table was a capability of the same account in `orig` -/
def DbInv (orig users : List (Nat × User)) : Prop :=
  ∀ p ∈ users, ∀ x ∈ p.2.caps, ∃ u, (p.1, u) ∈ orig ∧ x ∈ u.caps

/-- the record under construction belongs to account `i` and holds only capabilities of `i` -/
def CuFor (orig : List (Nat × User)) (i : Nat) (cu : Option CU) : Prop :=
  ∃ w, cu = some { id := some i, u := w } ∧ ∀ x ∈ w.caps, ∃ u, (i, u) ∈ orig ∧ x ∈ u.caps

/-- a record left over by an earlier load is harmless: if it has no id yet it has no capability -/
def CuOk (cu : Option CU) : Prop := ∀ c, cu = some c → c.id = none → c.u.caps = []

theorem getUserId_forall (E : Env) (users : List (Nat × User)) (s : Str) (P : Nat → User → Prop)
    (hrm : ∀ i w pat, P i w → P i (removeHostmask w pat)) (h : ∀ p ∈ users, P p.1 p.2) :
    ∀ q ∈ (getUserId E users s).1, P q.1 q.2 := by
  intro q hq
  unfold getUserId at hq
  split at hq
  · simp only [] at hq
    split at hq
    · exact h q hq
    · exact h q hq
    · simp only [List.mem_map] at hq
      obtain ⟨p, hp, rfl⟩ := hq
      split
      · exact hrm _ _ _ (h p hp)
      · exact h p hp
  · split at hq <;> exact h q hq

theorem setUser_cases (E : Env) (db : UsersDb) (id : Nat) (u : User) :
    (setUser E db id u).1 = db ∨
    (setUser E db id u).1 = ⟨(getUserId E db.users u.name).1, max db.nextId id⟩ ∨
    (setUser E db id u).1 = ⟨dictSet id u (getUserId E db.users u.name).1, max db.nextId id⟩ := by
  unfold setUser
  split
  · exact Or.inl rfl
  · dsimp only
    split
    · exact Or.inr (Or.inl rfl)
    · split
      · exact Or.inr (Or.inl rfl)
      · split
        · exact Or.inr (Or.inl rfl)
        · exact Or.inr (Or.inr rfl)
    · split
      · exact Or.inr (Or.inl rfl)
      · exact Or.inr (Or.inr rfl)

theorem setUser_forall (E : Env) (db : UsersDb) (id : Nat) (u : User) (P : Nat → User → Prop)
    (hrm : ∀ i w pat, P i w → P i (removeHostmask w pat)) (h : ∀ p ∈ db.users, P p.1 p.2) (hu : P id u) :
    ∀ p ∈ (setUser E db id u).1.users, P p.1 p.2 := by
  have hget := getUserId_forall E db.users u.name P hrm h
  rcases setUser_cases E db id u with e | e | e <;> rw [e]
  · exact h
  · exact hget
  · intro p hp
    rcases mem_dictSet hp with rfl | hp
    · exact hu
    · exact hget p hp

theorem setUser_dbinv (E : Env) (orig : List (Nat × User)) (db : UsersDb) (id : Nat) (u : User)
    (hdb : DbInv orig db.users) (hu : ∀ x ∈ u.caps, ∃ v, (id, v) ∈ orig ∧ x ∈ v.caps) :
    DbInv orig (setUser E db id u).1.users :=
  setUser_forall E db id u (fun i w => ∀ x ∈ w.caps, ∃ v, (i, v) ∈ orig ∧ x ∈ v.caps) (fun _ _ _ h => h) hdb hu

theorem userFinish_dbinv (E : Env) (orig : List (Nat × User)) (st : UState) (i : Nat)
    (hdb : DbInv orig st.db.users) (hcu : CuFor orig i st.cu) :
    DbInv orig (userFinish E st).1.db.users ∧
    ((userFinish E st).2 = none → CuFor orig i (userFinish E st).1.cu ∨ (userFinish E st).1.cu = none) := by
  obtain ⟨w, hw, hcaps⟩ := hcu
  unfold userFinish
  simp only [hw]
  split
  · exact ⟨hdb, fun _ => Or.inl ⟨w, hw, hcaps⟩⟩
  · have h1 := setUser_dbinv E orig st.db i w hdb hcaps
    split
    · exact ⟨h1, fun _ => Or.inr rfl⟩
    · have h2 := setUser_dbinv E orig (setUser E st.db i w).1 i { w with hostmasks := [] } h1 hcaps
      split
      · exact ⟨h2, fun _ => Or.inr rfl⟩
      · exact ⟨h2, fun h => by simp at h⟩
    · exact ⟨h1, fun h => by simp at h⟩

theorem userCall_db (st : UState) (k r : Str) : (userCall st k r).1.db = st.db := by
  rcases userCall_cases st k r with ⟨e, h⟩ | ⟨_, w, n, _, _, h⟩ | ⟨f, i, w, _, _, h⟩ <;> rw [h]

theorem uadd_ok {caps caps' : List Str} {r : Str} (h : C03.uadd caps r = .ok caps') :
    ∃ inv, C03.invertCapability (C03.toLower r) = .ok inv ∧
      caps' = C03.CapSet.insert (C03.CapSet.erase caps inv) (C03.toLower r) := by
  unfold C03.uadd at h
  simp only [] at h
  split at h
  · cases h
  · unfold C03.CapSet.add at h
    simp only [C03.toLower_idem] at h
    split at h
    · cases h
    · rename_i inv hinv
      injection h with h
      exact ⟨inv, hinv, h.symm⟩

theorem userCapAdd_mem {caps : List Str} {r x : Str} (hx : x ∈ (userCapAdd caps r).1) :
    x ∈ caps ∨ x = C03.toLower r := by
  unfold userCapAdd liftR at hx
  split at hx
  · rename_i caps' hadd
    obtain ⟨inv, _, rfl⟩ := uadd_ok hadd
    rcases (mem_capInsert _ _ _).mp hx with hx | hx
    · exact Or.inr hx
    · exact Or.inl ((mem_capErase _ _ _).mp hx).1
  · exact Or.inl hx

theorem UField.edit_caps (f : UField) (r : Str) (w : User) :
    ∀ x ∈ (f.edit r w).1.caps, x ∈ w.caps ∨ (f = .capability ∧ x = C03.toLower r) := by
  intro x hx
  cases f with
  | capability => exact (userCapAdd_mem hx).imp_right fun h => ⟨rfl, h⟩
  | name | password | hostmask | gpgkey => exact Or.inl hx
  | ignore | secure | hashed => dsimp only [UField.edit, boolEdit] at hx; split at hx <;> exact Or.inl hx
  | nicks => dsimp only [UField.edit] at hx; split at hx <;> exact Or.inl hx

/-! ## the loop while the record of account `i` is being read -/

structure InBlock (orig : List (Nat × User)) (i : Nat) (rs : RState UState) : Prop where
  db : DbInv orig rs.st.db.users
  creator : rs.hasCreator = true
  cu : CuFor orig i rs.st.cu
  ind : rs.indent = some 0 ∨ rs.indent = some 2

def OutBlock (orig : List (Nat × User)) (i : Nat) (r : RState UState × Option Err) : Prop :=
  DbInv orig r.1.st.db.users ∧ (r.2 = none → InBlock orig i r.1)

theorem OutBlock.outcome {orig : List (Nat × User)} {i : Nat} {r : RState UState × Option Err}
    (h : OutBlock orig i r) : Outcome (InBlock orig i) (fun s => DbInv orig s.db.users) r :=
  ⟨h.2, fun _ => h.1⟩

theorem reindent_inblock (E : Env) (orig : List (Nat × User)) (i : Nat) (rs : RState UState) (ind : Nat)
    (h : InBlock orig i rs) :
    DbInv orig (reindent (userCreator E) rs ind).1.st.db.users ∧
    ((reindent (userCreator E) rs ind).2 = none →
      (reindent (userCreator E) rs ind).1.hasCreator = true ∧
      (reindent (userCreator E) rs ind).1.indent = some ind ∧
      (CuFor orig i (reindent (userCreator E) rs ind).1.st.cu ∨
       (reindent (userCreator E) rs ind).1.st.cu = some {})) := by
  unfold reindent
  split
  · rename_i hi
    exact ⟨h.db, fun _ => ⟨h.creator, hi, Or.inl h.cu⟩⟩
  · simp only [h.creator, if_true]
    have e1 : (userCreator E).finish rs.st = userFinish E rs.st := rfl
    have e2 : ∀ s, (userCreator E).new s = userNew s := fun _ => rfl
    rw [e1]
    simp only [e2]
    have hf := userFinish_dbinv E orig rs.st i h.db h.cu
    cases he : (userFinish E rs.st).2 with
    | some e => exact ⟨hf.1, fun h => by simp at h⟩
    | none =>
      refine ⟨?_, fun _ => ⟨rfl, rfl, ?_⟩⟩
      · show DbInv orig (userNew (userFinish E rs.st).1).db.users
        unfold userNew; split <;> exact hf.1
      · show CuFor orig i (userNew (userFinish E rs.st).1).cu ∨ (userNew (userFinish E rs.st).1).cu = some {}
        rcases hf.2 he with hc | hc
        · left
          obtain ⟨w, hw, hcaps⟩ := hc
          have : userNew (userFinish E rs.st).1 = (userFinish E rs.st).1 := by
            unfold userNew; rw [hw]
          rw [this]
          exact ⟨w, hw, hcaps⟩
        · right
          unfold userNew
          rw [hc]

/-- what a body line of account `i`'s record may parse to -/
def BodyParsed (orig : List (Nat × User)) (i : Nat) (P : Parsed) : Prop :=
  P = .blank ∨ P = .bad 2 ∨
  ∃ k r, P = .cmd 2 k r ∧ k ≠ kwUser ∧ (k = kwCapability → ∃ u, (i, u) ∈ orig ∧ C03.toLower r ∈ u.caps)

theorem readParsed_inblock (E : Env) (orig : List (Nat × User)) (i : Nat) (rs : RState UState) (P : Parsed)
    (h : InBlock orig i rs) (hP : BodyParsed orig i P) : OutBlock orig i (readParsed (userCreator E) rs P) := by
  rcases hP with rfl | rfl | ⟨k, r, rfl, hk, hcap⟩
  · exact ⟨h.db, fun _ => h⟩
  · have hr := reindent_inblock E orig i rs 2 h
    unfold readParsed
    simp only []
    cases he : (reindent (userCreator E) rs 2).2 with
    | some e => exact ⟨hr.1, fun h => by simp at h⟩
    | none => exact ⟨hr.1, fun h => by simp at h⟩
  · have hr := reindent_inblock E orig i rs 2 h
    unfold readParsed
    simp only []
    cases he : (reindent (userCreator E) rs 2).2 with
    | some e => exact ⟨hr.1, fun h => by simp at h⟩
    | none =>
      obtain ⟨hcr, hind, hcu⟩ := hr.2 he
      simp only []
      have hdb : DbInv orig (userCall (reindent (userCreator E) rs 2).1.st k r).1.db.users := by
        rw [userCall_db]; exact hr.1
      refine ⟨hdb, ?_⟩
      intro hok
      simp only [] at hok
      have hok' : (userCall (reindent (userCreator E) rs 2).1.st k r).2 = none := hok
      rcases userCall_cases (reindent (userCreator E) rs 2).1.st k r with ⟨e, h'⟩ | ⟨hu, _⟩ | ⟨f, j, v, hf, hv, h'⟩
      · rw [h'] at hok'
        cases hok'
      · exact absurd hu hk
      · -- the record has an id, so it is account `i`'s, not a fresh one
        rcases hcu with ⟨w, hw, hcaps⟩ | hfresh
        · rw [hw] at hv
          cases hv
          refine ⟨hdb, hcr, ?_, Or.inr hind⟩
          show CuFor orig i (userCall _ k r).1.cu
          rw [h']
          refine ⟨_, rfl, fun x hx => ?_⟩
          rcases f.edit_caps r _ x hx with hx | ⟨hc, hx⟩
          · exact hcaps x hx
          · rw [hx]
            exact hcap (by rw [hf, hc]; rfl)
        · rw [hfresh] at hv
          cases hv

/-- state of the loop between two records -/
def Between (orig : List (Nat × User)) (rs : RState UState) : Prop :=
  DbInv orig rs.st.db.users ∧
  ((rs.hasCreator = false ∧ rs.indent = none ∧ rs.modified = false ∧ CuOk rs.st.cu) ∨ ∃ j, InBlock orig j rs)

theorem userNew_db (s : UState) : (userNew s).db = s.db := by
  unfold userNew
  split <;> rfl

theorem userCall_user_cuFor (orig : List (Nat × User)) (i : Nat) (st : UState) (hcu : CuOk st.cu)
    (hok : (userCall st kwUser (natDec i)).2 = none) : CuFor orig i (userCall st kwUser (natDec i)).1.cu := by
  rcases userCall_cases st kwUser (natDec i) with ⟨e, h⟩ | ⟨_, w, n, hc, hn, h⟩ | ⟨f, _, _, hf, _⟩
  · rw [h] at hok
    cases hok
  · rw [parseNat_natDec] at hn
    cases hn
    rw [h]
    exact ⟨w, rfl, fun x hx => by rw [show w.caps = [] from hcu _ hc rfl] at hx; cases hx⟩
  · exact absurd hf.symm (kw_ne_user f)

theorem header_between (E : Env) (orig : List (Nat × User)) (i : Nat) (rs : RState UState)
    (h : Between orig rs) :
    OutBlock orig i (readParsed (userCreator E) rs (.cmd 0 kwUser (natDec i))) := by
  -- whichever gap: the indentation change leaves a record that has an id or no capability
  have key : DbInv orig (reindent (userCreator E) rs 0).1.st.db.users ∧
      ((reindent (userCreator E) rs 0).2 = none →
        (reindent (userCreator E) rs 0).1.hasCreator = true ∧ (reindent (userCreator E) rs 0).1.indent = some 0 ∧
        CuOk (reindent (userCreator E) rs 0).1.st.cu) := by
    rcases h with ⟨hdb, ⟨hcr, hind, _, hcu⟩ | ⟨j, hj⟩⟩
    · have e : reindent (userCreator E) rs 0 =
          ({ hasCreator := true, indent := some 0, modified := false, st := userNew rs.st }, none) := by
        unfold reindent
        simp [hind, hcr, userCreator]
      rw [e]
      refine ⟨(userNew_db rs.st).symm ▸ hdb, fun _ => ⟨rfl, rfl, ?_⟩⟩
      show CuOk (userNew rs.st).cu
      unfold userNew
      split
      · intro c hc _
        cases hc
        rfl
      · exact hcu
    · obtain ⟨hdb, hr⟩ := reindent_inblock E orig j rs 0 hj
      refine ⟨hdb, fun he => ?_⟩
      obtain ⟨hcr, hind, hcu⟩ := hr he
      refine ⟨hcr, hind, ?_⟩
      rcases hcu with ⟨w, hw, _⟩ | hfresh
      · rw [hw]
        intro c hc hn
        cases hc
        cases hn
      · rw [hfresh]
        intro c hc _
        cases hc
        rfl
  unfold readParsed
  simp only []
  cases he : (reindent (userCreator E) rs 0).2 with
  | some e => exact ⟨key.1, fun h => by simp at h⟩
  | none =>
    obtain ⟨hcr, hind, hcu⟩ := key.2 he
    have hdb' : DbInv orig (userCall (reindent (userCreator E) rs 0).1.st kwUser (natDec i)).1.db.users := by
      rw [userCall_db]
      exact key.1
    exact ⟨hdb', fun hok => ⟨hdb', hcr, userCall_user_cuFor orig i _ hcu hok, Or.inl hind⟩⟩

/-! ## the whole file -/

/-- fields that cannot break out of their line: no CR/LF (a hostmask may end with one LF), and
capabilities that are clean lower-case words -/
structure SafeUser (u : User) : Prop where
  name : noBreak u.name
  password : noBreak u.password
  caps : ∀ c ∈ u.caps, clean c = true ∧ C03.toLower c = c
  hostmasks : ∀ h ∈ u.hostmasks, noBreak (lfCore h)
  nicks : ∀ p ∈ u.nicks, noBreak p.1 ∧ ∀ n ∈ p.2, noBreak n
  gpgkeys : ∀ g ∈ u.gpgkeys, noBreak g

theorem noBreak_boolStr (b : Bool) : noBreak (boolStr b) := by
  cases b <;> (intro c hc; revert c; decide)

theorem noBreak_append {a b : Str} (ha : noBreak a) (hb : noBreak b) : noBreak (a ++ b) := by
  intro c hc
  rcases List.mem_append.mp hc with h | h
  · exact ha c h
  · exact hb c h

theorem noBreak_joinChar (ns : List Str) (h : ∀ n ∈ ns, noBreak n) : noBreak (joinChar ' ' ns) := by
  induction ns with
  | nil => intro c hc; simp [joinChar] at hc
  | cons n rest ih =>
    cases rest with
    | nil => simpa [joinChar] using h n (by simp)
    | cons m ms =>
      have : joinChar ' ' (n :: m :: ms) = n ++ ' ' :: joinChar ' ' (m :: ms) := rfl
      rw [this]
      refine noBreak_append (h n (by simp)) ?_
      intro c hc
      rcases List.mem_cons.mp hc with rfl | hc
      · decide
      · exact ih (fun x hx => h x (by simp [hx])) c hc

theorem clean_noBreak {v : Str} (h : clean v = true) : noBreak v := by
  obtain ⟨_, _, _, _, hall⟩ := clean_elim h
  intro c hc
  have := hall c hc
  simp [isBreak, this.2.1, this.2.2]

theorem userCmds_safe {u : User} (h : SafeUser u) :
    ∀ p ∈ userCmds u, ∃ f : UField, p.1 = f.kw ∧ noBreak (lfCore p.2) ∧ (f = .capability → p.2 ∈ u.caps) := by
  intro p hp
  have nb : ∀ {v : Str}, noBreak v → noBreak (lfCore v) := fun hv => by rw [(lfCore_of_noBreak hv).1]; exact hv
  simp only [userCmds, List.mem_append, List.mem_cons, List.mem_map, List.not_mem_nil, or_false] at hp
  rcases hp with ((((((rfl | rfl | rfl) | hp) | hp) | hp) | hp) | hp)
  · exact ⟨.name, rfl, nb h.name, nofun⟩
  · exact ⟨.ignore, rfl, nb (noBreak_boolStr _), nofun⟩
  · exact ⟨.secure, rfl, nb (noBreak_boolStr _), nofun⟩
  · by_cases hpw : u.password.isEmpty = true
    · simp [hpw] at hp
    · simp [hpw] at hp
      rcases hp with rfl | rfl
      · exact ⟨.hashed, rfl, nb (noBreak_boolStr _), nofun⟩
      · exact ⟨.password, rfl, nb h.password, nofun⟩
  · obtain ⟨c, hc, rfl⟩ := hp
    exact ⟨.capability, rfl, nb (clean_noBreak (h.caps c hc).1), fun _ => hc⟩
  · obtain ⟨c, hc, rfl⟩ := hp
    exact ⟨.hostmask, rfl, h.hostmasks c hc, nofun⟩
  · obtain ⟨q, hq, rfl⟩ := hp
    refine ⟨.nicks, rfl, nb ?_, nofun⟩
    have := h.nicks q hq
    exact noBreak_append this.1 (by
      intro c hc
      rcases List.mem_cons.mp hc with rfl | hc
      · decide
      · exact noBreak_joinChar q.2 this.2 c hc)
  · obtain ⟨c, hc, rfl⟩ := hp
    exact ⟨.gpgkey, rfl, nb (h.gpgkeys c hc), nofun⟩

/-- physical lines of one written line -/
def phys (l : Str) : List Str := lfCore l :: lfTail l

theorem parseLine_field_gen (kw v : Str) (hk : KwOk kw) :
    parseLine (indent2 (sp kw v)) = .bad 2 ∨ ∃ r, parseLine (indent2 (sp kw v)) = .cmd 2 (asciiLower kw) r := by
  rw [indent2_eq, parseLine_kw 2 kw v hk]
  dsimp only
  split
  · exact Or.inl rfl
  · exact Or.inr ⟨_, rfl⟩

theorem bodyLine_parsed (orig : List (Nat × User)) (i : Nat) (u : User) (hu : (i, u) ∈ orig) (hs : SafeUser u)
    (p : Str × Str) (hp : p ∈ userCmds u) :
    noBreak (lfCore (indent2 (cmdLine p))) ∧
    ∀ l ∈ phys (indent2 (cmdLine p)), BodyParsed orig i (parseLine l) := by
  obtain ⟨f, hf, hv, hcap⟩ := userCmds_safe hs p hp
  obtain ⟨hk, hlow⟩ := hf ▸ f.kw_ok
  have hne : p.1 ≠ kwUser := hf ▸ kw_ne_user f
  have hpre : (' ' :: ' ' :: p.1 ++ [' ']).getLast? ≠ some '\n' := by
    rw [show (' ' :: ' ' :: p.1 ++ [' ']) = (' ' :: ' ' :: p.1) ++ [' '] from rfl, List.getLast?_append]
    simp
  have hline : indent2 (cmdLine p) = (' ' :: ' ' :: p.1 ++ [' ']) ++ p.2 := by simp [indent2, cmdLine, sp]
  obtain ⟨h1, h2⟩ := lfCore_append (' ' :: ' ' :: p.1 ++ [' ']) p.2 hpre
  have hcore : lfCore (indent2 (cmdLine p)) = indent2 (sp p.1 (lfCore p.2)) := by
    rw [hline, h1]; simp [indent2, sp]
  refine ⟨?_, ?_⟩
  · rw [hcore]
    intro c hc
    simp only [indent2, sp, List.mem_cons, List.mem_append] at hc
    rcases hc with rfl | rfl | hc | rfl | hc
    · decide
    · decide
    · exact (kw_noTabBreak hk c hc).2
    · decide
    · exact hv c hc
  · intro l hl
    simp only [phys, List.mem_cons] at hl
    rcases hl with rfl | hl
    · rw [hcore]
      by_cases hc : p.1 = kwCapability
      · -- a capability line is parsed back exactly
        have hmem := hcap (UField.kw_inj (hf ▸ hc))
        have hclean := (hs.caps p.2 hmem).1
        rw [(lfCore_of_noBreak (clean_noBreak hclean)).1, indent2_eq, parseLine_written 2 p.1 p.2 hk hclean, hlow]
        refine Or.inr (Or.inr ⟨p.1, p.2, rfl, hne, fun _ => ⟨u, hu, ?_⟩⟩)
        rw [(hs.caps p.2 hmem).2]; exact hmem
      · rcases parseLine_field_gen p.1 (lfCore p.2) hk with h | ⟨r, h⟩
        · exact Or.inr (Or.inl h)
        · rw [hlow] at h
          exact Or.inr (Or.inr ⟨p.1, r, h, hne, fun e => absurd e hc⟩)
    · rw [hline, h2] at hl
      unfold lfTail at hl
      split at hl
      · simp only [List.mem_singleton] at hl
        rw [hl, parseLine_nil]; exact Or.inl rfl
      · cases hl

theorem block_phys (orig : List (Nat × User)) (b : Nat × User) (hb : b ∈ orig) (hs : SafeUser b.2) :
    (∀ l ∈ userBlock b, noBreak (lfCore l)) ∧
    ∃ tail, (userBlock b).flatMap phys = sp kwUser (natDec b.1) :: tail ∧
      ∀ l ∈ tail, BodyParsed orig b.1 (parseLine l) := by
  have hhdr : noBreak (sp kwUser (natDec b.1)) := by
    intro c hc
    exact sp_noBreak _ _ kwOk_user (clean_natDec b.1) c hc
  have hh := lfCore_of_noBreak hhdr
  have hnil : lfCore ([] : Str) = [] ∧ lfTail ([] : Str) = [] := lfCore_of_noBreak (by intro c hc; cases hc)
  refine ⟨?_, ?_⟩
  · intro l hl
    simp only [userBlock, blockLines, userLines, List.mem_cons, List.mem_append, List.mem_map, List.not_mem_nil,
      or_false] at hl
    rcases hl with (rfl | ⟨q, ⟨p, hp, rfl⟩, rfl⟩) | rfl
    · rw [hh.1]; exact hhdr
    · exact (bodyLine_parsed orig b.1 b.2 hb hs p hp).1
    · rw [hnil.1]; intro c hc; cases hc
  · refine ⟨((userLines b.2).map indent2 ++ [[]]).flatMap phys, ?_, ?_⟩
    · simp only [userBlock, blockLines, List.cons_append, List.flatMap_cons, phys, hh.1, hh.2, List.nil_append]
    · intro l hl
      simp only [List.mem_flatMap, List.mem_append, List.mem_map, List.mem_singleton, userLines] at hl
      obtain ⟨w, hw, hl⟩ := hl
      rcases hw with ⟨q, ⟨p, hp, rfl⟩, rfl⟩ | rfl
      · exact (bodyLine_parsed orig b.1 b.2 hb hs p hp).2 l hl
      · simp only [phys, hnil.1, hnil.2, List.mem_singleton] at hl
        rw [hl, parseLine_nil]; exact Or.inl rfl

theorem blocks_between (E : Env) (orig : List (Nat × User)) (bs : List (Nat × User))
    (hbs : ∀ b ∈ bs, b ∈ orig ∧ SafeUser b.2) (rs : RState UState) (h : Between orig rs) :
    Outcome (Between orig) (fun s => DbInv orig s.db.users)
      (readLines (userCreator E) rs ((bs.flatMap userBlock).flatMap phys)) := by
  rw [List.flatMap_assoc]
  refine Outcome.records _ bs (fun b hb rs h => ?_) rs h
  obtain ⟨hb, hs⟩ := hbs b hb
  obtain ⟨_, tail, htail, hparsed⟩ := block_phys orig b hb hs
  rw [htail]
  refine Outcome.cons (A := InBlock orig b.1) ?_ fun rs' h' => ?_
  · rw [parseLine_userHeader]
    exact (header_between E orig b.1 rs h).outcome
  · have := Outcome.lines (BodyParsed orig b.1)
      (fun rs P h hP => (readParsed_inblock E orig b.1 rs P h hP).outcome) tail rs' h' hparsed
    exact ⟨fun he => ⟨(this.1 he).db, Or.inr ⟨b.1, this.1 he⟩⟩, this.2⟩

theorem dump_lines (db : UsersDb) (hsafe : ∀ p ∈ db.users, SafeUser p.2) :
    (∀ b ∈ sortedUsers db, b ∈ db.users ∧ SafeUser b.2) ∧
    fileLines (dumpUsers db) = ((sortedUsers db).flatMap userBlock).flatMap phys := by
  have hmem : ∀ b ∈ sortedUsers db, b ∈ db.users ∧ SafeUser b.2 := by
    intro b hb
    have := (mem_sortBy _ _ _).mp hb
    exact ⟨this, hsafe b this⟩
  refine ⟨hmem, ?_⟩
  unfold dumpUsers
  apply fileLines_unlines_lf
  intro l hl
  simp only [List.mem_flatMap] at hl
  obtain ⟨b, hb, hl⟩ := hl
  exact (block_phys db.users b (hmem b hb).1 (hmem b hb).2).1 l hl

/-- **Reading back a written users.conf never adds a capability** to any account, as long as the
stored fields contain no line break: whatever else they contain, whether or not the load stops
part-way, whatever an earlier failed load left behind. -/
theorem load_caps_sub (E : Env) (cu0 : Option CU) (db : UsersDb) (hcu : CuOk cu0)
    (hsafe : ∀ p ∈ db.users, SafeUser p.2) :
    DbInv db.users (loadUsers E cu0 (dumpUsers db)).1.db.users := by
  obtain ⟨hmem, hlines⟩ := dump_lines db hsafe
  unfold loadUsers readText
  rw [hlines]
  have hstart : Between db.users ({ st := ⟨cu0, {}⟩ } : RState UState) := by
    unfold Between
    exact ⟨(by intro p hp; cases hp), Or.inl ⟨rfl, rfl, rfl, hcu⟩⟩
  obtain ⟨h1, h2⟩ := blocks_between E db.users (sortedUsers db) hmem _ hstart
  simp only []
  cases he : (readLines (userCreator E) { st := ⟨cu0, {}⟩ } (((sortedUsers db).flatMap userBlock).flatMap phys)).2 with
  | some e => exact h2 (by rw [he]; nofun)
  | none =>
    simp only []
    rcases (h1 he).2 with ⟨_, _, hm, _⟩ | ⟨j, hj⟩
    · -- nothing was read
      have : (readLines (userCreator E) { st := ⟨cu0, {}⟩ } (((sortedUsers db).flatMap userBlock).flatMap phys)).1.modified = false := hm
      simp only [this, Bool.false_eq_true, if_false]
      exact (h1 he).1
    · split
      · exact (userFinish_dbinv E db.users _ j hj.db hj.cu).1
      · exact (h1 he).1

/-! ## whatever the file: loaded fields are line-safe, and a leftover record without id has no capability -/

theorem fileLinesAux_noBreak (b : Bool) (t : Str) : ∀ l ∈ fileLinesAux b t, noBreak l := by
  induction t generalizing b with
  | nil => intro l hl; simp [fileLinesAux] at hl
  | cons c cs ih =>
    intro l hl
    unfold fileLinesAux at hl
    split at hl
    · split at hl
      · exact ih _ l hl
      · rcases List.mem_cons.mp hl with rfl | hl
        · intro x hx; cases hx
        · exact ih _ l hl
    · split at hl
      · rcases List.mem_cons.mp hl with rfl | hl
        · intro x hx; cases hx
        · exact ih _ l hl
      · rename_i h1 h2
        split at hl
        · simp only [List.mem_singleton] at hl
          subst hl
          intro x hx
          simp only [List.mem_singleton] at hx
          subst hx
          simp [isBreak, h1, h2]
        · rename_i l0 ls heq
          rcases List.mem_cons.mp hl with rfl | hl
          · intro x hx
            rcases List.mem_cons.mp hx with rfl | hx
            · simp [isBreak, h1, h2]
            · exact ih false l0 (by rw [heq]; simp) x hx
          · exact ih false l (by rw [heq]; simp [hl])

theorem mem_expandTabsFrom (s : Str) (col : Nat) (c : Char) (h : c ∈ expandTabsFrom col s) : c = ' ' ∨ c ∈ s := by
  induction s generalizing col with
  | nil => simp [expandTabsFrom] at h
  | cons x xs ih =>
    unfold expandTabsFrom at h
    split at h
    · rcases List.mem_append.mp h with h | h
      · left; exact (List.mem_replicate.mp h).2
      · rcases ih _ h with h | h
        · exact Or.inl h
        · exact Or.inr (by simp [h])
    · split at h <;>
      · rcases List.mem_cons.mp h with rfl | h
        · exact Or.inr (by simp)
        · rcases ih _ h with h | h
          · exact Or.inl h
          · exact Or.inr (by simp [h])

theorem parseLine_rest_noBreak (l : Str) (i : Nat) (k r : Str) (hl : noBreak l)
    (h : parseLine l = .cmd i k r) : noBreak r := by
  unfold parseLine at h
  split at h
  · cases h
  · simp only [] at h
    split at h
    · rename_i command rest heq
      injection h with _ _ hr
      subst hr
      -- `rest` is a sublist of the expanded line
      unfold splitNone1 at heq
      simp only [] at heq
      split at heq
      · cases heq
      · split at heq
        · cases heq
        · injection heq with _ heq
          injection heq with heq _
          subst heq
          intro c hc
          have h1 : c ∈ expandTabs l := by
            unfold lstripP at hc
            have := List.dropWhile_sublist _ |>.subset hc
            have := List.dropWhile_sublist _ |>.subset this
            have := List.dropWhile_sublist _ |>.subset this
            exact List.dropWhile_sublist _ |>.subset this
          rcases mem_expandTabsFrom l 0 c h1 with rfl | h1
          · decide
          · exact hl c h1
    · cases h

theorem noBreak_nil : noBreak ([] : Str) := fun c hc => by cases hc

theorem safeUser_default : SafeUser ({} : User) :=
  ⟨noBreak_nil, noBreak_nil, fun c hc => (by cases hc), fun c hc => (by cases hc), fun c hc => (by cases hc),
   fun c hc => (by cases hc)⟩

structure SafeState (st : UState) : Prop where
  users : ∀ p ∈ st.db.users, SafeUser p.2
  cu : ∀ c, st.cu = some c → SafeUser c.u
  cuok : CuOk st.cu

theorem split1_eq {c : Char} {s a b : Str} (h : split1 c s = some (a, b)) : s = a ++ c :: b := by
  induction s generalizing a with
  | nil => simp [split1] at h
  | cons x xs ih =>
    unfold split1 at h
    split at h
    · rename_i hx
      injection h with h
      injection h with h1 h2
      subst h1; subst h2; subst hx
      rfl
    · split at h
      · cases h
      · rename_i a' b' heq
        injection h with h
        injection h with h1 h2
        subst h1; subst h2
        rw [ih heq]
        rfl

theorem mem_splitChar {c : Char} (s p : Str) (hp : p ∈ splitChar c s) : ∀ x ∈ p, x ∈ s := by
  induction s generalizing p with
  | nil => simp [splitChar] at hp; subst hp; intro x hx; cases hx
  | cons y ys ih =>
    unfold splitChar at hp
    split at hp
    · rcases List.mem_cons.mp hp with rfl | hp
      · intro x hx; cases hx
      · intro x hx; exact List.mem_cons_of_mem _ (ih p hp x hx)
    · split at hp
      · simp only [List.mem_singleton] at hp
        subst hp
        intro x hx
        simp only [List.mem_singleton] at hx
        subst hx; simp
      · rename_i q qs heq
        rcases List.mem_cons.mp hp with rfl | hp
        · intro x hx
          rcases List.mem_cons.mp hx with rfl | hx
          · simp
          · exact List.mem_cons_of_mem _ (ih q (by rw [heq]; simp) x hx)
        · intro x hx
          exact List.mem_cons_of_mem _ (ih p (by rw [heq]; simp [hp]) x hx)

theorem isCapability_clean {c : Str} (h : C03.isCapability c = true) : clean c = true := by
  unfold C03.isCapability at h
  simp only [Bool.and_eq_true, Bool.not_eq_true', List.isEmpty_eq_false_iff, List.all_eq_true] at h
  obtain ⟨hne, hall⟩ := h
  cases c with
  | nil => exact absurd rfl hne
  | cons x xs =>
    have hx : isSpace x = false := by simpa using hall x (by simp)
    simp only [clean, hx, Bool.not_false, Bool.true_and, noTabBreak, List.all_eq_true, Bool.and_eq_true,
      bne_iff_ne, ne_eq]
    intro y hy
    have hy' : isSpace y = false := by simpa using hall y hy
    refine ⟨⟨?_, ?_⟩, ?_⟩ <;> (intro e; subst e; revert hy'; decide)

theorem invert_ok_isCapability {c i : Str} (h : C03.invertCapability c = .ok i) : C03.isCapability c = true := by
  unfold C03.invertCapability at h
  split at h
  · cases h
  · rename_i hc
    simpa using hc

theorem uadd_safe {caps caps' : List Str} {r : Str} (h : C03.uadd caps r = .ok caps')
    (hc : ∀ c ∈ caps, clean c = true ∧ C03.toLower c = c) : ∀ c ∈ caps', clean c = true ∧ C03.toLower c = c := by
  obtain ⟨inv, hinv, rfl⟩ := uadd_ok h
  intro c hc'
  rcases (mem_capInsert _ _ _).mp hc' with rfl | hc'
  · exact ⟨isCapability_clean (invert_ok_isCapability hinv), C03.toLower_idem _⟩
  · exact hc c ((mem_capErase _ _ _).mp hc').1

theorem safeUser_caps {u : User} (h : SafeUser u) (caps : List Str)
    (hc : ∀ c ∈ caps, clean c = true ∧ C03.toLower c = c) : SafeUser { u with caps := caps } :=
  ⟨h.name, h.password, hc, h.hostmasks, h.nicks, h.gpgkeys⟩

theorem UField.edit_safe (f : UField) {r : Str} (hr : noBreak r) {u : User} (hu : SafeUser u) :
    SafeUser (f.edit r u).1 := by
  cases f with
  | name => exact ⟨hr, hu.password, hu.caps, hu.hostmasks, hu.nicks, hu.gpgkeys⟩
  | password => exact ⟨hu.name, hr, hu.caps, hu.hostmasks, hu.nicks, hu.gpgkeys⟩
  | ignore | secure | hashed =>
    dsimp only [UField.edit, boolEdit]
    split <;> exact ⟨hu.name, hu.password, hu.caps, hu.hostmasks, hu.nicks, hu.gpgkeys⟩
  | hostmask =>
    refine ⟨hu.name, hu.password, hu.caps, fun x hx => ?_, hu.nicks, hu.gpgkeys⟩
    dsimp only [UField.edit, ircSetAdd] at hx
    split at hx
    · exact hu.hostmasks x hx
    · rcases List.mem_append.mp hx with hx | hx
      · exact hu.hostmasks x hx
      · rw [List.mem_singleton.mp hx, (lfCore_of_noBreak hr).1]; exact hr
  | nicks =>
    dsimp only [UField.edit]
    split
    · exact hu
    · rename_i net ns heq
      have hsplit := split1_eq heq
      refine ⟨hu.name, hu.password, hu.caps, hu.hostmasks, fun p hp => ?_, hu.gpgkeys⟩
      rcases mem_dictSet hp with rfl | hp
      · exact ⟨fun x hx => hr x (by rw [hsplit]; simp [hx]),
          fun n hn x hx => hr x (by rw [hsplit]; simp [mem_splitChar ns n hn x hx])⟩
      · exact hu.nicks p hp
  | capability =>
    refine safeUser_caps hu _ ?_
    unfold userCapAdd liftR
    split
    · rename_i caps' hadd
      exact uadd_safe hadd hu.caps
    · exact hu.caps
  | gpgkey =>
    refine ⟨hu.name, hu.password, hu.caps, hu.hostmasks, hu.nicks, fun x hx => ?_⟩
    rcases List.mem_append.mp hx with hx | hx
    · exact hu.gpgkeys x hx
    · rw [List.mem_singleton.mp hx]; exact hr

theorem safeState_of {db : UsersDb} {cu : Option CU} (hdb : ∀ p ∈ db.users, SafeUser p.2)
    (hcu : ∀ c, cu = some c → SafeUser c.u ∧ c.id ≠ none) : SafeState ⟨cu, db⟩ :=
  ⟨hdb, fun c hc => (hcu c hc).1, fun c hc hn => absurd hn (hcu c hc).2⟩

theorem safeState_ust {i : Nat} {w : User} {db : UsersDb} (hdb : ∀ p ∈ db.users, SafeUser p.2) (hw : SafeUser w) :
    SafeState (ust i w db) :=
  safeState_of hdb fun c hc => by cases hc; exact ⟨hw, nofun⟩

theorem userCall_safe (st : UState) (k r : Str) (h : SafeState st) (hr : noBreak r) :
    SafeState (userCall st k r).1 := by
  rcases userCall_cases st k r with ⟨e, hc⟩ | ⟨_, w, n, hcu, _, hc⟩ | ⟨f, i, w, _, hcu, hc⟩ <;> rw [hc]
  · exact h
  · exact safeState_ust h.users (h.cu _ hcu)
  · exact safeState_ust h.users (f.edit_safe hr (h.cu _ hcu))

theorem removeHostmask_safe {u : User} (h : SafeUser u) (pat : Str) : SafeUser (removeHostmask u pat) :=
  ⟨h.name, h.password, h.caps, fun x hx => h.hostmasks x (List.mem_filter.mp hx).1, h.nicks, h.gpgkeys⟩

theorem setUser_safe (E : Env) (db : UsersDb) (id : Nat) (u : User) (h : ∀ p ∈ db.users, SafeUser p.2)
    (hu : SafeUser u) : ∀ p ∈ (setUser E db id u).1.users, SafeUser p.2 :=
  setUser_forall E db id u (fun _ w => SafeUser w) (fun _ _ pat h => removeHostmask_safe h pat) h hu

theorem userFinish_safe (E : Env) (st : UState) (h : SafeState st) : SafeState (userFinish E st).1 := by
  unfold userFinish
  cases hc : st.cu with
  | none => exact h
  | some cu =>
    simp only []
    have hcu := h.cu cu hc
    split
    · exact h
    · split
      · exact h
      · rename_i id hid
        have h1 := setUser_safe E st.db id cu.u h.users hcu
        have hcl : SafeUser { cu.u with hostmasks := [] } :=
          ⟨hcu.name, hcu.password, hcu.caps, fun x hx => (by cases hx), hcu.nicks, hcu.gpgkeys⟩
        have h2 := setUser_safe E (setUser E st.db id cu.u).1 id { cu.u with hostmasks := [] } h1 hcl
        split
        · exact safeState_of h1 nofun
        · split
          · exact safeState_of h2 nofun
          · exact safeState_of h2 fun c hc' => by cases hc'; exact ⟨hcl, by simp [hid]⟩
        · exact safeState_of h1 fun c hc' => by cases hc'; exact ⟨hcu, by simp [hid]⟩

theorem userNew_safe (st : UState) (h : SafeState st) : SafeState (userNew st) := by
  unfold userNew
  split
  · refine ⟨h.users, ?_, ?_⟩
    · intro c hc; simp only [Option.some.injEq] at hc; subst hc; exact safeUser_default
    · intro c hc _; simp only [Option.some.injEq] at hc; subst hc; rfl
  · exact h

/-- **Whatever the file**, every field of every loaded account is free of line breaks, every
loaded capability is a clean lower-case word, and a record left in the class attribute without an
id carries no capability. -/
theorem load_safe (E : Env) (cu0 : Option CU) (text : Str)
    (h0 : ∀ c, cu0 = some c → SafeUser c.u) (hcu : CuOk cu0) :
    SafeState (loadUsers E cu0 text).1 :=
  have hC : (userCreator E).Keeps SafeState noBreak := ⟨userNew_safe, userFinish_safe E, userCall_safe⟩
  hC.readText _ text ⟨fun p hp => (by cases hp), h0, hcu⟩
    fun l hl i k r hp => parseLine_rest_noBreak l i k r (fileLinesAux_noBreak false text l hl) hp

/-! ## whatever the file: the loaded table has one record per id, none above `nextId` -/

def IdsOk (db : UsersDb) : Prop :=
  (db.users.map (·.1)).Nodup ∧ ∀ p ∈ db.users, p.1 ≤ db.nextId

theorem dictSet_keys {α β : Type} [DecidableEq α] (k : α) (v : β) (l : List (α × β)) :
    (dictSet k v l).map (·.1) = if l.any (fun p => p.1 = k) then l.map (·.1) else l.map (·.1) ++ [k] := by
  unfold dictSet
  split
  · rw [List.map_map]
    apply List.map_congr_left
    intro p _
    simp only [Function.comp]
    split
    · rename_i h; exact h.symm
    · rfl
  · simp

theorem dictSet_nodup {α β : Type} [DecidableEq α] (k : α) (v : β) (l : List (α × β))
    (h : (l.map (·.1)).Nodup) : ((dictSet k v l).map (·.1)).Nodup := by
  rw [dictSet_keys]
  split
  · exact h
  · rename_i hk
    rw [List.nodup_append]
    refine ⟨h, by simp, ?_⟩
    intro a ha b hb
    simp only [List.mem_singleton] at hb
    subst hb
    intro e; subst e
    apply hk
    simp only [List.mem_map] at ha
    obtain ⟨p, hp, rfl⟩ := ha
    simp only [List.any_eq_true, decide_eq_true_eq]
    exact ⟨p, hp, rfl⟩

theorem getUserId_keys (E : Env) (users : List (Nat × User)) (s : Str) :
    (getUserId E users s).1.map (·.1) = users.map (·.1) := by
  unfold getUserId
  split
  · simp only []
    split
    · rfl
    · rfl
    · rw [List.map_map]
      apply List.map_congr_left
      intro p _
      simp only [Function.comp]
      split <;> rfl
  · split <;> rfl

theorem setUser_ids (E : Env) (db : UsersDb) (id : Nat) (u : User) (h : IdsOk db) : IdsOk (setUser E db id u).1 := by
  have hk := getUserId_keys E db.users u.name
  have h1 : IdsOk ⟨(getUserId E db.users u.name).1, max db.nextId id⟩ := by
    refine ⟨hk ▸ h.1, fun p hp => ?_⟩
    obtain ⟨q, hq, e⟩ := List.mem_map.mp (hk ▸ List.mem_map_of_mem hp : p.1 ∈ db.users.map (·.1))
    have := h.2 q hq
    show p.1 ≤ max db.nextId id
    omega
  rcases setUser_cases E db id u with e | e | e <;> rw [e]
  · exact h
  · exact h1
  · refine ⟨dictSet_nodup _ _ _ h1.1, fun p hp => ?_⟩
    rcases mem_dictSet hp with rfl | hp
    · show id ≤ max db.nextId id
      omega
    · exact h1.2 p hp

theorem userFinish_ids (E : Env) (st : UState) (h : IdsOk st.db) : IdsOk (userFinish E st).1.db := by
  unfold userFinish
  cases hc : st.cu with
  | none => exact h
  | some cu =>
    simp only []
    split
    · exact h
    · split
      · exact h
      · rename_i id _
        have h1 := setUser_ids E st.db id cu.u h
        have h2 := setUser_ids E (setUser E st.db id cu.u).1 id { cu.u with hostmasks := [] } h1
        split
        · exact h1
        · split
          · exact h2
          · exact h2
        · exact h1

/-- **Whatever the file**, the loaded table has at most one record per id and `nextId` bounds them. -/
theorem load_ids (E : Env) (cu0 : Option CU) (text : Str) : IdsOk (loadUsers E cu0 text).1.db :=
  have hC : (userCreator E).Keeps (fun s => IdsOk s.db) (fun _ => True) :=
    ⟨fun s h => (userNew_db s).symm ▸ h, userFinish_ids E, fun s k r h _ => (userCall_db s k r).symm ▸ h⟩
  hC.readText _ text ⟨List.nodup_nil, fun p hp => (by cases hp)⟩ fun _ _ _ _ _ _ => trivial

/-! ## a load that stops part-way leaves a record with an id behind; with such a record every later
load of a written file stops at its first line (nothing is loaded) -/

/-- the class attribute holds a record that already has an id: the next `user` line raises -/
def Stuck (cu : Option CU) : Prop := ∃ c, cu = some c ∧ c.id.isSome = true

/-- a leftover record without id is a pristine `IrcUser()` -/
def CuFresh (cu : Option CU) : Prop := ∀ c, cu = some c → c.id = none → c.u = {}

theorem userFinish_cu (E : Env) (st : UState) (j : Nat) (w : User) (hst : st.cu = some { id := some j, u := w }) :
    ((userFinish E st).2 = none → (userFinish E st).1.cu = none ∨ (w.name = [] ∧ (userFinish E st).1.cu = st.cu)) ∧
    ((userFinish E st).2 ≠ none → Stuck (userFinish E st).1.cu) := by
  unfold userFinish
  simp only [hst]
  split
  · rename_i hn
    exact ⟨fun _ => Or.inr ⟨by simpa using hn, hst.symm ▸ rfl⟩, fun h => absurd rfl h⟩
  · split
    · exact ⟨fun _ => Or.inl rfl, fun h => absurd rfl h⟩
    · split
      · exact ⟨fun _ => Or.inl rfl, fun h => absurd rfl h⟩
      · exact ⟨fun h => (by simp at h), fun _ => ⟨_, rfl, rfl⟩⟩
    · exact ⟨fun h => (by simp at h), fun _ => ⟨_, rfl, rfl⟩⟩

theorem userCall_keeps_id (st : UState) (c : CU) (i : Nat) (k r : Str) (hst : st.cu = some c) (hid : c.id = some i) :
    ∃ c', (userCall st k r).1.cu = some c' ∧ c'.id = some i := by
  rcases userCall_cases st k r with ⟨e, h⟩ | ⟨_, w, n, hcu, _, _⟩ | ⟨f, j, v, _, hcu, h⟩
  · rw [h]; exact ⟨c, hst, hid⟩
  · rw [hst] at hcu; cases hcu; cases hid
  · rw [hst] at hcu
    cases hcu
    cases hid
    rw [h]
    exact ⟨_, rfl, rfl⟩

/-- position of the loop inside the record of account `i`, as far as the class attribute goes -/
def AtRec (i : Nat) (rs : RState UState) : Prop :=
  rs.hasCreator = true ∧ ∃ w, rs.st.cu = some { id := some i, u := w } ∧
    (rs.indent = some 2 ∨ (rs.indent = some 0 ∧ w.name = []))

theorem readParsed_atRec (E : Env) (i : Nat) (rs : RState UState) (P : Parsed) (h : AtRec i rs)
    (hP : P = .blank ∨ P = .bad 2 ∨ ∃ k r, P = .cmd 2 k r) :
    Outcome (AtRec i) (fun s => Stuck s.cu) (readParsed (userCreator E) rs P) := by
  unfold Outcome
  obtain ⟨hcr, w, hw, hind⟩ := h
  -- the indentation change of the first body line: `finish` does nothing (no name yet)
  have hre : ∃ rs', reindent (userCreator E) rs 2 = (rs', none) ∧ rs'.hasCreator = true ∧ rs'.indent = some 2 ∧
      rs'.st.cu = some { id := some i, u := w } := by
    unfold reindent
    rcases hind with h2 | ⟨h0, hname⟩
    · simp only [h2, if_true]
      exact ⟨rs, rfl, hcr, h2, hw⟩
    · have hne : rs.indent ≠ some 2 := by rw [h0]; simp
      have hfin : (userCreator E).finish rs.st = (rs.st, none) := by
        show userFinish E rs.st = _
        unfold userFinish
        simp [hw, hname]
      have hnew : (userCreator E).new rs.st = rs.st := by
        show userNew rs.st = _
        unfold userNew; rw [hw]
      simp only [hne, if_false, hcr, if_true, hfin, hnew]
      exact ⟨_, rfl, rfl, rfl, hw⟩
  obtain ⟨rs', hrs', hcr', hind', hcu'⟩ := hre
  rcases hP with rfl | rfl | ⟨k, r, rfl⟩
  · exact ⟨fun _ => ⟨hcr, w, hw, hind⟩, fun h => absurd rfl h⟩
  · unfold readParsed
    simp only [hrs']
    exact ⟨fun h => (by simp at h), fun _ => ⟨_, hcu', rfl⟩⟩
  · unfold readParsed
    simp only [hrs']
    have e3 : (userCreator E).call rs'.st k r = userCall rs'.st k r := rfl
    rw [e3]
    obtain ⟨c', hc', hid'⟩ := userCall_keeps_id rs'.st _ i k r hcu' rfl
    refine ⟨fun _ => ⟨hcr', c'.u, ?_, Or.inl hind'⟩, fun _ => ⟨c', hc', by rw [hid']; rfl⟩⟩
    show (userCall rs'.st k r).1.cu = _
    rw [hc']
    cases c' with
    | mk id u => simp only at hid'; rw [hid']

/-- between two records, as far as the class attribute goes -/
def AtGap (rs : RState UState) : Prop :=
  (rs.hasCreator = false ∧ rs.indent = none ∧ rs.modified = false ∧ CuFresh rs.st.cu) ∨ ∃ j, AtRec j rs

theorem cuFresh_id (i : Nat) (w : User) : CuFresh (some ⟨some i, w⟩) :=
  fun c hc hn => by cases hc; cases hn

theorem userCall_new_header (s : UState) (i : Nat) (h : CuFresh s.cu) :
    userCall (userNew s) kwUser (natDec i) = (ust i {} s.db, none) ∨
    ∃ c j, s.cu = some c ∧ c.id = some j ∧ userCall (userNew s) kwUser (natDec i) = (s, some .valueError) := by
  obtain ⟨cu, db⟩ := s
  rcases cu with _ | ⟨_ | j, u⟩
  · exact Or.inl (userCall_user db i _ (parseNat_natDec i))
  · cases h _ rfl rfl
    exact Or.inl (userCall_user db i _ (parseNat_natDec i))
  · exact Or.inr ⟨_, j, rfl, rfl, userCall_user_again _ _ j _ rfl rfl⟩

theorem header_atGap (E : Env) (i : Nat) (rs : RState UState) (h : AtGap rs) :
    Outcome (AtRec i) (fun s => Stuck s.cu) (readParsed (userCreator E) rs (.cmd 0 kwUser (natDec i))) := by
  unfold Outcome
  have e2 : ∀ s, (userCreator E).new s = userNew s := fun _ => rfl
  have e3 : ∀ s k r, (userCreator E).call s k r = userCall s k r := fun _ _ _ => rfl
  -- a new creator is made from `s`: the header gives it the id, or a record with an id is in the way
  have hnew : ∀ (s : UState) (m : Bool), CuFresh s.cu →
      ((userCall (userNew s) kwUser (natDec i)).2 = none →
        AtRec i { hasCreator := true, indent := some 0, modified := m,
                  st := (userCall (userNew s) kwUser (natDec i)).1 }) ∧
      ((userCall (userNew s) kwUser (natDec i)).2 ≠ none → Stuck (userCall (userNew s) kwUser (natDec i)).1.cu) := by
    intro s m hs
    rcases userCall_new_header s i hs with h | ⟨c, j, hc, hj, h⟩ <;> rw [h]
    · exact ⟨fun _ => ⟨rfl, {}, rfl, Or.inr ⟨rfl, rfl⟩⟩, fun h => absurd rfl h⟩
    · exact ⟨fun h => (by simp at h), fun _ => ⟨c, hc, by rw [hj]; rfl⟩⟩
  rcases h with ⟨hcr, hind, _, hfresh⟩ | ⟨j, hcr, w, hw, hind⟩
  · have hne : rs.indent ≠ some 0 := by rw [hind]; simp
    unfold readParsed reindent
    simp only [hne, if_false, hcr, Bool.false_eq_true, e2, e3]
    exact hnew rs.st true hfresh
  · unfold readParsed reindent
    rcases hind with h2 | ⟨h0, _⟩
    · have hne : rs.indent ≠ some 0 := by rw [h2]; simp
      have e1 : (userCreator E).finish rs.st = userFinish E rs.st := rfl
      simp only [hne, if_false, hcr, if_true, e1, e2, e3]
      obtain ⟨hok, herr⟩ := userFinish_cu E rs.st j w hw
      cases hf : (userFinish E rs.st).2 with
      | some e =>
        simp only []
        exact ⟨fun h => (by simp at h), fun _ => herr (by rw [hf]; simp)⟩
      | none =>
        simp only []
        refine hnew _ true ?_
        rcases hok hf with hnone | ⟨_, hsame⟩
        · rw [hnone]
          exact fun c hc => by cases hc
        · rw [hsame, hw]
          exact cuFresh_id j w
    · simp only [h0, if_true, e3]
      rw [userCall_user_again rs.st _ j _ hw rfl]
      exact ⟨fun h => (by simp at h), fun _ => ⟨_, hw, rfl⟩⟩

theorem bodyParsed_weak {orig : List (Nat × User)} {i : Nat} {P : Parsed} (h : BodyParsed orig i P) :
    P = .blank ∨ P = .bad 2 ∨ ∃ k r, P = .cmd 2 k r := by
  rcases h with h | h | ⟨k, r, h, _⟩
  · exact Or.inl h
  · exact Or.inr (Or.inl h)
  · exact Or.inr (Or.inr ⟨k, r, h⟩)

theorem blocks_atGap (E : Env) (orig : List (Nat × User)) (bs : List (Nat × User))
    (hbs : ∀ b ∈ bs, b ∈ orig ∧ SafeUser b.2) (rs : RState UState) (h : AtGap rs) :
    Outcome AtGap (fun s => Stuck s.cu) (readLines (userCreator E) rs ((bs.flatMap userBlock).flatMap phys)) := by
  rw [List.flatMap_assoc]
  refine Outcome.records _ bs (fun b hb rs h => ?_) rs h
  obtain ⟨hb, hs⟩ := hbs b hb
  obtain ⟨_, tail, htail, hparsed⟩ := block_phys orig b hb hs
  rw [htail]
  refine Outcome.cons (A := AtRec b.1) ?_ fun rs' h' => ?_
  · rw [parseLine_userHeader]
    exact header_atGap E b.1 rs h
  · have := Outcome.lines _ (readParsed_atRec E b.1) tail rs' h' fun l hl => bodyParsed_weak (hparsed l hl)
    exact ⟨fun he => Or.inr ⟨b.1, this.1 he⟩, this.2⟩

/-- **A load of a written file that stops part-way leaves a record with an id in the class
attribute** (so that every later load stops at its first `user` line). -/
theorem load_err_stuck (E : Env) (cu0 : Option CU) (db : UsersDb) (hcu : CuFresh cu0)
    (hsafe : ∀ p ∈ db.users, SafeUser p.2) :
    (loadUsers E cu0 (dumpUsers db)).2 ≠ none → Stuck (loadUsers E cu0 (dumpUsers db)).1.cu := by
  obtain ⟨hmem, hlines⟩ := dump_lines db hsafe
  unfold loadUsers readText
  rw [hlines]
  have hstart : AtGap ({ st := ⟨cu0, {}⟩ } : RState UState) := Or.inl ⟨rfl, rfl, rfl, hcu⟩
  obtain ⟨h1, h2⟩ := blocks_atGap E db.users (sortedUsers db) hmem _ hstart
  simp only []
  cases he : (readLines (userCreator E) { st := ⟨cu0, {}⟩ } (((sortedUsers db).flatMap userBlock).flatMap phys)).2 with
  | some e => intro _; exact h2 (by rw [he]; simp)
  | none =>
    simp only []
    rcases h1 he with ⟨_, _, hm, _⟩ | ⟨j, _, w, hw, _⟩
    · have : (readLines (userCreator E) { st := ⟨cu0, {}⟩ } (((sortedUsers db).flatMap userBlock).flatMap phys)).1.modified = false := hm
      simp only [this, Bool.false_eq_true, if_false]
      intro h; exact absurd rfl h
    · split
      · intro herr
        exact (userFinish_cu E _ j w hw).2 herr
      · intro h; exact absurd rfl h

/-- **With such a record, loading any written file loads nothing** and leaves the record there. -/
theorem load_stuck (E : Env) (cu0 : Option CU) (db : UsersDb) (hs : Stuck cu0)
    (hsafe : ∀ p ∈ db.users, SafeUser p.2) :
    (loadUsers E cu0 (dumpUsers db)).1.db.users = [] ∧ (loadUsers E cu0 (dumpUsers db)).1.cu = cu0 := by
  obtain ⟨c, hc, hid⟩ := hs
  obtain ⟨j, hj⟩ : ∃ j, c.id = some j := by
    cases h : c.id with
    | none => rw [h] at hid; cases hid
    | some j => exact ⟨j, rfl⟩
  obtain ⟨hmem, hlines⟩ := dump_lines db hsafe
  unfold loadUsers readText
  rw [hlines]
  cases hsrt : sortedUsers db with
  | nil => simp [readLines]
  | cons b bs =>
    obtain ⟨hb, hsb⟩ := hmem b (by rw [hsrt]; simp)
    obtain ⟨_, tail, htail, _⟩ := block_phys db.users b hb hsb
    simp only [List.flatMap_cons, List.flatMap_append, htail, List.cons_append]
    unfold readLines
    rw [parseLine_userHeader]
    have e2 : ∀ s, (userCreator E).new s = userNew s := fun _ => rfl
    have e3 : ∀ s k r, (userCreator E).call s k r = userCall s k r := fun _ _ _ => rfl
    have hn : userNew (⟨cu0, {}⟩ : UState) = ⟨cu0, {}⟩ := by unfold userNew; simp only [hc]
    have hcall := userCall_user_again (⟨cu0, {}⟩ : UState) c j (natDec b.1) hc hj
    unfold readParsed reindent
    simp [e2, e3, hn, hcall]

/-! ## whatever the file: a leftover record without id is pristine -/

theorem userCall_fresh (st : UState) (k r : Str) (h : CuFresh st.cu) : CuFresh (userCall st k r).1.cu := by
  rcases userCall_cases st k r with ⟨e, hc⟩ | ⟨_, w, n, _, _, hc⟩ | ⟨f, i, w, _, _, hc⟩ <;> rw [hc]
  · exact h
  · exact cuFresh_id n w
  · exact cuFresh_id i _

theorem userFinish_fresh (E : Env) (st : UState) (h : CuFresh st.cu) : CuFresh (userFinish E st).1.cu := by
  unfold userFinish
  cases hc : st.cu with
  | none => exact h
  | some cu =>
    simp only []
    split
    · exact h
    · split
      · exact h
      · rename_i id hid
        split
        · intro x hx; cases hx
        · split
          · intro x hx; cases hx
          · intro x hx hn
            simp only [Option.some.injEq] at hx
            subst hx
            simp [hid] at hn
        · intro x hx hn
          have hx' : some cu = some x := hx
          injection hx' with hx'
          subst hx'
          rw [hid] at hn
          cases hn

theorem userNew_fresh (st : UState) (h : CuFresh st.cu) : CuFresh (userNew st).cu := by
  unfold userNew
  split
  · intro x hx _
    simp only [Option.some.injEq] at hx
    subst hx; rfl
  · exact h

theorem load_fresh (E : Env) (cu0 : Option CU) (text : Str) (h : CuFresh cu0) :
    CuFresh (loadUsers E cu0 text).1.cu :=
  have hC : (userCreator E).Keeps (fun s => CuFresh s.cu) (fun _ => True) :=
    ⟨userNew_fresh, userFinish_fresh E, fun s k r h _ => userCall_fresh s k r h⟩
  hC.readText _ text h fun _ _ _ _ _ _ => trivial

end C16
