import LimnoriaModel.C16.Lemmas
import LimnoriaModel.C03.Lemmas

/-!
# C16 — when does the iteration order of a capability set matter?

`CapabilitySet` is a Python `set`: `preserve` writes its elements in hash order, which the model
does not determine (capability sets are lists here, and every theorem about `dumpUsers` holds for
whatever order the list has).  This file states what that freedom amounts to:

* `capsOk_perm`, `storableUser_caps_perm`: storability does not depend on the order;
* `users_roundtrip_any_cap_order`: for a storable database, *whatever* order each capability set
  is written in, every account is loaded with exactly the capabilities written, in that order —
  so as sets, the outcome is the same for all orders;
* `inverse_pair_some_order_loses`: conversely, as soon as a set holds a capability together with
  its inverse (possible for `--foo` with `-foo`, finding C16-capability-inverse-pair) there is an
  order in which the file loses a capability.  `capsOk` is therefore exactly the condition under
  which the order is immaterial.
-/

namespace C16
open Py

theorem capsOk_perm {l l' : List Str} (hp : l.Perm l') : capsOk l = capsOk l' := by
  unfold capsOk
  have h1 : pairwiseB (fun a b : Str => a != b) l = pairwiseB (fun a b => a != b) l' := by
    rw [Bool.eq_iff_iff, pairwiseB_iff, pairwiseB_iff]
    exact hp.pairwise_iff (fun h => by simpa [bne_iff_ne, ne_comm] using h)
  rw [h1, hp.all_eq]
  simp only [hp.contains_eq]

/-- storability of an account does not depend on the order of its capability list -/
theorem storableUser_caps_perm (u : User) (caps : List Str) (hp : caps.Perm u.caps) :
    storableUser { u with caps := caps } = storableUser u := by
  unfold storableUser
  simp only [capsOk_perm hp, hp.all_eq]

/-- the same account with its capability list replaced -/
def withCaps (g : Nat × User → List Str) (p : Nat × User) : Nat × User := (p.1, { p.2 with caps := g p })

theorem sortedUsers_withCaps (g : Nat × User → List Str) (db : UsersDb) :
    sortedUsers { db with users := db.users.map (withCaps g) } = (sortedUsers db).map (withCaps g) := by
  unfold sortedUsers
  exact sortBy_map _ _ (withCaps g) (fun a b => rfl) _

theorem storableUsers_withCaps (E : Env) (g : Nat × User → List Str) (l : List (Nat × User))
    (hg : ∀ p ∈ l, (g p).Perm p.2.caps) :
    storableUsers E (l.map (withCaps g)) = storableUsers E l := by
  unfold storableUsers
  rw [pairwiseB_map]
  have h1 : (fun a b : Nat × User => decide ((withCaps g a).1 < (withCaps g b).1) && noClash E (withCaps g a) (withCaps g b)) =
      (fun p q => decide (p.1 < q.1) && noClash E p q) := by
    -- `withCaps` changes only `caps`, which neither the id comparison nor `noClash` reads
    funext a b; rfl
  rw [h1]
  congr 1
  rw [List.all_map, Bool.eq_iff_iff, List.all_eq_true, List.all_eq_true]
  constructor
  · intro h p hp
    have := h p hp
    simp only [Function.comp, withCaps] at this
    rwa [storableUser_caps_perm p.2 (g p) (hg p hp)] at this
  · intro h p hp
    simp only [Function.comp, withCaps]
    rw [storableUser_caps_perm p.2 (g p) (hg p hp)]
    exact h p hp

/-- **The order in which capability sets are written is immaterial for a storable database**:
write each account's capabilities in any order `g` (a permutation of the set); the load then
completes and every account holds exactly the capabilities written. -/
theorem users_roundtrip_any_cap_order (E : Env) (db : UsersDb) (g : Nat × User → List Str)
    (hg : ∀ p ∈ db.users, (g p).Perm p.2.caps) (h : storableUsers E (sortedUsers db) = true) :
    (loadUsers E none (dumpUsers { db with users := db.users.map (withCaps g) })).1.db.users =
        (sortedUsers db).map (withCaps g) ∧
    (loadUsers E none (dumpUsers { db with users := db.users.map (withCaps g) })).2 = none := by
  have hs : storableUsers E (sortedUsers { db with users := db.users.map (withCaps g) }) = true := by
    rw [sortedUsers_withCaps, storableUsers_withCaps E g (sortedUsers db) (fun p hp => hg p ((mem_sortBy _ _ _).mp hp)), h]
  rw [loadUsers_dumpUsers E _ hs, sortedUsers_withCaps]
  exact ⟨rfl, rfl⟩

/-- what the `capability` lines of one record add up to, read in the order `l` (for a channel
record, which starts from the default set: `loadedCaps`) -/
def foldCaps (l : List Str) : List Str := l.foldl (fun acc c => (userCapAdd acc c).1) []

/-- **… and only then**: in the order that writes `c` last, the inverse `i` of `c` is gone after the
load (`add(c)` discards `i`); `i ∈ l` is not assumed, so a set holding both loses `i` -/
theorem inverse_pair_some_order_loses (l : List Str) (c i : Str) (hc : c ∈ l)
    (hna : C03.toLower c ≠ C03.antiOwnerS) (hi : C03.invertCapability (C03.toLower c) = .ok i)
    (hne : i ≠ C03.toLower c) :
    ∃ l', l'.Perm l ∧ i ∉ foldCaps l' := by
  refine ⟨l.erase c ++ [c], ?_, ?_⟩
  · exact (List.perm_append_comm.trans (List.perm_cons_erase hc).symm)
  · unfold foldCaps
    rw [List.foldl_append]
    simp only [List.foldl_cons, List.foldl_nil]
    have hb : (C03.toLower c == C03.antiOwnerS) = false := by simpa using hna
    simp only [userCapAdd, liftR, C03.uadd, hb, C03.CapSet.add, C03.toLower_idem, hi]
    intro hmem
    rcases (mem_capInsert _ _ _).mp hmem with h | h
    · exact hne h
    · exact ((mem_capErase _ _ _).mp h).2 rfl

/-- the instance of the finding: `{--foo, -foo}` -/
example : ∃ l', l'.Perm ["--foo".toList, "-foo".toList] ∧ "-foo".toList ∉ foldCaps l' :=
  inverse_pair_some_order_loses _ "--foo".toList "-foo".toList (by simp) (by decide +kernel) rfl (by decide +kernel)

example : foldCaps ["--foo".toList, "-foo".toList] = ["--foo".toList, "-foo".toList] ∧
          foldCaps ["-foo".toList, "--foo".toList] = ["--foo".toList] := by decide +kernel

end C16
