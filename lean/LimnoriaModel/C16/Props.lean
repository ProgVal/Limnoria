/-
C16 — property theorems: the databases reload to what was saved.

`storable…` (file `Storable.lean`, executable) spells out which states the unescaped line format
carries; for those the round trip is exact, the loader never raises and leaves no class-level
residue.  For the reachable states outside `storable…` the negation is proved on witnesses
(the same witnesses are replayed on the real code by the harness and listed in
KNOWN_FINDINGS.json).
-/
import LimnoriaModel.C16.Reload
import LimnoriaModel.C16.Order
namespace C16
open Py

/-! ## table obligations: the model's keywords are the ones the source uses -/

def fmt1 (kw : Str) : Str := kw ++ [' ', '%', 's']

/-- `IrcUser.preserve` writes exactly these lines, in this order -/
theorem userWrites_table : Gen.Preserve.userWrites =
    [fmt1 kwName, fmt1 kwIgnore, fmt1 kwSecure, fmt1 kwHashed, fmt1 kwPassword, fmt1 kwCapability,
     fmt1 kwHostmask, kwNicks ++ [' ', '%', 's', ' ', '%', 's'], fmt1 kwGpgkey] := by decide +kernel

theorem chanWrites_table : Gen.Preserve.chanWrites =
    [fmt1 kwLobotomized, fmt1 kwDefaultAllowW, fmt1 kwCapability,
     kwBan ++ [' ', '%', 's', ' ', '%', 'd'], kwIgnore ++ [' ', '%', 's', ' ', '%', 'd']] := by decide +kernel

theorem netWrites_table : Gen.Preserve.netWrites =
    [kwStsPolicyW ++ [' ', '%', 's', ' ', '%', 's'], kwLastDiscW ++ [' ', '%', 's', ' ', '%', 's']] := by decide +kernel

/-- record headers, the line separator, the two-blank indent of the bodies -/
theorem flush_table :
    Gen.Preserve.usersFlush = [fmt1 kwUser, ['\n']] ∧
    Gen.Preserve.channelsFlush = [fmt1 kwChannel, ['\n']] ∧
    Gen.Preserve.networksFlush = [fmt1 kwNetwork, ['\n']] ∧
    Gen.Preserve.ignoresFlush = [['%', 's', ' ', '%', 's'], ['\n']] ∧
    Gen.Preserve.flushIndents = [[' ', ' '], [' ', ' '], [' ', ' ']] := by decide +kernel

/-- the readers dispatch on exactly the commands the model handles -/
theorem commands_table :
    Gen.Preserve.userCommands = [kwUser, kwName, kwIgnore, kwSecure, kwHashed, kwPassword, kwHostmask,
      kwNicks, kwCapability, kwGpgkey] ∧
    Gen.Preserve.chanCommands = [kwChannel, kwLobotomized, kwDefaultAllow, kwCapability, kwBan, kwIgnore] ∧
    Gen.Preserve.netCommands = [kwNetwork, kwStsPolicy, kwLastDisc] := by decide +kernel

/-- every written keyword is dispatched (after `lower()`) to a command of its reader -/
theorem written_keywords_dispatch :
    (∀ f ∈ Gen.Preserve.userWrites, asciiLower (f.takeWhile (· ≠ ' ')) ∈ Gen.Preserve.userCommands) ∧
    (∀ f ∈ Gen.Preserve.chanWrites, asciiLower (f.takeWhile (· ≠ ' ')) ∈ Gen.Preserve.chanCommands) ∧
    (∀ f ∈ Gen.Preserve.netWrites, asciiLower (f.takeWhile (· ≠ ' ')) ∈ Gen.Preserve.netCommands) := by decide +kernel

/-- the loop of `unpreserve.Reader.read` applies these string operations, in this order -/
theorem readerShape_table : Gen.Preserve.readerShape =
    ["strip()".toList, "rstrip('\\r\\n')".toList, "expandtabs()".toList, "lstrip(' ')".toList,
     "finish()".toList, "split(None,1)".toList, "normalizeCommand(_)".toList,
     "badCommand(_,_,_)".toList, "finish()".toList] := by decide +kernel

/-- this extractor and C03's read the same case table / channel defaults -/
theorem shared_tables :
    Gen.Preserve.rfc1459 = Gen.rfc1459Table ∧ Gen.Preserve.defaultOff = Gen.channelDefaultOff ∧
    Gen.Preserve.chantypes = Gen.chanTypes ∧ Gen.Preserve.channellen = Gen.channelLen ∧
    Gen.Preserve.userHostmaskRe = "^\\S+!\\S+@\\S+$".toList := by decide +kernel

/-! ## generic facts about the format (all strings) -/

/-- Text-mode reading splits a file exactly at the line terminators that were written: lines
free of CR/LF, each followed by LF, come back one by one. -/
theorem lines_roundtrip (ls : List Str) (h : ∀ l ∈ ls, ∀ c ∈ l, isBreak c = false) :
    fileLines (unlines ls) = ls := fileLines_unlines ls h

example : fileLines (unlines ["user 1".toList, "  name a b".toList, []]) =
    ["user 1".toList, "  name a b".toList, []] := by decide +kernel

/-- A written line (indentation, keyword, blank, clean value) is parsed back into exactly that
indentation, keyword and value — for every keyword without blanks and every clean value. -/
theorem line_roundtrip (n : Nat) (kw v : Str) (hk : KwOk kw) (hv : clean v = true) :
    parseLine (List.replicate n ' ' ++ sp kw v) = .cmd n (asciiLower kw) v :=
  parseLine_written n kw v hk hv

-- non-vacuity of `line_roundtrip`: blanks inside and at the end, a vertical tab
example : KwOk kwPassword ∧ clean "p w\x0b ".toList = true := ⟨kwOk_password, by decide⟩

/-! ## users.conf -/

/-- **Users round trip.**  For every storable user database (any `hostmaskPatternEqual`, any
`lower`, any iteration order of the capability and hostmask sets — they are lists here), loading
the text `flush` writes gives back exactly the same users (ids, names, password hashes, flags,
capabilities, hostmasks, nicks, gpg keys), in id order. -/
theorem users_roundtrip (E : Env) (db : UsersDb) (h : storableUsers E (sortedUsers db) = true) :
    (loadUsers E none (dumpUsers db)).1.db.users = sortedUsers db := by
  rw [loadUsers_dumpUsers E db h]

/-- **Loading never stops part-way** on a storable database, and the class attribute
`IrcUserCreator.u` is `None` again afterwards (so the next reload starts clean). -/
theorem users_load_total (E : Env) (db : UsersDb) (h : storableUsers E (sortedUsers db) = true) :
    (loadUsers E none (dumpUsers db)).2 = none ∧ (loadUsers E none (dumpUsers db)).1.cu = none := by
  rw [loadUsers_dumpUsers E db h]; exact ⟨rfl, rfl⟩

def E0 : Env := ⟨C03.glob, asciiLower, 0, patIntersect⟩

def exampleUsers : UsersDb :=
  { users := [(3, { name := "al".toList }),
              (1, { name := "bob x ".toList, password := "ab|cd".toList, hashed := true, secure := true,
                    caps := ["admin".toList, "-foo".toList, "#c,op".toList],
                    hostmasks := ["a!b@c".toList, "*!*@h.example".toList],
                    nicks := [("net".toList, ["x".toList, "y".toList])], gpgkeys := ["K1".toList] })],
    nextId := 7 }

/-- non-vacuity: a database with two accounts, every kind of field, stored out of id order -/
theorem exampleUsers_storable : storableUsers E0 (sortedUsers exampleUsers) = true := by decide +kernel

example : storableUsers E0 (sortedUsers exampleUsers) = true := exampleUsers_storable

example : (loadUsers E0 none (dumpUsers exampleUsers)).1.db.users = sortedUsers exampleUsers :=
  users_roundtrip E0 exampleUsers exampleUsers_storable

/-! ### outside `Storable`: the full statement `∀ db, load (dump db) = db` is false.

Each witness below is a state the bot can reach (see KNOWN_FINDINGS.json for the commands). -/

-- full statement (false for the repository as checked out under /repo, kept visible):
--   theorem users_roundtrip_all (E) (db) : (loadUsers E none (dumpUsers db)).1.db.users = sortedUsers db

def wLeadingBlank : UsersDb := { users := [(1, { name := " bob".toList })], nextId := 1 }

/-- finding C16-unescaped-field: a leading blank of a name is stripped by the reader -/
theorem users_roundtrip_partial_leading_blank :
    (loadUsers E0 none (dumpUsers wLeadingBlank)).1.db.users = [(1, { name := "bob".toList })] ∧
    (loadUsers E0 none (dumpUsers wLeadingBlank)).1.db.users ≠ sortedUsers wLeadingBlank := by
  have h : loadUsers E0 none (dumpUsers wLeadingBlank) = (⟨none, ⟨[(1, { name := "bob".toList })], 1⟩⟩, none) := by
    decide +kernel
  rw [h]
  exact ⟨rfl, by decide +kernel⟩

def wTab : UsersDb := { users := [(1, { name := "a\tb".toList })], nextId := 1 }

/-- … a TAB comes back as blanks up to the next multiple of 8 (column counted from the line start) -/
theorem users_roundtrip_partial_tab :
    (loadUsers E0 none (dumpUsers wTab)).1.db.users = [(1, { name := 'a' :: List.replicate 8 ' ' ++ ['b'] })] := by decide +kernel

def wNameless : UsersDb :=
  { users := [(1, { name := "al".toList }), (2, { name := [] }), (3, { name := "cy".toList })], nextId := 3 }

/-- finding C16-nameless-user: the loader raises at the nameless record; users 2 and 3 are lost
and the half-built record stays in the class attribute -/
theorem users_nameless_aborts :
    (loadUsers E0 none (dumpUsers wNameless)).2 = some .valueError ∧
    (loadUsers E0 none (dumpUsers wNameless)).1.db.users = [(1, { name := "al".toList })] ∧
    (loadUsers E0 none (dumpUsers wNameless)).1.cu = some { id := some 2, u := {} } := by
  have h : loadUsers E0 none (dumpUsers wNameless) =
      (⟨some { id := some 2, u := {} }, ⟨[(1, { name := "al".toList })], 1⟩⟩, some .valueError) := by decide +kernel
  rw [h]
  exact ⟨rfl, rfl, rfl⟩

/-- … and with that residue the next load of a perfectly good file fails on its first line -/
theorem users_stale_creator_poisons_next_load :
    (loadUsers E0 (some { id := some 2, u := {} }) (dumpUsers exampleUsers)).2 = some .valueError ∧
    (loadUsers E0 (some { id := some 2, u := {} }) (dumpUsers exampleUsers)).1.db.users = [] := by
  have h : loadUsers E0 (some { id := some 2, u := {} }) (dumpUsers exampleUsers) =
      (⟨some { id := some 2, u := {} }, {}⟩, some .valueError) := by decide +kernel
  rw [h]
  exact ⟨rfl, rfl⟩

def wHashed : UsersDb := { users := [(1, { name := "al".toList, hashed := true })], nextId := 1 }

/-- finding C16-hashed-flag-without-password -/
theorem users_hashed_flag_lost :
    (loadUsers E0 none (dumpUsers wHashed)).1.db.users = [(1, { name := "al".toList, hashed := false })] := by decide +kernel

def wInversePair (caps : List Str) : UsersDb := { users := [(1, { name := "al".toList, caps := caps })], nextId := 1 }

/-- finding C16-capability-inverse-pair: `{--foo, -foo}` survives one iteration order of the set
and loses `-foo` in the other -/
theorem users_inverse_pair_order_dependent :
    (loadUsers E0 none (dumpUsers (wInversePair ["--foo".toList, "-foo".toList]))).1.db.users =
      [(1, { name := "al".toList, caps := ["--foo".toList, "-foo".toList] })] ∧
    (loadUsers E0 none (dumpUsers (wInversePair ["-foo".toList, "--foo".toList]))).1.db.users =
      [(1, { name := "al".toList, caps := ["--foo".toList] })] := by decide +kernel

def wHostmaskName : UsersDb :=
  { users := [(1, { name := "bob".toList, hostmasks := ["*!*@host.example".toList] }),
              (2, { name := "x!y@host.example".toList }), (3, { name := "cy".toList })], nextId := 3 }

/-- finding C16-hostmask-like-name: `DuplicateHostmask` escapes `finish`; users 2 and 3 are lost -/
theorem users_hostmask_like_name_aborts :
    (loadUsers E0 none (dumpUsers wHostmaskName)).2 = some .duplicateHostmask ∧
    (loadUsers E0 none (dumpUsers wHostmaskName)).1.db.users =
      [(1, { name := "bob".toList, hostmasks := ["*!*@host.example".toList] })] := by
  have h : loadUsers E0 none (dumpUsers wHostmaskName) =
      (⟨some { id := some 2, u := { name := "x!y@host.example".toList } },
        ⟨[(1, { name := "bob".toList, hostmasks := ["*!*@host.example".toList] })], 2⟩⟩, some .duplicateHostmask) := by
    decide +kernel
  rw [h]
  exact ⟨rfl, rfl⟩

/-- the repaired defect (DESIGN finding #1): a name with a line break is refused by `setUser`
(so it is never written); had it been written it would have been read back as a capability
(`users_linebreak_injects`) -/
theorem users_linebreak_name_refused (E : Env) (db : UsersDb) (id : Nat) (u : User)
    (h : hasLineBreak u.name = true) : setUser E db id u = (db, some .valueError) := by
  simp [setUser, h]

/-! ## channels.conf -/

/-- element-wise relation between two lists of the same length -/
inductive Rel2 {α β : Type} (R : α → β → Prop) : List α → List β → Prop
  | nil : Rel2 R [] []
  | cons {a : α} {b : β} {as : List α} {bs : List β} : R a b → Rel2 R as bs → Rel2 R (a :: as) (b :: bs)

/-- two channel records hold the same information: flags equal, the same capability *set*
(the reloaded one without duplicates), the same bans and ignores up to order -/
def ChanSame (a b : Chan) : Prop :=
  a.lobotomized = b.lobotomized ∧ a.defaultAllow = b.defaultAllow ∧
  a.caps.Nodup ∧ (∀ x, x ∈ a.caps ↔ x ∈ b.caps) ∧ a.bans.Perm b.bans ∧ a.ignores.Perm b.ignores

theorem loadedChan_same (c : Chan) (h : storableChan c = true) : ChanSame (loadedChan c) c := by
  have hc := storableChan_elim h
  obtain ⟨hn, hm⟩ := loadedCaps_equiv c.caps hc.caps
  exact ⟨rfl, rfl, hn, hm, sortBy_perm _ _, sortBy_perm _ _⟩

/-- **Channels round trip.**  For every storable channel database the reload yields, for every
channel (in name order, under the same key), a record with the same flags, the same set of
capabilities, the same bans and ignores with their expiry (`sortedChans db` is `db` in name order:
the `Perm` conjunct says no channel is lost or added); the loader does not raise and
`IrcChannelCreator.name` is `None` again. -/
theorem channels_roundtrip (E : Env) (db : ChannelsDb) (h : storableChans E db = true) :
    Rel2 (fun a b => a.1 = b.1 ∧ ChanSame a.2 b.2)
      (loadChannels E none (dumpChannels db)).1.db (sortedChans db) ∧
    (sortedChans db).Perm db ∧
    (loadChannels E none (dumpChannels db)).2 = none ∧
    (loadChannels E none (dumpChannels db)).1.cname = none := by
  obtain ⟨h1, h2, h3⟩ := loadChannels_dumpChannels E db h
  refine ⟨?_, sortBy_perm _ _, h3, h2⟩
  rw [h1]
  have hall : ∀ p ∈ sortedChans db, storableChan p.2 = true := by
    intro p hp
    simp only [storableChans, Bool.and_eq_true, List.all_eq_true] at h
    exact (h.2 p hp).2
  generalize sortedChans db = l at hall
  induction l with
  | nil => exact Rel2.nil
  | cons p ps ih =>
    exact Rel2.cons ⟨rfl, loadedChan_same p.2 (hall p (by simp))⟩ (ih (fun q hq => hall q (by simp [hq])))

def exampleChans : ChannelsDb :=
  [("#z[".toList, { defaultAllow := false, caps := ["-voice".toList, "op".toList, "-halfop".toList, "x".toList, "-protected".toList],
                    bans := [("a!b@c".toList, 500), ("*!*@d".toList, 0)], ignores := [("x!y@z".toList, 7)] }),
   ("#a".toList, { lobotomized := true, caps := defaultChanCaps })]

example : storableChans E0 exampleChans = true := by decide +kernel

/-- finding C16-channel-default-anticapability: a removed default anti-capability is back -/
theorem channels_default_anticap_returns :
    (loadChannels E0 none (dumpChannels [("#c".toList,
        { caps := ["-halfop".toList, "-voice".toList, "-protected".toList] })])).1.db =
      [("#c".toList, { caps := ["-op".toList, "-halfop".toList, "-voice".toList, "-protected".toList] })] := by
  decide +kernel

/-- finding C16-expiry-beyond-2p53: expiries go through a double -/
theorem channels_expiry_rounded :
    (loadChannels E0 none (dumpChannels [("#c".toList,
        { caps := defaultChanCaps, bans := [("a!b@c".toList, 9007199254740993)] })])).1.db =
      [("#c".toList, { caps := defaultChanCaps, bans := [("a!b@c".toList, 9007199254740992)] })] := by
  decide +kernel

/-! ## networks.conf -/

def NetSame (a b : Net) : Prop := a.sts.Perm b.sts ∧ a.last.Perm b.last

/-- **Networks round trip**: every network comes back under its name with the same STS policies
and disconnect times (`sortedNets db` is `db` in name order, hence the `Perm` conjunct); no
exception; holds whatever `IrcNetworkCreator.name` was left by earlier loads. -/
theorem networks_roundtrip (E : Env) (nname0 : Option Str) (db : NetworksDb) (h : storableNets E db = true) :
    Rel2 (fun a b => a.1 = b.1 ∧ NetSame a.2 b.2)
      (loadNetworks E nname0 (dumpNetworks db)).1.db (sortedNets db) ∧
    (sortedNets db).Perm db ∧
    (loadNetworks E nname0 (dumpNetworks db)).2 = none := by
  obtain ⟨h1, h2⟩ := loadNetworks_dumpNetworks E nname0 db h
  refine ⟨?_, sortBy_perm _ _, h2⟩
  rw [h1]
  generalize sortedNets db = l
  induction l with
  | nil => exact Rel2.nil
  | cons p ps ih => exact Rel2.cons ⟨rfl, sortBy_perm _ _, sortBy_perm _ _⟩ ih

def exampleNets : NetworksDb :=
  [("libera".toList, { sts := [("b.example".toList, "duration=300,port=6697".toList), ("a.example".toList, "port=1".toList)],
                       last := [("b.example".toList, 1700000000)] }),
   ("efnet".toList, { last := [("irc.x".toList, 5)] })]

example : storableNets E0 exampleNets = true := by decide +kernel

/-- outside Storable: a record without any line is overwritten by the next header (it carries no
policy, so nothing observable through `getNetwork` is lost; the harness canonicalises it away) -/
theorem networks_empty_record_dropped :
    (loadNetworks E0 none (dumpNetworks [("a".toList, {}), ("b".toList, { last := [("s".toList, 1)] })])).1.db =
      [("b".toList, { last := [("s".toList, 1)] })] := by decide +kernel

/-! ## ignores.conf -/

/-- **Ignores round trip**: exactly the unexpired entries come back (`flush` drops the others). -/
theorem ignores_roundtrip (E : Env) (db : IgnoresDb) (h : storableIgnores E.now db = true) :
    loadIgnores (dumpIgnores E db) = db.filter (unexpired E.now) :=
  loadIgnores_dumpIgnores E db h

example : storableIgnores 1000 [("a!b@c".toList, 0), ("*!*@x".toList, 2000), ("#old!x@y z".toList, 5)] = true := by decide +kernel

/-- finding C16-ignore-hostmask-hash -/
theorem ignores_hash_hostmask_lost :
    loadIgnores (dumpIgnores E0 [("#a!b@c".toList, 0), ("x!y@z".toList, 0)]) = [("x!y@z".toList, 0)] := by decide +kernel

/-! ## outside Storable, what can still be said (used by C02)

Leading blanks, TABs, keywords inside fields, a hostmask ending in LF, names that make the loader
raise: none of these can make the reader *add* anything to an account's capabilities. -/

/-- **A reload never adds a capability.**  If no stored field contains a line break (`SafeUser`;
a hostmask may end with one LF) then, whether or not the load completes and whatever half-built
record an earlier failed load left behind (`CuOk`), every capability of every loaded account was
a capability of the same account in the database that was written. -/
theorem users_reload_no_new_capability (E : Env) (cu0 : Option CU) (db : UsersDb) (hcu : CuOk cu0)
    (hsafe : ∀ p ∈ db.users, SafeUser p.2) :
    ∀ p ∈ (loadUsers E cu0 (dumpUsers db)).1.db.users, ∀ x ∈ p.2.caps, ∃ u, (p.1, u) ∈ db.users ∧ x ∈ u.caps :=
  load_caps_sub E cu0 db hcu hsafe

/-- non-vacuity: the hypothesis holds for a database with a leading blank, a TAB, a hostmask ending
in LF, and for a half-built record without id -/
example : (∀ p ∈ [(1, ({ name := " a\tb".toList, caps := ["owner".toList], hostmasks := ["a!b@c\n".toList] } : User))],
    SafeUser p.2) ∧ CuOk (some { id := none, u := { name := "left".toList } }) := by
  refine ⟨?_, ?_⟩
  · intro p hp
    simp only [List.mem_singleton] at hp
    subst hp
    exact ⟨by decide, by decide, by decide, by decide, by decide, by decide⟩
  · intro c hc _
    simp only [Option.some.injEq] at hc
    subst hc
    rfl

/-- the hypothesis is needed: with a line break in a field (the defect repaired in
`User.register`/`setUser`) the reader does add a capability -/
theorem users_linebreak_injects :
    (loadUsers E0 none (dumpUsers ⟨[(1, { name := "x\n  capability owner".toList })], 1⟩)).1.db.users =
      [(1, { name := "x".toList, caps := ["owner".toList] })] := by
  decide +kernel

example : (loadUsers E0 none (dumpUsers ⟨[(1, { name := "x\n  capability owner".toList })], 1⟩)).1.db.users
    = [(1, { name := "x".toList, caps := ["owner".toList] })] := users_linebreak_injects

/-- **Whatever the file contains**, every loaded field is free of line breaks and every loaded
capability is a clean lower-case word (so the hypothesis above holds again after any load). -/
theorem users_loaded_fields_safe (E : Env) (cu0 : Option CU) (text : Str)
    (h0 : ∀ c, cu0 = some c → SafeUser c.u) (hcu : CuOk cu0) :
    SafeState (loadUsers E cu0 text).1 :=
  load_safe E cu0 text h0 hcu

end C16
