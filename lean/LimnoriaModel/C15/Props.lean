/-
C15 — property theorems.
-/
import LimnoriaModel.C15.BootLemmas
import LimnoriaModel.C15.ValidatorLemmas
import LimnoriaModel.C15.NormLemmas
import LimnoriaModel.C15.WrapLemmas
import LimnoriaModel.C15.WrapEquivLemmas
import LimnoriaModel.C15.SaveLoadLemmas
import LimnoriaModel.C15.ListLemmas
namespace C15
open Py

/-! ### table obligations (re-checked by `decide` against what /repo says now)

A lemma `X_aux` of the other files is the property `X` with these table facts as hypotheses. -/

/-- both characters `repr` can delimit a string with are quote characters for `String.set` -/
theorem quotes_table_ok : QuotesOk Gen.Registry.stringQuotes := by unfold QuotesOk; decide

/-- the blank characters `normalizeWhitespace` looks for at the ends are the four it collapses -/
theorem nw_table_ok : Gen.Registry.nwEdgeBlanks = [' ', '\n', '\t', '\r'] := by decide

/-- `'True'` / `'False'` (what `repr(bool)` writes) are in the extracted `toBool` tables -/
theorem bool_table_ok : toBool (boolStr true) = some true ∧ toBool (boolStr false) = some false := by
  decide +kernel

theorem lists_table_ok :
    Gen.Registry.spaceJoin = [' '] ∧ Gen.Registry.emptyListStr = [' '] ∧ Gen.Registry.commaJoin = [',', ' '] := by
  decide

/-- the extracted `CONF_FILE_HEADER` consists of complete comment / blank lines -/
theorem header_table_ok : HeaderOk Gen.Registry.confFileHeader := by
  unfold HeaderOk SkipLine NoNL; decide +kernel

/-! ### codecs -/

/-- `registry.decoder(registry.encoder(s)) == s` for every string: what `serialize` writes, the
reader decodes back. -/
theorem codec_roundtrip (s : Str) : decodeUE (encodeUE s) = .ok s := decodeUE_encodeUE s

/-- `safeEval(repr(s)) == s` for every string and every notion of "printable". -/
theorem repr_roundtrip (pr : Char → Bool) (s : Str) : evalLit (pyRepr pr s) = .ok s :=
  evalLit_pyRepr pr s

/-! ### String -/

/-- `String.set(str(node))` gives back the value, for every string (after the `_needsQuoting`
fix; before it the statement failed for `"`, `'`, `""`, `'a'`, …). -/
theorem string_roundtrip (pr : Char → Bool) (v : Str) : strSet pr (strStr pr v) = .ok v :=
  strSet_strStr quotes_table_ok pr v

/-- the String family: the padding variants because `setValue` is idempotent, NormalizedString
because `normalize v` and its `repr` are fixed points of `normalize` -/
theorem strClass_roundtrip (k : StrClass) (pr : Char → Bool) (v : Str) :
    k.set pr (strStr pr (k.setValue v)) = .ok (k.setValue v) := by
  by_cases hk : k = .normalized
  · subst hk; exact normalized_roundtrip_aux quotes_table_ok nw_table_ok pr v
  · unfold StrClass.set
    rw [if_neg hk]
    simp only [string_roundtrip, SetRes.bind, setValue_idem k hk]

/-- NormalizedString: what `setValue` stores (`normalize v`, for every string `v`) is a fixed point
of `normalize`, its `__str__` — quoted by `repr` or not — is one too, and a fresh node's
`set(str(node))` gives the stored value back: instance of `strClass_roundtrip`.  (File level:
`normalized_file_roundtrip` below.) -/
theorem normalized_value_roundtrip (pr : Char → Bool) (v : Str) :
    StrClass.set .normalized pr (strStr pr (StrClass.normalized.setValue v)) = .ok (StrClass.normalized.setValue v) :=
  strClass_roundtrip .normalized pr v

/-- `normalize` is idempotent -/
theorem normalize_idempotent (v : Str) : normalizeNS (normalizeNS v) = normalizeNS v :=
  normalizeNS_norm nw_table_ok _ (norm_normalizeNS nw_table_ok v)

/-! ### Boolean and the Integer family -/

/-- a saved Boolean reloads to itself, whatever the value of the fresh node -/
theorem bool_roundtrip (cur b : Bool) : boolSet cur (boolStr b) = .ok b := by
  unfold boolSet
  cases b
  · rw [bool_table_ok.2]
  · rw [bool_table_ok.1]

/-- `int(repr(v)) == v` for every integer -/
theorem int_parse_print (v : Int) : pyInt (intStr v) = some v := pyInt_intStr v

/-- Integer / NonNegativeInteger / PositiveInteger: the saved text of a value is accepted exactly
when `setValue` accepts the value, and gives that value back.  (The bound keeps the text below
CPython's `int_max_str_digits`; `int()` itself is modelled for every text, Unicode decimal digits and
blanks included, with the interpreter's digit table extracted.) -/
theorem int_roundtrip (k : IntClass) (v : Int) (hlen : (intStr v).length ≤ 4000)
    (hacc : k.setValue v = .ok v) : k.set (intStr v) = .ok v := by
  unfold IntClass.set
  have hun : intUnmodelled (intStr v) = false := by
    unfold intUnmodelled; simp; omega
  rw [hun, pyInt_intStr]
  simpa using hacc

example : (IntClass.pos).setValue 7 = .ok 7 ∧ (intStr 7).length ≤ 4000 := by decide
example : (IntClass.pos).set (intStr 0) = .error := by decide

/-! ### lists -/

/-- **Lists reload** (after the fix of `SeparatedListOf.setValue` and of the comma splitter): for
both list syntaxes and every list `setValue` accepts — the empty list included — `set(str(·))`
gives the list back.  `setValue` accepts exactly the items its own syntax reads back as
themselves; everything else is refused before anything is stored. -/
theorem list_roundtrip (k : ListClass) (xs : List Str) (hacc : k.setValue xs = .ok xs) :
    k.set (k.str xs) = .ok xs :=
  list_roundtrip_aux lists_table_ok.1 lists_table_ok.2.1 lists_table_ok.2.2 k xs hacc

example : ListClass.comma.setValue ["a b".toList, "c:d".toList] = .ok ["a b".toList, "c:d".toList] ∧
    ListClass.comma.setValue [] = .ok [] := by decide +kernel

/-- the empty comma separated list (formerly known finding C15-empty-comma-list) -/
theorem comma_list_empty : ListClass.set .comma (ListClass.str .comma []) = .ok [] := by decide

/-- items that could not be read back are refused (formerly C15-list-element-separator) -/
theorem list_items_refused :
    ListClass.space.setValue ["a b".toList, "c".toList] = .error ∧ ListClass.space.setValue [[]] = .error ∧
    ListClass.comma.setValue ["a,b".toList] = .error ∧ ListClass.comma.setValue [" a".toList] = .error := by
  decide +kernel

/-! ### the value tree: rejection is atomic, overrides are local, unset values follow -/

/-- `Extends x x'`: every node of `x` is in `x'` with the same value and the same `_wasSet`
(reaching a node through `get` may add unset children, nothing else).
A `set(text)` that is rejected — at any level, by any class — leaves exactly the tree that merely
reaching the node leaves: every value that was in force stays in force. -/
theorem reject_atomic {α : Type} (C : Cls α) (B : Str) (s : St α) (w : Where) (text : Str)
    (h : (setText C B s w text).2 = .invalid) :
    (setText C B s w text).1 = ⟨(s.var.reach C B s.cache w).1, s.cache⟩ ∧
      Extends s.var (setText C B s w text).1.var := by
  have h1 := setText_not_done C B s w text (by rw [h]; simp)
  refine ⟨h1, ?_⟩
  rw [h1]
  exact reach_extends C B s.cache s.var w

/-- the same for `setValue(v)` rejected by the class (range checks of the Integer family) -/
theorem reject_atomic_setValue {α : Type} (C : Cls α) (B : Str) (s : St α) (w : Where) :
    (setVal C B s w .error).1 = ⟨(s.var.reach C B s.cache w).1, s.cache⟩ ∧
      Extends s.var (setVal C B s w .error).1.var := by
  have h1 : (setVal C B s w .error).1 = ⟨(s.var.reach C B s.cache w).1, s.cache⟩ := by
    unfold setVal
    split
    · rename_i x1 hr; rw [hr]
    · rename_i x1 cur hr; rw [hr]
  refine ⟨h1, ?_⟩
  rw [h1]
  exact reach_extends C B s.cache s.var w

example : (setText (ClassId.cls (fun _ => false) (.int .pos) (.i 1)) "v".toList
    ⟨⟨.i 5, true, [], []⟩, []⟩ (.chan "#c".toList) "0".toList).2 = .invalid := by decide

/-- what `getSpecific(network, channel)()` answers is the pure lookup `resolve` on the tree it
leaves (`netOk` / `chanOk`: the network is known / the channel name is valid) -/
theorem getSpecific_sound {α : Type} (C : Cls α) (K : Kind) (B : Str) (s s' : St α)
    (network channel : Option Str) (netOk chanOk : Bool) (v : α)
    (h : getSpecific C K B s network channel netOk chanOk = (s', .val v)) :
    resolve s'.var (if netOk then network else none) (if chanOk then channel else none) = some v :=
  (getSpecific_resolve C K B s s' network channel netOk chanOk v h).1

/-- An accepted assignment at `w` (general value, `:network`, `#channel` or `:network.#channel`)
changes what `getSpecific` answers only for probes that concern that network / channel
(`affects`): for every other probe the answer on the tree after the assignment is the answer on
the tree in which the node was merely reached, and any answer available before is unchanged. -/
theorem override_local {α : Type} (C : Cls α) (B : Str) (s s' : St α) (w : Where) (text : Str)
    (h : setText C B s w text = (s', .done)) (n c : Option Str) (ha : affects w n c = false) :
    resolve s'.var n c = resolve (s.var.reach C B s.cache w).1 n c ∧
      ∀ a, resolve s.var n c = some a → resolve s'.var n c = some a := by
  obtain ⟨cur, v, _, _, rfl⟩ := setText_done C B s s' w text h
  have h1 := resolve_assign_local (s.var.reach C B s.cache w).1 w v false n c ha
  refine ⟨h1, fun a hr => ?_⟩
  simp only
  rw [h1]
  exact resolve_of_extends (reach_extends C B s.cache s.var w) n c a hr

example : affects (.chan "#a".toList) (some "net".toList) (some "#b".toList) = false := by decide

/-- Unset specific values follow later changes of the general value: after an accepted
`set(text)` on the general value, every probe whose path consists of unset nodes answers the new
general value. -/
theorem follow_general {α : Type} (C : Cls α) (B : Str) (s s' : St α) (text : Str)
    (h : setText C B s .base text = (s', .done)) (n c : Option Str) (hu : UnsetPath s.var n c) :
    ∃ v, C.set s.var.value text = .ok v ∧ s'.var.value = v ∧ resolve s'.var n c = some v := by
  obtain ⟨cur, v, h1, h2, rfl⟩ := setText_done C B s s' .base text h
  simp only [Var.reach] at h1 h2 ⊢
  cases h1
  exact ⟨v, h2, rfl, resolve_setV_follow s.var v false n c hu⟩

example : UnsetPath (⟨.b false, true, [("n".toList, ⟨.b false, false, [("#c".toList, ⟨.b false, false⟩)]⟩)],
    [("#c".toList, ⟨.b false, false⟩)]⟩ : Var Val) (some "N".toList) (some "#C".toList) := by
  refine ⟨⟨.b false, false, [("#c".toList, ⟨.b false, false⟩)]⟩, ⟨.b false, false⟩, ⟨.b false, false⟩, ?_⟩
  decide +kernel

/-- a freshly created `:network` / `#channel` child takes its parent's value whenever the class
re-reads its own `__str__` (`Reparses`, which `string_roundtrip`, `bool_roundtrip`, `int_roundtrip`
and the list theorems establish) and the loaded file has no line for it -/
theorem fresh_child_inherits {α : Type} (C : Cls α) (cache : Cache) (full : Str) (v : α)
    (hr : Reparses C v) (hc : cacheGet cache full = none) :
    mkValue C cache full v = .made (v, false) false := mkValue_inherits C cache full v hr hc

example : Reparses (ClassId.cls (fun _ => false) (.str .plain) (.s [])) (.s "\"".toList) := by
  unfold Reparses; decide +kernel

/-- `Config reset network`: afterwards the network value is the general value -/
theorem reset_network_follows {α : Type} (C : Cls α) (B : Str) (s s' : St α) (n : Str)
    (h : resetNetwork C B s n = (s', .done)) :
    s'.var.value = s.var.value ∧ resolve s'.var (some n) none = some s.var.value := by
  unfold resetNetwork at h
  split at h
  · simp at h
  · rename_i x1 nv hg
    simp only [Prod.mk.injEq, and_true] at h
    subst h
    have sp := getNet_spec C B s.cache s.var x1 n hg
    refine ⟨by simp [Var.assign, sp.2.2.1], ?_⟩
    simp only [resolve, Var.assign]
    rw [findKey_updKey_eq n n _ _ (keyEq_refl n), sp.1 nv rfl]
    simp [Net.setV, sp.2.2.1]

/-- `Config reset channel <network> <channel>`: afterwards the channel answers the network value
when that one is set, the general value otherwise -/
theorem reset_channel_follows {α : Type} (C : Cls α) (B : Str) (s s' : St α) (n c : Str)
    (h : resetChannel C B s (some n) c = (s', .done)) :
    ∃ nv, findKey n s'.var.nets = some nv ∧ s'.var.value = s.var.value ∧
      resolve s'.var (some n) (some c) = some (if nv.wasSet then nv.value else s.var.value) := by
  unfold resetChannel at h
  simp only at h
  split at h
  · simp at h
  · rename_i x1 hstep
    split at hstep
    · simp at hstep
    · rename_i x0 nv ncv hg
      simp only [Prod.mk.injEq, and_true] at hstep
      subst hstep
      have sp := getNetChan_spec C B s.cache s.var x0 n c hg
      split at h
      · simp at h
      · rename_i x2 cv hc
        simp only [Prod.mk.injEq, and_true] at h
        subst h
        have sp2 := getChan_spec C B s.cache _ x2 c hc
        -- nets of x2 are those of the tree after the first assignment
        have hnets : x2.nets = updKey n (fun m => { m with chans := updKey c (fun l => l.setV nv.value true) m.chans }) x0.nets := by
          rw [sp2.2.1]; rfl
        have hval : x2.value = s.var.value := by rw [sp2.2.2.1]; simp [Var.assign, sp.2.2.1]
        refine ⟨{ nv with chans := updKey c (fun l => l.setV nv.value true) nv.chans }, ?_, ?_, ?_⟩
        · simp only [Var.assign, hnets]
          rw [findKey_updKey_eq n n _ _ (keyEq_refl n), (sp.1 nv ncv rfl).1]; rfl
        · simp [Var.assign, hval]
        · simp only [resolve, Var.assign, hnets]
          rw [findKey_updKey_eq n n _ _ (keyEq_refl n), (sp.1 nv ncv rfl).1]
          simp only [Option.map_some]
          rw [findKey_updKey_eq c c _ _ (keyEq_refl c), sp2.1 cv rfl]
          simp only [Option.map_some]
          rw [findKey_updKey_eq c c _ _ (keyEq_refl c), (sp.1 nv ncv rfl).2]
          simp [Leaf.setV, hval]

/-! ### a validator that depends on another variable (conf.SocketTimeout vs supybot.drivers.poll) -/

/-- `SocketTimeout.setValue(v)` while `supybot.drivers.poll = pn/pd`: the verdict is taken before
anything is stored — either the value itself is accepted (`v ≥ poll`, `v ≥ 1`) or the outcome is a
plain rejection; there is no "rejected but stored" outcome. -/
theorem socket_timeout_verdict (pn pd : Nat) (v : Int) :
    (socketTimeoutSetValue pn pd v = .ok v ∧ (pn : Int) ≤ v * pd ∧ 1 ≤ v) ∨
    (socketTimeoutSetValue pn pd v = .error ∧ (v * pd < pn ∨ v < 1)) := by
  unfold socketTimeoutSetValue
  by_cases h : v * (pd : Int) < (pn : Int) ∨ v < 1
  · right; rw [if_pos h]; exact ⟨rfl, h⟩
  · left
    rw [if_neg h]
    have h1 : ¬ (v * (pd : Int) < (pn : Int)) := fun x => h (Or.inl x)
    have h2 : ¬ (v < 1) := fun x => h (Or.inr x)
    refine ⟨?_, by omega, by omega⟩
    simp only [IntClass.setValue]
    rw [if_neg (by omega), if_neg (by omega)]

/-- … and, being an ordinary class for the value tree, a text it rejects (for the current value of
the other variable) leaves the whole tree as it was: instance of `reject_atomic`. -/
theorem socket_timeout_reject_atomic (pr : Char → Bool) (pn pd : Nat) (dflt : Val) (B : Str) (s : St Val)
    (text : Str) (h : socketTimeoutSet pn pd text = .error) :
    (setText (ClassId.cls pr (.sock pn pd) dflt) B s .base text).1 = s := by
  unfold setText
  simp only [Var.reach, ClassId.cls, ClassId.set, h, SetRes.map]

example : socketTimeoutSet 5 1 "3".toList = .error ∧ socketTimeoutSet 5 1 "7".toList = .ok 7 := by decide

/-! ### the other value classes and the conf.py validators (their engines are parameters) -/

/-- Every `set` / `setValue` of registry.py, conf.py and plugins/*/config.py finishes its checks
(`self.error(...)`) before it stores anything (extracted from the source on every run): a
rejected value is never in force, not even for a moment.  This is the structural fact behind
`reject_atomic` for the classes whose checks the model does not contain. -/
theorem validators_check_before_store : ∀ p ∈ Gen.Registry.checkThenStore, p.2 = true := by
  decide +kernel

/-- "check, then store" rejects without storing: the outcome is the parent's or a plain error -/
theorem guarded_verdict {β : Type} (ok : β → Bool) (parent : β → SetRes β) (v : β) :
    (ok v = true ∧ guardedSetValue ok parent v = parent v) ∨ (ok v = false ∧ guardedSetValue ok parent v = .error) := by
  unfold guardedSetValue
  cases h : ok v <;> simp

/-- guarded String classes (ValidNick, ValidNickOrEmpty, ValidNickAllowingPercentS, ValidHostmask,
SocksProxy, ValidPrefixChars, TemplatedString, IP, … — whatever the predicate is): an accepted
value reloads to itself -/
theorem guarded_string_roundtrip (pr : Char → Bool) (ok : Str → Bool) (v : Str) (h : ok v = true) :
    guardedStrSet pr ok (strStr pr v) = .ok v :=
  guarded_roundtrip_aux quotes_table_ok pr ok v h

example : prefixCharsOk "@!".toList = true := by decide

/-- OnlySomeStrings and its conf.py subclasses: what `setValue` stores for a valid string reloads
to itself -/
theorem only_some_strings_roundtrip (pr : Char → Bool) (valid : List Str) (s : Str) (hs : valid.contains s = true) :
    ossSet pr valid (strStr pr (ossNormalize valid s)) = .ok (ossNormalize valid s) :=
  oss_roundtrip_aux quotes_table_ok pr valid s hs

example : (ossTable "ValidBrackets").contains "[]".toList = true ∧ ossSetValue (ossTable "ValidBrackets") "[)".toList = .error := by
  decide +kernel

/-- Json, for any `loads` / `dumps` with `loads (dumps j) = j`: the stored canonical text reloads
to itself -/
theorem json_roundtrip {J : Type} (loads : Str → Option J) (dumps : J → Str)
    (h : ∀ j, loads (dumps j) = some j) (j : J) : jsonSet loads dumps (dumps j) = .ok (dumps j) := by
  unfold jsonSet; rw [h j]

/-- Float, PositiveFloat, Probability, for any parser / printer with `float(repr(x)) == x`: an
accepted value reloads to itself -/
theorem float_roundtrip {F : Type} (parse : Str → Option F) (print : F → Str) (leZero inUnit : F → Bool)
    (h : ∀ x, parse (print x) = some x) (k : FloatClass) (x : F) (hacc : floatSetValue leZero inUnit k x = .ok x) :
    floatSet parse leZero inUnit k (print x) = .ok x := by
  unfold floatSet; rw [h x]; exact hacc

/-- Regexp, for any (deterministic) `perlReToPythonRe`: a value that `set` produced reloads to
itself from its text -/
theorem regexp_roundtrip {R : Type} (compile : Str → Option R) (s : Str) (v : Option (Str × R))
    (h : regexpSet compile s = .ok v) : regexpSet compile (regexpStr v) = .ok v := by
  unfold regexpSet at h
  split at h
  · cases h; simp [regexpStr, regexpSet]
  · rename_i hne
    split at h
    · rename_i r hr
      cases h
      simp only [regexpStr, regexpSet, if_neg hne, hr]
    · cases h

/-- Regexp with its surface syntax (`perlRe`: delimiter, escapes, flags) modelled and only the `re`
engine a parameter: every text `set` accepts — `m/…/flags`, `/…/`, braces, any delimiter —
reloads to the same value from the text `__str__` prints -/
theorem regexp_text_roundtrip {R : Type} (engine : Str → Str → Option R) (s : Str) (v : Option (Str × R))
    (h : regexpSetSurface engine s = .ok v) : regexpSetSurface engine (regexpStr v) = .ok v := by
  unfold regexpSetSurface at h
  split at h
  · cases h; simp [regexpStr, regexpSetSurface]
  · rename_i hne
    split at h
    · rename_i pat fl hp
      split at h
      · rename_i r hr
        cases h
        simp only [regexpStr, regexpSetSurface, if_neg hne, hp, hr]
      · cases h
    · cases h
    · cases h

example : perlRe "m{a\\}b}i".toList = .ok "a\\}b".toList "I".toList ∧ perlRe "s/a/b/".toList = .bad ∧
    perlRe "/a\\/b/x/".toList = .ok "a/b/x".toList [] ∧ perlRe "m#a\\#b#".toList = .ok "a\\#b".toList [] := by decide +kernel

/-! ### the file always loads -/

/-- Whatever `registry.close` writes, `open_registry` reads back: for every list of values with
reader-safe names (`GoodName`: printable ASCII without blank, not starting with `#`, every backslash
escaping a character of the name — what `join` produces), every help text (wrapped into lines by `textwrap`, a parameter: lines without
CR/LF), every default and every value text, the file loads and the cache holds exactly the
`str()` text of every value, in order.  (After the fix of the `# Default value:` line, which
used to be written unescaped.) -/
theorem file_always_loads (vs : List VSpec) (h : ∀ v ∈ vs, VSpecOk v) :
    readRegistry (closeText (vs.map VSpec.spec)) = .ok (vs.map fun v => (v.name, v.text)) :=
  close_loads_aux header_table_ok vs h

theorem single_value_loads (name text : Str) (hn : GoodName name) :
    readRegistry (closeText [⟨none, none, name, encodeUE text⟩]) = .ok [(name, text)] :=
  file_always_loads [⟨none, none, name, text⟩] (by intro x hx; cases List.mem_singleton.mp hx; exact ⟨hn, nofun⟩)

example : VSpecOk ⟨some ["help".toList], some "a\nb".toList, "supybot.x.\\:net.#c".toList, "\"".toList⟩ := by
  unfold VSpecOk GoodName NoNL Plain; decide +kernel

/-- **NormalizedString through the file, wrapping included** (after the wrap fix): for every string
`v`, every reader-safe name (any length: the width never drops below 1) and any help block, the
file `registry.close` writes — the escaped text cut into continuation lines at blanks, each line
but the last ending in a backslash, each but the first indented — loads, and a fresh node set
from the cached text holds `normalize v` again.  Wherever `textwrap` puts the line breaks
(`wrapWords` is only used through "its lines are the words, in order, regrouped"). -/
theorem normalized_file_roundtrip (pr : Char → Bool) (name : Str) (hn : GoodName name) (help : List Str)
    (hhelp : ∀ l ∈ help, SkipLine l) (v : Str) :
    ∃ T, readRegistry (fileText [⟨help.map (· ++ ['\n']), name,
          nsSerialize name (encodeUE (strStr pr (StrClass.normalized.setValue v)))⟩]) = .ok [(name, T)] ∧
      StrClass.set .normalized pr T = .ok (StrClass.normalized.setValue v) :=
  normalized_file_roundtrip_aux header_table_ok quotes_table_ok nw_table_ok pr name hn help hhelp v

/-- **the two models of `textwrap.wrap` agree**: on a text made of non-empty blank-free words
joined by single blanks, the chunk-level algorithm (`_split_chunks` into runs, `_wrap_chunks` with
its dropped leading/trailing blank chunks and its long-word rule) yields exactly the lines of the
word-level `wrapWords`, for every width. -/
theorem wrap_models_agree (width : Nat) (ws : List Str)
    (hw : ∀ w ∈ ws, w ≠ [] ∧ ∀ c ∈ w, isSpace c = false) :
    wrapText width (joinChar ' ' ws) = (wrapWords width ws).map (joinChar ' ') :=
  wrapText_eq_wrapWords width ws hw

/-- hence `NormalizedString.serialize` — stated in the model through `wrapWords` — is the
chunk-level `textwrap.wrap` on every text it is applied to (the escaped text of a normalised
value: printable ASCII words, single blanks), for every name and value. -/
theorem normalized_serialize_is_textwrap (pr : Char → Bool) (name v : Str) :
    nsSerialize name (encodeUE (strStr pr (StrClass.normalized.setValue v))) =
      joinChar '\n' (decorateLines (name.length + Gen.Registry.wrapPrefixExtra) 0
        (wrapText (nsWidth name) (encodeUE (strStr pr (StrClass.normalized.setValue v))))) :=
  nsSerialize_chunk_level nw_table_ok pr name v

/-- end to end for the String class: the line written for `v` under a reader-safe name loads, and
`set` of the cached text gives `v` back -/
theorem string_file_roundtrip (pr : Char → Bool) (name : Str) (hn : GoodName name) (v : Str) :
    readRegistry (closeText [⟨none, none, name, strSerialize pr v⟩]) = .ok [(name, strStr pr v)] ∧
      strSet pr (strStr pr v) = .ok v := by
  exact ⟨single_value_loads name (strStr pr v) hn, string_roundtrip pr v⟩

/-! ### the String variants -/

/-- String, StringSurroundedBySpaces, StringWithSpaceOnRight: whatever `setValue` stores reloads to
itself (`set(str(node))` of a fresh node of the same class), for every string: instance of
`strClass_roundtrip`, which covers NormalizedString as well. -/
theorem string_variants_roundtrip (k : StrClass) (hk : k ≠ .normalized) (pr : Char → Bool) (v : Str) :
    k.set pr (strStr pr (k.setValue v)) = .ok (k.setValue v) :=
  strClass_roundtrip k pr v

example : StrClass.surrounded ≠ .normalized ∧ StrClass.surrounded.setValue "\"".toList = " \" ".toList := by decide

/-! ### end to end: save, read, start again -/

/-- **`boot(read(save(tree))) = tree`.**  A value tree in normal form (`TreeSpec`: the general
value, the set `#channel` values, per `:network` its value when set and its set channel values;
`build` adds the unset network nodes that exist only because one of their channels is set) is
written by `registry.close`, read by `open_registry` in a fresh process and rebuilt by
`registerChannelValue` (or, for a tree with network values only, by `registerNetworkValue`) — node for node, with the same values and `_wasSet` flags, under `Storable`:
the class reads back what it prints for every recorded value (`RT`, discharged below for String,
NormalizedString, Boolean, Integer; every class of the model is covered, NormalizedString with its
continuation lines), names are reader-safe and case-insensitively distinct, channel names are valid,
no network name ends in a backslash, children are in `_added.sort()` order.  The new cache has one
entry per saved node. -/
theorem save_load_roundtrip (pr : Char → Bool) (c : ClassId) (dflt : Val) (K : Kind) (B : Str)
    (t : TreeSpec Val) (cache0 : Cache)
    (hK : K.chanV = true ∨ (K.netV = true ∧ t.chans = [] ∧ ∀ ns ∈ t.nets, ns.chans = []))
    (h : Storable pr c dflt B t) :
    ∃ cache', saveLoad pr c dflt K B ⟨t.build, cache0⟩ = .up ⟨t.build, cache'⟩ ∧ cache'.map (·.1) = t.keys B :=
  saveLoad_normal_aux header_table_ok quotes_table_ok nw_table_ok pr c dflt K B t cache0 hK h

/-- the same for a global variable (`registerGlobalValue`: no children) -/
theorem save_load_global (pr : Char → Bool) (c : ClassId) (dflt v : Val) (B : Str) (cache0 : Cache)
    (hc : c ≠ .str .normalized) (hn : GoodName B) (hrt : RT (c.cls pr dflt) v) :
    saveLoad pr c dflt ⟨false, false⟩ B ⟨⟨v, true, [], []⟩, cache0⟩ = .up ⟨⟨v, true, [], []⟩, [(B, c.show pr v)]⟩ := by
  have hfile := single_value_loads B (c.show pr v) hn
  have hdump : (⟨v, true, [], []⟩ : Var Val).dump B = [(B, v)] := by simp [Var.dump, sortKeys]
  unfold saveLoad
  simp only [hdump, saveText, List.map_cons, List.map_nil, ClassId.serializeAt, if_neg hc]
  rw [show fileText [⟨[], B, c.serialize pr v⟩] = closeText [⟨none, none, B, encodeUE (c.show pr v)⟩] from rfl, hfile]
  simp only [List.map_cons, List.map_nil, cacheOf, List.foldl_cons, List.foldl_nil, cacheSet, boot, cacheGet, if_true]
  have := hrt dflt
  simp only [ClassId.cls] at this ⊢
  rw [this]
  simp

theorem rt_strClass (pr : Char → Bool) (dflt : Val) (k : StrClass) (x : Str) :
    RT (ClassId.cls pr (.str k) dflt) (.s (k.setValue x)) := by
  intro cur
  simp only [ClassId.cls, ClassId.set, ClassId.show]
  rw [strClass_roundtrip k pr x]; rfl

/-- `RT` for the String class: every string -/
theorem rt_string (pr : Char → Bool) (dflt : Val) (x : Str) : RT (ClassId.cls pr (.str .plain) dflt) (.s x) :=
  rt_strClass pr dflt .plain x

/-- `RT` for NormalizedString: every stored value (`normalize v`) -/
theorem rt_normalized (pr : Char → Bool) (dflt : Val) (v : Str) :
    RT (ClassId.cls pr (.str .normalized) dflt) (.s (normalizeNS v)) :=
  rt_strClass pr dflt .normalized v

/-- `RT` for Boolean: both values, whatever the node held -/
theorem rt_bool (pr : Char → Bool) (dflt : Val) (b : Bool) : RT (ClassId.cls pr .bool dflt) (.b b) := by
  intro cur
  simp only [ClassId.cls, ClassId.set, ClassId.show]
  rw [bool_roundtrip]; rfl

/-- `RT` for the Integer family: every accepted value of printable size -/
theorem rt_int (pr : Char → Bool) (dflt : Val) (k : IntClass) (v : Int) (hlen : (intStr v).length ≤ 4000)
    (hacc : k.setValue v = .ok v) : RT (ClassId.cls pr (.int k) dflt) (.i v) := by
  intro cur
  simp only [ClassId.cls, ClassId.set, ClassId.show]
  rw [int_roundtrip k v hlen hacc]; rfl

/-- a tree with a general value, an old-style channel value, a set network with a channel, and an
unset network that exists only through its channel meets `Storable` -/
example : Storable (fun _ => false) .bool (.b false) "supybot.x".toList
    ⟨.b true, [("#a".toList, .b false)],
      [⟨"libera".toList, some (.b false), [("#b".toList, .b true)]⟩, ⟨"oftc".toList, none, [("#c".toList, .b true)]⟩]⟩ where
  rt := by
    intro kv hkv
    obtain ⟨k, v⟩ := kv
    have : ∃ b, v = .b b := by
      simp [TreeSpec.entries, NetSpec.entries] at hkv
      rcases hkv with ⟨_, rfl⟩ | ⟨_, rfl⟩ | ⟨_, rfl⟩ | ⟨_, rfl⟩ | ⟨_, rfl⟩ <;> exact ⟨_, rfl⟩
    obtain ⟨b, rfl⟩ := this
    exact rt_bool _ _ b
  names := by unfold GoodName Plain; decide +kernel
  distinct := by decide +kernel
  unset := by decide +kernel
  chans := by unfold ChanOk KeysDistinct; decide +kernel
  nets := by unfold ChanOk KeysDistinct; decide +kernel
  netsDistinct := by decide +kernel
  sorted := by unfold TreeSpec.Sorted; decide +kernel

/-- counter-example outside the normal form: an unset `#channel` child (created by a `get`, never
assigned) is not written, so the tree that comes back lacks it (its value is still what
`getSpecific` answers, by `fresh_child_inherits`) -/
theorem save_load_counterexample :
    saveLoad (fun _ => false) .bool (.b false) ⟨true, true⟩ "v".toList
        ⟨⟨.b true, true, [], [("#a".toList, ⟨.b true, false⟩)]⟩, []⟩ =
      .up ⟨⟨.b true, true, [], []⟩, [("v".toList, "True".toList)]⟩ := by
  decide +kernel

/-! ### re-reading the file in the running process -/

/-- a node that was assigned (or created) after the last `open_registry` is never re-read: its
call answers its value and changes nothing -/
theorem call_fresh_noop {α : Type} (C : Cls α) (B : Str) (s : LSt α) (w : Where) (h : s.isStale w = false) :
    s.call C B w = (s, s.st.var.valueAt w) := by
  unfold LSt.call
  cases s.st.var.valueAt w with
  | none => rfl
  | some cur => simp [h]

theorem updKey_id {β : Type} (k : Str) (f : β → β) (l : List (Str × β))
    (h : ∀ b, findKey k l = some b → f b = b) : updKey k f l = l := by
  induction l with
  | nil => rfl
  | cons kv rest ih =>
    obtain ⟨k', v⟩ := kv
    simp only [updKey]
    by_cases hk : keyEq k' k = true
    · rw [if_pos hk, h v (by simp [findKey, hk])]
    · rw [if_neg hk, ih (fun b hb => h b (by simp [findKey, hk, hb]))]

/-- re-reading is idempotent on what was saved: a set channel value whose cached text is the text
the class prints for it answers the same value and leaves the tree and the cache as they were,
whether or not it is stale -/
theorem call_reread_same {α : Type} (C : Cls α) (B : Str) (s : LSt α) (c : Str) (v : α)
    (hnode : findKey c s.st.var.chans = some ⟨v, true⟩)
    (hcache : cacheGet s.st.cache (childName B c) = some (C.str v)) (hrt : RT C v) :
    (s.call C B (.chan c)).2 = some v ∧ (s.call C B (.chan c)).1.st = s.st := by
  unfold LSt.call
  simp only [Var.valueAt, hnode, Option.map_some]
  by_cases hst : s.isStale (.chan c) = true
  · simp only [hst, if_true, whereName, hcache, hrt v]
    refine ⟨trivial, ?_⟩
    simp only [LSt.assign, Var.assign]
    have : updKey c (fun l : Leaf α => l.setV v false) s.st.var.chans = s.st.var.chans :=
      updKey_id c _ _ (by intro b hb; rw [hnode] at hb; cases hb; rfl)
    rw [this]
  · simp [hst]

/-! ### `registry.close` while threaded plugin code uses the tree -/

theorem foldl_zip_replicate_nil {α β γ : Type} (F : γ → α × List β → γ) (G : γ → α → γ)
    (h : ∀ acc a, F acc (a, []) = G acc a) : ∀ (l : List α) (n : Nat) (acc : γ), l.length ≤ n →
    (l.zip (List.replicate n [])).foldl F acc = l.foldl G acc := by
  intro l
  induction l with
  | nil => intro n acc _; simp
  | cons a as ih =>
    intro n acc hn
    cases n with
    | zero => simp at hn
    | succ m =>
      simp only [List.replicate_succ, List.zip_cons_cons, List.foldl_cons, h]
      exact ih m _ (by simp at hn; omega)

/-- with nothing interleaved, the flush under interleaving is the ordinary save -/
theorem flush_quiet {α : Type} (C : Cls α) (strCalls : Bool) (B : Str) (s : LSt α) :
    s.saveInterleaved C strCalls B [] = s.save C strCalls B := by
  unfold LSt.saveInterleaved LSt.save
  simp only [List.nil_append]
  exact foldl_zip_replicate_nil _ _ (by intro acc a; simp) _ _ _ (Nat.le_refl _)

/-- Full statement (false, known finding C15-flush-interleaved-reset): every line written by a
flush is a line the node had when the flush began or has when it ends.  Counter-example: `#x` is
set to 5, the flush lists it, a `config reset channel * #x` of a threaded command runs before its
line is written: the file records `#x` as explicitly set to the general value 3 — a line it had
neither before (5), during, nor after (unset) — and a bot restarted from that file no longer lets `#x`
follow the general value. -/
theorem flush_interleaved_counterexample :
    let C := ClassId.cls (fun _ => false) (.int .any) (.i 3)
    let s0 : LSt Val := ⟨⟨⟨.i 3, true, [], [("#x".toList, ⟨.i 5, true⟩)]⟩, []⟩, false, []⟩
    let r := s0.saveInterleaved C true "v".toList [[], [TOp.resetChan none "#x".toList]]
    r.2 = [("v".toList, some (.i 3)), ("v.#x".toList, some (.i 3))] ∧
      r.1.st.var = ⟨.i 3, true, [], [("#x".toList, ⟨.i 3, false⟩)]⟩ := by
  decide +kernel

/-! ### names -/

/-- `registry.unescape(registry.escape(n)) == n` for every name component (dots, colons,
backslashes, non-ASCII, control characters) -/
theorem name_unescape_escape (n : Str) : unescapeName (escapeName n) = .ok n :=
  unescapeName_escapeName n

/-- **`split(join(ns)) = ns`** for every non-empty list of name components, whatever they contain —
dots, colons, trailing backslashes (after the fix of `registry.split`, which took the separator
after an ESCAPED backslash for an escaped separator). -/
theorem name_escape_roundtrip (ns : List Str) (hne : ns ≠ []) : splitName (joinName ns) = some ns :=
  splitName_joinName_aux ns hne

/-- the former counter-example (known finding C15-name-trailing-backslash) -/
theorem name_trailing_backslash :
    splitName (joinName ["a\\".toList, "b".toList]) = some ["a\\".toList, "b".toList] := by decide +kernel

/-- every name `join` makes ends unescaped: together with "no blank, not starting with `#`" that is
`GoodName`, the precondition of the file theorems — a name ending in a backslash (a channel called
`#foo\`) included -/
theorem joined_name_ends_unescaped (n : Str) : escEnd false (escapeName n) = false := (escapeName_ok n).2

/-! ### the source constants the model implements by hand -/

/-- The regular expressions, format strings, strip sets and arithmetic constants of
`src/registry.py` / `utils.str.normalizeWhitespace` that the model implements as code are the ones
the source has now (extracted on every run): a change to any of them breaks this obligation. -/
theorem source_constants_ok :
    Gen.Registry.encoding = "unicode_escape" ∧
    Gen.Registry.slashEndRe = "\\\\*$" ∧
    Gen.Registry.kvSeparator = [':', ' '] ∧ Gen.Registry.nameSeparator = ['.'] ∧
    Gen.Registry.unescapedFindSrc =
      "i = start; while i < len(s): if s[i] == '\\\\': i += 2 elif s.startswith(sub, i): return i else: i += 1; return -1" ∧
    Gen.Registry.lineRstrip = ['\r', '\n'] ∧ Gen.Registry.valueStrip = ['\r', '\n'] ∧
    Gen.Registry.lineFormat = "%s: %s\n" ∧
    Gen.Registry.escapeReplace = [(".", "\\."), (":", "\\:")] ∧
    Gen.Registry.unescapeReplace = [("\\.", "."), ("\\:", ":")] ∧
    Gen.Registry.commaSplitRe = "\\s*,\\s*" ∧ Gen.Registry.commaSetSplitRe = "\\s*,\\s*" ∧
    Gen.Registry.commaSetJoin = [',', ' '] ∧
    Gen.Registry.toggleWord = "toggle".toList ∧
    Gen.Registry.nwEdgeBlanks = [' ', '\n', '\t', '\r'] ∧ Gen.Registry.nwNewlineRe = "[\r\n]+" ∧
    Gen.Registry.nwSplits = [['\t'], [' ']] ∧
    Gen.Registry.wrapWidth = 76 ∧ Gen.Registry.wrapPrefixExtra = 2 ∧ Gen.Registry.wrapMinWidth = 1 ∧
    Gen.Registry.wrapBreakLongWords = false ∧ Gen.Registry.wrapBreakOnHyphens = false ∧
    Gen.Registry.chanTypes = ['#', '&', '!'] ∧ Gen.Registry.chanLen = 50 ∧
    Gen.Registry.isChannelSrc =
      "s and ',' not in s and ('\\x07' not in s) and (s[0] in chantypes) and (len(s) <= channellen) and (s.split() == [s])" ∧
    Gen.Registry.needsQuotingSrc =
      "any([x not in self._printable for x in s]) and s.strip() != s or (len(s) > 0 and s[0] == s[-1] and (s[0] in '\\'\"'))" := by
  and_intros <;> rfl

end C15
