/-
C15 — OnlySomeStrings and the guarded String classes read back what they store: `ossNormalize` is
idempotent and stays in the table.
-/
import LimnoriaModel.C15.Validators
import LimnoriaModel.C15.Lemmas
namespace C15
open Py


theorem find?_mem_pred {α : Type} (p : α → Bool) (l : List α) (x : α) (h : l.find? p = some x) : x ∈ l ∧ p x = true :=
  ⟨List.mem_of_find?_eq_some h, List.find?_some h⟩

theorem ossNormalize_mem (valid : List Str) (s : Str) (hs : valid.contains s = true) :
    valid.contains (ossNormalize valid s) = true := by
  unfold ossNormalize
  cases h : valid.find? (fun x => asciiLower x == asciiLower s) with
  | none => exact hs
  | some x => simpa using (find?_mem_pred _ _ _ h).1

theorem ossNormalize_idem (valid : List Str) (s : Str) :
    ossNormalize valid (ossNormalize valid s) = ossNormalize valid s := by
  unfold ossNormalize
  cases h : valid.find? (fun x => asciiLower x == asciiLower s) with
  | none => simp only [h]
  | some x =>
    have hx := (find?_mem_pred _ _ _ h).2
    have : (fun y => asciiLower y == asciiLower x) = (fun y => asciiLower y == asciiLower s) := by
      funext y
      have : asciiLower x = asciiLower s := by simpa using hx
      rw [this]
    simp only [this, h]

theorem oss_roundtrip_aux (hq : QuotesOk Gen.Registry.stringQuotes) (pr : Char → Bool) (valid : List Str) (s : Str)
    (hs : valid.contains s = true) :
    ossSet pr valid (strStr pr (ossNormalize valid s)) = .ok (ossNormalize valid s) := by
  unfold ossSet
  rw [strSet_strStr hq]
  simp only [SetRes.bind, ossSetValue, ossNormalize_mem valid s hs, if_true, ossNormalize_idem]

theorem guarded_roundtrip_aux (hq : QuotesOk Gen.Registry.stringQuotes) (pr : Char → Bool) (ok : Str → Bool) (v : Str)
    (h : ok v = true) : guardedStrSet pr ok (strStr pr v) = .ok v := by
  unfold guardedStrSet
  rw [strSet_strStr hq]
  simp [SetRes.bind, guardedSetValue, h]

end C15
