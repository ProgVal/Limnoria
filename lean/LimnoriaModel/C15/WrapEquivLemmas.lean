/-
C15 — the two models of `textwrap.wrap` agree: on a text made of blank-free words separated by
single blanks, the chunk-level `wrapText` (`_split_chunks` + `_wrap_chunks`) produces the lines of
the word-level `wrapWords`.  So `NormalizedString.serialize`, stated through `wrapWords`, is the
chunk-level algorithm on the texts it is applied to.
-/
import LimnoriaModel.C15.WrapLemmas
namespace C15
open Py

/-! ### `wrapText` (chunks, as `textwrap` does it) = `wrapWords` (words) on single-blank text -/

/-- the chunks of a single-blank text: its words with one-blank chunks between them -/
def IS : List Str → List Str
  | [] => []
  | [w] => [w]
  | w :: rest => w :: [' '] :: IS rest

theorem chunkRuns_word (w R : Str) (L : List Str) (hw : w ≠ []) (hns : ∀ c ∈ w, c ≠ ' ')
    (hR : chunkRuns R = L) (hL : L = [] ∨ ∃ r rs, L = r :: rs ∧ r.head? = some ' ') :
    chunkRuns (w ++ R) = w :: L := by
  induction w with
  | nil => exact absurd rfl hw
  | cons x xs ih =>
    have hx : x ≠ ' ' := hns x (by simp)
    cases xs with
    | nil =>
      simp only [List.cons_append, List.nil_append, chunkRuns, hR]
      rcases hL with rfl | ⟨r, rs, rfl, hr⟩
      · rfl
      · have e1 : (x == ' ') = false := by simp [hx]
        simp [hr, e1]
    | cons y ys =>
      have := ih (by simp) (fun c hc => hns c (by simp [hc]))
      simp only [List.cons_append] at this ⊢
      rw [chunkRuns, this]
      have hy : y ≠ ' ' := hns y (by simp)
      have e1 : (x == ' ') = false := by simp [hx]
      have e2 : (y == ' ') = false := by simp [hy]
      simp [e1, e2]

theorem chunkRuns_blank (R : Str) (r : Str) (rs : List Str) (hR : chunkRuns R = r :: rs) (hr : ∀ c, r.head? = some c → c ≠ ' ') :
    chunkRuns (' ' :: R) = [' '] :: r :: rs := by
  simp only [chunkRuns, hR]
  cases hh : r.head? with
  | none => simp
  | some c => have := hr c hh; simp; exact fun e => this e

theorem chunkRuns_join (ws : List Str) (h : Words isSpace ws) : chunkRuns (joinChar ' ' ws) = IS ws := by
  have hns : ∀ w ∈ ws, ∀ c ∈ w, c ≠ ' ' := by
    intro w hw c hc e; subst e
    have := (h w hw).2 ' ' hc; revert this; decide
  induction ws with
  | nil => rfl
  | cons w rest ih =>
    cases rest with
    | nil =>
      simp only [joinChar, IS]
      have := chunkRuns_word w [] [] (h w (by simp)).1 (hns w (by simp)) rfl (Or.inl rfl)
      simpa using this
    | cons u us =>
      have ih' := ih (fun x hx => h x (by simp [hx])) (fun x hx => hns x (by simp [hx]))
      simp only [joinChar, IS]
      -- the rest starts with a word
      have hIS : ∃ r rs, IS (u :: us) = r :: rs ∧ r = u := by cases us <;> exact ⟨u, _, rfl, rfl⟩
      obtain ⟨r, rs, hrs, hru⟩ := hIS
      have hb := chunkRuns_blank (joinChar ' ' (u :: us)) r rs (by rw [ih', hrs]) (by
        intro c hc
        rw [hru] at hc
        have hune := (h u (by simp)).1
        cases hu : u with
        | nil => exact absurd hu hune
        | cons a as =>
          rw [hu] at hc; simp at hc; subst hc
          exact hns u (by simp) a (by rw [hu]; simp))
      have := chunkRuns_word w (' ' :: joinChar ' ' (u :: us)) _ (h w (by simp)).1 (hns w (by simp)) hb
        (Or.inr ⟨[' '], r :: rs, rfl, rfl⟩)
      rw [this, hrs]

/-- the chunks left after a word: the blank, then the remaining words -/
def tailChunks : List Str → List Str
  | [] => []
  | u :: us => [' '] :: IS (u :: us)

theorem IS_cons (w : Str) (rest : List Str) : IS (w :: rest) = w :: tailChunks rest := by
  cases rest <;> rfl

theorem IS_cons_cons (u : Str) (cwr : List Str) (h : cwr ≠ []) : IS (u :: cwr) = u :: [' '] :: IS cwr := by
  cases cwr with
  | nil => exact absurd rfl h
  | cons a as => rfl

/-- what `fillLine` does once the line has a word: per next word, take blank + word, or only the
blank, or nothing.  `cwr`: the words of the current line, last first -/
def FLspec (width : Nat) : List Str → Nat → List Str → List Str × Nat × List Str
  | cwr, len, [] => (IS cwr, len, [])
  | cwr, len, u :: us =>
    if len + 1 + u.length ≤ width then FLspec width (u :: cwr) (len + 1 + u.length) us
    else if len + 1 ≤ width then ([' '] :: IS cwr, len + 1, IS (u :: us))
    else (IS cwr, len, [' '] :: IS (u :: us))

theorem fillLine_spec (width : Nat) : ∀ (us cwr : List Str) (len : Nat), cwr ≠ [] →
    fillLine width (tailChunks us) (IS cwr) len = FLspec width cwr len us := by
  intro us
  induction us with
  | nil => intro cwr len _; rfl
  | cons u us' ih =>
    intro cwr len hc
    simp only [tailChunks, FLspec]
    rw [IS_cons]
    by_cases h1 : len + 1 + u.length ≤ width
    · have h2 : len + 1 ≤ width := by omega
      simp only [fillLine, List.length_cons, List.length_nil, Nat.zero_add, h2, if_true, h1]
      have := ih (u :: cwr) (len + 1 + u.length) (by simp)
      rw [IS_cons_cons u cwr hc] at this
      exact this
    · by_cases h2 : len + 1 ≤ width
      · simp only [fillLine, List.length_cons, List.length_nil, Nat.zero_add, h2, if_true, h1, if_false]
      · simp only [fillLine, List.length_cons, List.length_nil, Nat.zero_add, h2, if_false, h1]

/-- chunk level and word level take the same words; the chunk level may also have taken the blank
after them (second case), which `lineOf` then drops -/
theorem FLspec_fillWords (width : Nat) : ∀ (us cwr : List Str) (len : Nat), cwr ≠ [] →
    ∃ cwr', cwr' ≠ [] ∧ (fillWords width us cwr len).1 = cwr'.reverse ∧
      (((FLspec width cwr len us).1 = IS cwr' ∧ (FLspec width cwr len us).2.2 = tailChunks (fillWords width us cwr len).2) ∨
       ((FLspec width cwr len us).1 = [' '] :: IS cwr' ∧ (FLspec width cwr len us).2.2 = IS (fillWords width us cwr len).2 ∧
          (fillWords width us cwr len).2 ≠ [])) := by
  intro us
  induction us with
  | nil => intro cwr len hc; exact ⟨cwr, hc, rfl, Or.inl ⟨rfl, rfl⟩⟩
  | cons u us' ih =>
    intro cwr len hc
    have hne : cwr.isEmpty = false := List.isEmpty_eq_false_iff.mpr hc
    simp only [fillWords, FLspec, hne, Bool.false_eq_true, if_false]
    by_cases h1 : len + 1 + u.length ≤ width
    · simp only [h1, if_true]
      exact ih (u :: cwr) _ (by simp)
    · simp only [h1, if_false]
      by_cases h2 : len + 1 ≤ width
      · rw [if_pos h2]
        exact ⟨cwr, hc, rfl, Or.inr ⟨rfl, rfl, by simp⟩⟩
      · rw [if_neg h2]
        exact ⟨cwr, hc, rfl, Or.inl ⟨rfl, rfl⟩⟩

theorem flatten_IS (l : List Str) : (IS l).flatten = joinChar ' ' l := by
  induction l with
  | nil => rfl
  | cons w rest ih =>
    cases rest with
    | nil => simp [IS, joinChar]
    | cons u us => simp only [IS, joinChar, List.flatten_cons] at ih ⊢; rw [ih]; simp

theorem IS_append_one (l : List Str) (w : Str) (h : l ≠ []) : IS (l ++ [w]) = IS l ++ [[' '], w] := by
  induction l with
  | nil => exact absurd rfl h
  | cons a rest ih =>
    cases rest with
    | nil => simp [IS]
    | cons b bs =>
      have := ih (by simp)
      simp only [List.cons_append, IS] at this ⊢
      rw [this]

theorem IS_reverse (l : List Str) : (IS l).reverse = IS l.reverse := by
  induction l with
  | nil => rfl
  | cons w rest ih =>
    cases rest with
    | nil => simp [IS]
    | cons u us =>
      simp only [IS, List.reverse_cons] at ih ⊢
      rw [ih]
      have : (us.reverse ++ [u]) ≠ [] := by simp
      rw [IS_append_one _ w this]
      simp

/-- one iteration of `_wrap_chunks` from the start of a line: the chunks of the line (reversed,
trailing blank dropped) and the chunks left -/
def lineOf (width : Nat) (chunks1 : List Str) : List Str × List Str :=
  match fillLine width chunks1 [] 0 with
  | (cur, _, rest1) =>
    let (cur2, rest2) : List Str × List Str :=
      match rest1 with
      | big :: more => if big.length > width ∧ cur.isEmpty then ([big], more) else (cur, rest1)
      | [] => (cur, rest1)
    let cur3 := match cur2 with
      | last :: before => if isBlankChunk last then before else cur2
      | [] => cur2
    (cur3, rest2)

theorem wrapLoop_succ (width fuel : Nat) (c : Str) (rest lines : List Str) :
    wrapLoop width (fuel + 1) (c :: rest) lines =
      wrapLoop width fuel (lineOf width (if isBlankChunk c ∧ ¬ lines.isEmpty then rest else c :: rest)).2
        (if (lineOf width (if isBlankChunk c ∧ ¬ lines.isEmpty then rest else c :: rest)).1.isEmpty then lines
         else (lineOf width (if isBlankChunk c ∧ ¬ lines.isEmpty then rest else c :: rest)).1.reverse.flatten :: lines) := by
  rfl

theorem word_not_blank (w : Str) (hw : w ≠ []) (hns : ∀ c ∈ w, isSpace c = false) : isBlankChunk w = false := by
  cases w with
  | nil => exact absurd rfl hw
  | cons a as =>
    simp only [isBlankChunk, List.all_cons, hns a (by simp), Bool.false_and]

theorem IS_top (cwr : List Str) (h : cwr ≠ []) (hw : Words isSpace cwr) :
    (match IS cwr with
      | last :: before => if isBlankChunk last then before else IS cwr
      | [] => IS cwr) = IS cwr := by
  cases cwr with
  | nil => exact absurd rfl h
  | cons a as =>
    rw [IS_cons]
    have := word_not_blank a (hw a (by simp)).1 (hw a (by simp)).2
    simp only [this, Bool.false_eq_true, if_false]

theorem IS_ne_nil (l : List Str) (h : l ≠ []) : IS l ≠ [] := by
  cases l with
  | nil => exact absurd rfl h
  | cons a as => rw [IS_cons]; simp

theorem words_of_fill {p : Char → Bool} (width : Nat) (ws cur : List Str) (len : Nat)
    (hw : Words p (cur.reverse ++ ws)) :
    Words p ((fillWords width ws cur len).1 ++ (fillWords width ws cur len).2) := by
  rw [(fillWords_spec width ws cur len).1]; exact hw

theorem lineOf_IS (width : Nat) (w : Str) (rest : List Str) (hw : Words isSpace (w :: rest)) :
    ∃ cwr' rest2, lineOf width (IS (w :: rest)) = (IS cwr', rest2) ∧ cwr' ≠ [] ∧
      (fillWords width (w :: rest) [] 0).1 = cwr'.reverse ∧
      (rest2 = tailChunks (fillWords width (w :: rest) [] 0).2 ∨
        (rest2 = IS (fillWords width (w :: rest) [] 0).2 ∧ (fillWords width (w :: rest) [] 0).2 ≠ [])) := by
  have hsp := fillWords_spec width (w :: rest) [] 0
  have hfw : fillWords width (w :: rest) [] 0 = fillWords width rest [w] w.length := by
    simp only [fillWords, List.isEmpty_nil, if_true]
  by_cases hfit : w.length ≤ width
  · -- the first word fits
    have hfl : fillLine width (IS (w :: rest)) [] 0 = FLspec width [w] (0 + w.length) rest := by
      rw [IS_cons]
      have : fillLine width (w :: tailChunks rest) [] 0 = fillLine width (tailChunks rest) [w] (0 + w.length) := by
        simp only [fillLine, Nat.zero_add, hfit, if_true]
      rw [this]
      exact fillLine_spec width rest [w] (0 + w.length) (by simp)
    obtain ⟨cwr', hne, hlw, hcase⟩ := FLspec_fillWords width rest [w] (0 + w.length) (by simp)
    rw [Nat.zero_add] at hfl hlw hcase
    rw [← hfw] at hlw hcase
    have hwc : Words isSpace cwr' := fun x hx =>
      words_of_fill width (w :: rest) [] 0 hw x (List.mem_append_left _ (by rw [hlw]; simpa using hx))
    rcases hF : FLspec width [w] w.length rest with ⟨c, l, r1⟩
    rw [hF] at hfl hcase
    simp only at hcase
    rcases hcase with ⟨hc, hr⟩ | ⟨hc, hr, hrn⟩
    · refine ⟨cwr', r1, ?_, hne, hlw, Or.inl hr⟩
      simp only [lineOf, hfl]
      subst hc
      have hce : (IS cwr').isEmpty = false := List.isEmpty_eq_false_iff.mpr (IS_ne_nil cwr' hne)
      cases r1 with
      | nil => simp only [IS_top cwr' hne hwc]
      | cons big more =>
        simp only [hce, Bool.false_eq_true, and_false, if_false, IS_top cwr' hne hwc]
    · refine ⟨cwr', r1, ?_, hne, hlw, Or.inr ⟨hr, hrn⟩⟩
      simp only [lineOf, hfl]
      subst hc
      have hb : isBlankChunk [' '] = true := by decide
      cases r1 with
      | nil => simp only [hb, if_true]
      | cons big more =>
        simp only [List.isEmpty_cons, Bool.false_eq_true, and_false, if_false, hb, if_true]
  · -- a word longer than the width gets a line of its own
    have hfl : fillLine width (IS (w :: rest)) [] 0 = ([], 0, w :: tailChunks rest) := by
      rw [IS_cons]
      simp only [fillLine, Nat.zero_add, hfit, if_false]
    have hfw2 : fillWords width rest [w] w.length = ([w], rest) := by
      cases rest with
      | nil => rfl
      | cons u us =>
        have : ¬ (w.length + 1 + u.length ≤ width) := by omega
        simp only [fillWords, List.isEmpty_cons, Bool.false_eq_true, if_false, this, List.reverse_cons,
          List.reverse_nil, List.nil_append]
    refine ⟨[w], tailChunks rest, ?_, by simp, by rw [hfw, hfw2]; rfl, Or.inl (by rw [hfw, hfw2])⟩
    have hnb := word_not_blank w (hw w (by simp)).1 (hw w (by simp)).2
    have hgt : w.length > width := by omega
    simp only [lineOf, hfl, hgt, List.isEmpty_nil, and_self, if_true, hnb, Bool.false_eq_true, if_false]
    rfl

theorem wrapLoop_nil (width fuel : Nat) (lines : List Str) : wrapLoop width fuel [] lines = lines.reverse := by
  cases fuel <;> rfl

/-- A line ends before a word or before the blank in front of it: the chunk loop is entered at
`IS ws` or, after a first line only, at `tailChunks ws`.  Both loops burn fuel per line; `f2 ≤ f1`. -/
theorem wrapLoop_words (width : Nat) : ∀ (f2 f1 : Nat) (ws : List Str), f2 ≤ f1 → ws.length ≤ f2 → Words isSpace ws →
    ∀ lines : List Str,
      wrapLoop width f1 (IS ws) lines = lines.reverse ++ (wrapWordsLoop width f2 ws).map (joinChar ' ') ∧
      (lines ≠ [] → wrapLoop width f1 (tailChunks ws) lines = lines.reverse ++ (wrapWordsLoop width f2 ws).map (joinChar ' ')) := by
  intro f2
  induction f2 with
  | zero =>
    intro f1 ws _ hl _ lines
    have : ws = [] := List.length_eq_zero_iff.mp (Nat.le_zero.mp hl)
    subst this
    simp only [IS, tailChunks, wrapLoop_nil, wrapWordsLoop, List.map_nil, List.append_nil, implies_true, and_self]
  | succ f ih =>
    intro f1 ws hf hl hw lines
    cases ws with
    | nil =>
      simp only [IS, tailChunks, wrapLoop_nil, wrapWordsLoop, List.map_nil, List.append_nil, implies_true, and_self]
    | cons w rest =>
      obtain ⟨g, rfl⟩ : ∃ g, f1 = g + 1 := ⟨f1 - 1, by omega⟩
      obtain ⟨cwr', rest2, hline, hne, hlw, hcase⟩ := lineOf_IS width w rest hw
      have hlt := (fillWords_spec width (w :: rest) [] 0).2.2.2 rfl (by simp)
      have hw' : Words isSpace (fillWords width (w :: rest) [] 0).2 := fun x hx =>
        words_of_fill width (w :: rest) [] 0 hw x (List.mem_append_right _ hx)
      have hIH := ih g (fillWords width (w :: rest) [] 0).2 (by omega) (by simp at hl hlt; omega) hw'
        (joinChar ' ' (fillWords width (w :: rest) [] 0).1 :: lines)
      have hce : (IS cwr').isEmpty = false := List.isEmpty_eq_false_iff.mpr (IS_ne_nil cwr' hne)
      have hflat : (IS cwr').reverse.flatten = joinChar ' ' (fillWords width (w :: rest) [] 0).1 := by
        rw [IS_reverse, flatten_IS, hlw]
      have hrest : wrapLoop width g rest2 (joinChar ' ' (fillWords width (w :: rest) [] 0).1 :: lines) =
          lines.reverse ++ (wrapWordsLoop width (f + 1) (w :: rest)).map (joinChar ' ') := by
        have hww : wrapWordsLoop width (f + 1) (w :: rest) =
            (fillWords width (w :: rest) [] 0).1 :: wrapWordsLoop width f (fillWords width (w :: rest) [] 0).2 := by
          simp only [wrapWordsLoop]
        rw [hww]
        rcases hcase with h | ⟨h, _⟩
        · rw [h, (hIH).2 (by simp)]; simp
        · rw [h, (hIH).1]; simp
      have hnb := word_not_blank w (hw w (by simp)).1 (hw w (by simp)).2
      refine ⟨?_, ?_⟩
      · rw [IS_cons, wrapLoop_succ]
        simp only [hnb, Bool.false_eq_true, false_and, if_false]
        rw [← IS_cons, hline]
        simp only [hce, Bool.false_eq_true, if_false, hflat]
        exact hrest
      · intro hln
        have hb : isBlankChunk [' '] = true := by decide
        have hle : lines.isEmpty = false := List.isEmpty_eq_false_iff.mpr hln
        simp only [tailChunks]
        rw [wrapLoop_succ]
        simp only [hb, hle, Bool.false_eq_true, not_false_eq_true, and_self, if_true]
        rw [hline]
        simp only [hce, Bool.false_eq_true, if_false, hflat]
        exact hrest

theorem IS_length (ws : List Str) : ws.length ≤ (IS ws).length := by
  induction ws with
  | nil => simp [IS]
  | cons w rest ih =>
    cases rest with
    | nil => simp [IS]
    | cons u us => simp only [IS, List.length_cons] at ih ⊢; omega

theorem wrapText_eq_wrapWords (width : Nat) (ws : List Str) (hw : Words isSpace ws) :
    wrapText width (joinChar ' ' ws) = (wrapWords width ws).map (joinChar ' ') := by
  unfold wrapText wrapWords
  simp only [chunkRuns_join ws hw]
  have := (wrapLoop_words width ws.length ((IS ws).length + 1) ws (by have := IS_length ws; omega)
    (Nat.le_refl _) hw []).1
  simpa using this

/-- `escaped_words` with the words free of every Unicode blank (`isSpace`), as `wrap_models_agree`
asks, not only of the space -/
theorem escaped_wordsNS (hedge : Gen.Registry.nwEdgeBlanks = [' ', '\n', '\t', '\r']) (pr : Char → Bool) (v : Str) :
    ∃ ws, Words isSpace ws ∧ encodeUE (strStr pr (normalizeNS v)) = joinChar ' ' ws ∧
      wordsOf (encodeUE (strStr pr (normalizeNS v))) = ws := by
  obtain ⟨sw, hsw, _, he, hwo⟩ := escaped_words hedge pr v
  have hwe := words_map_encode sw (words_blank4_isSp hsw)
  refine ⟨sw.map encodeUE, fun w hwm => ⟨(hwe w hwm).1, fun c hc => ?_⟩, he, hwo⟩
  have hns : c ≠ ' ' := by simpa [isSp] using (hwe w hwm).2 c hc
  obtain ⟨w0, _, rfl⟩ := List.mem_map.mp hwm
  exact plain_nospace (encodeUE_plain w0 c hc) hns

theorem nsSerialize_chunk_level (hedge : Gen.Registry.nwEdgeBlanks = [' ', '\n', '\t', '\r']) (pr : Char → Bool)
    (name v : Str) :
    nsSerialize name (encodeUE (strStr pr (normalizeNS v))) =
      joinChar '\n' (decorateLines (name.length + Gen.Registry.wrapPrefixExtra) 0
        (wrapText (nsWidth name) (encodeUE (strStr pr (normalizeNS v))))) := by
  obtain ⟨ws, hws, he, hwo⟩ := escaped_wordsNS hedge pr v
  unfold nsSerialize
  simp only [hwo]
  rw [he, wrapText_eq_wrapWords _ ws hws]

end C15
