/-
C15 — lemmas, bottom up: the escape machine undoes the encoder and `repr`; each value class reads
back what it prints; the value tree; the file as a header and units; names.
-/
import LimnoriaModel.C15.Model
namespace C15
open Py

/-! ### characters -/

theorem char_valid (c : Char) : c.toNat < 0xD800 ∨ (0xDFFF < c.toNat ∧ c.toNat < 0x110000) := by
  have h := c.valid
  unfold UInt32.isValidChar Nat.isValidChar at h
  unfold Char.toNat
  omega

theorem char_ne_toNat {a b : Char} (h : a ≠ b) : a.toNat ≠ b.toNat := fun e => h (Char.toNat_inj.mp e)

theorem ne_of_not {P : Char → Prop} {x a : Char} (hx : P x) (ha : ¬ P a) : x ≠ a := fun e => ha (e ▸ hx)

theorem Res.emit_ok (c : Char) (s : Str) : (Res.ok s).emit c = .ok (c :: s) := rfl

theorem emitNat_toNat (c : Char) (r : Res) : emitNat c.toNat r = r.emit c := by
  unfold emitNat
  have := char_valid c
  rw [if_neg (by omega), if_neg (by omega), Char.ofNat_toNat]

/-- the characters the encoder writes: printable ASCII -/
def Plain (x : Char) : Prop := 32 ≤ x.toNat ∧ x.toNat < 127
instance (x : Char) : Decidable (Plain x) := by unfold Plain; infer_instance

/-- ASCII letters and digits: what an escape consists of after its backslash -/
def Alnum (x : Char) : Prop :=
  (48 ≤ x.toNat ∧ x.toNat ≤ 57) ∨ (65 ≤ x.toNat ∧ x.toNat ≤ 90) ∨ (97 ≤ x.toNat ∧ x.toNat ≤ 122)
instance (x : Char) : Decidable (Alnum x) := by unfold Alnum; infer_instance

theorem Alnum.plain {x : Char} (h : Alnum x) : Plain x := by
  unfold Alnum at h; unfold Plain; omega

/-! ### hexadecimal escapes -/

theorem hexVal_hexDigit : ∀ k, k < 16 → hexVal (hexDigit k) = some k := by decide
theorem hexDigit_alnum : ∀ k, k < 16 → Alnum (hexDigit k) := by decide

/-- the `k` hexadecimal digits of `n`, most significant first -/
def hexN : Nat → Nat → Str
  | 0, _ => []
  | k + 1, n => hexDigit (n / 16 ^ k % 16) :: hexN k n

theorem hexN_alnum (n : Nat) : ∀ k, ∀ x ∈ hexN k n, Alnum x
  | 0, _, h => by cases h
  | k + 1, x, h => by
    rcases List.mem_cons.mp h with rfl | h
    · exact hexDigit_alnum _ (Nat.mod_lt _ (by decide))
    · exact hexN_alnum n k x h

/-- the last `k` digits of `n` are read once the value of the digits before them has been read -/
theorem unesc_hexN (q : Option Char) (n : Nat) (rest : Str) : ∀ k, k ≠ 0 →
    unesc q (.hex k (n / 16 ^ k)) (hexN k n ++ rest) = emitNat n (unesc q .norm rest)
  | 0, h => absurd rfl h
  | k + 1, _ => by
    have hv : n / 16 ^ (k + 1) * 16 + n / 16 ^ k % 16 = n / 16 ^ k := by
      rw [Nat.pow_succ, ← Nat.div_div_eq_div_mul, Nat.div_add_mod']
    simp only [hexN, List.cons_append, unesc, hexVal_hexDigit _ (Nat.mod_lt _ (by decide : 0 < 16)), hv]
    cases k with
    | zero => simp [hexN]
    | succ j => rw [if_neg (by omega)]; exact unesc_hexN q n rest (j + 1) (by omega)

/-- the letter after the backslash and the number of digits it announces -/
inductive HexTag : Char → Nat → Prop
  | x : HexTag 'x' 2
  | u : HexTag 'u' 4
  | U : HexTag 'U' 8

theorem escStep_hex {t : Char} {w : Nat} (h : HexTag t w) (k : Mode → Res) : escStep t k = k (.hex w 0) := by
  cases h <;> rfl

theorem hexEscape_eq (n : Nat) : ∃ t w, HexTag t w ∧ hexEscape n = '\\' :: t :: hexN w n ∧
    (n < 4294967296 → n < 16 ^ w) := by
  unfold hexEscape
  split
  · exact ⟨'x', 2, .x, by simp [hex2, hexN], fun _ => by omega⟩
  · split
    · exact ⟨'u', 4, .u, by simp [hex4, hexN], fun _ => by omega⟩
    · exact ⟨'U', 8, .U, by simp [hex8, hexN], fun h => h⟩

theorem hexEscape_alnum (n : Nat) : ∃ y w, hexEscape n = '\\' :: y :: w ∧ ∀ x ∈ y :: w, Alnum x := by
  obtain ⟨t, w, ht, he, _⟩ := hexEscape_eq n
  refine ⟨t, hexN w n, he, fun x hx => ?_⟩
  rcases List.mem_cons.mp hx with rfl | hx
  · cases ht <;> decide
  · exact hexN_alnum n w x hx

theorem unesc_esc (q : Option Char) (t : Char) (rest : Str) :
    unesc q .norm ('\\' :: t :: rest) = escStep t (fun m => unesc q m rest) := by
  simp only [unesc, normStep, if_true]

theorem unesc_plain (q : Option Char) (c : Char) (rest : Str) (hb : c ≠ '\\') (hq : q ≠ some c) (hn : c ≠ '\n') :
    unesc q .norm (c :: rest) = (unesc q .norm rest).emit c := by
  simp only [unesc, normStep, if_neg hb, if_neg hq, hn, and_false, if_false]

theorem unesc_hexEscape (q : Option Char) (c : Char) (rest : Str) :
    unesc q .norm (hexEscape c.toNat ++ rest) = (unesc q .norm rest).emit c := by
  obtain ⟨t, w, ht, he, hw⟩ := hexEscape_eq c.toNat
  have hlt : c.toNat < 16 ^ w := hw (by have := char_valid c; omega)
  have hd := unesc_hexN q c.toNat rest w (by cases ht <;> decide)
  rw [Nat.div_eq_of_lt hlt] at hd
  rw [he, List.cons_append, List.cons_append, unesc_esc, escStep_hex ht, hd, emitNat_toNat]

/-! ### the encoder, character by character -/

theorem encChar_cases (c : Char) :
    (c = '\\' ∧ encChar c = ['\\', '\\']) ∨
    (c ≠ '\\' ∧ ∃ y w, encChar c = '\\' :: y :: w ∧ ∀ x ∈ y :: w, Alnum x) ∨
    (c ≠ '\\' ∧ Plain c ∧ encChar c = [c]) := by
  unfold encChar
  simp only
  split
  · exact .inl ⟨‹_›, rfl⟩
  · rename_i hb
    refine .inr ?_
    split
    · exact .inl ⟨hb, 't', [], rfl, by decide⟩
    · split
      · exact .inl ⟨hb, 'n', [], rfl, by decide⟩
      · split
        · exact .inl ⟨hb, 'r', [], rfl, by decide⟩
        · split
          · exact .inl ⟨hb, hexEscape_alnum _⟩
          · exact .inr ⟨hb, by unfold Plain; omega, rfl⟩

theorem encChar_ne_nil (c : Char) : encChar c ≠ [] := by
  rcases encChar_cases c with ⟨_, e⟩ | ⟨_, _, _, e, _⟩ | ⟨_, _, e⟩ <;> rw [e] <;> exact List.cons_ne_nil _ _

/-- escaping adds only backslashes, letters and digits -/
theorem encChar_keeps (P : Char → Prop) (hb : P '\\') (ha : ∀ x, Alnum x → P x) (c : Char) (hc : Plain c → P c) :
    ∀ x ∈ encChar c, P x := by
  intro x hx
  rcases encChar_cases c with ⟨_, e⟩ | ⟨_, y, w, e, hw⟩ | ⟨_, hp, e⟩ <;> rw [e] at hx
  · simp only [List.mem_cons, List.not_mem_nil, or_false, or_self] at hx
    exact hx ▸ hb
  · rcases List.mem_cons.mp hx with rfl | hx
    · exact hb
    · exact ha x (hw x hx)
  · exact List.mem_singleton.mp hx ▸ hc hp

theorem encChar_plain (c : Char) : ∀ x ∈ encChar c, Plain x :=
  encChar_keeps Plain (by decide) (fun _ => Alnum.plain) c id

theorem unesc_encChar (q : Option Char) (c : Char) (hq : q ≠ some c) (rest : Str) :
    unesc q .norm (encChar c ++ rest) = (unesc q .norm rest).emit c := by
  unfold encChar
  simp only
  split
  · rename_i h; subst h; exact unesc_esc q '\\' rest
  · split
    · rename_i h; subst h; exact unesc_esc q 't' rest
    · split
      · rename_i h; subst h; exact unesc_esc q 'n' rest
      · split
        · rename_i h; subst h; exact unesc_esc q 'r' rest
        · split
          · exact unesc_hexEscape q c rest
          · rename_i hb _ hn _ _; exact unesc_plain q c rest hb hq hn

theorem reprChar_eq (pr : Char → Bool) (q c : Char) :
    reprChar pr q c =
      if c = q then ['\\', c] else if 127 < c.toNat ∧ pr c = true then [c] else encChar c := by
  -- the characters with an escape of their own are ASCII
  have hsmall : ∀ a : Char, a.toNat ≤ 127 → c = a → ¬ (127 < c.toNat ∧ pr c = true) :=
    fun a ha e h => by rw [e] at h; omega
  unfold reprChar encChar
  simp only
  by_cases hq : c = q
  · rw [if_pos (Or.inl hq), if_pos hq]
  · rw [if_neg hq]
    by_cases hb : c = '\\'
    · rw [if_pos (Or.inr hb), if_pos hb, if_neg (hsmall _ (by decide) hb), hb]
    · rw [if_neg (fun h => h.elim hq hb), if_neg hb]
      by_cases ht : c = '\t'
      · rw [if_pos ht, if_pos ht, if_neg (hsmall _ (by decide) ht)]
      · rw [if_neg ht, if_neg ht]
        by_cases hn : c = '\n'
        · rw [if_pos hn, if_pos hn, if_neg (hsmall _ (by decide) hn)]
        · rw [if_neg hn, if_neg hn]
          by_cases hr : c = '\r'
          · rw [if_pos hr, if_pos hr, if_neg (hsmall _ (by decide) hr)]
          · rw [if_neg hr, if_neg hr]
            by_cases h1 : c.toNat < 32 ∨ c.toNat = 127
            · rw [if_pos h1, if_neg (by omega), if_pos (by omega)]
            · rw [if_neg h1]
              by_cases h2 : c.toNat < 127
              · rw [if_pos h2, if_neg (by omega), if_neg (by omega)]
              · rw [if_neg h2]
                cases pr c
                · rw [if_neg (by simp), if_neg (by simp), if_pos (by omega)]
                · rw [if_pos rfl, if_pos ⟨by omega, rfl⟩]

theorem reprChar_keeps (P : Char → Prop) (hb : P '\\') (ha : ∀ x, Alnum x → P x) (pr : Char → Bool) (q c : Char)
    (hq : 32 ≤ q.toNat) (hc : 32 ≤ c.toNat → P c) : ∀ x ∈ reprChar pr q c, P x := by
  intro x hx
  rw [reprChar_eq] at hx
  split at hx
  · rename_i h; subst h
    rcases List.mem_cons.mp hx with rfl | hx
    · exact hb
    · exact List.mem_singleton.mp hx ▸ hc hq
  · split at hx
    · rename_i h; exact List.mem_singleton.mp hx ▸ hc (by omega)
    · exact encChar_keeps P hb ha c (fun hp => hc hp.1) x hx

theorem reprChar_ne_nil (pr : Char → Bool) (q c : Char) : reprChar pr q c ≠ [] := by
  rw [reprChar_eq]
  split
  · exact List.cons_ne_nil _ _
  · split
    · exact List.cons_ne_nil _ _
    · exact encChar_ne_nil c

theorem unesc_reprChar (pr : Char → Bool) (q c : Char) (hq : q = '\'' ∨ q = '"') (rest : Str) :
    unesc (some q) .norm (reprChar pr q c ++ rest) = (unesc (some q) .norm rest).emit c := by
  rw [reprChar_eq]
  split
  · rename_i h; subst h
    rw [List.cons_append, List.cons_append, List.nil_append, unesc_esc]
    rcases hq with rfl | rfl <;> rfl
  · rename_i hcq
    have hq' : some q ≠ some c := fun e => hcq (Option.some.inj e).symm
    split
    · rename_i h
      exact unesc_plain _ c rest (ne_of_not (P := fun x => 127 < x.toNat) h.1 (by decide)) hq'
        (ne_of_not (P := fun x => 127 < x.toNat) h.1 (by decide))
    · exact unesc_encChar _ c hq' rest

/-! ### the two round trips -/

theorem encodeUE_cons (c : Char) (s : Str) : encodeUE (c :: s) = encChar c ++ encodeUE s := rfl

theorem encodeUE_plain (s : Str) : ∀ x ∈ encodeUE s, Plain x := by
  intro x hx
  simp only [encodeUE, List.mem_flatMap] at hx
  obtain ⟨c, _, hc⟩ := hx
  exact encChar_plain c x hc

theorem latin1Bytes_ascii (s : Str) (h : ∀ x ∈ s, x.toNat < 128) : latin1Bytes s = s := by
  induction s with
  | nil => rfl
  | cons c cs ih =>
    have hc := h c (by simp)
    have := ih (fun x hx => h x (by simp [hx]))
    simp only [latin1Bytes, List.flatMap_cons] at this ⊢
    rw [this, if_pos hc]; rfl

theorem decodeUE_encodeUE (s : Str) : decodeUE (encodeUE s) = .ok s := by
  unfold decodeUE
  rw [latin1Bytes_ascii _ (fun x hx => by have := (encodeUE_plain s x hx).2; omega)]
  induction s with
  | nil => rfl
  | cons c cs ih => rw [encodeUE_cons, unesc_encChar none c nofun, ih]; rfl

theorem normNLAux_noCR (s : Str) (h : ∀ x ∈ s, x ≠ '\r') : normNLAux false s = s := by
  induction s with
  | nil => rfl
  | cons c cs ih =>
    have hc := h c (by simp)
    simp only [normNLAux, if_neg hc]
    rw [if_neg (by simp), ih (fun x hx => h x (by simp [hx]))]

theorem reprQuote_cases (s : Str) : reprQuote s = '\'' ∨ reprQuote s = '"' := by
  unfold reprQuote; split <;> simp

theorem evalLit_quoted (q : Char) (body : Str) (hq : q = '\'' ∨ q = '"')
    (h : ∀ x ∈ q :: body, 32 ≤ x.toNat) : evalLit (q :: body) = unesc (some q) .norm body := by
  have hiq : isQuote q = true := by rcases hq with rfl | rfl <;> rfl
  have hnul : (q :: body).contains (Char.ofNat 0) = false := by
    rw [List.contains_eq_mem, decide_eq_false_iff_not]
    exact fun hm => ne_of_not (P := fun x => 32 ≤ x.toNat) (h _ hm) (by decide) rfl
  have hcr : normNL body = body :=
    normNLAux_noCR body fun x hx =>
      ne_of_not (P := fun x => 32 ≤ x.toNat) (h x (List.mem_cons_of_mem _ hx)) (by decide)
  unfold evalLit
  simp only [hiq, hnul, hcr, not_true_eq_false, Bool.false_eq_true, if_false]

theorem unesc_reprBody (pr : Char → Bool) (q : Char) (hq : q = '\'' ∨ q = '"') (s : Str) :
    unesc (some q) .norm (s.flatMap (reprChar pr q) ++ [q]) = .ok s := by
  induction s with
  | nil =>
    rcases hq with rfl | rfl <;> rfl
  | cons c cs ih =>
    rw [List.flatMap_cons, List.append_assoc, unesc_reprChar pr q c hq, ih]; rfl

theorem evalLit_pyRepr (pr : Char → Bool) (s : Str) : evalLit (pyRepr pr s) = .ok s := by
  have hq := reprQuote_cases s
  have hq32 : 32 ≤ (reprQuote s).toNat := by rcases hq with h | h <;> rw [h] <;> decide
  unfold pyRepr
  rw [evalLit_quoted _ _ hq, unesc_reprBody pr _ hq]
  intro x hx
  simp only [List.mem_cons, List.mem_append, List.mem_flatMap, List.not_mem_nil, or_false] at hx
  rcases hx with rfl | ⟨c, _, hc⟩ | rfl
  · exact hq32
  · exact reprChar_keeps (fun x => 32 ≤ x.toNat) (by decide) (fun _ h => h.plain.1) pr _ c hq32 id x hc
  · exact hq32

/-! ### `String.set` undoes `String.__str__` -/

/-- what the String round trip needs from the extracted quote table -/
def QuotesOk (qs : Str) : Prop := qs.contains '\'' = true ∧ qs.contains '"' = true

theorem head_pyRepr (pr : Char → Bool) (s : Str) : (pyRepr pr s).head? = some (reprQuote s) := rfl

theorem getLast_pyRepr (pr : Char → Bool) (s : Str) : (pyRepr pr s).getLast? = some (reprQuote s) := by
  unfold pyRepr
  simp only
  rw [List.getLast?_cons, List.getLast?_append]
  simp

theorem evalLit_empty_quotes : evalLit ['"', '"'] = .ok [] := by decide

theorem strSet_strStr (hq : QuotesOk Gen.Registry.stringQuotes) (pr : Char → Bool) (v : Str) :
    strSet pr (strStr pr v) = .ok v := by
  unfold strSet strStr
  by_cases hn : needsQuoting v = true
  · rw [if_pos hn]
    unfold strSetText
    rw [head_pyRepr, getLast_pyRepr]
    simp only
    have hc : Gen.Registry.stringQuotes.contains (reprQuote v) = true := by
      rcases reprQuote_cases v with h | h <;> rw [h]
      · exact hq.1
      · exact hq.2
    rw [if_neg (by simp; exact List.contains_iff_mem.mp hc |> fun h => by simpa using h)]
    rw [evalLit_pyRepr]; rfl
  · rw [if_neg hn]
    unfold strSetText
    cases hh : v.head? with
    | none =>
      have : v = [] := by cases v <;> simp_all
      subst this
      rw [evalLit_empty_quotes]; rfl
    | some a =>
      cases hl : v.getLast? with
      | none => cases v <;> simp_all
      | some b =>
        simp only
        have : a ≠ b ∨ ¬ Gen.Registry.stringQuotes.contains a = true := by
          by_cases hab : a = b
          · right
            intro hc
            apply hn
            unfold needsQuoting
            rw [hh, hl]
            subst hab
            simp
            right
            simpa using hc
          · left; exact hab
        rw [if_pos this, evalLit_pyRepr]; rfl

/-! ### integers -/

def IsDig (c : Char) : Prop := 48 ≤ c.toNat ∧ c.toNat ≤ 57

theorem digitChar_toNat (d : Nat) (h : d < 10) : (digitChar d).toNat = 48 + d := by
  unfold digitChar
  have : ∀ d, d < 10 → (Char.ofNat (48 + d)).toNat = 48 + d := by decide
  exact this d h

theorem digitChar_isDig (d : Nat) (h : d < 10) : IsDig (digitChar d) := by
  unfold IsDig; rw [digitChar_toNat d h]; omega

theorem isDigit_of_isDig {c : Char} (h : IsDig c) : isDigit c = true := by
  unfold IsDig Char.toNat at h
  simp only [isDigit, Bool.and_eq_true, decide_eq_true_eq, Char.le_def, UInt32.le_iff_toNat_le]
  exact h

theorem digitsVal_digits (xs : Str) (h : ∀ x ∈ xs, IsDig x) (b : Bool) (acc : Nat) :
    digitsVal b acc xs =
      if xs = [] then (if b then some acc else none)
      else some (xs.foldl (fun a d => a * 10 + (d.toNat - 48)) acc) := by
  induction xs generalizing b acc with
  | nil => simp [digitsVal]
  | cons c cs ih =>
    have hc := h c (by simp)
    simp only [digitsVal, isDigit_of_isDig hc, if_true]
    rw [ih (fun x hx => h x (by simp [hx]))]
    by_cases hcs : cs = []
    · subst hcs; simp
    · simp [hcs]

theorem natDigitsRev_isDig (f n : Nat) : ∀ x ∈ natDigitsRev f n, IsDig x := by
  induction f generalizing n with
  | zero => simp [natDigitsRev]
  | succ f ih =>
    intro x hx
    simp only [natDigitsRev, List.mem_cons] at hx
    rcases hx with rfl | hx
    · exact digitChar_isDig _ (by omega)
    · split at hx
      · simp at hx
      · exact ih _ x hx

theorem natDigitsRev_val (f n : Nat) (h : n < f) :
    (natDigitsRev f n).foldr (fun d a => a * 10 + (d.toNat - 48)) 0 = n := by
  induction f generalizing n with
  | zero => omega
  | succ f ih =>
    simp only [natDigitsRev, List.foldr_cons]
    rw [digitChar_toNat _ (by omega)]
    split
    · rename_i h0; simp; omega
    · rename_i h0
      rw [ih (n / 10) (by omega)]; omega

theorem natDigitsRev_ne_nil (f n : Nat) : natDigitsRev (f + 1) n ≠ [] := by
  simp [natDigitsRev]

theorem natStr_isDig (n : Nat) : ∀ x ∈ natStr n, IsDig x := by
  intro x hx
  unfold natStr at hx
  rw [List.mem_reverse] at hx
  exact natDigitsRev_isDig _ _ x hx

theorem natStr_ne_nil (n : Nat) : natStr n ≠ [] := by
  unfold natStr
  simp [natDigitsRev]

theorem digitsVal_natStr (n : Nat) : digitsVal false 0 (natStr n) = some n := by
  rw [digitsVal_digits _ (natStr_isDig n), if_neg (natStr_ne_nil n)]
  unfold natStr
  rw [List.foldl_reverse, natDigitsRev_val _ _ (by omega)]

/-! ### stripping -/

theorem dropWhile_id {α : Type} (p : α → Bool) (l : List α) (h : ∀ c, l.head? = some c → p c = false) :
    l.dropWhile p = l := by
  cases l with
  | nil => rfl
  | cons c cs => simp [List.dropWhile, h c rfl]

theorem lstripP_id (p : Char → Bool) (s : Str) (h : ∀ c, s.head? = some c → p c = false) :
    lstripP p s = s := dropWhile_id p s h

theorem rstripP_id (p : Char → Bool) (s : Str) (h : ∀ c, s.getLast? = some c → p c = false) :
    rstripP p s = s := by
  unfold rstripP
  rw [dropWhile_id p s.reverse (by intro c hc; rw [List.head?_reverse] at hc; exact h c hc)]
  simp

theorem dropWhile_head_not {α : Type} (p : α → Bool) (l : List α) (c : α) (h : (l.dropWhile p).head? = some c) : p c = false := by
  have := List.head?_dropWhile_not p l
  rw [h] at this; exact this

theorem rstripP_last (p : Char → Bool) (s : Str) (c : Char) (h : (rstripP p s).getLast? = some c) : p c = false := by
  unfold rstripP at h
  rw [List.getLast?_reverse] at h
  exact dropWhile_head_not p _ c h

theorem stripP_none (p : Char → Bool) (s : Str) (h : ∀ c ∈ s, p c = false) : rstripP p (lstripP p s) = s := by
  rw [lstripP_id p s (fun c hc => h c (List.mem_of_head? hc)),
    rstripP_id p s (fun c hc => h c (List.mem_of_getLast? hc))]

theorem pyInt_ascii (s : Str) (h : ∀ c ∈ s, c.toNat < 128) : pyInt s = pyIntAscii s := by
  unfold pyInt
  rw [if_pos (by rw [List.all_eq_true]; intro c hc; simpa using h c hc)]

theorem intStr_chars (v : Int) : ∀ c ∈ intStr v, IsDig c ∨ c = '-' := by
  intro c hc
  cases v with
  | ofNat n => exact .inl (natStr_isDig n c hc)
  | negSucc n => exact (List.mem_cons.mp hc).elim .inr fun h => .inl (natStr_isDig _ c h)

theorem pyInt_intStr (v : Int) : pyInt (intStr v) = some v := by
  have hch := intStr_chars v
  rw [pyInt_ascii _ fun c hc => (hch c hc).elim (fun h => by unfold IsDig at h; omega) (· ▸ by decide)]
  unfold pyIntAscii
  rw [stripP_none isIntBlank _ fun c hc =>
    (hch c hc).elim (fun h => by unfold IsDig at h; unfold isIntBlank; simp; omega) (· ▸ by decide)]
  cases v with
  | negSucc n =>
    show (digitsVal false 0 (natStr (n + 1))).map (fun k => - Int.ofNat k) = _
    rw [digitsVal_natStr]; rfl
  | ofNat n =>
    show (match natStr n with
      | '-' :: ds => (digitsVal false 0 ds).map fun k => - Int.ofNat k
      | '+' :: ds => (digitsVal false 0 ds).map Int.ofNat
      | ds => (digitsVal false 0 ds).map Int.ofNat) = _
    cases hs : natStr n with
    | nil => exact absurd hs (natStr_ne_nil n)
    | cons c cs =>
      have hc : IsDig c := natStr_isDig n c (by rw [hs]; simp)
      have h1 : c ≠ '-' := by intro e; subst e; revert hc; unfold IsDig; decide
      have h2 : c ≠ '+' := by intro e; subst e; revert hc; unfold IsDig; decide
      split
      · rename_i heq; exact absurd (List.cons.inj heq).1 h1
      · rename_i heq; exact absurd (List.cons.inj heq).1 h2
      · rw [← hs, digitsVal_natStr]; rfl

/-! ### lists -/

theorem splitP_no (p : Char → Bool) (a : Str) (h : ∀ x ∈ a, p x = false) : splitP p a = [a] := by
  induction a with
  | nil => rfl
  | cons x xs ih =>
    have hx := h x (by simp)
    simp only [splitP, hx, Bool.false_eq_true, if_false, ih (fun y hy => h y (by simp [hy]))]

theorem splitP_append (p : Char → Bool) (a rest : Str) (c : Char) (hc : p c = true) (h : ∀ x ∈ a, p x = false) :
    splitP p (a ++ c :: rest) = a :: splitP p rest := by
  induction a with
  | nil => simp [splitP, hc]
  | cons x xs ih =>
    have hx := h x (by simp)
    simp only [List.cons_append, splitP, hx, Bool.false_eq_true, if_false, ih (fun y hy => h y (by simp [hy]))]

theorem splitP_mem (p : Char → Bool) (s : Str) : ∀ w ∈ splitP p s, ∀ c ∈ w, c ∈ s ∧ p c = false := by
  induction s with
  | nil => intro w hw c hc; simp [splitP] at hw; subst hw; simp at hc
  | cons x xs ih =>
    have ih' : ∀ w ∈ splitP p xs, ∀ c ∈ w, c ∈ x :: xs ∧ p c = false :=
      fun w hw c hc => ⟨List.mem_cons_of_mem _ (ih w hw c hc).1, (ih w hw c hc).2⟩
    intro w hw c hc
    simp only [splitP] at hw
    split at hw
    · rcases List.mem_cons.mp hw with rfl | hw
      · simp at hc
      · exact ih' w hw c hc
    · rename_i hx
      have hxc : x ∈ x :: xs ∧ p x = false := ⟨List.mem_cons_self .., by simpa using hx⟩
      cases hsp : splitP p xs with
      | nil =>
        rw [hsp] at hw; simp at hw; subst hw
        simp at hc; subst hc; exact hxc
      | cons q qs =>
        rw [hsp] at hw ih'
        rcases List.mem_cons.mp hw with rfl | hw
        · rcases List.mem_cons.mp hc with rfl | hc
          · exact hxc
          · exact ih' q (by simp) c hc
        · exact ih' w (by simp [hw]) c hc

theorem splitP_pieces (p : Char → Bool) (s : Str) : ∀ w ∈ splitP p s, ∀ c ∈ w, p c = false :=
  fun w hw c hc => (splitP_mem p s w hw c hc).2

theorem splitP_sub (p : Char → Bool) (s : Str) : ∀ w ∈ splitP p s, ∀ c ∈ w, c ∈ s :=
  fun w hw c hc => (splitP_mem p s w hw c hc).1

theorem splitChar_eq_splitP (c : Char) (s : Str) : splitChar c s = splitP (fun x => x = c) s := by
  induction s with
  | nil => rfl
  | cons x xs ih =>
    simp only [splitChar, splitP, ih, decide_eq_true_eq]
    split
    · rfl
    · cases splitP (fun x => decide (x = c)) xs <;> rfl

theorem splitChar_no (c : Char) (a : Str) (h : ∀ x ∈ a, x ≠ c) : splitChar c a = [a] := by
  rw [splitChar_eq_splitP]; exact splitP_no _ a (fun x hx => decide_eq_false (h x hx))

theorem splitChar_append (c : Char) (a rest : Str) (h : ∀ x ∈ a, x ≠ c) :
    splitChar c (a ++ c :: rest) = a :: splitChar c rest := by
  rw [splitChar_eq_splitP, splitChar_eq_splitP]
  exact splitP_append _ a rest c (decide_eq_true rfl) (fun x hx => decide_eq_false (h x hx))

theorem splitChar_pieces (c : Char) (s : Str) : ∀ w ∈ splitChar c s, ∀ x ∈ w, x ≠ c := by
  rw [splitChar_eq_splitP]
  exact fun w hw x hx => of_decide_eq_false (splitP_pieces _ s w hw x hx)

/-- words: non-empty, free of the characters in `sep` -/
def Words (sep : Char → Bool) (ws : List Str) : Prop := ∀ w ∈ ws, w ≠ [] ∧ ∀ c ∈ w, sep c = false

theorem splitWs_go_word (w rest acc : Str) (h : ∀ c ∈ w, isSpace c = false) :
    splitWs.go (w ++ rest) acc = splitWs.go rest (w.reverse ++ acc) := by
  induction w generalizing acc with
  | nil => rfl
  | cons c cs ih =>
    have hc := h c (by simp)
    simp only [List.cons_append, splitWs.go, hc]
    have := ih (c :: acc) (fun x hx => h x (by simp [hx]))
    rw [this]; simp

theorem splitWs_go_words (xs : List Str) (h : Words isSpace xs) (hne : xs ≠ []) :
    splitWs.go (joinStr [' '] xs) [] = xs := by
  induction xs with
  | nil => exact absurd rfl hne
  | cons e es ih =>
    have he := h e (by simp)
    cases es with
    | nil =>
      simp only [joinStr]
      have := splitWs_go_word e [] [] he.2
      simp only [List.append_nil] at this
      rw [this]
      simp only [splitWs.go]
      have hne' : e.reverse ≠ [] := by simpa using he.1
      simp [he.1]
    | cons e2 es2 =>
      simp only [joinStr]
      rw [List.append_assoc, splitWs_go_word e _ [] he.2]
      simp only [List.append_nil, List.cons_append, List.nil_append, splitWs.go]
      have hsp : isSpace ' ' = true := by decide
      have hne' : e.reverse ≠ [] := by simpa using he.1
      simp only [hsp, if_true]
      rw [ih (fun x hx => h x (by simp [hx])) (by simp)]
      simp [he.1]

theorem space_roundtrip_aux (hj : Gen.Registry.spaceJoin = [' ']) (he : Gen.Registry.emptyListStr = [' '])
    (xs : List Str) (h : Words isSpace xs) :
    ListClass.splitter .space (ListClass.str .space xs) = xs := by
  unfold ListClass.splitter ListClass.str
  cases xs with
  | nil => simp [he, splitWs, splitWs.go]; decide
  | cons e es =>
    simp only [List.isEmpty_cons, Bool.false_eq_true, if_false, ListClass.joiner, hj]
    exact splitWs_go_words (e :: es) h (by simp)

/-- an element a comma separated list can carry: no comma, no blank at either end -/
def CommaElt (e : Str) : Prop := (∀ c ∈ e, c ≠ ',') ∧ lstrip e = e ∧ rstrip e = e

theorem lstrip_space_cons (e : Str) : lstrip (' ' :: e) = lstrip e := by
  unfold lstrip lstripP
  have : isSpace ' ' = true := by decide
  simp [List.dropWhile, this]

theorem splitChar_commaJoin (e : Str) (es : List Str) (h : ∀ x ∈ e :: es, CommaElt x) :
    splitChar ',' (joinStr [',', ' '] (e :: es)) = e :: es.map (' ' :: ·) := by
  induction es generalizing e with
  | nil =>
    simp only [joinStr, List.map_nil]
    exact splitChar_no ',' e (h e (by simp)).1
  | cons e2 es2 ih =>
    simp only [joinStr, List.map_cons]
    rw [List.append_assoc]
    simp only [List.cons_append, List.nil_append]
    rw [splitChar_append ',' e _ (h e (by simp)).1]
    have h2 : ∀ x ∈ e2 :: es2, CommaElt x := fun x hx => h x (by simp [hx])
    have := ih e2 h2
    have hsp : splitChar ',' (' ' :: joinStr [',', ' '] (e2 :: es2)) = (' ' :: e2) :: es2.map (' ' :: ·) := by
      simp only [splitChar, show ¬ ((' ' : Char) = ',') by decide, if_false, this]
    rw [hsp]

theorem commaPieces_rest (es : List Str) (h : ∀ x ∈ es, CommaElt x) :
    commaPieces false (es.map (' ' :: ·)) = es := by
  induction es with
  | nil => rfl
  | cons e es ih =>
    have he := h e (by simp)
    have ih' := ih (fun x hx => h x (by simp [hx]))
    cases es with
    | nil => simp [commaPieces, lstrip_space_cons, he.2.1]
    | cons e2 es2 =>
      simp only [List.map_cons] at ih' ⊢
      simp only [commaPieces, Bool.false_eq_true, if_false, lstrip_space_cons, he.2.1, he.2.2, ih']

theorem commaPieces_join (e : Str) (es : List Str) (h : ∀ x ∈ e :: es, CommaElt x) :
    commaPieces true (splitChar ',' (joinStr [',', ' '] (e :: es))) = e :: es := by
  rw [splitChar_commaJoin e es h]
  have hr := commaPieces_rest es (fun x hx => h x (by simp [hx]))
  cases es with
  | nil => simp [commaPieces]
  | cons e2 es2 =>
    simp only [List.map_cons] at hr ⊢
    simp only [commaPieces, if_true, (h e (by simp)).2.2, hr]

/-! ### the value tree: pure lookup, locality of assignments, inheritance -/

/-- what `getSpecific(network, channel)()` returns, read off a tree in which the nodes exist -/
def resolve {α : Type} (x : Var α) : Option Str → Option Str → Option α
  | some n, some c =>
    match findKey n x.nets, findKey c x.chans with
    | some nv, some cv =>
      (match findKey c nv.chans with
       | some ncv => some (if nv.wasSet || ncv.wasSet then ncv.value else cv.value)
       | none => none)
    | _, _ => none
  | some n, none => (findKey n x.nets).map (·.value)
  | none, some c => (findKey c x.chans).map (·.value)
  | none, none => some x.value

theorem keyEq_left {a b : Str} (h : keyEq a b = true) (q : Str) : keyEq a q = keyEq b q := by
  unfold keyEq at *; rw [of_decide_eq_true h]

theorem keyEq_right {a b : Str} (h : keyEq a b = true) (q : Str) : keyEq q a = keyEq q b := by
  unfold keyEq at *; rw [of_decide_eq_true h]

theorem keyEq_refl (a : Str) : keyEq a a = true := by simp [keyEq]

theorem keyEq_comm (a b : Str) : keyEq a b = keyEq b a := by
  unfold keyEq; exact decide_eq_decide.mpr eq_comm

theorem findKey_updKey {β : Type} (k q : Str) (f : β → β) (l : List (Str × β)) :
    findKey q (updKey k f l) = if keyEq k q then (findKey q l).map f else findKey q l := by
  induction l with
  | nil => simp only [updKey, findKey, Option.map_none, ite_self]
  | cons kv rest ih =>
    obtain ⟨k', v⟩ := kv
    simp only [updKey]
    by_cases hk : keyEq k' k = true
    · simp only [if_pos hk, findKey, keyEq_left hk q]
      cases keyEq k q <;> rfl
    · simp only [if_neg hk, findKey, ih]
      cases h1 : keyEq k' q
      · rfl
      · have hkq : keyEq k q = false := by
          rw [keyEq_comm, ← keyEq_left h1 k]; exact Bool.not_eq_true _ ▸ hk
        simp only [hkq, if_true, Bool.false_eq_true, if_false]

theorem findKey_updKey_ne {β : Type} (k q : Str) (f : β → β) (l : List (Str × β))
    (h : keyEq k q = false) : findKey q (updKey k f l) = findKey q l := by
  rw [findKey_updKey, h]; rfl

theorem findKey_updKey_eq {β : Type} (k q : Str) (f : β → β) (l : List (Str × β))
    (h : keyEq k q = true) : findKey q (updKey k f l) = (findKey q l).map f := by
  rw [findKey_updKey, h]; rfl

theorem findKey_congr {β : Type} (n q : Str) (l : List (Str × β)) (h : keyEq n q = true) :
    findKey n l = findKey q l := by
  induction l with
  | nil => rfl
  | cons kv rest ih => simp only [findKey, keyEq_right h, ih]

theorem findKey_map {β : Type} (q : Str) (g : β → β) (l : List (Str × β)) :
    findKey q (l.map fun kv => (kv.1, g kv.2)) = (findKey q l).map g := by
  induction l with
  | nil => rfl
  | cons kv rest ih =>
    obtain ⟨k', v⟩ := kv
    simp only [List.map_cons, findKey]
    split
    · rfl
    · exact ih

/-- does an assignment at `w` concern the probe `(n, c)`? -/
def affects : Where → Option Str → Option Str → Bool
  | .base, _, _ => true
  | .net n, some n', _ => keyEq n n'
  | .net _, none, _ => false
  | .chan c, _, some c' => keyEq c c'
  | .chan _, _, none => false
  | .netChan n c, some n', some c' => keyEq n n' && keyEq c c'
  | .netChan _ _, _, _ => false

theorem resolve_assign_local {α : Type} (x : Var α) (w : Where) (v : α) (inh : Bool)
    (n c : Option Str) (h : affects w n c = false) :
    resolve (x.assign w v inh) n c = resolve x n c := by
  cases w with
  | base => simp [affects] at h
  | net n0 =>
    cases n with
    | none => cases c <;> simp [Var.assign, resolve]
    | some n' =>
      have hk : keyEq n0 n' = false := by simpa [affects] using h
      cases c <;> simp [Var.assign, resolve, findKey_updKey_ne _ _ _ _ hk]
  | chan c0 =>
    cases c with
    | none => cases n <;> simp [Var.assign, resolve]
    | some c' =>
      have hk : keyEq c0 c' = false := by simpa [affects] using h
      cases n <;> simp [Var.assign, resolve, findKey_updKey_ne _ _ _ _ hk]
  | netChan n0 c0 =>
    cases n with
    | none => cases c <;> simp [Var.assign, resolve]
    | some n' =>
      by_cases hn : keyEq n0 n' = true
      · cases c with
        | none =>
          simp only [Var.assign, resolve, findKey_updKey_eq _ _ _ _ hn, Option.map_map]
          rfl
        | some c' =>
          have hk : keyEq c0 c' = false := by
            cases hc : keyEq c0 c' with
            | false => rfl
            | true => simp [affects, hn, hc] at h
          simp only [Var.assign, resolve, findKey_updKey_eq _ _ _ _ hn]
          cases findKey n' x.nets with
          | none => rfl
          | some nv =>
            cases findKey c' x.chans with
            | none => rfl
            | some cv => simp only [Option.map_some, findKey_updKey_ne _ _ _ _ hk]
      · have hn' : keyEq n0 n' = false := by simpa using hn
        cases c <;> simp [Var.assign, resolve, findKey_updKey_ne _ _ _ _ hn']

/-- every node on the path of the probe exists and none of them was set explicitly -/
def UnsetPath {α : Type} (x : Var α) : Option Str → Option Str → Prop
  | some n, some c =>
    ∃ nv ncv cv, findKey n x.nets = some nv ∧ findKey c nv.chans = some ncv ∧ findKey c x.chans = some cv ∧
      nv.wasSet = false ∧ ncv.wasSet = false ∧ cv.wasSet = false
  | some n, none => ∃ nv, findKey n x.nets = some nv ∧ nv.wasSet = false
  | none, some c => ∃ cv, findKey c x.chans = some cv ∧ cv.wasSet = false
  | none, none => True

theorem findKey_inherit_chans {α : Type} (q : Str) (v : α) (l : List (Str × Leaf α)) :
    findKey q (l.map fun kl => (kl.1, kl.2.inherit v)) = (findKey q l).map (Leaf.inherit v) :=
  findKey_map q (Leaf.inherit v) l

theorem findKey_inherit_nets {α : Type} (q : Str) (v : α) (l : List (Str × Net α)) :
    findKey q (l.map fun kn => (kn.1, kn.2.inherit v)) = (findKey q l).map (Net.inherit v) :=
  findKey_map q (Net.inherit v) l

theorem resolve_setV_follow {α : Type} (x : Var α) (v : α) (inh : Bool) (n c : Option Str)
    (h : UnsetPath x n c) : resolve (x.setV v inh) n c = some v := by
  cases n with
  | none =>
    cases c with
    | none => rfl
    | some c' =>
      obtain ⟨cv, h1, h2⟩ := h
      simp only [resolve, Var.setV, findKey_inherit_chans, h1, Option.map_some]
      simp [Leaf.inherit, h2, Leaf.setV]
  | some n' =>
    cases c with
    | none =>
      obtain ⟨nv, h1, h2⟩ := h
      simp only [resolve, Var.setV, findKey_inherit_nets, h1, Option.map_some]
      simp [Net.inherit, h2, Net.setV]
    | some c' =>
      obtain ⟨nv, ncv, cv, h1, h2, h3, h4, h5, h6⟩ := h
      simp only [resolve, Var.setV, findKey_inherit_nets, findKey_inherit_chans, h1, h3, Option.map_some]
      simp only [Net.inherit, h4, Bool.false_eq_true, if_false, Net.setV, findKey_inherit_chans, h2, Option.map_some]
      simp [Leaf.inherit, h5, h6, Leaf.setV]

theorem findKey_append {β : Type} (q k : Str) (v : β) (l : List (Str × β)) :
    findKey q (l ++ [(k, v)]) =
      match findKey q l with
      | some r => some r
      | none => if keyEq k q then some v else none := by
  induction l with
  | nil => simp [findKey]
  | cons kv rest ih =>
    obtain ⟨k', v'⟩ := kv
    simp only [List.cons_append, findKey]
    split
    · rfl
    · exact ih

theorem findKey_append_none {β : Type} (q : Str) (l : List (Str × β)) (k : Str) (v : β)
    (h : findKey q l = none) (hk : keyEq k q = false) : findKey q (l ++ [(k, v)]) = none := by
  simp [findKey_append, h, hk]

theorem findKey_append_last {β : Type} (n : Str) (l : List (Str × β)) (a : β) (h : findKey n l = none) :
    findKey n (l ++ [(n, a)]) = some a := by
  simp [findKey_append, h, keyEq_refl]

def ExtL {β : Type} (l l' : List (Str × β)) : Prop := ∀ q r, findKey q l = some r → findKey q l' = some r

theorem ExtL.refl {β : Type} (l : List (Str × β)) : ExtL l l := fun _ _ h => h

theorem ExtL.append {β : Type} (l : List (Str × β)) (k : Str) (v : β) : ExtL l (l ++ [(k, v)]) := by
  intro q r h; simp [findKey_append, h]

/-- `base.get(c)`: a returned node is the one now stored under `c`; nothing else moved -/
theorem getChan_spec {α : Type} (C : Cls α) (B : Str) (cache : Cache) (x x' : Var α) (c : Str)
    {r : Option (Leaf α)} (h : x.getChan C B cache c = (x', r)) :
    (∀ l, r = some l → findKey c x'.chans = some l) ∧ x'.nets = x.nets ∧ x'.value = x.value ∧
      x'.wasSet = x.wasSet ∧ ExtL x.chans x'.chans := by
  unfold Var.getChan at h
  split at h
  · rename_i l0 h0
    cases h; exact ⟨fun l e => by cases e; exact h0, rfl, rfl, rfl, ExtL.refl _⟩
  · rename_i h0
    split at h
    · cases h; exact ⟨nofun, rfl, rfl, rfl, ExtL.refl _⟩
    · cases h
      refine ⟨fun l e => ?_, rfl, rfl, rfl, ExtL.append _ _ _⟩
      split at e
      · cases e
      · cases e; exact findKey_append_last _ _ _ h0

theorem getNet_spec {α : Type} (C : Cls α) (B : Str) (cache : Cache) (x x' : Var α) (n : Str)
    {r : Option (Net α)} (h : x.getNet C B cache n = (x', r)) :
    (∀ nv, r = some nv → findKey n x'.nets = some nv) ∧ x'.chans = x.chans ∧ x'.value = x.value ∧
      x'.wasSet = x.wasSet ∧ ExtL x.nets x'.nets := by
  unfold Var.getNet at h
  split at h
  · rename_i l0 h0
    cases h; exact ⟨fun l e => by cases e; exact h0, rfl, rfl, rfl, ExtL.refl _⟩
  · rename_i h0
    split at h
    · cases h; exact ⟨nofun, rfl, rfl, rfl, ExtL.refl _⟩
    · cases h
      refine ⟨fun l e => ?_, rfl, rfl, rfl, ExtL.append _ _ _⟩
      split at e
      · cases e
      · cases e; exact findKey_append_last _ _ _ h0

theorem netGetChan_spec {α : Type} (C : Cls α) (NB : Str) (cache : Cache) (nv nv' : Net α) (c : Str)
    {r : Option (Leaf α)} (h : nv.getChan C NB cache c = (nv', r)) :
    (∀ l, r = some l → findKey c nv'.chans = some l) ∧ nv'.value = nv.value ∧ nv'.wasSet = nv.wasSet ∧
      ExtL nv.chans nv'.chans := by
  unfold Net.getChan at h
  split at h
  · rename_i l0 h0
    cases h; exact ⟨fun l e => by cases e; exact h0, rfl, rfl, ExtL.refl _⟩
  · rename_i h0
    split at h
    · cases h; exact ⟨nofun, rfl, rfl, ExtL.refl _⟩
    · cases h
      refine ⟨fun l e => ?_, rfl, rfl, ExtL.append _ _ _⟩
      split at e
      · cases e
      · cases e; exact findKey_append_last _ _ _ h0

/-! ### reaching a node only adds children -/

/-- `x'` has every node of `x`, with the same value and `_wasSet` -/
def Extends {α : Type} (x x' : Var α) : Prop :=
  x'.value = x.value ∧ x'.wasSet = x.wasSet ∧ ExtL x.chans x'.chans ∧
  (∀ q nv, findKey q x.nets = some nv → ∃ nv', findKey q x'.nets = some nv' ∧
      nv'.value = nv.value ∧ nv'.wasSet = nv.wasSet ∧ ExtL nv.chans nv'.chans)

theorem Extends.refl {α : Type} (x : Var α) : Extends x x :=
  ⟨rfl, rfl, ExtL.refl _, fun _ nv h => ⟨nv, h, rfl, rfl, ExtL.refl _⟩⟩

theorem Extends.trans {α : Type} {x y z : Var α} (h1 : Extends x y) (h2 : Extends y z) : Extends x z := by
  refine ⟨h2.1.trans h1.1, h2.2.1.trans h1.2.1, fun q r h => h2.2.2.1 q r (h1.2.2.1 q r h), ?_⟩
  intro q nv h
  obtain ⟨nv', a1, a2, a3, a4⟩ := h1.2.2.2 q nv h
  obtain ⟨nv'', b1, b2, b3, b4⟩ := h2.2.2.2 q nv' a1
  exact ⟨nv'', b1, b2.trans a2, b3.trans a3, fun q' r hr => b4 q' r (a4 q' r hr)⟩

theorem getChan_extends {α : Type} (C : Cls α) (B : Str) (cache : Cache) (x : Var α) (c : Str) :
    Extends x (x.getChan C B cache c).1 := by
  obtain ⟨_, h1, h2, h3, h4⟩ :=
    getChan_spec C B cache x (x.getChan C B cache c).1 c (r := (x.getChan C B cache c).2) rfl
  exact ⟨h2, h3, h4, fun q nv hq => ⟨nv, h1.symm ▸ hq, rfl, rfl, ExtL.refl _⟩⟩

theorem getNet_extends {α : Type} (C : Cls α) (B : Str) (cache : Cache) (x : Var α) (n : Str) :
    Extends x (x.getNet C B cache n).1 := by
  obtain ⟨_, h1, h2, h3, h4⟩ :=
    getNet_spec C B cache x (x.getNet C B cache n).1 n (r := (x.getNet C B cache n).2) rfl
  exact ⟨h2, h3, h1.symm ▸ ExtL.refl _, fun q nv hq => ⟨nv, h4 q nv hq, rfl, rfl, ExtL.refl _⟩⟩

/-- `base.get(':' + n).get(c)`: the returned nodes are stored under `n` and, below it, `c` -/
theorem getNetChan_spec {α : Type} (C : Cls α) (B : Str) (cache : Cache) (x x' : Var α) (n c : Str)
    {r : Option (Net α × Leaf α)} (h : x.getNetChan C B cache n c = (x', r)) :
    (∀ nv l, r = some (nv, l) → findKey n x'.nets = some nv ∧ findKey c nv.chans = some l) ∧
      x'.chans = x.chans ∧ Extends x x' := by
  unfold Var.getNetChan at h
  have e1 := getNet_extends C B cache x n
  split at h
  · rename_i x1 h1
    rw [h1] at e1; cases h
    exact ⟨nofun, (getNet_spec C B cache x _ n h1).2.1, e1⟩
  · rename_i x1 nv0 h1
    rw [h1] at e1
    have s1 := getNet_spec C B cache x x1 n h1
    split at h
    rename_i nv1 r0 h2
    have e2 := netGetChan_spec C _ cache nv0 nv1 c h2
    cases h
    refine ⟨fun nv l hr => ?_, s1.2.1, Extends.trans e1 ⟨rfl, rfl, ExtL.refl _, fun q nvq hq => ?_⟩⟩
    · cases r0 with
      | none => cases hr
      | some l0 =>
        cases hr
        refine ⟨?_, e2.1 _ rfl⟩
        simp only
        rw [findKey_updKey_eq n n _ _ (keyEq_refl n), s1.1 nv0 rfl]; rfl
    · by_cases hk : keyEq n q = true
      · have hq0 : findKey q x1.nets = some nv0 := by rw [← findKey_congr n q _ hk]; exact s1.1 nv0 rfl
        rw [hq] at hq0; cases hq0
        refine ⟨nv1, ?_, e2.2.1, e2.2.2.1, e2.2.2.2⟩
        simp only; rw [findKey_updKey_eq n q _ _ hk, hq]; rfl
      · have hk' : keyEq n q = false := by simpa using hk
        exact ⟨nvq, by simp only; rw [findKey_updKey_ne n q _ _ hk']; exact hq, rfl, rfl, ExtL.refl _⟩

theorem getNetChan_extends {α : Type} (C : Cls α) (B : Str) (cache : Cache) (x : Var α) (n c : Str) :
    Extends x (x.getNetChan C B cache n c).1 :=
  (getNetChan_spec C B cache x (x.getNetChan C B cache n c).1 n c (r := (x.getNetChan C B cache n c).2) rfl).2.2

theorem getSpecific_resolve {α : Type} (C : Cls α) (K : Kind) (B : Str) (s s' : St α)
    (network channel : Option Str) (netOk chanOk : Bool) (v : α)
    (h : getSpecific C K B s network channel netOk chanOk = (s', .val v)) :
    resolve s'.var (if netOk then network else none) (if chanOk then channel else none) = some v ∧
      s'.cache = s.cache := by
  unfold getSpecific at h
  split at h
  · simp at h
  · split at h
    · simp at h
    · simp only at h
      generalize (if chanOk = true then channel else none) = ch at h ⊢
      generalize (if netOk = true then network else none) = nw at h ⊢
      cases nw with
      | none =>
        cases ch with
        | none =>
          cases h
          exact ⟨rfl, rfl⟩
        | some c =>
          simp only at h
          split at h
          · simp at h
          · rename_i x1 l h1
            cases h
            have sp := getChan_spec C B s.cache s.var x1 c h1
            exact ⟨by simp [resolve, sp.1 l rfl], rfl⟩
      | some n =>
        cases ch with
        | none =>
          simp only at h
          split at h
          · simp at h
          · rename_i x1 nv h1
            cases h
            have sp := getNet_spec C B s.cache s.var x1 n h1
            exact ⟨by simp [resolve, sp.1 nv rfl], rfl⟩
        | some c =>
          simp only at h
          split at h
          · simp at h
          · rename_i x1 nv ncv h1
            split at h
            · simp at h
            · rename_i x2 cv h2
              cases h
              have sp1 := (getNetChan_spec C B s.cache s.var x1 n c h1).1 nv ncv rfl
              have sp2 := getChan_spec C B s.cache x1 x2 c h2
              refine ⟨?_, rfl⟩
              simp only [resolve, sp2.2.1, sp1.1, sp2.1 cv rfl, sp1.2]

theorem reach_extends {α : Type} (C : Cls α) (B : Str) (cache : Cache) (x : Var α) (w : Where) :
    Extends x (x.reach C B cache w).1 := by
  cases w with
  | base => exact Extends.refl x
  | net n =>
    have := getNet_extends C B cache x n
    simp only [Var.reach]; exact this
  | chan c =>
    have := getChan_extends C B cache x c
    simp only [Var.reach]; exact this
  | netChan n c =>
    have := getNetChan_extends C B cache x n c
    simp only [Var.reach]; exact this

theorem resolve_of_extends {α : Type} {x x' : Var α} (h : Extends x x') (n c : Option Str) (a : α)
    (hr : resolve x n c = some a) : resolve x' n c = some a := by
  obtain ⟨hv, _, hc, hn⟩ := h
  cases n with
  | none =>
    cases c with
    | none => simp only [resolve] at hr ⊢; rw [hv]; exact hr
    | some c' =>
      simp only [resolve] at hr ⊢
      obtain ⟨l, hl, rfl⟩ := Option.map_eq_some_iff.mp hr
      rw [hc c' l hl]; rfl
  | some n' =>
    cases c with
    | none =>
      simp only [resolve] at hr ⊢
      obtain ⟨nv, hf, rfl⟩ := Option.map_eq_some_iff.mp hr
      obtain ⟨nv', h1, h2, _, _⟩ := hn n' nv hf
      rw [h1]; exact congrArg some h2
    | some c' =>
      simp only [resolve] at hr ⊢
      split at hr
      · rename_i nv cv hf hg
        split at hr
        · rename_i ncv hh
          obtain ⟨nv', h1, _, h3, h4⟩ := hn n' nv hf
          rw [h1, hc c' cv hg]; simp only [h4 c' ncv hh, h3]; exact hr
        · cases hr
      · cases hr
theorem setText_done {α : Type} (C : Cls α) (B : Str) (s s' : St α) (w : Where) (text : Str)
    (h : setText C B s w text = (s', .done)) :
    ∃ cur v, (s.var.reach C B s.cache w).2 = some cur ∧ C.set cur text = .ok v ∧
      s' = ⟨(s.var.reach C B s.cache w).1.assign w v false, s.cache⟩ := by
  unfold setText at h
  split at h
  · simp at h
  · rename_i x1 cur hr
    split at h
    · rename_i v hv
      simp only [Prod.mk.injEq, and_true] at h
      exact ⟨cur, v, by rw [hr], hv, by rw [hr]; exact h.symm⟩
    · simp at h
    · simp at h

theorem setText_not_done {α : Type} (C : Cls α) (B : Str) (s : St α) (w : Where) (text : Str)
    (h : (setText C B s w text).2 ≠ .done) :
    (setText C B s w text).1 = ⟨(s.var.reach C B s.cache w).1, s.cache⟩ := by
  unfold setText at h ⊢
  split
  · rename_i x1 hr; rw [hr]
  · rename_i x1 cur hr
    rw [hr] at h ⊢
    simp only at h ⊢
    split
    · rename_i v hv; rw [hv] at h; simp at h
    · rfl
    · rfl

/-- a class whose `set` undoes its `__str__` on the value `v` -/
def Reparses {α : Type} (C : Cls α) (v : α) : Prop := C.set C.dflt (C.str v) = .ok v

theorem mkValue_inherits {α : Type} (C : Cls α) (cache : Cache) (full : Str) (v : α)
    (hr : Reparses C v) (hc : cacheGet cache full = none) :
    mkValue C cache full v = .made (v, false) false := by
  unfold mkValue
  unfold Reparses at hr
  rw [hr]
  simp only [hc]

/-! ### the file: lines -/

def NoNL (l : Str) : Prop := ∀ x ∈ l, x ≠ '\n' ∧ x ≠ '\r'

def linesText (ls : List Str) : Str := (ls.map (· ++ ['\n'])).flatten

theorem splitChar_lines (ls : List Str) (h : ∀ l ∈ ls, NoNL l) :
    splitChar '\n' (linesText ls) = ls ++ [[]] := by
  induction ls with
  | nil => rfl
  | cons l rest ih =>
    have hl := h l (by simp)
    simp only [linesText, List.map_cons, List.flatten_cons] at ih ⊢
    rw [List.append_assoc]
    simp only [List.cons_append, List.nil_append]
    rw [splitChar_append '\n' l _ (fun x hx => (hl x hx).1)]
    rw [ih (fun l' hl' => h l' (by simp [hl']))]

theorem linesText_noCR (ls : List Str) (h : ∀ l ∈ ls, NoNL l) : ∀ x ∈ linesText ls, x ≠ '\r' := by
  intro x hx
  simp only [linesText, List.mem_flatten, List.mem_map] at hx
  obtain ⟨_, ⟨l, hl, rfl⟩, hx⟩ := hx
  rw [List.mem_append] at hx
  rcases hx with hx | hx
  · exact (h l hl x hx).2
  · simp at hx; subst hx; decide

theorem fileLines_lines (ls : List Str) (h : ∀ l ∈ ls, NoNL l) : fileLines (linesText ls) = ls ++ [[]] := by
  unfold fileLines normNL
  rw [normNLAux_noCR _ (linesText_noCR ls h), splitChar_lines ls h]

theorem linesText_append (a b : List Str) : linesText (a ++ b) = linesText a ++ linesText b := by
  simp [linesText]

/-! ### trailing backslashes of the encoder's output -/

theorem takeWhile_append_stop {α : Type} (p : α → Bool) (a b : List α)
    (hb : ∀ x, b.head? = some x → p x = false) :
    ((a ++ b).takeWhile p).length = (a.takeWhile p).length := by
  induction a with
  | nil =>
    cases b with
    | nil => rfl
    | cons x xs => simp [List.takeWhile, hb x rfl]
  | cons x xs ih =>
    simp only [List.cons_append, List.takeWhile]
    split
    · simp [ih]
    · rfl

/-- an even number of trailing backslashes: the line does not continue -/
def EvenTail (l : Str) : Prop := (l.reverse.takeWhile (· = '\\')).length % 2 = 0

theorem evenTail_prefix (pre l : Str) (hp : ∀ x, pre.getLast? = some x → x ≠ '\\') (hl : EvenTail l) : EvenTail (pre ++ l) := by
  unfold EvenTail at *
  rw [List.reverse_append, takeWhile_append_stop _ _ _ (by
    intro x hx; rw [List.head?_reverse] at hx; simpa using hp x hx)]
  exact hl

theorem encChar_last (c : Char) (h : c ≠ '\\') : ∀ z, (encChar c).getLast? = some z → z ≠ '\\' := by
  intro z hz
  rcases encChar_cases c with ⟨e, _⟩ | ⟨_, y, w, e, hw⟩ | ⟨_, _, e⟩
  · exact absurd e h
  · rw [e, List.getLast?_cons_cons] at hz
    exact ne_of_not (hw z (List.mem_of_getLast? hz)) (by decide)
  · rw [e] at hz; cases hz; exact h

/-- a saved value never ends in a line continuation -/
theorem encodeUE_evenTail (t : Str) : EvenTail (encodeUE t) := by
  -- induction on the reversed input
  have key : ∀ r : Str, ((encodeUE r.reverse).reverse.takeWhile (· = '\\')).length % 2 = 0 := by
    intro r
    induction r with
    | nil => rfl
    | cons c cs ih =>
      have : encodeUE (c :: cs).reverse = encodeUE cs.reverse ++ encChar c := by
        simp [encodeUE]
      rw [this, List.reverse_append]
      by_cases hc : c = '\\'
      · subst hc
        have : (encChar '\\').reverse = ['\\', '\\'] := by decide
        rw [this]
        simp only [List.cons_append, List.nil_append, List.takeWhile, decide_true, List.length_cons]
        omega
      · cases he : (encChar c).reverse with
        | nil => exact absurd (List.reverse_eq_nil_iff.mp he) (encChar_ne_nil c)
        | cons z zs =>
          have hz := encChar_last c hc z (by rw [← List.head?_reverse, he]; rfl)
          simp [hz]
  have := key t.reverse
  simpa [EvenTail] using this

/-! ### the reader on one value line -/

/-- is the position after the text escaped?  (a backslash escapes exactly the next character) -/
def escEnd : Bool → Str → Bool
  | esc, [] => esc
  | esc, c :: cs => escEnd (!esc && c = '\\') cs

/-- names `registry.close` can write without confusing the reader: printable ASCII without blank,
not starting with `#`, every backslash escaping a character of the name (what `escape` produces) -/
def GoodName (n : Str) : Prop :=
  n ≠ [] ∧ (∀ x ∈ n, Plain x ∧ x ≠ ' ') ∧ n.head? ≠ some '#' ∧ escEnd false n = false

theorem plain_not_crlf {x : Char} (h : Plain x) : isCRLF x = false := by
  simp [isCRLF, ne_of_not h (by decide : ¬ Plain '\r'), ne_of_not h (by decide : ¬ Plain '\n')]

theorem plain_nospace {x : Char} (h : Plain x) (h2 : x ≠ ' ') : isSpace x = false := by
  unfold Plain at h
  have hn : x.toNat ≠ 32 := fun e => h2 (Char.toNat_inj.mp (by rw [e]; decide))
  unfold isSpace
  simp
  omega

theorem splitKV_name (nm ser : Str) (pb : Bool) (h1 : ∀ x ∈ nm, x ≠ ' ') (h2 : escEnd pb nm = false) :
    splitKV pb (nm ++ ':' :: ' ' :: ser) = some (nm, ser) := by
  induction nm generalizing pb with
  | nil =>
    simp only [escEnd] at h2
    subst h2
    simp [splitKV]
  | cons c cs ih =>
    simp only [List.cons_append, splitKV]
    have hnext : (cs ++ ':' :: ' ' :: ser).head? ≠ some ' ' := by
      cases cs with
      | nil => simp
      | cons d ds => simp; exact h1 d (by simp)
    rw [if_neg (by intro hh; exact hnext hh.2.2)]
    simp only [escEnd] at h2
    rw [ih _ (fun x hx => h1 x (by simp [hx])) h2]

/-- a value line without its LF -/
def valueContent (name ser : Str) : Str := name ++ ':' :: ' ' :: ser

theorem valueLine_eq (name ser : Str) : valueLine name ser = valueContent name ser ++ ['\n'] := by
  simp [valueLine, valueContent]

theorem mem_dropWhile_of_not {α : Type} (p : α → Bool) (l : List α) (x : α) (hx : x ∈ l) (hp : p x = false) :
    x ∈ l.dropWhile p := by
  induction l with
  | nil => simp at hx
  | cons a as ih =>
    simp only [List.dropWhile]
    split
    · rename_i ha
      rcases List.mem_cons.mp hx with rfl | hx'
      · rw [hp] at ha; simp at ha
      · exact ih hx'
    · exact hx

theorem keepLine_of (l : Str) (h1 : l.head? ≠ some '#') (x : Char) (hx : x ∈ l) (hs : isSpace x = false) : keepLine l = true := by
  unfold keepLine
  have h2 : strip l ≠ [] := by
    unfold strip rstripP
    intro e
    have hm : x ∈ lstripP isSpace l := mem_dropWhile_of_not isSpace l x hx hs
    have := mem_dropWhile_of_not isSpace (lstripP isSpace l).reverse x (by simpa using hm) hs
    rw [List.reverse_eq_nil_iff.mp e] at this
    cases this
  simp [h1, h2]

theorem content_plain (name ser : Str) (hn : GoodName name) (hp : ∀ x ∈ ser, Plain x) :
    ∀ x ∈ valueContent name ser, Plain x := by
  intro x hx
  simp only [valueContent, List.mem_append, List.mem_cons] at hx
  rcases hx with hx | rfl | rfl | hx
  · exact (hn.2.1 x hx).1
  · decide
  · decide
  · exact hp x hx

theorem keepLine_content (name ser : Str) (hn : GoodName name) :
    keepLine (valueContent name ser) = true := by
  obtain ⟨hne, hall, hh, _⟩ := hn
  cases name with
  | nil => exact absurd rfl hne
  | cons c cs =>
    have hc := hall c (by simp)
    exact keepLine_of _ (by simpa [valueContent] using hh) c (by simp [valueContent]) (plain_nospace hc.1 hc.2)

theorem readLoop_final (acc line : Str) (rest : List Str) (name ser t : Str) (hn : GoodName name)
    (hacc : acc ++ line = valueContent name ser) (hpl : ∀ x ∈ line, Plain x) (he : EvenTail line)
    (hps : ∀ x ∈ ser, Plain x) (hd : decodeUE ser = .ok t) :
    readLoop acc (line :: rest) = (readLoop [] rest).cons (name, t) := by
  have h1 : rstripCRLF line = line :=
    rstripP_id _ _ (fun c hc => plain_not_crlf (hpl c (List.mem_of_getLast? hc)))
  have h2 : oddTrailingBackslashes line = false := by
    unfold oddTrailingBackslashes; unfold EvenTail at he; simp; omega
  have h3 : splitKV false (valueContent name ser) = some (name, ser) :=
    splitKV_name name ser false (fun x hx => (hn.2.1 x hx).2) hn.2.2.2
  have h4 : stripCRLF ser = ser := stripP_none isCRLF ser (fun c hc => plain_not_crlf (hps c hc))
  have h5 : strip name = name :=
    stripP_none isSpace name (fun c hc => plain_nospace (hn.2.1 c hc).1 (hn.2.1 c hc).2)
  simp only [readLoop, h1, h2, Bool.false_eq_true, if_false, hacc, h3, h4, hd, h5]

theorem readLoop_value (name ser t : Str) (rest : List Str) (hn : GoodName name)
    (hp : ∀ x ∈ ser, Plain x) (he : EvenTail ser) (hd : decodeUE ser = .ok t) :
    readLoop [] (valueContent name ser :: rest) = (readLoop [] rest).cons (name, t) := by
  have hpre : ∀ x, (name ++ [':', ' ']).getLast? = some x → x ≠ '\\' := by
    intro x hx; rw [List.getLast?_append] at hx; cases hx; decide
  exact readLoop_final [] _ rest name ser t hn rfl (content_plain name ser hn hp)
    (by simpa [valueContent] using evenTail_prefix _ ser hpre he) hp hd

/-! ### the file: a header and one unit per value -/

/-- a line of the file the reader skips (a `#` comment or a blank line), without its LF -/
def SkipLine (l : Str) : Prop := NoNL l ∧ keepLine l = false

def headerLines (h : Str) : List Str := (splitChar '\n' h).dropLast

/-- the extracted `CONF_FILE_HEADER` consists of complete comment / blank lines -/
def HeaderOk (h : Str) : Prop := linesText (headerLines h) = h ∧ ∀ l ∈ headerLines h, SkipLine l

/-- what one saved value contributes to the file (lines without their LF): the help block, which
the reader skips, then the physical lines it turns into the cache entry `(name, text)` -/
structure RUnit where
  help : List Str
  name : Str
  phys : List Str
  text : Str

def RUnit.lines (u : RUnit) : List Str := u.help ++ u.phys

def RUnitOk (u : RUnit) : Prop :=
  (∀ l ∈ u.help, SkipLine l) ∧ (∀ l ∈ u.phys, keepLine l = true ∧ NoNL l) ∧
  ∀ rest, readLoop [] (u.phys ++ rest) = (readLoop [] rest).cons (u.name, u.text)

theorem readLoop_units (us : List RUnit) (h : ∀ u ∈ us, RUnitOk u) :
    readLoop [] (us.flatMap (·.phys)) = .ok (us.map fun u => (u.name, u.text)) := by
  induction us with
  | nil => rfl
  | cons u rest ih =>
    simp only [List.flatMap_cons, List.map_cons]
    rw [(h u (by simp)).2.2, ih (fun u' hu' => h u' (by simp [hu']))]
    rfl

theorem read_units (hdr : Str) (hh : HeaderOk hdr) (us : List RUnit) (h : ∀ u ∈ us, RUnitOk u) :
    readRegistry (hdr ++ linesText (us.flatMap RUnit.lines)) = .ok (us.map fun u => (u.name, u.text)) := by
  have hkeep : (us.flatMap RUnit.lines).filter keepLine = us.flatMap (·.phys) := by
    induction us with
    | nil => rfl
    | cons u rest ih =>
      obtain ⟨h1, h2, _⟩ := h u (by simp)
      simp only [List.flatMap_cons, RUnit.lines, List.filter_append, ih (fun u' hu' => h u' (by simp [hu']))]
      rw [List.filter_eq_nil_iff.mpr (fun l hl => by simp [(h1 l hl).2]),
        List.filter_eq_self.mpr (fun l hl => (h2 l hl).1)]
      rfl
  have hnl : ∀ l ∈ headerLines hdr ++ us.flatMap RUnit.lines, NoNL l := by
    intro l hl
    simp only [List.mem_append, List.mem_flatMap, RUnit.lines] at hl
    rcases hl with hl | ⟨u, hu, hl | hl⟩
    · exact (hh.2 l hl).1
    · exact ((h u hu).1 l hl).1
    · exact ((h u hu).2.1 l hl).2
  have hhdr : (headerLines hdr).filter keepLine = [] :=
    List.filter_eq_nil_iff.mpr (fun l hl => by simp [(hh.2 l hl).2])
  have htext : hdr ++ linesText (us.flatMap RUnit.lines) = linesText (headerLines hdr ++ us.flatMap RUnit.lines) := by
    rw [linesText_append, hh.1]
  rw [htext]
  unfold readRegistry
  rw [fileLines_lines _ hnl, List.filter_append, List.filter_append, hhdr, hkeep,
    show [([] : Str)].filter keepLine = [] by decide, List.nil_append, List.append_nil]
  exact readLoop_units us h

theorem entry_text (help : List Str) (name ser : Str) (phys : List Str) (h : valueLine name ser = linesText phys) :
    (⟨help.map (· ++ ['\n']), name, ser⟩ : Entry).text = linesText (help ++ phys) := by
  rw [linesText_append, ← h]; rfl

theorem valueLine_single (name ser : Str) : valueLine name ser = linesText [valueContent name ser] := by
  simp [valueLine, valueContent, linesText]

theorem skip_of_hash (l : Str) (h : NoNL l) (hh : l.head? = some '#') : SkipLine l := by
  refine ⟨h, ?_⟩
  unfold keepLine; simp [hh]

theorem noNL_of_plain (l : Str) (h : ∀ x ∈ l, Plain x) : NoNL l := by
  intro x hx
  exact ⟨ne_of_not (h x hx) (by decide), ne_of_not (h x hx) (by decide)⟩

theorem helpBlock_skip (first : Bool) (wrapped : List Str) (d : Option Str)
    (hw : ∀ l ∈ wrapped, NoNL l) (hd : ∀ s, d = some s → ∀ x ∈ s, Plain x) :
    ∀ l ∈ helpBlock first wrapped d, SkipLine l := by
  intro l hl
  simp only [helpBlock, List.mem_append, List.mem_cons, List.mem_map] at hl
  rcases hl with ((hl | hl | hl) | hl) | hl
  · split at hl
    · simp at hl
    · simp at hl; subst hl; exact ⟨by intro x hx; simp at hx, by decide⟩
  · subst hl; exact skip_of_hash _ (noNL_of_plain _ (by decide)) rfl
  · obtain ⟨w, hw', rfl⟩ := hl
    refine skip_of_hash _ ?_ rfl
    intro x hx
    simp only [List.mem_cons] at hx
    rcases hx with rfl | rfl | hx
    · decide
    · decide
    · exact hw w hw' x hx
  · cases d with
    | none => simp at hl
    | some s =>
      simp only [List.mem_cons, List.not_mem_nil, or_false] at hl
      rcases hl with rfl | rfl
      · exact skip_of_hash _ (noNL_of_plain _ (by decide)) rfl
      · refine skip_of_hash _ (noNL_of_plain _ ?_) rfl
        intro x hx
        rw [List.mem_append] at hx
        rcases hx with hx | hx
        · revert x; decide
        · exact hd s rfl x hx
  · simp at hl; subst hl; exact skip_of_hash _ (noNL_of_plain _ (by decide)) rfl

theorem plain_unit (help : List Str) (name text : Str) (hn : GoodName name) (hh : ∀ l ∈ help, SkipLine l) :
    RUnitOk ⟨help, name, [valueContent name (encodeUE text)], text⟩ := by
  refine ⟨hh, ?_, fun rest => ?_⟩
  · intro l hl
    cases List.mem_singleton.mp hl
    exact ⟨keepLine_content _ _ hn, noNL_of_plain _ (content_plain name _ hn (encodeUE_plain text))⟩
  · exact readLoop_value name (encodeUE text) text rest hn (encodeUE_plain text) (encodeUE_evenTail text)
      (decodeUE_encodeUE text)

/-- a listed value: wrapped help (if any), the `str()` text of its default (if shown), its name and
the `str()` text of its value -/
structure VSpec where
  wrapped : Option (List Str)
  dflt : Option Str
  name : Str
  text : Str

def VSpec.spec (v : VSpec) : Spec := ⟨v.wrapped, v.dflt.map encodeUE, v.name, encodeUE v.text⟩

def VSpecOk (v : VSpec) : Prop := GoodName v.name ∧ ∀ w, v.wrapped = some w → ∀ l ∈ w, NoNL l

def unitsOf : Bool → List VSpec → List RUnit
  | _, [] => []
  | first, v :: rest =>
    match v.wrapped with
    | some w => ⟨helpBlock first w (v.dflt.map encodeUE), v.name, [valueContent v.name (encodeUE v.text)], v.text⟩ ::
        unitsOf false rest
    | none => ⟨[], v.name, [valueContent v.name (encodeUE v.text)], v.text⟩ :: unitsOf first rest

theorem renderSpecs_units (first : Bool) (vs : List VSpec) :
    ((renderSpecs first (vs.map VSpec.spec)).map Entry.text).flatten =
      linesText ((unitsOf first vs).flatMap RUnit.lines) := by
  induction vs generalizing first with
  | nil => rfl
  | cons v rest ih =>
    simp only [List.map_cons, renderSpecs, unitsOf, VSpec.spec]
    cases v.wrapped <;>
      simp only [List.map_cons, List.flatten_cons, List.flatMap_cons, linesText_append, ih, RUnit.lines,
        ← entry_text _ _ _ _ (valueLine_single _ _), List.map_nil]

theorem unitsOf_ok (first : Bool) (vs : List VSpec) (h : ∀ v ∈ vs, VSpecOk v) :
    ∀ u ∈ unitsOf first vs, RUnitOk u := by
  induction vs generalizing first with
  | nil => intro u hu; cases hu
  | cons v rest ih =>
    intro u hu
    have hv := h v (by simp)
    have hrest := fun f => ih f (fun v' hv' => h v' (by simp [hv']))
    simp only [unitsOf] at hu
    cases hw : v.wrapped with
    | none =>
      rw [hw] at hu
      rcases List.mem_cons.mp hu with rfl | hu
      · exact plain_unit [] _ _ hv.1 (by intro l hl; cases hl)
      · exact hrest first u hu
    | some w =>
      rw [hw] at hu
      rcases List.mem_cons.mp hu with rfl | hu
      · refine plain_unit _ _ _ hv.1 (helpBlock_skip first w _ (hv.2 w hw) ?_)
        intro s hs x hx
        cases hd : v.dflt with
        | none => rw [hd] at hs; cases hs
        | some d => rw [hd] at hs; cases hs; exact encodeUE_plain d x hx
      · exact hrest false u hu

theorem unitsOf_names (first : Bool) (vs : List VSpec) :
    (unitsOf first vs).map (fun u => (u.name, u.text)) = vs.map fun v => (v.name, v.text) := by
  induction vs generalizing first with
  | nil => rfl
  | cons v rest ih =>
    simp only [unitsOf]
    cases v.wrapped <;> simp [ih]

theorem close_loads_aux (hh : HeaderOk Gen.Registry.confFileHeader) (vs : List VSpec) (h : ∀ v ∈ vs, VSpecOk v) :
    readRegistry (closeText (vs.map VSpec.spec)) = .ok (vs.map fun v => (v.name, v.text)) := by
  unfold closeText fileText
  rw [renderSpecs_units, read_units _ hh _ (unitsOf_ok true vs h), unitsOf_names]

/-! ### the space-padding String variants -/

theorem lstrip_eq_iff (c : Char) (cs : Str) : lstrip (c :: cs) = c :: cs ↔ isSpace c = false :=
  ⟨fun h => dropWhile_head_not isSpace (c :: cs) c (by unfold lstrip lstripP at h; rw [h]; rfl),
   fun h => lstripP_id _ _ (fun d hd => by cases hd; exact h)⟩

theorem rstrip_eq_iff (s : Str) (c : Char) (hl : s.getLast? = some c) : rstrip s = s ↔ isSpace c = false :=
  ⟨fun h => rstripP_last isSpace s c (by unfold rstrip at h; rw [h]; exact hl),
   fun h => rstripP_id _ _ (fun d hd => by rw [hl] at hd; cases hd; exact h)⟩

def Padded (w : Str) : Prop :=
  (∃ c, w.head? = some c ∧ isSpace c = true) ∧ (∃ c, w.getLast? = some c ∧ isSpace c = true)

theorem surroundSV_of_padded (w : Str) (h : Padded w) : surroundSV w = w := by
  obtain ⟨⟨c, hc, hsc⟩, ⟨d, hd, hsd⟩⟩ := h
  cases w with
  | nil => simp at hc
  | cons a as =>
    simp at hc; subst hc
    unfold surroundSV
    have h1 : ¬ (lstrip (a :: as) = a :: as) := by rw [lstrip_eq_iff]; simp [hsc]
    simp only [h1, and_false, if_false]
    have h2 : ¬ (rstrip (a :: as) = a :: as) := by rw [rstrip_eq_iff _ d hd]; simp [hsd]
    simp [h2]

theorem isSpace_space : isSpace ' ' = true := by decide

theorem surroundSV_padded (v : Str) : Padded (surroundSV v) := by
  unfold surroundSV
  cases v with
  | nil =>
    simp only [ne_eq, not_true_eq_false, false_and, if_false]
    have : rstrip ([] : Str) = [] := by decide
    simp only [this, if_true]
    exact ⟨⟨' ', rfl, isSpace_space⟩, ⟨' ', rfl, isSpace_space⟩⟩
  | cons a as =>
    have hv1 : ∃ b bs, (if (a :: as) ≠ [] ∧ lstrip (a :: as) = a :: as then ' ' :: a :: as else a :: as) = b :: bs ∧ isSpace b = true := by
      by_cases hl : lstrip (a :: as) = a :: as
      · exact ⟨' ', a :: as, by simp [hl], isSpace_space⟩
      · refine ⟨a, as, by simp [hl], ?_⟩
        rw [lstrip_eq_iff] at hl; simpa using hl
    obtain ⟨b, bs, hv, hb⟩ := hv1
    simp only [hv]
    by_cases hr : rstrip (b :: bs) = b :: bs
    · simp only [hr, if_true]
      exact ⟨⟨b, rfl, hb⟩, ⟨' ', by rw [List.getLast?_append]; simp, isSpace_space⟩⟩
    · simp only [hr, if_false]
      refine ⟨⟨b, rfl, hb⟩, ?_⟩
      cases hl : (b :: bs).getLast? with
      | none => simp at hl
      | some d =>
        refine ⟨d, rfl, ?_⟩
        rw [rstrip_eq_iff _ d hl] at hr; simpa using hr

theorem spaceRightSV_idem (v : Str) : spaceRightSV (spaceRightSV v) = spaceRightSV v := by
  unfold spaceRightSV
  by_cases h : v ≠ [] ∧ rstrip v = v
  · rw [if_pos h]
    have : ¬ (rstrip (v ++ [' ']) = v ++ [' ']) := by
      rw [rstrip_eq_iff _ ' ' (by simp)]; simp [isSpace_space]
    rw [if_neg (by intro hh; exact this hh.2)]
  · simp only [h, if_false]

theorem setValue_idem (k : StrClass) (hk : k ≠ .normalized) (v : Str) : k.setValue (k.setValue v) = k.setValue v := by
  cases k with
  | plain => rfl
  | surrounded => exact surroundSV_of_padded _ (surroundSV_padded v)
  | spaceRight => exact spaceRightSV_idem v
  | normalized => exact absurd rfl hk

/-! ### names: escape / unescape -/

def escD (d : Char) (c : Char) : Str := if c = d then ['\\', d] else [c]

theorem escapeName_eq (n : Str) : escapeName n = ((encodeUE n).flatMap (escD ':')).flatMap (escD '.') := by
  unfold escapeName
  rw [List.flatMap_assoc]
  congr 1
  funext c
  unfold escNameChar escD
  by_cases h1 : c = ':'
  · subst h1; decide
  · by_cases h2 : c = '.'
    · subst h2; decide
    · simp [h1, h2]

/-- every backslash is followed by a character that is not in `bad`, and that character is skipped -/
def Esc (bad : Char → Bool) : Str → Prop
  | [] => True
  | [x] => x ≠ '\\'
  | x :: y :: rest => if x = '\\' then (bad y = false ∧ Esc bad rest) else Esc bad (y :: rest)

theorem replace2_cons_ne (d x : Char) (rest : Str) (hx : x ≠ '\\') :
    replace2 '\\' d d (x :: rest) = x :: replace2 '\\' d d rest := by
  cases rest with
  | nil => simp [replace2]
  | cons y r => simp [replace2, hx]

theorem replace2_bs (d : Char) (rest : Str) (h : rest.head? ≠ some d) :
    replace2 '\\' d d ('\\' :: rest) = '\\' :: replace2 '\\' d d rest := by
  cases rest with
  | nil => simp [replace2]
  | cons y r =>
    have : y ≠ d := by intro e; apply h; simp [e]
    simp [replace2, this]

theorem head_flatMap_escD (d : Char) (hd : d ≠ '\\') (s : Str) : (s.flatMap (escD d)).head? ≠ some d := by
  cases s with
  | nil => simp
  | cons c cs =>
    simp only [List.flatMap_cons, escD]
    split
    · simp; exact fun e => hd e.symm
    · rename_i h; simp; exact h

theorem replace2_escD (d : Char) (hd : d ≠ '\\') :
    ∀ e : Str, Esc (fun y => y = d) e → replace2 '\\' d d (e.flatMap (escD d)) = e
  | [], _ => rfl
  | [x], h => by
    have hx : x ≠ '\\' := h
    simp only [List.flatMap_cons, List.flatMap_nil, List.append_nil, escD]
    split
    · rename_i hxd; subst hxd; simp [replace2]
    · simp [replace2]
  | x :: y :: rest, h => by
    simp only [Esc] at h
    by_cases hx : x = '\\'
    · subst hx
      simp only [if_true] at h
      have hy : y ≠ d := by simpa using h.1
      have hbd : ¬ ('\\' = d) := fun e => hd e.symm
      simp only [List.flatMap_cons, escD, if_neg hbd, if_neg hy, List.cons_append, List.nil_append]
      have ihr := replace2_escD d hd rest h.2
      rw [replace2_bs d _ (by simp; exact fun e => hy e)]
      by_cases hyb : y = '\\'
      · subst hyb
        rw [replace2_bs d _ (head_flatMap_escD d hd rest), ihr]
      · rw [replace2_cons_ne d y _ hyb, ihr]
    · simp only [if_neg hx] at h
      have ihr := replace2_escD d hd (y :: rest) h
      simp only [List.flatMap_cons] at ihr ⊢
      by_cases hxd : x = d
      · subst hxd
        have e1 : escD x x = ['\\', x] := by simp [escD]
        rw [e1]
        simp only [List.cons_append, List.nil_append]
        have : replace2 '\\' x x ('\\' :: x :: (escD x y ++ List.flatMap (escD x) rest)) =
            x :: replace2 '\\' x x (escD x y ++ List.flatMap (escD x) rest) := by
          simp [replace2]
        rw [this, ihr]
      · have e1 : escD d x = [x] := by simp [escD, hxd]
        rw [e1]
        simp only [List.cons_append, List.nil_append]
        rw [replace2_cons_ne d x _ hx, ihr]

theorem Esc_cons_ne (bad : Char → Bool) (x : Char) (rest : Str) (hx : x ≠ '\\') (h : Esc bad rest) :
    Esc bad (x :: rest) := by
  cases rest with
  | nil => exact hx
  | cons y r => simp only [Esc, if_neg hx]; exact h

theorem Esc_bs (bad : Char → Bool) (y : Char) (rest : Str) (hy : bad y = false) (h : Esc bad rest) :
    Esc bad ('\\' :: y :: rest) := by
  simp only [Esc, if_true]; exact ⟨hy, h⟩

theorem Esc_append_plain (bad : Char → Bool) (w rest : Str) (hw : ∀ x ∈ w, x ≠ '\\') (h : Esc bad rest) :
    Esc bad (w ++ rest) := by
  induction w with
  | nil => exact h
  | cons x xs ih =>
    exact Esc_cons_ne bad x _ (hw x (by simp)) (ih (fun y hy => hw y (by simp [hy])))

def bad2 (y : Char) : Bool := y = '.' || y = ':'

theorem Esc_encChar (c : Char) (rest : Str) (h : Esc bad2 rest) : Esc bad2 (encChar c ++ rest) := by
  rcases encChar_cases c with ⟨_, e⟩ | ⟨_, y, w, e, hw⟩ | ⟨hb, _, e⟩ <;> rw [e]
  · exact Esc_bs bad2 '\\' _ (by decide) h
  · have hy := hw y (List.mem_cons_self ..)
    refine Esc_bs bad2 y _ ?_ (Esc_append_plain bad2 w rest (fun x hx => ?_) h)
    · simp [bad2, ne_of_not hy (by decide : ¬ Alnum '.'), ne_of_not hy (by decide : ¬ Alnum ':')]
    · exact ne_of_not (hw x (List.mem_cons_of_mem _ hx)) (by decide)
  · exact Esc_cons_ne bad2 c rest hb h

theorem Esc_encodeUE (n : Str) : Esc bad2 (encodeUE n) := by
  induction n with
  | nil => exact True.intro
  | cons c cs ih =>
    have : encodeUE (c :: cs) = encChar c ++ encodeUE cs := by simp [encodeUE]
    rw [this]; exact Esc_encChar c _ ih

theorem Esc_mono (bad bad' : Char → Bool) (hb : ∀ y, bad y = false → bad' y = false) :
    ∀ e : Str, Esc bad e → Esc bad' e
  | [], _ => True.intro
  | [_], h => h
  | x :: y :: rest, h => by
    simp only [Esc] at h ⊢
    by_cases hx : x = '\\'
    · simp only [hx, if_true] at h ⊢
      exact ⟨hb y h.1, Esc_mono bad bad' hb rest h.2⟩
    · simp only [hx, if_false] at h ⊢
      exact Esc_mono bad bad' hb (y :: rest) h

theorem Esc_flatMap_colon : ∀ e : Str, Esc bad2 e → Esc (fun y => y = '.') (e.flatMap (escD ':'))
  | [], _ => True.intro
  | [x], h => by
    have hx : x ≠ '\\' := h
    simp only [List.flatMap_cons, List.flatMap_nil, List.append_nil, escD]
    split
    · exact Esc_bs _ ':' [] (by decide) True.intro
    · exact hx
  | x :: y :: rest, h => by
    simp only [Esc] at h
    by_cases hx : x = '\\'
    · subst hx
      simp only [if_true] at h
      have hy1 : y ≠ ':' := by have := h.1; unfold bad2 at this; simp at this; exact this.2
      have hy2 : y ≠ '.' := by have := h.1; unfold bad2 at this; simp at this; exact this.1
      have e0 : escD ':' '\\' = ['\\'] := by decide
      have e1 : escD ':' y = [y] := by simp [escD, hy1]
      simp only [List.flatMap_cons, e0, e1, List.cons_append, List.nil_append]
      exact Esc_bs _ y _ (by simp [hy2]) (Esc_flatMap_colon rest h.2)
    · simp only [if_neg hx] at h
      have ih := Esc_flatMap_colon (y :: rest) h
      rw [List.flatMap_cons]
      by_cases hxc : x = ':'
      · subst hxc
        have e1 : escD ':' ':' = ['\\', ':'] := by decide
        rw [e1]
        exact Esc_bs _ ':' _ (by decide) ih
      · have e1 : escD ':' x = [x] := by simp [escD, hxc]
        rw [e1]
        exact Esc_cons_ne _ x _ hx ih

theorem unescapeName_escapeName (n : Str) : unescapeName (escapeName n) = .ok n := by
  unfold unescapeName
  rw [escapeName_eq]
  rw [replace2_escD '.' (by decide) _ (Esc_flatMap_colon _ (Esc_encodeUE n))]
  rw [replace2_escD ':' (by decide) _ (Esc_mono bad2 _ (by intro y hy; unfold bad2 at hy; simp at hy; simp [hy.2]) _ (Esc_encodeUE n))]
  exact decodeUE_encodeUE n

/-- no unescaped dot inside; the Bool is "this character is escaped" -/
def NoSplit : Bool → Str → Prop
  | _, [] => True
  | esc, c :: cs => (c = '.' → esc = true) ∧ NoSplit (!esc && c = '\\') cs

theorem NoSplit_append (a b : Str) : ∀ esc, NoSplit esc a → NoSplit (escEnd esc a) b → NoSplit esc (a ++ b) := by
  induction a with
  | nil => intro esc _ hb; exact hb
  | cons c cs ih => intro esc ha hb; exact ⟨ha.1, ih _ ha.2 hb⟩

theorem escEnd_append (a b : Str) : ∀ esc, escEnd esc (a ++ b) = escEnd (escEnd esc a) b := by
  induction a with
  | nil => intro esc; rfl
  | cons c cs ih => intro esc; simp only [List.cons_append, escEnd, ih]

theorem splitDots_ne_nil (esc : Bool) (s : Str) : splitDots esc s ≠ [] := by
  cases s with
  | nil => simp [splitDots]
  | cons c cs =>
    simp only [splitDots]
    split
    · simp
    · split <;> simp

def consHead (w : Str) : List Str → List Str
  | [] => [w]
  | p :: ps => (w ++ p) :: ps

theorem splitDots_append (w rest : Str) : ∀ esc, NoSplit esc w →
    splitDots esc (w ++ rest) = consHead w (splitDots (escEnd esc w) rest) := by
  induction w with
  | nil =>
    intro esc _
    simp only [List.nil_append, escEnd]
    cases h : splitDots esc rest with
    | nil => exact absurd h (splitDots_ne_nil esc rest)
    | cons p ps => simp [consHead]
  | cons c cs ih =>
    intro esc h
    simp only [List.cons_append, splitDots, escEnd]
    rw [if_neg (by intro hh; have := h.1 hh.2; rw [this] at hh; exact hh.1 rfl)]
    rw [ih _ h.2]
    cases hs : splitDots (escEnd (!esc && decide (c = '\\')) cs) rest with
    | nil => exact absurd hs (splitDots_ne_nil _ rest)
    | cons p ps => simp [consHead]

theorem plainRun (w : Str) (h : ∀ x ∈ w, x ≠ '.' ∧ x ≠ '\\') : NoSplit false w ∧ escEnd false w = false := by
  induction w with
  | nil => exact ⟨True.intro, rfl⟩
  | cons c cs ih =>
    have hc := h c (by simp)
    have := ih (fun x hx => h x (by simp [hx]))
    simp only [NoSplit, escEnd, hc.2, decide_false, Bool.and_false]
    exact ⟨⟨fun e => absurd e hc.1, this.1⟩, this.2⟩

theorem escNameChar_id (c : Char) (h1 : c ≠ ':') (h2 : c ≠ '.') : escNameChar c = [c] := by
  simp [escNameChar, h1, h2]

theorem flatMap_escNameChar_id (w : Str) (h : ∀ x ∈ w, x ≠ ':' ∧ x ≠ '.') : w.flatMap escNameChar = w := by
  induction w with
  | nil => rfl
  | cons c cs ih =>
    have hc := h c (by simp)
    simp only [List.flatMap_cons, escNameChar_id c hc.1 hc.2, ih (fun x hx => h x (by simp [hx]))]
    rfl

/-- the escaped form of one character, scanned from an unescaped position, contains no separator and
ends unescaped -/
theorem nameBlock_ok (c : Char) :
    NoSplit false ((encChar c).flatMap escNameChar) ∧ escEnd false ((encChar c).flatMap escNameChar) = false := by
  rcases encChar_cases c with ⟨_, e⟩ | ⟨_, y, w, e, hw⟩ | ⟨hbs, _, e⟩ <;> rw [e]
  · simp [NoSplit, escEnd, escNameChar]
  · have hne : ∀ x ∈ y :: w, x ≠ ':' ∧ x ≠ '.' ∧ x ≠ '\\' := fun x hx =>
      ⟨ne_of_not (hw x hx) (by decide), ne_of_not (hw x hx) (by decide), ne_of_not (hw x hx) (by decide)⟩
    rw [flatMap_escNameChar_id _ (by
      intro x hx
      rcases List.mem_cons.mp hx with rfl | hx
      · decide
      · exact ⟨(hne x hx).1, (hne x hx).2.1⟩)]
    have := plainRun w (fun x hx => (hne x (List.mem_cons_of_mem _ hx)).2)
    simp only [NoSplit, escEnd, Bool.not_false, Bool.true_and, decide_true, Bool.not_true, Bool.false_and]
    exact ⟨⟨by decide, fun _ => trivial, this.1⟩, this.2⟩
  · by_cases h1 : c = ':'
    · subst h1; simp [NoSplit, escEnd, escNameChar]
    · by_cases h2 : c = '.'
      · subst h2; simp [NoSplit, escEnd, escNameChar]
      · simp only [List.flatMap_cons, List.flatMap_nil, List.append_nil, escNameChar_id c h1 h2]
        simp only [NoSplit, escEnd, hbs, decide_false, Bool.and_false]
        exact ⟨⟨fun e => absurd e h2, trivial⟩, trivial⟩

theorem escapeName_ok (n : Str) : NoSplit false (escapeName n) ∧ escEnd false (escapeName n) = false := by
  induction n with
  | nil => exact ⟨True.intro, rfl⟩
  | cons c cs ih =>
    have e : escapeName (c :: cs) = (encChar c).flatMap escNameChar ++ escapeName cs := by
      simp [escapeName, encodeUE]
    have hb := nameBlock_ok c
    rw [e]
    constructor
    · exact NoSplit_append _ _ false hb.1 (by rw [hb.2]; exact ih.1)
    · rw [escEnd_append, hb.2]; exact ih.2

theorem splitDots_join (ns : List Str) (hne : ns ≠ []) :
    splitDots false (joinChar '.' (ns.map escapeName)) = ns.map escapeName := by
  induction ns with
  | nil => exact absurd rfl hne
  | cons n rest ih =>
    have hn := escapeName_ok n
    cases rest with
    | nil =>
      simp only [List.map_cons, List.map_nil, joinChar]
      have := splitDots_append (escapeName n) [] false hn.1
      simp only [List.append_nil, splitDots, consHead] at this
      exact this
    | cons m ms =>
      simp only [List.map_cons, joinChar]
      rw [splitDots_append _ _ false hn.1, hn.2]
      simp only [splitDots, Bool.not_false]
      have := ih (by simp)
      simp only [List.map_cons] at this
      rw [this]
      simp [consHead]

theorem resAll_ok (ns : List Str) : resAll (ns.map fun n => Res.ok n) = some ns := by
  induction ns with
  | nil => rfl
  | cons n rest ih => simp [resAll, ih]

theorem splitName_joinName_aux (ns : List Str) (hne : ns ≠ []) : splitName (joinName ns) = some ns := by
  unfold splitName joinName
  rw [splitDots_join ns hne, List.map_map]
  have : (unescapeName ∘ escapeName) = fun n => Res.ok n := by
    funext n; exact unescapeName_escapeName n
  rw [this, resAll_ok]

end C15
