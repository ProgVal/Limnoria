/-
C15 — separated lists after the item check of `SeparatedListOf.setValue`: an accepted list is
written and read back unchanged.
-/
import LimnoriaModel.C15.NormLemmas
namespace C15
open Py

/-! ### space separated -/

theorem splitWs_go_pieces : ∀ (s acc : Str), (∀ c ∈ acc, isSpace c = false) →
    ∀ w ∈ splitWs.go s acc, ∀ c ∈ w, isSpace c = false := by
  intro s
  induction s with
  | nil =>
    intro acc hacc w hw c hc
    simp only [splitWs.go] at hw
    split at hw
    · simp at hw
    · simp at hw; subst hw; exact hacc c (by simpa using hc)
  | cons x xs ih =>
    intro acc hacc w hw c hc
    simp only [splitWs.go] at hw
    by_cases hx : isSpace x = true
    · simp only [hx, if_true] at hw
      split at hw
      · exact ih [] (by intro c hc; simp at hc) w hw c hc
      · simp only [List.mem_cons] at hw
        rcases hw with rfl | hw
        · exact hacc c (by simpa using hc)
        · exact ih [] (by intro c hc; simp at hc) w hw c hc
    · simp only [hx, Bool.false_eq_true, if_false] at hw
      exact ih (x :: acc) (by
        intro c hc; simp only [List.mem_cons] at hc
        rcases hc with rfl | hc
        · simpa using hx
        · exact hacc c hc) w hw c hc

/-- an item `SpaceSeparatedListOf.setValue` accepts is a non-empty blank-free word -/
theorem word_of_accepted (x : Str) (h : splitWs x = [x]) : x ≠ [] ∧ ∀ c ∈ x, isSpace c = false := by
  constructor
  · intro e; subst e; revert h; decide
  · intro c hc
    have := splitWs_go_pieces x [] (by intro c hc; simp at hc) x (by unfold splitWs at h; rw [h]; simp) c hc
    exact this

/-! ### comma separated -/

theorem rstripP_sublist (p : Char → Bool) (s : Str) : (rstripP p s).Sublist s := by
  unfold rstripP
  simpa using (List.dropWhile_sublist p (l := s.reverse)).reverse

theorem strip_fixed (x : Str) (h : strip x = x) : lstrip x = x ∧ rstrip x = x := by
  unfold strip at h
  have hx : x.Sublist (lstripP isSpace x) := by
    have := rstripP_sublist isSpace (lstripP isSpace x)
    rwa [h] at this
  have hl : lstripP isSpace x = x :=
    (List.dropWhile_sublist isSpace).eq_of_length (Nat.le_antisymm (List.dropWhile_sublist isSpace).length_le hx.length_le)
  exact ⟨hl, by rwa [hl] at h⟩

theorem rstripP_sub (p : Char → Bool) (s : Str) : ∀ x ∈ rstripP p s, x ∈ s :=
  fun _ hx => (rstripP_sublist p s).subset hx

theorem strip_sub (s : Str) : ∀ x ∈ strip s, x ∈ s := by
  intro x hx
  unfold strip at hx
  exact (List.dropWhile_sublist isSpace).subset (rstripP_sub isSpace _ x hx)

theorem commaPieces_nocomma : ∀ (first : Bool) (ps : List Str), (∀ w ∈ ps, ∀ x ∈ w, x ≠ ',') →
    ∀ w ∈ commaPieces first ps, ∀ x ∈ w, x ≠ ',' := by
  intro first ps
  induction ps generalizing first with
  | nil => intro _ w hw; simp [commaPieces] at hw
  | cons p rest ih =>
    intro h w hw x hx
    have hp := h p (by simp)
    have hsub : ∀ y ∈ (if first then p else lstrip p), y ∈ p := by
      intro y hy; split at hy
      · exact hy
      · exact (List.dropWhile_sublist isSpace).subset hy
    cases rest with
    | nil =>
      simp only [commaPieces, List.mem_singleton] at hw; subst hw
      exact hp x (hsub x hx)
    | cons q qs =>
      simp only [commaPieces, List.mem_cons] at hw
      rcases hw with rfl | hw
      · exact hp x (hsub x (rstripP_sub isSpace _ x hx))
      · exact ih false (fun w' hw' => h w' (by simp [hw'])) w (by simpa [commaPieces] using hw) x hx

/-- what `CommaSeparatedListOfStrings.setValue` accepts: non-empty, no comma, no blank at either end -/
def CommaOk (x : Str) : Prop := x ≠ [] ∧ CommaElt x

theorem commaOk_of_accepted (x : Str) (h : ListClass.splitter .comma x = [x]) : CommaOk x := by
  unfold ListClass.splitter at h
  simp only at h
  have hxm : x ∈ (commaPieces true (splitChar ',' (strip x))).filter (fun y => !y.isEmpty) := by rw [h]; simp
  rw [List.mem_filter] at hxm
  have hne : x ≠ [] := by intro e; subst e; simp at hxm
  have hnc : ∀ c ∈ x, c ≠ ',' := commaPieces_nocomma true _ (splitChar_pieces ',' _) x hxm.1
  -- strip x has no comma either, so there is one piece: strip x itself
  have hsn : ∀ c ∈ strip x, c ≠ ',' := fun c hc => hnc c (strip_sub x c hc)
  rw [splitChar_no ',' (strip x) hsn] at h
  simp only [commaPieces, if_true] at h
  have hs : strip x = x := by
    cases hsx : (strip x).isEmpty with
    | true => simp [List.filter, hsx] at h
    | false => simp [List.filter, hsx] at h; exact h
  exact ⟨hne, hnc, strip_fixed x hs⟩

theorem comma_splitter_str (hj : Gen.Registry.commaJoin = [',', ' ']) (he : Gen.Registry.emptyListStr = [' '])
    (xs : List Str) (h : ∀ x ∈ xs, CommaOk x) :
    ListClass.splitter .comma (ListClass.str .comma xs) = xs := by
  unfold ListClass.splitter ListClass.str
  cases xs with
  | nil => simp only [List.isEmpty_nil, if_true, he]; decide
  | cons e es =>
    simp only [List.isEmpty_cons, Bool.false_eq_true, if_false, ListClass.joiner, hj]
    have hce : ∀ x ∈ e :: es, CommaElt x := fun x hx => (h x hx).2
    have hstrip : strip (joinStr [',', ' '] (e :: es)) = joinStr [',', ' '] (e :: es) := by
      have hhead : ∀ c, (joinStr [',', ' '] (e :: es)).head? = some c → isSpace c = false := by
        intro c hc
        rw [joinStr_head _ _ _ (h e (by simp)).1] at hc
        exact dropWhile_head_not isSpace e c (by rw [show e.dropWhile isSpace = e from (hce e (by simp)).2.1]; exact hc)
      have hlast : ∀ c, (joinStr [',', ' '] (e :: es)).getLast? = some c → isSpace c = false := by
        intro c hc
        rcases List.eq_nil_or_concat (e :: es) with h0 | ⟨init, lw, h0⟩
        · cases h0
        · rw [List.concat_eq_append] at h0
          have hlwm : lw ∈ e :: es := by rw [h0]; simp
          rw [h0, joinStr_getLast _ init lw (h lw hlwm).1] at hc
          exact rstripP_last isSpace lw c (by rw [show rstripP isSpace lw = lw from (hce lw hlwm).2.2]; exact hc)
      unfold strip
      rw [lstripP_id _ _ hhead, rstripP_id _ _ hlast]
    rw [hstrip, commaPieces_join e es hce]
    exact filter_nonempty_id _ (fun x hx => (h x hx).1)

theorem list_roundtrip_aux (hs : Gen.Registry.spaceJoin = [' ']) (he : Gen.Registry.emptyListStr = [' '])
    (hj : Gen.Registry.commaJoin = [',', ' ']) (k : ListClass) (xs : List Str) (hacc : k.setValue xs = .ok xs) :
    k.set (k.str xs) = .ok xs := by
  have hall : ∀ x ∈ xs, k.splitter x = [x] := by
    unfold ListClass.setValue at hacc
    split at hacc
    · rename_i hh
      intro x hx
      have := List.all_eq_true.mp hh x hx
      simpa using this
    · cases hacc
  unfold ListClass.set
  cases k with
  | space =>
    rw [space_roundtrip_aux hs he xs (fun x hx => word_of_accepted x (hall x hx))]
    exact hacc
  | comma =>
    rw [comma_splitter_str hj he xs (fun x hx => commaOk_of_accepted x (hall x hx))]
    exact hacc

end C15
