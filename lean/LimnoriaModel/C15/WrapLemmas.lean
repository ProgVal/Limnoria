/-
C15 — NormalizedString at file level: the wrapped continuation lines are read back, glued with
their indentation, and normalise to the text that was saved.
-/
import LimnoriaModel.C15.NormLemmas
import LimnoriaModel.C15.Wrap
namespace C15
open Py

theorem fillWords_spec (width : Nat) : ∀ (ws cur : List Str) (len : Nat),
    (fillWords width ws cur len).1 ++ (fillWords width ws cur len).2 = cur.reverse ++ ws ∧
    ((cur ≠ [] ∨ ws ≠ []) → (fillWords width ws cur len).1 ≠ []) ∧
    (fillWords width ws cur len).2.length ≤ ws.length ∧
    (cur = [] → ws ≠ [] → (fillWords width ws cur len).2.length < ws.length) := by
  intro ws
  induction ws with
  | nil =>
    intro cur len
    simp only [fillWords, List.append_nil, List.length_nil, Nat.le_refl, true_and]
    refine ⟨?_, fun _ h => absurd rfl h⟩
    intro h; rcases h with h | h
    · simpa using h
    · exact absurd rfl h
  | cons w rest ih =>
    intro cur len
    simp only [fillWords]
    by_cases hc : cur.isEmpty = true
    · have hcn : cur = [] := List.isEmpty_iff.mp hc
      subst hcn
      simp only [List.isEmpty_nil, if_true]
      obtain ⟨h1, h2, h3, _⟩ := ih [w] w.length
      refine ⟨by rw [h1]; simp, fun _ => h2 (Or.inl (by simp)), by simp; omega, fun _ _ => by simp; omega⟩
    · simp only [hc, Bool.false_eq_true, if_false]
      have hcn : cur ≠ [] := fun e => hc (List.isEmpty_iff.mpr e)
      by_cases hf : len + 1 + w.length ≤ width
      · rw [if_pos hf]
        obtain ⟨h1, h2, h3, _⟩ := ih (w :: cur) (len + 1 + w.length)
        refine ⟨by rw [h1]; simp, fun _ => h2 (Or.inl (by simp)), by simp; omega, fun h => absurd h hcn⟩
      · rw [if_neg hf]
        refine ⟨rfl, fun _ => by simpa using hcn, by simp, fun h => absurd h hcn⟩

theorem wrapWordsLoop_spec (width : Nat) : ∀ (fuel : Nat) (ws : List Str), ws.length ≤ fuel →
    (wrapWordsLoop width fuel ws).flatten = ws ∧ ∀ g ∈ wrapWordsLoop width fuel ws, g ≠ [] := by
  intro fuel
  induction fuel with
  | zero => intro ws h; have : ws = [] := List.length_eq_zero_iff.mp (Nat.le_zero.mp h)
            subst this; simp [wrapWordsLoop]
  | succ f ih =>
    intro ws h
    cases ws with
    | nil => simp [wrapWordsLoop]
    | cons w rest =>
      simp only [wrapWordsLoop]
      obtain ⟨h1, h2, _, h4⟩ := fillWords_spec width (w :: rest) [] 0
      have hlt := h4 rfl (by simp)
      obtain ⟨i1, i2⟩ := ih (fillWords width (w :: rest) [] 0).2 (by simp at h hlt; omega)
      refine ⟨?_, ?_⟩
      · simp only [List.flatten_cons, i1]
        simpa using h1
      · intro g hg
        simp only [List.mem_cons] at hg
        rcases hg with rfl | hg
        · exact h2 (Or.inr (by simp))
        · exact i2 g hg

theorem wrapWords_spec (width : Nat) (ws : List Str) :
    (wrapWords width ws).flatten = ws ∧ ∀ g ∈ wrapWords width ws, g ≠ [] :=
  wrapWordsLoop_spec width ws.length ws (Nat.le_refl _)

def isSp (c : Char) : Bool := c = ' '

theorem wordsOf_join (ws : List Str) (hw : Words isSp ws) : wordsOf (joinChar ' ' ws) = ws := by
  unfold wordsOf
  cases ws with
  | nil => rfl
  | cons w rest =>
    have := splitP_join isSp (by decide) _ hw (by simp)
    unfold isSp at this
    rw [this]
    exact filter_words isSp _ hw

theorem encChar_no_space (c : Char) (hc : c ≠ ' ') : ∀ x ∈ encChar c, x ≠ ' ' :=
  encChar_keeps (· ≠ ' ') (by decide) (fun _ h => ne_of_not h (by decide)) c (fun _ => hc)

theorem encChar_space : encChar ' ' = [' '] := by decide

theorem words_map_encode (sw : List Str) (hw : Words isSp sw) : Words isSp (sw.map encodeUE) := by
  intro w hwm
  rw [List.mem_map] at hwm
  obtain ⟨w0, hw0, rfl⟩ := hwm
  obtain ⟨hne, hfree⟩ := hw w0 hw0
  have hns : ∀ c ∈ w0, c ≠ ' ' := fun c hc => by have := hfree c hc; unfold isSp at this; simpa using this
  constructor
  · cases w0 with
    | nil => exact absurd rfl hne
    | cons a as =>
      simp only [encodeUE, List.flatMap_cons]
      intro e
      exact encChar_ne_nil a (List.append_eq_nil_iff.mp e).1
  · intro x hx
    simp only [encodeUE, List.mem_flatMap] at hx
    obtain ⟨c, hc, hxc⟩ := hx
    have := encChar_no_space c (hns c hc) x hxc
    unfold isSp; simpa using this

theorem encodeUE_join (sw : List Str) : encodeUE (joinChar ' ' sw) = joinChar ' ' (sw.map encodeUE) := by
  unfold encodeUE
  exact flatMap_joinChar encChar encChar_space sw

theorem encodeUE_append (a b : Str) : encodeUE (a ++ b) = encodeUE a ++ encodeUE b := by
  simp [encodeUE]

theorem encodeUE_spaces (k : Nat) : encodeUE (List.replicate k ' ') = List.replicate k ' ' := by
  induction k with
  | zero => rfl
  | succ k ih => simp only [List.replicate_succ, encodeUE, List.flatMap_cons, encChar_space] at ih ⊢; rw [ih]; rfl

theorem unmap_partition {α β : Type} (f : α → β) : ∀ (groups : List (List β)) (sw : List α),
    groups.flatten = sw.map f → ∃ sg : List (List α), sg.flatten = sw ∧ groups = sg.map (List.map f) := by
  intro groups
  induction groups with
  | nil => intro sw h; simp at h; subst h; exact ⟨[], rfl, rfl⟩
  | cons g gs ih =>
    intro sw h
    simp only [List.flatten_cons] at h
    have hlen : g.length ≤ sw.length := by
      have := congrArg List.length h; simp at this; omega
    have h1 : g = (sw.take g.length).map f := by
      have := congrArg (List.take g.length) h
      rw [List.take_left' rfl, ← List.map_take] at this
      exact this
    have h2 : gs.flatten = (sw.drop g.length).map f := by
      have := congrArg (List.drop g.length) h
      rw [List.drop_left' rfl, ← List.map_drop] at this
      exact this
    obtain ⟨sg, hs1, hs2⟩ := ih _ h2
    refine ⟨sw.take g.length :: sg, ?_, ?_⟩
    · simp [hs1]
    · simp only [List.map_cons]; rw [← h1, ← hs2]

theorem splitP_append_sep (p : Char → Bool) (c : Char) (hc : p c = true) (a b : Str) :
    splitP p (a ++ c :: b) = splitP p a ++ splitP p b := by
  induction a with
  | nil => simp [splitP, hc]
  | cons x xs ih =>
    simp only [List.cons_append, splitP]
    by_cases hx : p x = true
    · simp only [hx, if_true, ih, List.cons_append]
    · simp only [hx, Bool.false_eq_true, if_false, ih]
      cases hs : splitP p xs with
      | nil => exact absurd hs (splitP_ne_nil p xs)
      | cons q qs => simp

theorem wordsOf_append_space (a b : Str) : wordsOf (a ++ ' ' :: b) = wordsOf a ++ wordsOf b := by
  unfold wordsOf
  rw [splitP_append_sep _ ' ' (by simp) a b, List.filter_append]

theorem wordsOf_nil : wordsOf [] = [] := by decide

theorem wordsOf_spaces (k : Nat) (b : Str) : wordsOf (List.replicate k ' ' ++ b) = wordsOf b := by
  induction k with
  | zero => simp
  | succ k ih =>
    rw [List.replicate_succ, List.cons_append]
    have := wordsOf_append_space [] (List.replicate k ' ' ++ b)
    simp only [List.nil_append] at this
    rw [this, wordsOf_nil, ih]; rfl

theorem wordsOf_gap (a b : Str) (k : Nat) : wordsOf (a ++ (List.replicate (k + 1) ' ' ++ b)) = wordsOf a ++ wordsOf b := by
  rw [List.replicate_succ, List.cons_append, wordsOf_append_space, wordsOf_spaces]

/-- the text the reader reassembles from the continuation lines: the groups of words, each joined by
single blanks, glued with the indentation -/
def gapJoin (P : Nat) (sg : List (List Str)) : Str := joinStr (List.replicate P ' ') (sg.map (joinChar ' '))

theorem wordsOf_gapJoin (P : Nat) (hP : 1 ≤ P) (sg : List (List Str)) (hw : ∀ g ∈ sg, Words isSp g) :
    wordsOf (gapJoin P sg) = sg.flatten := by
  induction sg with
  | nil => rfl
  | cons g rest ih =>
    have hg := wordsOf_join g (hw g (by simp))
    cases rest with
    | nil => simp [gapJoin, joinStr, hg]
    | cons g2 r2 =>
      have ih' := ih (fun x hx => hw x (by simp [hx]))
      obtain ⟨k, hk⟩ : ∃ k, P = k + 1 := ⟨P - 1, by omega⟩
      simp only [gapJoin, List.map_cons, joinStr, List.flatten_cons] at ih' ⊢
      rw [List.append_assoc, hk, wordsOf_gap, hg, ← hk, ih']

theorem encodeUE_gapJoin (P : Nat) (sg : List (List Str)) :
    encodeUE (gapJoin P sg) = gapJoin P (sg.map (List.map encodeUE)) := by
  induction sg with
  | nil => rfl
  | cons g rest ih =>
    cases rest with
    | nil => simp [gapJoin, joinStr, encodeUE_join]
    | cons g2 r2 =>
      simp only [gapJoin, List.map_cons, joinStr] at ih ⊢
      rw [encodeUE_append, encodeUE_append, encodeUE_join, encodeUE_spaces, ih]

/-- groups of words: every group and every word non-empty -/
def Groups (sg : List (List Str)) : Prop := ∀ g ∈ sg, g ≠ [] ∧ Words blank4 g

theorem words_blank4_isSp {g : List Str} (h : Words blank4 g) : Words isSp g :=
  Words.mono (by intro c hc; unfold blank4 at hc; unfold isSp; simp at hc; simp [hc.1.1.1]) h

theorem gapJoin_head (P : Nat) (sg : List (List Str)) (hg : Groups sg) :
    (gapJoin P sg).head? = (joinChar ' ' sg.flatten).head? := by
  cases sg with
  | nil => rfl
  | cons g1 sgr =>
    obtain ⟨hne, hw⟩ := hg g1 (by simp)
    cases g1 with
    | nil => exact absurd rfl hne
    | cons w1 g1r =>
      have hw1 := (hw w1 (by simp)).1
      have hj : joinChar ' ' (w1 :: g1r) ≠ [] := fun e => by
        have := joinChar_head w1 g1r hw1
        rw [e] at this; exact hw1 (List.head?_eq_none_iff.mp this.symm)
      unfold gapJoin
      rw [List.map_cons, joinStr_head _ _ _ hj, joinChar_head _ _ hw1, List.flatten_cons, List.cons_append,
        joinChar_head _ _ hw1]

theorem gapJoin_last (P : Nat) (sg : List (List Str)) (hg : Groups sg) :
    (gapJoin P sg).getLast? = (joinChar ' ' sg.flatten).getLast? := by
  rcases List.eq_nil_or_concat sg with rfl | ⟨init, gl, rfl⟩
  · rfl
  · rw [List.concat_eq_append] at hg ⊢
    obtain ⟨hglne, hglw⟩ := hg gl (by simp)
    rcases List.eq_nil_or_concat gl with rfl | ⟨ginit, wl, rfl⟩
    · exact absurd rfl hglne
    · rw [List.concat_eq_append] at hglw ⊢
      have hwl := (hglw wl (by simp)).1
      have hj : joinChar ' ' (ginit ++ [wl]) ≠ [] := fun e => by
        have := joinChar_getLast ginit wl hwl
        rw [e] at this; exact hwl (List.getLast?_eq_none_iff.mp this.symm)
      unfold gapJoin
      rw [List.map_append, List.map_cons, List.map_nil, joinStr_getLast _ _ _ hj, joinChar_getLast _ _ hwl,
        List.flatten_append, List.flatten_cons, List.flatten_nil, List.append_nil, ← List.append_assoc,
        joinChar_getLast _ _ hwl]

/-- the reassembled text normalises to the text that was saved -/
theorem normalizeNS_gapJoin (hedge : Gen.Registry.nwEdgeBlanks = [' ', '\n', '\t', '\r'])
    (P : Nat) (hP : 1 ≤ P) (sg : List (List Str)) (hg : Groups sg)
    (hnorm : Norm (joinChar ' ' sg.flatten)) :
    normalizeNS (gapJoin P sg) = joinChar ' ' sg.flatten := by
  have hhead : ∀ c, (gapJoin P sg).head? = some c → isSpace c = false := by
    intro c hc; rw [gapJoin_head P sg hg] at hc; exact hnorm.2.1 c hc
  have hlast : ∀ c, (gapJoin P sg).getLast? = some c → isSpace c = false := by
    intro c hc; rw [gapJoin_last P sg hg] at hc; exact hnorm.2.2 c hc
  unfold normalizeNS strip
  rw [lstripP_id _ _ hhead, rstripP_id _ _ hlast, normalizeWhitespace_free hedge _ ?_ hhead hlast]
  · have := wordsOf_gapJoin P hP sg (fun g hgm => words_blank4_isSp (hg g hgm).2)
    unfold wordsOf at this
    unfold collapse
    rw [this]
  · intro c hc
    unfold gapJoin at hc
    rcases mem_joinStr _ _ c hc with h | ⟨x, hx, hcx⟩
    · cases List.eq_of_mem_replicate h; decide
    · rw [List.mem_map] at hx
      obtain ⟨g, hgm, rfl⟩ := hx
      rcases mem_joinChar g c hcx with rfl | ⟨w, hwm, hcw⟩
      · decide
      · have := not_blank4_of (((hg g hgm).2 w hwm).2 c hcw)
        exact ⟨this.1, this.2.1⟩

/-! ### the reader on continuation lines -/

theorem readLoop_cont (acc body : Str) (rest : List Str) (he : EvenTail body) :
    readLoop acc ((body ++ ['\\']) :: rest) = readLoop (acc ++ body) rest := by
  have h1 : rstripCRLF (body ++ ['\\']) = body ++ ['\\'] :=
    rstripP_id _ _ (by intro c hc; simp at hc; subst hc; decide)
  have h2 : oddTrailingBackslashes (body ++ ['\\']) = true := by
    unfold oddTrailingBackslashes
    unfold EvenTail at he
    simp only [List.reverse_append, List.reverse_cons, List.reverse_nil, List.nil_append, List.cons_append,
      List.takeWhile, decide_true, List.length_cons]
    simp; omega
  simp only [readLoop, h1, h2, if_true]
  simp

theorem joinChar_nl (x : Str) (xs : List Str) : joinChar '\n' (x :: xs) ++ ['\n'] = linesText (x :: xs) := by
  induction xs generalizing x with
  | nil => simp [joinChar, linesText]
  | cons y ys ih =>
    simp only [joinChar, List.append_assoc, List.cons_append]
    rw [ih y]
    simp [linesText]

/-- every line but the last gets a trailing backslash -/
def contLines : List Str → List Str
  | [] => []
  | [l] => [l]
  | l :: rest => (l ++ ['\\']) :: contLines rest

/-- the name in front of the first line, the indentation in front of the others -/
def physLines (name ind : Str) : List Str → List Str
  | [] => [name ++ [':', ' ']]
  | l :: rest => contLines ((name ++ ':' :: ' ' :: l) :: rest.map (ind ++ ·))

theorem decorate_tail (P : Nat) : ∀ (ls : List Str) (i : Nat),
    decorateLines P (i + 1) ls = contLines (ls.map (List.replicate P ' ' ++ ·))
  | [], _ => rfl
  | [_], _ => by simp [decorateLines, contLines]
  | l :: m :: ms, i => by
    simp only [decorateLines, List.map_cons, contLines, decorate_tail P (m :: ms) (i + 1)]
    simp

theorem valueLine_phys (name : Str) (P : Nat) (lines : List Str) :
    valueLine name (joinChar '\n' (decorateLines P 0 lines)) =
      linesText (physLines name (List.replicate P ' ') lines) := by
  unfold valueLine
  cases lines with
  | nil => simp [decorateLines, joinChar, physLines, linesText]
  | cons l rest =>
    cases rest with
    | nil => simp [decorateLines, joinChar, physLines, contLines, linesText]
    | cons m ms =>
      simp only [decorateLines, physLines, List.map_cons, contLines, decorate_tail P (m :: ms) 0, if_true]
      rw [joinChar_nl]
      simp [linesText]

theorem readLoop_contLines (name ser t : Str) (hn : GoodName name) (rest : List Str)
    (hps : ∀ x ∈ ser, Plain x) (hd : decodeUE ser = .ok t) : ∀ (xs : List Str) (acc : Str), xs ≠ [] →
    (∀ x ∈ xs, (∀ c ∈ x, Plain c) ∧ EvenTail x) → acc ++ xs.flatten = valueContent name ser →
    readLoop acc (contLines xs ++ rest) = (readLoop [] rest).cons (name, t)
  | [], _, h, _, _ => absurd rfl h
  | [l], acc, _, hx, hacc =>
    readLoop_final acc l rest name ser t hn (by simpa using hacc) (hx l (by simp)).1 (hx l (by simp)).2 hps hd
  | x :: y :: ys, acc, _, hx, hacc => by
    simp only [contLines, List.cons_append]
    rw [readLoop_cont acc x _ (hx x (by simp)).2]
    exact readLoop_contLines name ser t hn rest hps hd (y :: ys) (acc ++ x) (by simp)
      (fun z hz => hx z (List.mem_cons_of_mem _ hz)) (by simpa using hacc)

theorem encodeUE_joinStr_spaces (P : Nat) : ∀ (p : Str) (more : List Str),
    encodeUE (joinStr (List.replicate P ' ') (p :: more)) =
      encodeUE p ++ ((more.map encodeUE).map (List.replicate P ' ' ++ ·)).flatten
  | p, [] => by simp [joinStr]
  | p, q :: r => by
    simp only [joinStr, encodeUE_append, encodeUE_spaces, encodeUE_joinStr_spaces P q r, List.map_cons,
      List.flatten_cons, List.append_assoc]

/-- a line the reader keeps, whatever printable text follows it: printable, not a comment, not blank -/
def Kept (x : Str) : Prop := (∀ c ∈ x, Plain c) ∧ x.head? ≠ some '#' ∧ ∃ c ∈ x, c ≠ ' '

theorem Kept.keep {x : Str} (h : Kept x) (suffix : Str) (hs : ∀ c ∈ suffix, Plain c) :
    keepLine (x ++ suffix) = true ∧ NoNL (x ++ suffix) := by
  obtain ⟨hp, hh, c, hc, hcs⟩ := h
  refine ⟨keepLine_of _ ?_ c (List.mem_append_left _ hc) (plain_nospace (hp c hc) hcs),
    noNL_of_plain _ fun y hy => (List.mem_append.mp hy).elim (hp y) (hs y)⟩
  cases x with
  | nil => cases hc
  | cons a as => exact hh

theorem contLines_kept : ∀ xs : List Str, (∀ x ∈ xs, Kept x) → ∀ q ∈ contLines xs, keepLine q = true ∧ NoNL q
  | [], _, q, hq => by cases hq
  | [l], h, q, hq => by
    cases List.mem_singleton.mp hq
    simpa using (h l (by simp)).keep [] (by intro c hc; cases hc)
  | x :: y :: ys, h, q, hq => by
    rcases List.mem_cons.mp hq with rfl | hq
    · exact (h x (by simp)).keep ['\\'] (by intro c hc; cases List.mem_singleton.mp hc; decide)
    · exact contLines_kept (y :: ys) (fun z hz => h z (List.mem_cons_of_mem _ hz)) q hq

def LineOk (l : Str) : Prop := (∀ x ∈ l, Plain x) ∧ ∃ x ∈ l, x ≠ ' '

theorem physLines_ok (P : Nat) (hP : 1 ≤ P) (name : Str) (hn : GoodName name) (ls : List Str) (hls : ∀ l ∈ ls, LineOk l) :
    ∀ q ∈ physLines name (List.replicate P ' ') ls, keepLine q = true ∧ NoNL q := by
  obtain ⟨a, as, rfl⟩ : ∃ a as, name = a :: as := by
    cases name with
    | nil => exact absurd rfl hn.1
    | cons a as => exact ⟨a, as, rfl⟩
  have ha := hn.2.1 a (by simp)
  have first : ∀ ser : Str, (∀ y ∈ ser, Plain y) → Kept (valueContent (a :: as) ser) := fun ser hs =>
    ⟨content_plain _ ser hn hs, by simpa [valueContent] using hn.2.2.1, a, by simp [valueContent], ha.2⟩
  cases ls with
  | nil =>
    intro q hq
    cases List.mem_singleton.mp hq
    simpa [valueContent] using (first [] (by intro y hy; cases hy)).keep [] (by intro y hy; cases hy)
  | cons l rest =>
    refine contLines_kept _ fun x hx => ?_
    rcases List.mem_cons.mp hx with rfl | hx
    · exact first l (hls l (by simp)).1
    · obtain ⟨m, hm, rfl⟩ := List.mem_map.mp hx
      obtain ⟨hpl, c, hc, hcs⟩ := hls m (by simp [hm])
      obtain ⟨k, rfl⟩ : ∃ k, P = k + 1 := ⟨P - 1, by omega⟩
      refine ⟨fun y hy => (List.mem_append.mp hy).elim (fun h => ?_) (hpl y), by simp [List.replicate_succ],
        c, List.mem_append_right _ hc, hcs⟩
      cases List.eq_of_mem_replicate h; decide

theorem readLoop_phys (P : Nat) (name : Str) (hn : GoodName name) (rest : List Str) (ps : List Str) :
    readLoop [] (physLines name (List.replicate P ' ') (ps.map encodeUE) ++ rest) =
      (readLoop [] rest).cons (name, joinStr (List.replicate P ' ') ps) := by
  have hpre : ∀ x, (name ++ [':', ' ']).getLast? = some x → x ≠ '\\' := by
    intro x hx; rw [List.getLast?_append] at hx; cases hx; decide
  have hind : ∀ x, (List.replicate P ' ').getLast? = some x → x ≠ '\\' := by
    intro x hx; cases List.eq_of_mem_replicate (List.mem_of_getLast? hx); decide
  cases ps with
  | nil =>
    exact readLoop_final [] _ rest name [] [] hn (by simp [valueContent])
      (fun x hx => (List.mem_append.mp hx).elim (fun h => (hn.2.1 x h).1)
        (fun h => by simp only [List.mem_cons, List.not_mem_nil, or_false] at h; rcases h with rfl | rfl <;> decide))
      (by unfold EvenTail; simp) (by intro x hx; cases hx) (by decide)
  | cons p more =>
    refine readLoop_contLines name _ _ hn rest (encodeUE_plain _) (decodeUE_encodeUE _) _ [] (by simp) ?_ ?_
    · intro x hx
      rcases List.mem_cons.mp hx with rfl | hx
      · exact ⟨content_plain name _ hn (encodeUE_plain p),
          by simpa using evenTail_prefix (name ++ [':', ' ']) _ hpre (encodeUE_evenTail p)⟩
      · obtain ⟨m, hm, rfl⟩ := List.mem_map.mp hx
        obtain ⟨q, _, rfl⟩ := List.mem_map.mp hm
        refine ⟨fun y hy => (List.mem_append.mp hy).elim (fun h => ?_) (encodeUE_plain q y),
          evenTail_prefix _ _ hind (encodeUE_evenTail q)⟩
        cases List.eq_of_mem_replicate h; decide
    · simp [valueContent, encodeUE_joinStr_spaces]

theorem mem_joinChar_of_mem (ws : List Str) (w : Str) (c : Char) (hw : w ∈ ws) (hc : c ∈ w) : c ∈ joinChar ' ' ws := by
  induction ws with
  | nil => simp at hw
  | cons a rest ih =>
    cases rest with
    | nil => simp at hw; subst hw; simpa [joinChar] using hc
    | cons b bs =>
      simp only [joinChar, List.mem_append, List.mem_cons]
      rcases List.mem_cons.mp hw with rfl | hw'
      · exact Or.inl hc
      · exact Or.inr (Or.inr (ih hw'))

theorem escaped_words (hedge : Gen.Registry.nwEdgeBlanks = [' ', '\n', '\t', '\r']) (pr : Char → Bool) (v : Str) :
    ∃ sw, Words blank4 sw ∧ strStr pr (normalizeNS v) = joinChar ' ' sw ∧
      encodeUE (strStr pr (normalizeNS v)) = joinChar ' ' (sw.map encodeUE) ∧
      wordsOf (encodeUE (strStr pr (normalizeNS v))) = sw.map encodeUE := by
  obtain ⟨⟨sw, hsw, hs_eq⟩, _, _⟩ := norm_strStr pr _ (norm_normalizeNS hedge v)
  have he : encodeUE (strStr pr (normalizeNS v)) = joinChar ' ' (sw.map encodeUE) := by rw [hs_eq, encodeUE_join]
  exact ⟨sw, hsw, hs_eq, he, by rw [he]; exact wordsOf_join _ (words_map_encode sw (words_blank4_isSp hsw))⟩

/-- a NormalizedString value (wrapped into continuation lines) as a unit -/
theorem ns_unit (hq : QuotesOk Gen.Registry.stringQuotes) (hedge : Gen.Registry.nwEdgeBlanks = [' ', '\n', '\t', '\r'])
    (pr : Char → Bool) (help : List Str) (hhelp : ∀ l ∈ help, SkipLine l) (name : Str) (hn : GoodName name) (v : Str) :
    ∃ u : RUnit, u.help = help ∧ u.name = name ∧ RUnitOk u ∧
      valueLine name (nsSerialize name (encodeUE (strStr pr (normalizeNS v)))) = linesText u.phys ∧
      StrClass.set .normalized pr u.text = .ok (normalizeNS v) := by
  have hx := norm_normalizeNS hedge v
  obtain ⟨sw, hsw, hs_eq, _, hwords⟩ := escaped_words hedge pr v
  obtain ⟨hflat, hgne⟩ := wrapWords_spec (nsWidth name) (sw.map encodeUE)
  obtain ⟨sg, hsg1, hsg2⟩ := unmap_partition encodeUE _ sw hflat
  have hgroups : Groups sg := by
    intro g hg
    constructor
    · intro e
      have : g.map encodeUE ∈ wrapWords (nsWidth name) (sw.map encodeUE) := by
        rw [hsg2]; exact List.mem_map.mpr ⟨g, hg, rfl⟩
      exact hgne _ this (by rw [e]; rfl)
    · intro w hw
      exact hsw w (by rw [← hsg1]; exact List.mem_flatten.mpr ⟨g, hg, hw⟩)
  have hlines : (wrapWords (nsWidth name) (sw.map encodeUE)).map (joinChar ' ') = (sg.map (joinChar ' ')).map encodeUE := by
    rw [hsg2, List.map_map, List.map_map]
    apply List.map_congr_left
    intro g _
    simp only [Function.comp]
    rw [encodeUE_join]
  have hP : 1 ≤ name.length + Gen.Registry.wrapPrefixExtra := by
    have := hn.1; cases name with
    | nil => exact absurd rfl this
    | cons a as => simp; omega
  have hser : nsSerialize name (encodeUE (strStr pr (normalizeNS v))) =
      joinChar '\n' (decorateLines (name.length + Gen.Registry.wrapPrefixExtra) 0 ((sg.map (joinChar ' ')).map encodeUE)) := by
    unfold nsSerialize
    simp only [hwords, hlines]
  have hlok : ∀ l ∈ (sg.map (joinChar ' ')).map encodeUE, LineOk l := by
    intro l hl
    simp only [List.mem_map] at hl
    obtain ⟨p, ⟨g, hg, rfl⟩, rfl⟩ := hl
    refine ⟨encodeUE_plain _, ?_⟩
    obtain ⟨hgne', hgw⟩ := hgroups g hg
    cases g with
    | nil => exact absurd rfl hgne'
    | cons w rest =>
      have hw := words_map_encode (w :: rest) (words_blank4_isSp hgw) (encodeUE w) (by simp)
      cases hew : encodeUE w with
      | nil => exact absurd hew hw.1
      | cons c cs =>
        refine ⟨c, ?_, ?_⟩
        · rw [encodeUE_join]
          exact mem_joinChar_of_mem _ (encodeUE w) c (by simp) (by rw [hew]; simp)
        · have := hw.2 c (by rw [hew]; simp); unfold isSp at this; simpa using this
  refine ⟨⟨help, name, physLines name (List.replicate (name.length + Gen.Registry.wrapPrefixExtra) ' ') ((sg.map (joinChar ' ')).map encodeUE),
      joinStr (List.replicate (name.length + Gen.Registry.wrapPrefixExtra) ' ') (sg.map (joinChar ' '))⟩, rfl, rfl, ⟨hhelp, ?_, ?_⟩, ?_, ?_⟩
  · exact physLines_ok _ hP name hn _ hlok
  · intro rest
    exact readLoop_phys _ name hn rest (sg.map (joinChar ' '))
  · simp only
    rw [hser, valueLine_phys]
  · have hnorm : Norm (joinChar ' ' sg.flatten) := by rw [hsg1, ← hs_eq]; exact norm_strStr pr _ hx
    show StrClass.set .normalized pr (gapJoin _ sg) = _
    unfold StrClass.set
    simp only [if_true]
    rw [normalizeNS_gapJoin hedge _ hP sg hgroups hnorm, hsg1, ← hs_eq, strSet_strStr hq]
    simp only [SetRes.bind, StrClass.setValue, normalizeNS_norm hedge _ hx]

theorem normalized_file_roundtrip_aux (hh : HeaderOk Gen.Registry.confFileHeader)
    (hq : QuotesOk Gen.Registry.stringQuotes) (hedge : Gen.Registry.nwEdgeBlanks = [' ', '\n', '\t', '\r'])
    (pr : Char → Bool) (name : Str) (hn : GoodName name) (help : List Str) (hhelp : ∀ l ∈ help, SkipLine l) (v : Str) :
    ∃ T, readRegistry (fileText [⟨help.map (· ++ ['\n']), name, nsSerialize name (encodeUE (strStr pr (normalizeNS v)))⟩]) =
        .ok [(name, T)] ∧ StrClass.set .normalized pr T = .ok (normalizeNS v) := by
  obtain ⟨u, hu0, hu1, hu2, hu3, hu4⟩ := ns_unit hq hedge pr help hhelp name hn v
  refine ⟨u.text, ?_, hu4⟩
  have := read_units _ hh [u] (by intro u' hu'; cases List.mem_singleton.mp hu'; exact hu2)
  simp only [List.flatMap_cons, List.flatMap_nil, List.append_nil, RUnit.lines, hu0, hu1, List.map_cons,
    List.map_nil] at this
  rw [← this, ← entry_text help name _ u.phys hu3]
  simp [fileText]

end C15
