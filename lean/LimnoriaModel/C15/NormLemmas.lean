/-
C15 — NormalizedString: normal forms, `normalize` is idempotent, `repr` keeps the normal form.
-/
import LimnoriaModel.C15.Lemmas
namespace C15
open Py

/-! ### NormalizedString: normal forms -/

theorem splitP_join (p : Char → Bool) (hp : p ' ' = true) (ws : List Str) (hw : Words p ws) (hne : ws ≠ []) :
    splitP p (joinChar ' ' ws) = ws := by
  induction ws with
  | nil => exact absurd rfl hne
  | cons w rest ih =>
    cases rest with
    | nil => simp only [joinChar]; exact splitP_no p w (hw w (by simp)).2
    | cons w2 rest2 =>
      simp only [joinChar]
      rw [splitP_append p w _ ' ' hp (hw w (by simp)).2]
      have := ih (fun x hx => hw x (by simp [hx])) (by simp)
      rw [this]

theorem filter_nonempty_id (xs : List Str) (h : ∀ x ∈ xs, x ≠ []) : xs.filter (fun x => !x.isEmpty) = xs := by
  rw [List.filter_eq_self]
  intro x hx
  have := h x hx
  cases x with
  | nil => exact absurd rfl this
  | cons a as => rfl

theorem filter_words (p : Char → Bool) (ws : List Str) (hw : Words p ws) :
    ws.filter (fun x => !x.isEmpty) = ws :=
  filter_nonempty_id ws (fun w h => (hw w h).1)

theorem collapse_join (p : Char → Bool) (hp : p ' ' = true) (ws : List Str) (hw : Words p ws) :
    collapse p (joinChar ' ' ws) = joinChar ' ' ws := by
  unfold collapse
  cases ws with
  | nil => rfl
  | cons w rest =>
    rw [splitP_join p hp _ hw (by simp), filter_words p _ hw]

theorem collapse_words (p : Char → Bool) (s : Str) : Words p ((splitP p s).filter (fun x => !x.isEmpty)) := by
  intro w hw
  rw [List.mem_filter] at hw
  refine ⟨?_, splitP_pieces p s w hw.1⟩
  intro e; subst e; simp at hw

/-- the blanks `normalizeWhitespace` collapses: space, LF, TAB, CR -/
def blank4 (c : Char) : Bool := c = ' ' || c = '\n' || c = '\t' || c = '\r'

theorem blank4_isSpace {c : Char} (h : isSpace c = false) : blank4 c = false := by
  have hne : ∀ a, isSpace a = true → c ≠ a := fun a ha => ne_of_not (P := fun x => isSpace x = false) h (by simp [ha])
  simp [blank4, hne ' ' rfl, hne '\n' rfl, hne '\t' rfl, hne '\r' rfl]

/-- a normalised text: words free of blank, TAB, CR, LF joined by single blanks, and no Unicode
blank at either end -/
def Norm (y : Str) : Prop :=
  (∃ ws, Words blank4 ws ∧ y = joinChar ' ' ws) ∧
  (∀ c, y.head? = some c → isSpace c = false) ∧ (∀ c, y.getLast? = some c → isSpace c = false)

theorem joinChar_eq_joinStr (c : Char) : ∀ ws : List Str, joinChar c ws = joinStr [c] ws
  | [] => rfl
  | [_] => rfl
  | p :: q :: r => by simp only [joinChar, joinStr, joinChar_eq_joinStr c (q :: r), List.append_assoc, List.cons_append, List.nil_append]

theorem mem_joinStr (sep : Str) (xs : List Str) (c : Char) (h : c ∈ joinStr sep xs) : c ∈ sep ∨ ∃ x ∈ xs, c ∈ x := by
  induction xs with
  | nil => simp [joinStr] at h
  | cons x rest ih =>
    cases rest with
    | nil => simp only [joinStr] at h; exact Or.inr ⟨x, by simp, h⟩
    | cons y ys =>
      simp only [joinStr, List.mem_append] at h
      rcases h with (h | h) | h
      · exact Or.inr ⟨x, by simp, h⟩
      · exact Or.inl h
      · rcases ih h with h' | ⟨z, hz, hc⟩
        · exact Or.inl h'
        · exact Or.inr ⟨z, by simp [hz], hc⟩

theorem mem_joinChar (ws : List Str) (c : Char) (h : c ∈ joinChar ' ' ws) : c = ' ' ∨ ∃ w ∈ ws, c ∈ w := by
  rw [joinChar_eq_joinStr] at h
  exact (mem_joinStr _ ws c h).imp List.mem_singleton.mp id

theorem Words.mono {p q : Char → Bool} (h : ∀ c, p c = false → q c = false) {ws : List Str} (hw : Words p ws) : Words q ws :=
  fun w hwm => ⟨(hw w hwm).1, fun c hc => h c ((hw w hwm).2 c hc)⟩

theorem collapse_id_of_free (p : Char → Bool) (y : Str) (h : ∀ c ∈ y, p c = false) : collapse p y = y := by
  unfold collapse
  rw [splitP_no p y h]
  cases y with
  | nil => rfl
  | cons a as => rfl

theorem normalizeWhitespace_free (hedge : Gen.Registry.nwEdgeBlanks = [' ', '\n', '\t', '\r']) (y : Str)
    (hfree : ∀ c ∈ y, (c = '\r' || c = '\n') = false ∧ (c = '\t') = false)
    (hhead : ∀ c, y.head? = some c → isSpace c = false) (hlast : ∀ c, y.getLast? = some c → isSpace c = false) :
    normalizeWhitespace y = collapse (fun c => c = ' ') y := by
  unfold normalizeWhitespace
  cases hh : y.head? with
  | none =>
    have : y = [] := by cases y <;> simp_all
    subst this; rfl
  | some a =>
    cases hl : y.getLast? with
    | none => cases y <;> simp_all
    | some b =>
      simp only
      rw [collapse_id_of_free _ y (fun c hc => (hfree c hc).1),
        collapse_id_of_free _ y (fun c hc => by simpa using (hfree c hc).2), hedge]
      have ha := blank4_isSpace (hhead a hh)
      have hb := blank4_isSpace (hlast b hl)
      unfold blank4 at ha hb
      simp at ha hb
      simp [ha, hb]

theorem normalizeWhitespace_norm (hedge : Gen.Registry.nwEdgeBlanks = [' ', '\n', '\t', '\r']) (y : Str) (h : Norm y) :
    normalizeWhitespace y = y := by
  obtain ⟨⟨ws, hw, hy⟩, hhead, hlast⟩ := h
  rw [normalizeWhitespace_free hedge y ?_ hhead hlast, hy]
  · exact collapse_join _ (by simp) ws (Words.mono (by intro c hc; unfold blank4 at hc; simp at hc; simp [hc.1.1.1]) hw)
  · intro c hc
    rw [hy] at hc
    rcases mem_joinChar ws c hc with rfl | ⟨w, hwm, hcw⟩
    · decide
    · have := (hw w hwm).2 c hcw
      unfold blank4 at this
      simp at this
      simp [this]

theorem normalizeNS_norm (hedge : Gen.Registry.nwEdgeBlanks = [' ', '\n', '\t', '\r']) (y : Str) (h : Norm y) :
    normalizeNS y = y := by
  unfold normalizeNS strip
  rw [lstripP_id _ _ h.2.1, rstripP_id _ _ h.2.2]
  exact normalizeWhitespace_norm hedge y h

theorem splitP_ne_nil (p : Char → Bool) (s : Str) : splitP p s ≠ [] := by
  cases s with
  | nil => simp [splitP]
  | cons x xs =>
    simp only [splitP]
    split
    · simp
    · split <;> simp

theorem mem_collapse (p : Char → Bool) (s : Str) (c : Char) (h : c ∈ collapse p s) : c = ' ' ∨ (c ∈ s ∧ p c = false) := by
  unfold collapse at h
  rcases mem_joinChar _ c h with rfl | ⟨w, hw, hc⟩
  · exact Or.inl rfl
  · rw [List.mem_filter] at hw
    exact Or.inr ⟨splitP_sub p s w hw.1 c hc, splitP_pieces p s w hw.1 c hc⟩

theorem joinStr_head (sep x : Str) (xs : List Str) (hx : x ≠ []) : (joinStr sep (x :: xs)).head? = x.head? := by
  cases x with
  | nil => exact absurd rfl hx
  | cons a as => cases xs <;> simp [joinStr]

theorem joinStr_getLast (sep : Str) (xs : List Str) (q : Str) (hq : q ≠ []) :
    (joinStr sep (xs ++ [q])).getLast? = q.getLast? := by
  induction xs with
  | nil => rfl
  | cons x rest ih =>
    cases hr : rest ++ [q] with
    | nil => simp at hr
    | cons y ys =>
      rw [hr] at ih
      rw [List.cons_append, hr]
      show (x ++ sep ++ joinStr sep (y :: ys)).getLast? = _
      rw [List.getLast?_append, ih]
      cases h : q.getLast? with
      | none => exact absurd (List.getLast?_eq_none_iff.mp h) hq
      | some b => rfl

theorem joinChar_head (w : Str) (rest : List Str) (hw : w ≠ []) :
    (joinChar ' ' (w :: rest)).head? = w.head? := by
  rw [joinChar_eq_joinStr]; exact joinStr_head _ w rest hw

theorem collapse_head (p : Char → Bool) (s : Str) (a : Char) (hh : s.head? = some a) (ha : p a = false) :
    (collapse p s).head? = some a := by
  obtain ⟨r, rfl⟩ : ∃ r, s = a :: r := by
    cases s with
    | nil => cases hh
    | cons x xs => cases hh; exact ⟨xs, rfl⟩
  unfold collapse
  simp only [splitP, ha, Bool.false_eq_true, if_false]
  cases hsp : splitP p r with
  | nil => exact absurd hsp (splitP_ne_nil p r)
  | cons q qs =>
    simp only [List.filter, List.isEmpty_cons, Bool.not_false]
    exact joinChar_head _ _ (List.cons_ne_nil _ _)

theorem joinChar_getLast (xs : List Str) (q : Str) (hq : q ≠ []) :
    (joinChar ' ' (xs ++ [q])).getLast? = q.getLast? := by
  rw [joinChar_eq_joinStr]; exact joinStr_getLast _ xs q hq

theorem splitP_last (p : Char → Bool) (b : Char) (hb : p b = false) : ∀ s : Str, s.getLast? = some b →
    ∃ init q, splitP p s = init ++ [q] ∧ q.getLast? = some b := by
  intro s
  induction s with
  | nil => intro h; simp at h
  | cons x xs ih =>
    intro h
    cases xs with
    | nil =>
      simp at h; subst h
      exact ⟨[], [x], by simp [splitP, hb], by simp⟩
    | cons y r =>
      rw [List.getLast?_cons_cons] at h
      obtain ⟨init, q, hs, hq⟩ := ih h
      simp only [splitP] at hs ⊢
      by_cases hx : p x = true
      · rw [if_pos hx]
        exact ⟨[] :: init, q, by rw [hs]; simp, hq⟩
      · rw [if_neg hx, hs]
        cases init with
        | nil =>
          refine ⟨[], x :: q, by simp, ?_⟩
          cases q with
          | nil => simp at hq
          | cons q0 qr => rw [List.getLast?_cons_cons]; exact hq
        | cons i0 ir => exact ⟨(x :: i0) :: ir, q, by simp, hq⟩

theorem collapse_last (p : Char → Bool) (s : Str) (b : Char) (hl : s.getLast? = some b) (hb : p b = false) :
    (collapse p s).getLast? = some b := by
  obtain ⟨init, q, hs, hq⟩ := splitP_last p b hb s hl
  unfold collapse
  rw [hs, List.filter_append]
  have hq0 : q ≠ [] := fun e => by rw [e] at hq; cases hq
  have hqne : q.isEmpty = false := List.isEmpty_eq_false_iff.mpr hq0
  simp only [List.filter, hqne, Bool.not_false]
  rw [joinChar_getLast _ q hq0, hq]

theorem rstripP_prefix (p : Char → Bool) (s : Str) : ∃ suf, s = rstripP p s ++ suf := by
  unfold rstripP
  obtain ⟨pre, h⟩ := List.dropWhile_suffix p (l := s.reverse)
  refine ⟨pre.reverse, ?_⟩
  have := congrArg List.reverse h.symm
  simp only [List.reverse_reverse, List.reverse_append] at this
  exact this

theorem rstripP_head (p : Char → Bool) (s : Str) (c : Char) (h : (rstripP p s).head? = some c) : s.head? = some c := by
  obtain ⟨suf, hs⟩ := rstripP_prefix p s
  rw [hs]
  cases hr : rstripP p s with
  | nil => rw [hr] at h; simp at h
  | cons a as => rw [hr] at h; simp at h ⊢; exact h

theorem strip_head (v : Str) (c : Char) (h : (strip v).head? = some c) : isSpace c = false := by
  unfold strip at h
  exact dropWhile_head_not isSpace v c (rstripP_head isSpace _ c h)

theorem strip_last (v : Str) (c : Char) (h : (strip v).getLast? = some c) : isSpace c = false :=
  rstripP_last isSpace _ c h

theorem not_blank4_of {c : Char} (h : blank4 c = false) :
    (c = '\r' || c = '\n') = false ∧ (c = '\t') = false ∧ (c = ' ') = false := by
  unfold blank4 at h; simp at h; simp [h]

/-- whatever the input, `NormalizedString.normalize` produces a normalised text -/
theorem norm_normalizeNS (hedge : Gen.Registry.nwEdgeBlanks = [' ', '\n', '\t', '\r']) (v : Str) : Norm (normalizeNS v) := by
  unfold normalizeNS normalizeWhitespace
  cases hh : (strip v).head? with
  | none =>
    simp only
    exact ⟨⟨[], by intro w hw; simp at hw, rfl⟩, by simp, by simp⟩
  | some a =>
    cases hl : (strip v).getLast? with
    | none => cases hs : strip v <;> simp_all
    | some b =>
      simp only
      have ha := not_blank4_of (blank4_isSpace (strip_head v a hh))
      have hb := not_blank4_of (blank4_isSpace (strip_last v b hl))
      -- the three passes keep both ends
      let s1 := collapse (fun c => c = '\r' || c = '\n') (strip v)
      let s2 := collapse (fun c => c = '\t') s1
      let s3 := collapse (fun c => c = ' ') s2
      have h1head : s1.head? = some a := collapse_head _ _ a hh ha.1
      have h1last : s1.getLast? = some b := collapse_last _ _ b hl hb.1
      have h2head : s2.head? = some a := collapse_head _ _ a h1head (by simpa using ha.2.1)
      have h2last : s2.getLast? = some b := collapse_last _ _ b h1last (by simpa using hb.2.1)
      have h3head : s3.head? = some a := collapse_head _ _ a h2head (by simpa using ha.2.2)
      have h3last : s3.getLast? = some b := collapse_last _ _ b h2last (by simpa using hb.2.2)
      have c1 : ∀ c ∈ s1, (c = '\r' || c = '\n') = false := by
        intro c hc
        rcases mem_collapse _ _ c hc with rfl | ⟨_, h⟩
        · decide
        · exact h
      have c2 : ∀ c ∈ s2, (c = '\r' || c = '\n') = false ∧ (c = '\t') = false := by
        intro c hc
        rcases mem_collapse _ _ c hc with rfl | ⟨hm, h⟩
        · decide
        · exact ⟨c1 c hm, by simpa using h⟩
      have hedgeA : Gen.Registry.nwEdgeBlanks.contains a = false := by
        rw [hedge]; simp at ha ⊢; simp [ha]
      have hedgeB : Gen.Registry.nwEdgeBlanks.contains b = false := by
        rw [hedge]; simp at hb ⊢; simp [hb]
      show Norm (if Gen.Registry.nwEdgeBlanks.contains b = true then
          (if Gen.Registry.nwEdgeBlanks.contains a = true then ' ' :: s3 else s3) ++ [' ']
        else (if Gen.Registry.nwEdgeBlanks.contains a = true then ' ' :: s3 else s3))
      simp only [hedgeA, hedgeB, Bool.false_eq_true, if_false]
      refine ⟨⟨(splitP (fun c => c = ' ') s2).filter (fun x => !x.isEmpty), ?_, rfl⟩, ?_, ?_⟩
      · intro w hw
        have hwords := collapse_words (fun c => decide (c = ' ')) s2 w hw
        refine ⟨hwords.1, ?_⟩
        intro c hc
        have hsp := hwords.2 c hc
        rw [List.mem_filter] at hw
        have hm := splitP_sub _ s2 w hw.1 c hc
        have := c2 c hm
        unfold blank4
        simp at hsp this ⊢
        simp [hsp, this]
      · intro c hc; rw [h3head] at hc; cases hc; exact strip_head v a hh
      · intro c hc; rw [h3last] at hc; cases hc; exact strip_last v b hl

theorem flatMap_joinChar (f : Char → Str) (hf : f ' ' = [' ']) (ws : List Str) :
    (joinChar ' ' ws).flatMap f = joinChar ' ' (ws.map (List.flatMap f)) := by
  induction ws with
  | nil => rfl
  | cons w rest ih =>
    cases rest with
    | nil => simp [joinChar]
    | cons w2 r2 =>
      simp only [joinChar, List.map_cons, List.flatMap_append, List.flatMap_cons, hf] at ih ⊢
      rw [ih]; simp

theorem Words.cons {p : Char → Bool} {w : Str} {ws : List Str} (hne : w ≠ []) (hw : ∀ c ∈ w, p c = false)
    (h : Words p ws) : Words p (w :: ws) := by
  intro u hu
  rcases List.mem_cons.mp hu with rfl | hu
  · exact ⟨hne, hw⟩
  · exact h u hu

theorem words_cons_char (q : Char) (hq : blank4 q = false) (ws : List Str) (hw : Words blank4 ws) :
    ∃ ws', Words blank4 ws' ∧ q :: joinChar ' ' ws = joinChar ' ' ws' := by
  have hq1 : ∀ c ∈ [q], blank4 c = false := fun c hc => List.mem_singleton.mp hc ▸ hq
  cases ws with
  | nil => exact ⟨[[q]], Words.cons (List.cons_ne_nil _ _) hq1 hw, rfl⟩
  | cons w rest =>
    refine ⟨(q :: w) :: rest, Words.cons (List.cons_ne_nil _ _) ?_ (fun u hu => hw u (List.mem_cons_of_mem _ hu)),
      by cases rest <;> rfl⟩
    intro c hc
    rcases List.mem_cons.mp hc with rfl | hc
    · exact hq
    · exact (hw w (List.mem_cons_self ..)).2 c hc

theorem words_snoc_char (q : Char) (hq : blank4 q = false) : ∀ ws : List Str, Words blank4 ws →
    ∃ ws', Words blank4 ws' ∧ joinChar ' ' ws ++ [q] = joinChar ' ' ws'
  | [], hw => ⟨[[q]], Words.cons (List.cons_ne_nil _ _) (fun c hc => List.mem_singleton.mp hc ▸ hq) hw, rfl⟩
  | [w], hw => by
    refine ⟨[w ++ [q]], Words.cons (by simp) ?_ (fun u hu => nomatch hu), rfl⟩
    intro c hc
    rcases List.mem_append.mp hc with hc | hc
    · exact (hw w (List.mem_cons_self ..)).2 c hc
    · exact List.mem_singleton.mp hc ▸ hq
  | w :: w2 :: r, hw => by
    obtain ⟨ws', h1, h2⟩ := words_snoc_char q hq (w2 :: r) (fun u hu => hw u (List.mem_cons_of_mem _ hu))
    refine ⟨w :: ws', Words.cons (hw w (List.mem_cons_self ..)).1 (hw w (List.mem_cons_self ..)).2 h1, ?_⟩
    cases ws' with
    | nil => exact absurd h2 (by simp [joinChar])
    | cons a as => simp only [joinChar, List.append_assoc, List.cons_append, h2]

theorem alnum_not_blank {x : Char} (h : Alnum x) : blank4 x = false := by
  simp [blank4, ne_of_not h (by decide : ¬ Alnum ' '), ne_of_not h (by decide : ¬ Alnum '\n'),
    ne_of_not h (by decide : ¬ Alnum '\t'), ne_of_not h (by decide : ¬ Alnum '\r')]

theorem reprChar_space (pr : Char → Bool) (q : Char) (hq : q = '\'' ∨ q = '"') : reprChar pr q ' ' = [' '] := by
  rcases hq with rfl | rfl <;> rfl

theorem words_map_repr (pr : Char → Bool) (q : Char) (hq : q = '\'' ∨ q = '"') (ws : List Str) (hw : Words blank4 ws) :
    Words blank4 (ws.map (List.flatMap (reprChar pr q))) := by
  have hq32 : 32 ≤ q.toNat := by rcases hq with rfl | rfl <;> decide
  intro w hwm
  rw [List.mem_map] at hwm
  obtain ⟨w0, hw0, rfl⟩ := hwm
  obtain ⟨hne, hfree⟩ := hw w0 hw0
  constructor
  · cases w0 with
    | nil => exact absurd rfl hne
    | cons a as =>
      rw [List.flatMap_cons]
      exact fun e => reprChar_ne_nil pr q a (List.append_eq_nil_iff.mp e).1
  · intro x hx
    rw [List.mem_flatMap] at hx
    obtain ⟨c, hc, hxc⟩ := hx
    exact reprChar_keeps (fun x => blank4 x = false) (by decide) (fun _ => alnum_not_blank) pr q c hq32
      (fun _ => hfree c hc) x hxc

theorem norm_pyRepr (pr : Char → Bool) (x : Str) (h : Norm x) : Norm (pyRepr pr x) := by
  obtain ⟨⟨ws, hw, hx⟩, _, _⟩ := h
  have hq := reprQuote_cases x
  have hqb : blank4 (reprQuote x) = false := by rcases hq with h | h <;> rw [h] <;> decide
  have hqs : isSpace (reprQuote x) = false := by rcases hq with h | h <;> rw [h] <;> decide
  refine ⟨?_, ?_, ?_⟩
  · -- the body is the words of `x`, each escaped; the quotes join the first and the last of them
    unfold pyRepr
    simp only
    generalize reprQuote x = q at hq hqb ⊢
    obtain ⟨ws1, hw1, h1⟩ := words_snoc_char q hqb _ (words_map_repr pr q hq ws hw)
    obtain ⟨ws2, hw2, h2⟩ := words_cons_char q hqb ws1 hw1
    exact ⟨ws2, hw2, by rw [hx, flatMap_joinChar _ (reprChar_space pr q hq), h1, h2]⟩
  · intro c hc; rw [head_pyRepr] at hc; cases hc; exact hqs
  · intro c hc; rw [getLast_pyRepr] at hc; cases hc; exact hqs

theorem norm_strStr (pr : Char → Bool) (x : Str) (h : Norm x) : Norm (strStr pr x) := by
  unfold strStr
  split
  · exact norm_pyRepr pr x h
  · exact h

theorem normalized_roundtrip_aux (hq : QuotesOk Gen.Registry.stringQuotes)
    (hedge : Gen.Registry.nwEdgeBlanks = [' ', '\n', '\t', '\r']) (pr : Char → Bool) (v : Str) :
    StrClass.set .normalized pr (strStr pr (normalizeNS v)) = .ok (normalizeNS v) := by
  have hn := norm_normalizeNS hedge v
  unfold StrClass.set
  simp only [if_true]
  rw [normalizeNS_norm hedge _ (norm_strStr pr _ hn), strSet_strStr hq]
  simp only [SetRes.bind, StrClass.setValue, normalizeNS_norm hedge _ hn]

end C15
