/-
C15 — composition for the end-to-end theorem: every listed value becomes a "unit" of physical
lines the reader turns into one cache entry whose text the class reads back (one line for most
classes, continuation lines for NormalizedString); the start-up loop then rebuilds the tree.
-/
import LimnoriaModel.C15.BootLemmas
import LimnoriaModel.C15.WrapLemmas
namespace C15
open Py

/-- every listed value, of whatever class, is written as a unit the reader turns into a cache
entry the class reads back as that value -/
theorem entry_unit (hq : QuotesOk Gen.Registry.stringQuotes) (hedge : Gen.Registry.nwEdgeBlanks = [' ', '\n', '\t', '\r'])
    (pr : Char → Bool) (c : ClassId) (dflt : Val) (name : Str) (hn : GoodName name) (v : Val)
    (hrt : RT (c.cls pr dflt) v) :
    ∃ u : RUnit, u.help = [] ∧ u.name = name ∧ RUnitOk u ∧ valueLine name (c.serializeAt pr name v) = linesText u.phys ∧
      ∀ cur, (c.cls pr dflt).set cur u.text = .ok v := by
  by_cases hc : c = .str .normalized
  · subst hc
    have h0 := hrt dflt
    simp only [ClassId.cls, ClassId.set] at h0
    -- the value is a string, and a fixed point of normalize
    cases hres : StrClass.set .normalized pr (ClassId.show pr (.str .normalized) v) with
    | ok x =>
      rw [hres] at h0
      simp only [SetRes.map, SetRes.ok.injEq] at h0
      subst h0
      simp only [ClassId.show] at hres
      have hfix : ∃ w, x = normalizeNS w := by
        unfold StrClass.set at hres
        simp only [if_true] at hres
        cases h1 : strSet pr (normalizeNS (strStr pr x)) with
        | ok w => rw [h1] at hres; simp only [SetRes.bind, StrClass.setValue, SetRes.ok.injEq] at hres; exact ⟨w, hres.symm⟩
        | error => rw [h1] at hres; simp [SetRes.bind] at hres
        | unm => rw [h1] at hres; simp [SetRes.bind] at hres
      obtain ⟨w, hw⟩ := hfix
      obtain ⟨u, hu0, hu1, hu2, hu3, hu4⟩ := ns_unit hq hedge pr [] (by intro l hl; cases hl) name hn w
      rw [← hw] at hu3 hu4
      refine ⟨u, hu0, hu1, hu2, ?_, ?_⟩
      · simp only [ClassId.serializeAt, if_true, ClassId.serialize, ClassId.show]
        exact hu3
      · intro cur
        simp only [ClassId.cls, ClassId.set, hu4, SetRes.map]
    | error => rw [hres] at h0; simp [SetRes.map] at h0
    | unm => rw [hres] at h0; simp [SetRes.map] at h0
  · refine ⟨⟨[], name, [valueContent name (encodeUE (c.show pr v))], c.show pr v⟩, rfl, rfl,
      plain_unit [] name _ hn (by intro l hl; cases hl), ?_, ?_⟩
    · simp only [ClassId.serializeAt, if_neg hc, ClassId.serialize]
      exact valueLine_single name _
    · intro cur; exact hrt cur

theorem entries_units (hq : QuotesOk Gen.Registry.stringQuotes) (hedge : Gen.Registry.nwEdgeBlanks = [' ', '\n', '\t', '\r'])
    (pr : Char → Bool) (c : ClassId) (dflt : Val) : ∀ (es : List (Str × Val)),
    (∀ kv ∈ es, GoodName kv.1 ∧ RT (c.cls pr dflt) kv.2) →
    ∃ us : List RUnit, us.map (·.name) = es.map (·.1) ∧ (∀ u ∈ us, RUnitOk u) ∧
      ((es.map fun nv => (⟨[], nv.1, c.serializeAt pr nv.1 nv.2⟩ : Entry)).map Entry.text).flatten =
        linesText (us.flatMap RUnit.lines) ∧
      ∀ kv ∈ es, ∃ u ∈ us, u.name = kv.1 ∧ ∀ cur, (c.cls pr dflt).set cur u.text = .ok kv.2 := by
  intro es
  induction es with
  | nil => intro _; exact ⟨[], rfl, nofun, rfl, nofun⟩
  | cons kv rest ih =>
    intro h
    obtain ⟨us, h1, h2, h3, h4⟩ := ih (fun kv' hkv' => h kv' (by simp [hkv']))
    obtain ⟨u, hu0, hu1, hu2, hu3, hu4⟩ := entry_unit hq hedge pr c dflt kv.1 (h kv (by simp)).1 kv.2 (h kv (by simp)).2
    refine ⟨u :: us, by simp [hu1, h1], ?_, ?_, ?_⟩
    · intro u' hu'
      rcases List.mem_cons.mp hu' with rfl | hu'
      · exact hu2
      · exact h2 u' hu'
    · simp only [List.map_cons, List.flatten_cons, List.flatMap_cons, linesText_append]
      rw [← h3]
      simp only [Entry.text, List.flatten_nil, List.nil_append, hu3, RUnit.lines, hu0]
    · intro kv' hkv'
      rcases List.mem_cons.mp hkv' with rfl | hkv'
      · exact ⟨u, List.mem_cons_self .., hu1, hu4⟩
      · obtain ⟨u', hu', h'⟩ := h4 kv' hkv'
        exact ⟨u', List.mem_cons_of_mem _ hu', h'⟩

theorem saveLoad_normal_aux (hh : HeaderOk Gen.Registry.confFileHeader)
    (hq : QuotesOk Gen.Registry.stringQuotes) (hedge : Gen.Registry.nwEdgeBlanks = [' ', '\n', '\t', '\r'])
    (pr : Char → Bool) (c : ClassId) (dflt : Val) (K : Kind) (B : Str) (t : TreeSpec Val) (cache0 : Cache)
    (hK : K.chanV = true ∨ (K.netV = true ∧ t.chans = [] ∧ ∀ ns ∈ t.nets, ns.chans = []))
    (h : Storable pr c dflt B t) :
    ∃ cache', saveLoad pr c dflt K B ⟨t.build, cache0⟩ = .up ⟨t.build, cache'⟩ ∧ cache'.map (·.1) = t.keys B := by
  obtain ⟨us, hnames, huok, htext, hzip⟩ := entries_units hq hedge pr c dflt (t.entries B) (by
    intro kv hkv
    refine ⟨h.names kv.1 ?_, h.rt kv hkv⟩
    rw [← TreeSpec.entries_keys]
    exact List.mem_map.mpr ⟨kv, hkv, rfl⟩)
  have hkeys : (us.map fun u => (u.name, u.text)).map (·.1) = t.keys B := by
    rw [List.map_map, ← TreeSpec.entries_keys, ← hnames]; rfl
  refine ⟨us.map fun u => (u.name, u.text), ?_, hkeys⟩
  unfold saveLoad
  simp only
  rw [TreeSpec.build_dump B t h.sorted]
  unfold saveText fileText
  rw [htext, read_units _ hh us huok]
  simp only
  have hlow : lowKeys (us.map fun u => (u.name, u.text)) = (t.keys B).map asciiLower := by
    rw [← hkeys]; simp [lowKeys, List.map_map, Function.comp_def]
  have hnd : (lowKeys (us.map fun u => (u.name, u.text))).Nodup := by rw [hlow]; exact h.distinct
  rw [cacheOf_distinct _ hnd]
  have hcached : ∀ kv ∈ t.entries B, Cached (c.cls pr dflt) (us.map fun u => (u.name, u.text)) kv.1 kv.2 := by
    intro kv hkv
    obtain ⟨u, hu, hf, hset⟩ := hzip kv hkv
    refine ⟨u.text, ?_, hset⟩
    rw [← hf]
    exact cacheGet_mem _ _ _ (List.mem_map.mpr ⟨u, hu, rfl⟩) hnd
  apply boot_rebuilds (c.cls pr dflt) K B _ t hK hkeys
  refine ⟨h.rt (B, t.base) (by simp [TreeSpec.entries]), hcached (B, t.base) (by simp [TreeSpec.entries]), ?_, ?_, h.netsDistinct⟩
  · refine ⟨fun cv hcv => ⟨h.chans.1 cv hcv, h.rt (childName B cv.1, cv.2) (mem_entries_chan B t cv hcv),
      hcached (childName B cv.1, cv.2) (mem_entries_chan B t cv hcv)⟩, h.chans.2⟩
  · intro ns hns
    obtain ⟨hco, hkd⟩ := h.nets ns hns
    refine ⟨?_, ?_, hkd⟩
    · cases hs : ns.set with
      | some w =>
        have hm : (netName B ns.name, w) ∈ t.entries B :=
          mem_entries_net B t ns hns _ (by simp [NetSpec.entries, hs])
        exact ⟨h.rt (netName B ns.name, w) hm, hcached (netName B ns.name, w) hm⟩
      | none =>
        have := h.unset ns hns hs
        exact ⟨cacheGet_none _ _ (by rw [hlow]; exact this.1), this.2⟩
    · intro cv hcv
      have hm : (childName (netName B ns.name) cv.1, cv.2) ∈ t.entries B :=
        mem_entries_net B t ns hns _ (by
          simp only [NetSpec.entries, List.mem_append, List.mem_map]
          right; exact ⟨cv, hcv, rfl⟩)
      exact ⟨hco cv hcv, h.rt (childName (netName B ns.name) cv.1, cv.2) hm, hcached (childName (netName B ns.name) cv.1, cv.2) hm⟩

end C15
