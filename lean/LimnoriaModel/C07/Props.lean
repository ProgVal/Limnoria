/-
C07 — property theorems.  (Helper lemmas: `Lemmas.lean`; the driver model and its invariant: C11.)

"Whatever the server sends, the connection loop survives": stated for every behaviour of the
handlers and plugins (`IrcBehaviour`, `FeedScript` are universally quantified), every byte stream,
every chunking and every socket outcome script.
-/
import LimnoriaModel.C07.Lemmas
namespace C07
open Py

/-- The facts about `/repo` the theorems rest on (the fields of `TablesOk`), re-checked against the *extracted*
tables. -/
theorem firewall_tables_ok : TablesOk := {
  feedFw := by decide +kernel
  takeFw := by decide +kernel
  addMsgFw := by decide +kernel
  inFilterFw := by decide +kernel
  outFilterFw := by decide +kernel
  callFw := by decide +kernel
  inFilterH := rfl
  outFilterH := rfl
  catchF := by decide +kernel
  catchH := by decide +kernel
  runCatch := by decide +kernel
  malformed := by decide +kernel
  regAddMsg := by decide +kernel
  regInFilter := by decide +kernel
  regCallback := by decide +kernel
  encode := by decide +kernel
  logs := by decide +kernel
  nonBlocking := by decide +kernel
  deadlyOk := by decide +kernel }

/-- **`log.firewall` is total on `Exception`s**: if the wrapped body and the error handler raise
nothing but `Exception`s, the wrapper returns. -/
theorem firewall_total {α : Type} (f : Outcome α) (h : Option (Outcome α))
    (hf : OnlyExc f) (hh : ∀ o, h = some o → OnlyExc o) :
    ∃ r, firewall f h = .ret r := by
  unfold firewall
  rw [firewall_tables_ok.catchF, firewall_tables_ok.catchH]
  exact firewallWith_total firewall_tables_ok.deadlyOk f h hf hh

example : OnlyExc (Outcome.raise (.exception "ValueError") : Outcome Unit) := trivial

/-- **Every overridden hook is wrapped**: a class created by `MetaFirewall` that defines `attr` in
its body gets it firewalled as soon as *any* ancestor of *any* base (or the class itself) names it in
a `__firewalled__` map — e.g. a plugin (`callbacks.Plugin` subclass) overriding `outFilter`,
`inFilter` or `__call__`, which `IrcCallback.__firewalled__` names four levels up. -/
theorem plugin_hooks_wrapped (bases : List Ancestry) (own : FwMap) (classdict : List String) (attr : String)
    (hcd : classdict.contains attr = true)
    (hfw : (bases.any (fun anc => anc.any (fun m => isFirewalled m attr)) || isFirewalled own attr) = true) :
    isFirewalled (wrapped bases own classdict) attr = true := by
  unfold wrapped
  rw [isFirewalled_filter, isFirewalled_merged, hfw, hcd]
  rfl

-- callbacks.Plugin's ancestry as MetaFirewall sees it: IrcCallback's map, then Commands' map
example : isFirewalled
    (wrapped [[Gen.ircCallbackFirewalled, [("isCommand", false), ("_callCommand", false)]]] []
      ["outFilter", "myCommand"]) "outFilter" = true := by decide +kernel

/-- **Every hook of every bundled plugin is firewalled** (the c24111e bug class as an obligation over
the extracted inventory): for each plugin class of `plugins/*/plugin.py` that overrides `__call__`,
`inFilter`, `outFilter`, `die`, `reset`, `callPrecedence`, `name`, … the metaclass — given the
ancestry `IrcCallback.__firewalled__`, `Commands.__firewalled__` — wraps every one of them. -/
theorem all_plugin_hooks_firewalled :
    Gen.pluginHookDefs.all (fun row => row.2.2.all (fun a =>
      isFirewalled (wrapped [[Gen.ircCallbackFirewalled, Gen.commandsFirewalled]] [] row.2.2) a)) = true := by
  decide +kernel

/-- **Logging an `Exception` never raises it again**: the classes the log formatter re-raises
(`log.deadlyExceptions`, extracted) are not below `Exception` — so every `except` clause that logs
what it caught really swallows a `MemoryError`, `RecursionError`, `StopIteration`, … -/
theorem logging_swallows_exceptions (n : String) : deadly (.exception n) = false :=
  deadly_exception firewall_tables_ok.deadlyOk n

/-- **`Irc.feedMsg` returns** whatever `IrcState.addMsg`, every `inFilter` and every callback do —
any `Exception`, and any other `BaseException` (`GeneratorExit`, `asyncio.CancelledError`) except
the two the log formatter re-raises by design (KeyboardInterrupt, SystemExit: `NoDeadly`) —
provided what is raised before and inside the Irc's own handler is an `Exception`. -/
theorem feedMsg_total (s : FeedScript) (h : ScriptOnlyExc s) (hn : NoDeadly s) : (feedMsg s).2 = .ret () :=
  feedMsg_ret firewall_tables_ok s h hn

example : ScriptOnlyExc { own := some (some (.exception "IndexError")),
                          addMsg := some (.exception "MemoryError"),
                          inFilters := [.raise (.base "CancelledError")],
                          calls := [some (.base "GeneratorExit"), some (.exception "ValueError")] } ∧
    NoDeadly { own := some (some (.exception "IndexError")),
               addMsg := some (.exception "MemoryError"),
               inFilters := [.raise (.base "CancelledError")],
               calls := [some (.base "GeneratorExit"), some (.exception "ValueError")] } :=
  ⟨⟨trivial, by intro e h; cases h; trivial⟩,
   ⟨by show deadly _ = false; decide, by intro o h; simp at h; subst h; show deadly _ = false; decide,
    by intro o h; simp at h; rcases h with rfl | rfl <;> (show deadly _ = false; decide)⟩⟩

/-- … and the two deadly classes do get through a logging `except:` (by design: they end the bot) -/
example : deadly (.base "SystemExit") = true ∧ deadly (.base "KeyboardInterrupt") = true := by decide

/-- **A faulty callback is skipped, not fatal**: when no `inFilter` drops the message, *every*
callback's `__call__` runs, in order, whatever the earlier ones (and `addMsg`, and the `inFilter`s)
raised. -/
theorem callbacks_all_run (s : FeedScript) (hpre : s.pre = none)
    (hown : s.own = none ∨ s.own = some none) (hin : ∀ o ∈ s.inFilters, PassOrExc o)
    (ham : NotDeadlyOpt s.addMsg) (hcalls : ∀ o ∈ s.calls, NotDeadlyOpt o) :
    (feedMsg s).1 =
      (if s.own.isSome then [Stage.own] else []) ++ [Stage.addMsg] ++
      (List.range s.inFilters.length).map Stage.inFilter ++
      (List.range s.calls.length).map Stage.call := by
  have tk := firewall_tables_ok
  obtain ⟨i1, i2⟩ := inFilterLoop_pass tk 0 s.inFilters hin
  obtain ⟨-, c2⟩ := callLoop_total tk 0 s.calls hcalls
  unfold feedMsg feedBody
  simp only [hpre]
  rcases hown with h | h <;>
  · simp only [h, protect_addMsg tk _ ham, i1, i2, c2, Nat.zero_add]

example : ∀ o ∈ [Outcome.ret true, .raise (.exception "KeyError")], PassOrExc o := by
  intro o h; simp at h; rcases h with rfl | rfl <;> trivial

/-- **An `outFilter` that raises does not lose the message** (since fix c24111e it is firewalled
for plugins too, and its error handler passes the message on). -/
theorem outFilter_exception_keeps_message (outf : List (Outcome Bool)) (h : ∀ o ∈ outf, PassOrExc o) :
    takeMsg outf = .ret (some true) := by
  have tk := firewall_tables_ok
  unfold takeMsg
  simp only [outFilterLoop_pass tk outf h, tk.takeFw, ↓reduceIte, firewall]
  rfl

/-- **`Irc.takeMsg` returns** when the `outFilter`s raise only `Exception`s. -/
theorem takeMsg_total (outf : List (Outcome Bool)) (h : ∀ o ∈ outf, OnlyExc o) :
    ∃ r, takeMsg outf = .ret r := by
  have tk := firewall_tables_ok
  unfold takeMsg
  simp only [tk.takeFw, ↓reduceIte]
  exact firewall_total _ none (outFilterLoop_onlyExc tk outf h) (by intro o ho; cases ho)

/-- **No ISUPPORT advertisement can deafen the bot**: whatever 005 tokens the server sent — with
values, without (`CHANTYPES`, `CHANNELLEN` stored as `None`), repeated, contradicting, with values
`int()` rejects — the channel test `_tagMsg` performs on *every* incoming message returns
(since fix 8cfa9e2; before it a valueless `CHANTYPES` made it raise `TypeError` for every later
message, so that nothing, not even PING, was processed). -/
theorem isupport_never_deafens (intOf : Str → Option Int) (tokens : List Str) (s : Str) :
    ∃ b, ircIsChannel (do005 intOf [] tokens) s = .ok b :=
  ircIsChannel_total _ (supTyped_do005 intOf tokens [] supTyped_nil) s

/-! ## the driver loop (C11's model of `SocketDriver`, instantiated with a firewalled Irc) -/

/-- nothing escapes `irc.feedMsg`, `irc.takeMsg`, the encoding or `parseMsg` into the driver -/
theorem no_escape (b : IrcBehaviour) (hb : OnlyExceptions b) : C11.NoEscape (envOf b) :=
  envOf_noEscape firewall_tables_ok b hb

/-- **No exception escapes `SocketDriver.run()`**: for every Irc behaviour raising only
`Exception`s and every history of received bytes (any content, any chunking), socket outcomes,
queued messages and loop passes. -/
theorem read_never_raises (b : IrcBehaviour) (hb : OnlyExceptions b) (ops : List C11.Op) :
    (C11.runOps (envOf b) C11.init ops).crashed = none :=
  (C11.inv_runOps (no_escape b hb) ops C11.init (C11.inv_init _)).nocrash

/-- **The driver is never removed from the loop** (`drivers.run` removes a driver only when its
`run()` raises or when the bot itself is dying) — unless somebody calls `Irc.die()`. -/
theorem driver_never_removed (b : IrcBehaviour) (hb : OnlyExceptions b) (ops : List C11.Op)
    (hn : noDie ops) :
    (C11.runOps (envOf b) C11.init ops).removed = false :=
  (alive_runOps (no_escape b hb) ops C11.init ⟨rfl, rfl, rfl, rfl⟩ hn).removed

/-- and what `drivers.run` does with a driver whose `run()` returns: it stays -/
theorem driversRun_keeps : driversRun (.ret ()) = some true := rfl

example : noDie [C11.Op.scriptRecv (.data [58, 13, 10]), C11.Op.loop] := by
  intro op h; simp at h; rcases h with rfl | rfl <;> simp

/-- the Irc answers a PING whose payload is a valid argument with the corresponding PONG -/
def PingAnswered (b : IrcBehaviour) : Prop :=
  ∀ h m a rest, asciiLower m.command = "ping".toList → m.args = a :: rest → C11.validArg a = true →
    C05.format ⟨[], "PONG".toList, [a], []⟩ ∈ b.react h m

/-- **A later PING is answered**: after *any* history — including server-requested and error-induced
reconnects — that leaves the (current) connection quiet (connected, nothing scripted to fail, no
partial line buffered), a line that parses as `PING a` and one loop pass put `PONG :a\r\n` on the
wire (after whatever was still pending), and the connection stays quiet. -/
theorem later_ping_answered (b : IrcBehaviour) (hb : OnlyExceptions b) (hp : PingAnswered b)
    (ops : List C11.Op)
    (hcalm : C11.Calm (C11.runOps (envOf b) C11.init ops))
    (hr : (C11.runOps (envOf b) C11.init ops).recvScript = [])
    (hib : (C11.runOps (envOf b) C11.init ops).inbuffer = [])
    (l : C11.Bytes) (hl : C11.LF ∉ l) (m : C05.Msg) (hm : C11.lineMsg (envOf b) l = some m)
    (a : Str) (rest : List Str) (hcmd : asciiLower m.command = "ping".toList)
    (hargs : m.args = a :: rest) (ha : C11.validArg a = true)
    (hnr : ∀ hist, b.reconnects hist m = none) :
    let w := C11.runOps (envOf b) C11.init ops
    let w' := C11.runOps (envOf b) w [.scriptRecv (.data (l ++ [C11.LF])), .loop]
    (∃ pre post, w'.wire = w.wire ++ pre ++ C11.utf8 (C05.format ⟨[], "PONG".toList, [a], []⟩) ++ post) ∧
    C11.Calm w' := by
  intro w w'
  obtain ⟨hw, hc⟩ := C11.calm_line_wire (no_escape b hb) w hcalm hr hib l hl m hm hnr
  have e : w' = C11.loop (envOf b) (C11.step (envOf b) w (.scriptRecv (.data (l ++ [C11.LF])))) := by
    simp [w', C11.runOps, C11.step]
  rw [e]
  refine ⟨?_, hc⟩
  obtain ⟨p1, p2, hp'⟩ := utf8_mem_infix _ _ (hp w.allFed m a rest hcmd hargs ha)
  refine ⟨w.outbuffer ++ C11.utf8 w.queue.flatten ++ p1, p2, ?_⟩
  rw [hw]
  show w.wire ++ (w.outbuffer ++ C11.utf8 w.queue.flatten) ++ C11.utf8 (b.react w.allFed m).flatten = _
  rw [hp']
  simp only [List.append_assoc]

/-- the live environment of the correspondence run (real-Irc PING handling, nothing raises) -/
def liveB : IrcBehaviour :=
  { timeOk := fun _ => true, react := pingPongReal, feedRaises := fun _ _ => none,
    takeRaises := fun _ => none, unencodable := fun _ => false }

theorem liveB_pingAnswered : PingAnswered liveB := by
  intro h m a rest hc ha hv
  simp [liveB, pingPongReal, hc, ha, hv]

-- non-vacuity: the line `PING :k42` parses to a PING with a valid payload, in any quiet state
example : C11.lineMsg (envOf liveB) (C11.utf8 "PING :k42".toList) =
    some ⟨[], "PING".toList, ["k42".toList], []⟩ := by decide +kernel

end C07
