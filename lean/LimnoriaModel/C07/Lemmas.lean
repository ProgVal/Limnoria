/-
C07 — helper lemmas: the extracted facts (`TablesOk`), exceptions through `log.firewall` and `MetaFirewall`, the
stages of `feedMsg`/`takeMsg`, the driver loop of C11 under a firewalled Irc (`Alive`), the ISUPPORT preamble.
-/
import LimnoriaModel.C07.Model
import LimnoriaModel.C11.Lemmas
namespace C07
open Py

/-! ### what the theorems need from the extracted tables (checked by `decide` in Props) -/

structure TablesOk : Prop where
  feedFw : isFirewalled Gen.ircFirewalled "feedMsg" = true
  takeFw : isFirewalled Gen.ircFirewalled "takeMsg" = true
  addMsgFw : isFirewalled Gen.ircStateFirewalled "addMsg" = true
  inFilterFw : isFirewalled Gen.ircCallbackFirewalled "inFilter" = true
  outFilterFw : isFirewalled Gen.ircCallbackFirewalled "outFilter" = true
  callFw : isFirewalled Gen.ircCallbackFirewalled "__call__" = true
  inFilterH : passHandler Gen.ircCallbackFirewalled "inFilter" = some (.ret true)
  outFilterH : passHandler Gen.ircCallbackFirewalled "outFilter" = some (.ret true)
  catchF : Gen.firewallCatch = "Exception"
  catchH : Gen.firewallHandlerCatch = "Exception"
  runCatch : Gen.driversRunCatch = ""
  malformed : malformedCaught = true
  regAddMsg : regionCatch "addMsg" = some ""
  regInFilter : regionCatch "inFilter" = some ""
  regCallback : regionCatch "callback" = some ""
  encode : encodeStrict = false
  /-- no log call on the read/write path formats server text before handing it to the logger
  (supybot's `Logger._log` formats every record: pre-formatted text is formatted twice) -/
  logs : Gen.preformattedLogCalls = []
  /-- the socket never goes into blocking mode, and `_read` calls `recv` once: the loop cannot hang on a read
  (the model's `recv` outcomes — data, timeout, error — are then the only ones) -/
  nonBlocking : Gen.socketMayBlock = false ∧ Gen.readRecvCalls = 1
  /-- the classes the log formatter re-raises are not below `Exception` (KeyboardInterrupt, SystemExit): logging an
  `Exception` never raises it again -/
  deadlyOk : Gen.deadlyExceptions.all notExceptionClass = true

/-- raises nothing but (subclasses of) `Exception` -/
def OnlyExc {α : Type} : Outcome α → Prop
  | .ret _ => True
  | .raise (.exception _) => True
  | .raise (.base _) => False

def OnlyExcOpt : Option Exc → Prop
  | none => True
  | some (.exception _) => True
  | some (.base _) => False

theorem catches_exception (n : String) : catches "Exception" (.exception n) = true := by
  simp [catches]

theorem catches_bare (e : Exc) : catches "" e = true := by
  simp [catches]

theorem deadly_exception (hd : Gen.deadlyExceptions.all notExceptionClass = true) (n : String) :
    deadly (.exception n) = false := by
  unfold deadly
  by_cases hm : n ∈ Gen.deadlyExceptions
  · have := List.all_eq_true.1 hd n hm
    simp [this]
  · simp [hm]

/-- nothing the log formatter would re-raise -/
def NotDeadly {α : Type} : Outcome α → Prop
  | .ret _ => True
  | .raise e => deadly e = false

def NotDeadlyOpt : Option Exc → Prop
  | none => True
  | some e => deadly e = false

theorem firewallWith_total {α : Type} (hd : Gen.deadlyExceptions.all notExceptionClass = true)
    (f : Outcome α) (h : Option (Outcome α))
    (hf : OnlyExc f) (hh : ∀ o, h = some o → OnlyExc o) :
    ∃ r, firewallWith "Exception" "Exception" f h = .ret r := by
  unfold firewallWith
  match f, hf with
  | .ret a, _ => exact ⟨_, rfl⟩
  | .raise (.exception n), _ =>
    simp only [catches_exception, deadly_exception hd, Bool.false_eq_true, ↓reduceIte]
    match h, hh with
    | none, _ => exact ⟨_, rfl⟩
    | some (.ret a), _ => exact ⟨_, rfl⟩
    | some (.raise (.exception m)), _ =>
      simp only [catches_exception, deadly_exception hd, Bool.false_eq_true, ↓reduceIte]; exact ⟨_, rfl⟩
    | some (.raise (.base m)), hh => exact absurd (hh _ rfl) (by simp [OnlyExc])

/-- a firewalled method without error handler, seen by its caller, when the body raises only Exceptions -/
theorem viaFirewall_ret (tk : TablesOk) (fw : FwMap) (attr : String)
    (hfw : isFirewalled fw attr = true) (o : Outcome Unit) (ho : OnlyExc o) :
    viaFirewall fw attr o = .ret () := by
  unfold viaFirewall firewall
  rw [hfw, tk.catchF]
  simp only [↓reduceIte]
  unfold firewallWith
  match o, ho with
  | .ret a, _ => rfl
  | .raise (.exception n), _ => simp [catches_exception, deadly_exception tk.deadlyOk]

theorem optExc_onlyExc (e : Option Exc) (h : OnlyExcOpt e) : OnlyExc (optExc e) := by
  match e, h with
  | none, _ => trivial
  | some (.exception _), _ => trivial

theorem isFirewalled_fwSet (m : FwMap) (k : String) (v : Bool) (a : String) :
    isFirewalled (fwSet m k v) a = (isFirewalled m a || k == a) := by
  induction m with
  | nil => simp [fwSet, isFirewalled]
  | cons p rest ih =>
    obtain ⟨k', v'⟩ := p
    unfold fwSet
    split
    · rename_i heq
      subst heq
      simp only [isFirewalled, List.any_cons] at ih ⊢
      cases (k' == a) <;> simp
    · simp only [isFirewalled, List.any_cons] at ih ⊢
      rw [ih, Bool.or_assoc]

theorem isFirewalled_fwUpdate (m u : FwMap) (a : String) :
    isFirewalled (fwUpdate m u) a = (isFirewalled m a || isFirewalled u a) := by
  induction u generalizing m with
  | nil => simp [fwUpdate, isFirewalled]
  | cons p rest ih =>
    simp only [fwUpdate, List.foldl_cons] at ih ⊢
    rw [ih, isFirewalled_fwSet]
    simp only [isFirewalled, List.any_cons, Bool.or_assoc]

theorem isFirewalled_foldl_anc (anc : Ancestry) (m : FwMap) (a : String) :
    isFirewalled (anc.foldl fwUpdate m) a = (isFirewalled m a || anc.any (fun x => isFirewalled x a)) := by
  induction anc generalizing m with
  | nil => simp
  | cons x rest ih =>
    simp only [List.foldl_cons, List.any_cons]
    rw [ih, isFirewalled_fwUpdate, Bool.or_assoc]

theorem isFirewalled_foldl_bases (bases : List Ancestry) (m : FwMap) (a : String) :
    isFirewalled (bases.foldl (fun m anc => anc.foldl fwUpdate m) m) a =
      (isFirewalled m a || bases.any (fun anc => anc.any (fun x => isFirewalled x a))) := by
  induction bases generalizing m with
  | nil => simp
  | cons b rest ih =>
    simp only [List.foldl_cons, List.any_cons]
    rw [ih, isFirewalled_foldl_anc, Bool.or_assoc]

theorem isFirewalled_merged (bases : List Ancestry) (own : FwMap) (a : String) :
    isFirewalled (mergedFirewalled bases own) a =
      (bases.any (fun anc => anc.any (fun x => isFirewalled x a)) || isFirewalled own a) := by
  unfold mergedFirewalled
  rw [isFirewalled_fwUpdate, isFirewalled_foldl_bases]
  simp [isFirewalled]

theorem isFirewalled_filter (m : FwMap) (cd : List String) (a : String) :
    isFirewalled (m.filter (fun p => cd.contains p.1)) a = (isFirewalled m a && cd.contains a) := by
  unfold isFirewalled
  rw [List.any_filter]
  induction m with
  | nil => rfl
  | cons p rest ih =>
    simp only [List.any_cons, ih]
    by_cases hp : p.1 = a
    · subst hp
      cases cd.contains p.1 <;> simp
    · have : (p.1 == a) = false := by simpa using hp
      simp [this]

theorem protect_notDeadly (what : String) (hreg : regionCatch what = some "") (o : Outcome Unit) (ho : NotDeadly o) :
    protect what o = .ret () := by
  unfold protect
  cases o with
  | ret a => rfl
  | raise e =>
    have : deadly e = false := ho
    simp [hreg, catches_bare, this]

theorem viaFirewall_notDeadly (tk : TablesOk) (fw : FwMap) (attr : String) (o : Outcome Unit) (ho : NotDeadly o) :
    NotDeadly (viaFirewall fw attr o) := by
  unfold viaFirewall
  split
  · unfold firewall firewallWith
    rw [tk.catchF, tk.catchH]
    cases o with
    | ret a => trivial
    | raise e =>
      have hde : deadly e = false := ho
      cases hc : catches "Exception" e <;> simp [hc, hde, NotDeadly]
  · exact ho

theorem optExc_notDeadly (e : Option Exc) (h : NotDeadlyOpt e) : NotDeadly (optExc e) := by
  cases e with
  | none => trivial
  | some e => exact h

theorem inFilterLoop_total (tk : TablesOk) (i : Nat) (l : List (Outcome Bool)) (hl : ∀ o ∈ l, NotDeadly o) :
    ∃ b, (inFilterLoop i l).2 = .ret b := by
  induction l generalizing i with
  | nil => exact ⟨true, rfl⟩
  | cons o rest ih =>
    obtain ⟨ho, hl'⟩ := List.forall_mem_cons.1 hl
    have ihr := fun j => ih j hl'
    unfold inFilterLoop
    simp only [tk.inFilterFw, tk.inFilterH, ↓reduceIte, firewall, tk.catchF, tk.catchH]
    cases o with
    | ret b =>
      cases b
      · simp only [firewallWith]; exact ⟨false, rfl⟩
      · simp only [firewallWith]; exact ihr (i + 1)
    | raise e =>
      have hde : deadly e = false := ho
      unfold firewallWith
      cases hc : catches "Exception" e
      · simp only [hc, Bool.false_eq_true, ↓reduceIte, protect, tk.regInFilter, catches_bare, hde]
        exact ihr (i + 1)
      · simp only [hc, hde, Bool.false_eq_true, ↓reduceIte]
        exact ihr (i + 1)

theorem map_range_succ_shift {α : Type} (f : Nat → α) (i n : Nat) :
    (List.range (n + 1)).map (fun j => f (i + j)) = f i :: (List.range n).map (fun j => f (i + 1 + j)) := by
  rw [List.range_succ_eq_map]
  simp only [List.map_cons, List.map_map, Nat.add_zero, List.cons.injEq, true_and]
  apply List.map_congr_left
  intro j _
  simp only [Function.comp]
  congr 1
  omega

theorem callLoop_total (tk : TablesOk) (i : Nat) (l : List (Option Exc)) (hl : ∀ o ∈ l, NotDeadlyOpt o) :
    (callLoop i l).2 = .ret () ∧ (callLoop i l).1 = (List.range l.length).map (fun j => Stage.call (i + j)) := by
  induction l generalizing i with
  | nil => exact ⟨rfl, rfl⟩
  | cons o rest ih =>
    unfold callLoop
    have hp : protect "callback" (viaFirewall Gen.ircCallbackFirewalled "__call__" (optExc o)) = .ret () :=
      protect_notDeadly _ tk.regCallback _ (viaFirewall_notDeadly tk _ _ _ (optExc_notDeadly o (hl o (by simp))))
    simp only [hp]
    obtain ⟨h1, h2⟩ := ih (i + 1) (fun o' ho' => hl o' (by simp [ho']))
    refine ⟨h1, ?_⟩
    rw [h2, List.length_cons, map_range_succ_shift]

/-- `try: state.addMsg(...) except:` lets nothing through but what the log formatter re-raises -/
theorem protect_addMsg (tk : TablesOk) (e : Option Exc) (he : NotDeadlyOpt e) :
    protect "addMsg" (viaFirewall Gen.ircStateFirewalled "addMsg" (optExc e)) = .ret () :=
  protect_notDeadly _ tk.regAddMsg _ (viaFirewall_notDeadly tk _ _ _ (optExc_notDeadly e he))

/-- nothing raised by `IrcState.addMsg`, the `inFilter`s or the callbacks is one of the classes the log
formatter re-raises (KeyboardInterrupt, SystemExit) -/
structure NoDeadly (s : FeedScript) : Prop where
  addMsg : NotDeadlyOpt s.addMsg
  inFilters : ∀ o ∈ s.inFilters, NotDeadly o
  calls : ∀ o ∈ s.calls, NotDeadlyOpt o

/-- the body of `feedMsg` raises only what `pre` or the Irc's own handler raise -/
theorem feedBody_outcome (tk : TablesOk) (s : FeedScript) (hn : NoDeadly s) :
    (feedBody s).2 =
      (match s.pre with
       | some e => .raise e
       | none => match s.own with
         | some (some e) => .raise e
         | _ => .ret ()) := by
  unfold feedBody
  cases s.pre with
  | some e => rfl
  | none =>
    simp only
    match s.own with
    | some (some e) => rfl
    | none | some none =>
      -- past the Irc's own handler: `addMsg` is protected, the filters and the callbacks raise nothing
      simp only [protect_addMsg tk _ hn.addMsg]
      obtain ⟨b, hb⟩ := inFilterLoop_total tk 0 s.inFilters hn.inFilters
      rw [hb]
      cases b
      · rfl
      · exact (callLoop_total tk 0 s.calls hn.calls).1

/-- all exceptions raised before/inside the Irc's own handler are `Exception`s
(what `state.addMsg`, the `inFilter`s and the callbacks raise only matters through `NoDeadly`) -/
structure ScriptOnlyExc (s : FeedScript) : Prop where
  pre : OnlyExcOpt s.pre
  own : ∀ e, s.own = some e → OnlyExcOpt e

theorem feedMsg_ret (tk : TablesOk) (s : FeedScript) (h : ScriptOnlyExc s) (hn : NoDeadly s) : (feedMsg s).2 = .ret () := by
  unfold feedMsg
  simp only
  apply viaFirewall_ret tk _ _ tk.feedFw
  rw [feedBody_outcome tk s hn]
  cases hpre : s.pre with
  | some e => exact optExc_onlyExc (some e) (hpre ▸ h.pre)
  | none =>
    simp only
    rcases hown : s.own with _ | _ | e
    · trivial
    · trivial
    · exact optExc_onlyExc (some e) (h.own _ hown)

/-- `inFilter` bodies that pass the message on or raise an `Exception` -/
def PassOrExc : Outcome Bool → Prop
  | .ret true => True
  | .ret false => False
  | .raise (.exception _) => True
  | .raise (.base _) => False

theorem firewallWith_passOrExc (tk : TablesOk) {o : Outcome Bool} (ho : PassOrExc o) :
    firewallWith "Exception" "Exception" o (some (.ret true)) = .ret (some true) := by
  match o, ho with
  | .ret true, _ => rfl
  | .raise (.exception n), _ =>
    simp only [firewallWith, catches_exception, deadly_exception tk.deadlyOk, Bool.false_eq_true, ↓reduceIte]

theorem inFilterLoop_pass (tk : TablesOk) (i : Nat) (l : List (Outcome Bool)) (h : ∀ o ∈ l, PassOrExc o) :
    (inFilterLoop i l).2 = .ret true ∧
    (inFilterLoop i l).1 = (List.range l.length).map (fun j => Stage.inFilter (i + j)) := by
  induction l generalizing i with
  | nil => exact ⟨rfl, rfl⟩
  | cons o rest ih =>
    obtain ⟨ho, h'⟩ := List.forall_mem_cons.1 h
    obtain ⟨h1, h2⟩ := ih (i + 1) h'
    unfold inFilterLoop
    simp only [tk.inFilterFw, tk.inFilterH, ↓reduceIte, firewall, tk.catchF, tk.catchH,
      firewallWith_passOrExc tk ho]
    exact ⟨h1, by rw [h2, List.length_cons, map_range_succ_shift]⟩

theorem outFilterLoop_pass (tk : TablesOk) (l : List (Outcome Bool)) (h : ∀ o ∈ l, PassOrExc o) :
    outFilterLoop l = .ret true := by
  induction l with
  | nil => rfl
  | cons o rest ih =>
    obtain ⟨ho, h'⟩ := List.forall_mem_cons.1 h
    have hr := ih h'
    unfold outFilterLoop
    simp only [tk.outFilterFw, tk.outFilterH, ↓reduceIte, firewall, tk.catchF, tk.catchH,
      firewallWith_passOrExc tk ho]
    exact hr

theorem outFilterLoop_onlyExc (tk : TablesOk) (l : List (Outcome Bool)) (h : ∀ o ∈ l, OnlyExc o) :
    OnlyExc (outFilterLoop l) := by
  induction l with
  | nil => trivial
  | cons o rest ih =>
    obtain ⟨ho, h'⟩ := List.forall_mem_cons.1 h
    have hr := ih h'
    unfold outFilterLoop
    simp only [tk.outFilterFw, tk.outFilterH, ↓reduceIte, firewall, tk.catchF, tk.catchH]
    match o, ho with
    | .ret true, _ => simp only [firewallWith]; exact hr
    | .ret false, _ => simp only [firewallWith]; trivial
    | .raise (.exception n), _ =>
      simp only [firewallWith, catches_exception, deadly_exception tk.deadlyOk, Bool.false_eq_true, ↓reduceIte]; exact hr

theorem onlyExcOpt_of_no_base (o : Option Exc) (h : ∀ n, o ≠ some (.base n)) : OnlyExcOpt o := by
  match o, h with
  | none, _ => trivial
  | some (.exception _), _ => trivial
  | some (.base n), h => exact absurd rfl (h n)

theorem envOf_noEscape (tk : TablesOk) (b : IrcBehaviour) (hb : OnlyExceptions b) : C11.NoEscape (envOf b) := by
  refine ⟨?_, ?_, ?_⟩
  · intro h m
    show escName (viaFirewall Gen.ircFirewalled "feedMsg" (optExc (b.feedRaises h m))) = none
    rw [viaFirewall_ret tk _ _ tk.feedFw]
    · rfl
    · exact optExc_onlyExc _ (onlyExcOpt_of_no_base _ (hb.1 h m))
  · intro q
    show (match escName (viaFirewall Gen.ircFirewalled "takeMsg" (optExc (b.takeRaises q))) with
      | some e => some e
      | none => if encodeStrict && q.any b.unencodable then some "UnicodeEncodeError" else none) = none
    rw [viaFirewall_ret tk _ _ tk.takeFw]
    · simp [escName, tk.encode]
    · exact optExc_onlyExc _ (onlyExcOpt_of_no_base _ (hb.2 q))
  · show (!malformedCaught) = false
    rw [tk.malformed]; rfl

/-! ### the driver stays in the loop (C11 model, any environment from which nothing escapes) -/

open C11 in
/-- nobody asked the bot to quit, and nothing went wrong -/
structure Alive (w : C11.World) : Prop where
  ircZombie : w.ircZombie = false
  zombie : w.zombie = false
  removed : w.removed = false
  crashed : w.crashed = none

section
open C11
variable {env : C11.Env} (hne : C11.NoEscape env)
include hne

omit hne in
theorem alive_handleSocketError (e : Option Nat) (w : World) (h : Alive w) : Alive (handleSocketError e w) := by
  unfold handleSocketError
  split <;> exact ⟨h.ircZombie, h.zombie, h.removed, h.crashed⟩

omit hne in
theorem alive_reconnect (wait : Bool) (w : World) (h : Alive w) : Alive (reconnect env wait w) := by
  unfold reconnect
  cases wait <;> exact ⟨h.ircZombie, h.zombie, h.removed, h.crashed⟩

theorem alive_sendIfMsgs (w : World) (h : Alive w) : Alive (sendIfMsgs env w) := by
  rcases sendIfMsgs_cases hne w with e | e <;> rw [e]
  · cases hc : w.connected
    · rw [sendPlain_disconnected w hc]
      exact h
    · -- taking the queue and the one `send()` leave the four fields alone
      obtain ⟨e1, e2, e3, e4⟩ := sendFlush_frame (takeAll w)
      rw [sendPlain_live w hc h.zombie h.ircZombie]
      rw [takeAll_live w h.ircZombie] at e1 e2 e3 e4 ⊢
      exact ⟨e2.trans h.ircZombie, e1.trans h.zombie, e3.trans h.removed, e4.trans h.crashed⟩
  · exact alive_reconnect false w h

theorem alive_stable : Stable env Alive where
  onError := alive_handleSocketError
  onReconnect := alive_reconnect
  onSend := alive_sendIfMsgs hne
  onData _ _ h :=
    stable_feedLines hne (fun _ _ h => ⟨h.ircZombie, h.zombie, h.removed, h.crashed⟩) alive_reconnect _ _
      ⟨h.ircZombie, h.zombie, h.removed, h.crashed⟩
  onRecv _ _ h := ⟨h.ircZombie, h.zombie, h.removed, h.crashed⟩
  onRemove _ h hc := by rw [h.crashed] at hc; cases hc

/-- histories in which nobody calls `Irc.die()` -/
def noDie (ops : List Op) : Prop := ∀ op ∈ ops, op ≠ .ircDie

theorem alive_runOps (ops : List Op) (w : World) (h : Alive w) (hn : noDie ops) : Alive (runOps env w ops) := by
  refine runOps_keeps ops (fun op hop w h => ?_) w h
  cases op with
  | queue s =>
    simp only [step]
    split
    · exact h
    · exact ⟨h.ircZombie, h.zombie, h.removed, h.crashed⟩
  | ircDie => exact absurd rfl (hn _ hop)
  | loop => exact stable_loop (alive_stable hne) w h
  | _ => exact ⟨h.ircZombie, h.zombie, h.removed, h.crashed⟩

end

theorem supGet_supSet (d : Supported) (k k' : Str) (v : Val) :
    supGet (supSet d k v) k' = if k' = k then some v else supGet d k' := by
  induction d with
  | nil => by_cases h : k = k' <;> simp [supSet, supGet, h, eq_comm]
  | cons p rest ih =>
    obtain ⟨a, b⟩ := p
    by_cases hak : a = k
    · subst hak
      by_cases h : a = k'
      · simp [supSet, supGet, h]
      · simp [supSet, supGet, h]
        exact fun e => absurd e.symm h
    · by_cases h : a = k'
      · subst h; simp [supSet, supGet, hak]
      · simp [supSet, supGet, hak, h, ih]

/-- what `Irc.isChannel` may find: `chantypes` is `None` or a str, `channellen` is `None` or an int -/
structure SupTyped (d : Supported) : Prop where
  ct : ∀ v, supGet d "chantypes".toList = some v → v = .none ∨ ∃ s, v = .str s
  cl : ∀ v, supGet d "channellen".toList = some v → v = .none ∨ ∃ n, v = .int n

theorem supTyped_nil : SupTyped [] := ⟨fun v h => by simp [supGet] at h, fun v h => by simp [supGet] at h⟩

theorem supTyped_supSet (d : Supported) (k : Str) (x : Val) (h : SupTyped d)
    (hct : k = "chantypes".toList → x = .none ∨ ∃ s, x = .str s)
    (hcl : k = "channellen".toList → x = .none ∨ ∃ n, x = .int n) : SupTyped (supSet d k x) := by
  refine ⟨fun v hv => ?_, fun v hv => ?_⟩ <;> rw [supGet_supSet] at hv <;> split at hv
  · rename_i e
    injection hv with hv
    exact hv ▸ hct e.symm
  · exact h.ct v hv
  · rename_i e
    injection hv with hv
    exact hv ▸ hcl e.symm
  · exact h.cl v hv

theorem supTyped_token (intOf : Str → Option Int) (d : Supported) (arg : Str) (h : SupTyped d) :
    SupTyped (do005Token intOf d arg) := by
  unfold do005Token
  cases split1 '=' arg with
  | none => exact supTyped_supSet d _ _ h (fun _ => Or.inl rfl) (fun _ => Or.inl rfl)
  | some p =>
    obtain ⟨name, value⟩ := p
    simp only
    split
    · rename_i hname
      cases intOf value with
      | none => exact h
      | some n =>
        refine supTyped_supSet d _ _ h (fun e => ?_) (fun _ => Or.inr ⟨n, rfl⟩)
        rw [hname] at e
        exact absurd e (by decide)
    · rename_i hname
      exact supTyped_supSet d _ _ h (fun _ => Or.inr ⟨value, rfl⟩) (fun e => absurd e hname)

theorem supTyped_do005 (intOf : Str → Option Int) (tokens : List Str) (d : Supported) (h : SupTyped d) :
    SupTyped (do005 intOf d tokens) := by
  induction tokens generalizing d with
  | nil => exact h
  | cons t ts ih => exact ih _ (supTyped_token intOf d t h)

theorem utilsIsChannel_total (s ct : Str) (n : Int) : ∃ b, utilsIsChannel s (.str ct) (.int n) = .ok b := by
  unfold utilsIsChannel
  cases s with
  | nil => exact ⟨_, rfl⟩
  | cons c cs =>
    simp only [pyIn, pyLe]
    split
    · exact ⟨_, rfl⟩
    · split
      · rename_i e he; cases he
      · exact ⟨_, rfl⟩
      · split
        · rename_i e he; cases he
        · exact ⟨_, rfl⟩
        · exact ⟨_, rfl⟩

theorem ircIsChannel_total (d : Supported) (h : SupTyped d) (s : Str) : ∃ b, ircIsChannel d s = .ok b := by
  have hct : ∃ t, ctOf d = Val.str t := by
    unfold ctOf
    cases hg : supGet d "chantypes".toList with
    | none => exact ⟨_, rfl⟩
    | some v =>
      rcases h.ct v hg with rfl | ⟨t, rfl⟩
      · exact ⟨_, rfl⟩
      · exact ⟨t, by simp⟩
  have hcl : ∃ n, clOf d = Val.int n := by
    unfold clOf
    cases hg : supGet d "channellen".toList with
    | none => exact ⟨_, rfl⟩
    | some v =>
      rcases h.cl v hg with rfl | ⟨n, rfl⟩
      · exact ⟨_, rfl⟩
      · exact ⟨n, by simp⟩
  obtain ⟨t, ht⟩ := hct
  obtain ⟨n, hn⟩ := hcl
  unfold ircIsChannel
  rw [ht, hn]
  exact utilsIsChannel_total s t n

theorem utf8_mem_infix (s : Str) (l : List Str) (h : s ∈ l) :
    ∃ pre post, C11.utf8 l.flatten = pre ++ C11.utf8 s ++ post := by
  obtain ⟨l1, l2, rfl⟩ := List.append_of_mem h
  refine ⟨C11.utf8 l1.flatten, C11.utf8 l2.flatten, ?_⟩
  simp [C11.utf8_append]

end C07
